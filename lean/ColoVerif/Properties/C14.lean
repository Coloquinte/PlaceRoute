import ColoVerif.Model.LegacyTransp1d
import ColoVerif.Proofs.Transp1dChecksOpt
import ColoVerif.Proofs.Transp1dOptLocal
import ColoVerif.Proofs.Transp1dKept
/-!
# C14 — one-dimensional transportation is optimal and its rounding is memory-safe

All statements are about `ColoVerif.Transp1d.{solve, assign, balanceDemand}` — the functions the
driver `drv_C14` executes against `Transportation1d::{solve, assign, balanceDemand}`.
The model's only unbounded loop (`while` in `Transportation1dSolver::push`) runs on the fuel
`loopFuel = 2 * nbSinks + events.size() + 3`, which `Proofs/Transp1dTerm.lean` proves sufficient on
the whole domain: the theorems below are unconditional ("never errors" includes `outOfFuel`).
The theorems from `checks_accept_valid_input` on (but for the last, about `assignLegacy`) are about `solveFull`
(`Model/Transp1dChecks.lean`): `solve()` together with the self-checks it runs (`check`,
`solver.check`, `checkSolutionValid`, `checkSolutionOptimal`), which the driver executes on every
case (`full`) and, on malformed inputs and mutated plans, check by check (`chk`, `schk`, `val`,
`opt`), including which exception is thrown.
-/
namespace ColoVerif.C14
open ColoVerif.Transp1d

/-- the domain of C14: consistent sizes, non-negative supplies and demands, supply ≤ demand
(exactly what `Transportation1d::check()` accepts) -/
def InDomain (pb : Problem) : Prop :=
  pb.s.length = pb.u.length ∧ pb.d.length = pb.v.length ∧
  (∀ x ∈ pb.s, 0 ≤ x) ∧ (∀ x ∈ pb.d, 0 ≤ x) ∧ pb.s.sum ≤ pb.d.sum

/-- non-vacuity of the domain, zeros included -/
example : InDomain ⟨[0, 1], [0, 1], [0, 1], [0, 1]⟩ :=
  (checkOk_iff _).mp (by decide +kernel)

/-- FULL.  For every input of the domain `solve` never errors (no out-of-range access, no
`outOfFuel`) and returns a valid plan: every entry is in range and positive, every source ships
exactly its supply, no sink receives more than its demand. -/
theorem t1d_valid (pb : Problem) (h : InDomain pb) :
    ∃ plan, solve pb = .ok plan ∧ validPlan pb plan = true :=
  solve_valid pb ((checkOk_iff pb).mpr h)

/-- the same, with `validPlan` unfolded -/
theorem t1d_valid_unfolded (pb : Problem) (h : InDomain pb) :
    ∃ plan, solve pb = .ok plan ∧
      (∀ e ∈ plan, e.1 < pb.u.length ∧ e.2.1 < pb.v.length ∧ 0 < e.2.2) ∧
      (∀ i, i < pb.u.length → rowSum plan i = pb.s.getD i 0) ∧
      (∀ j, j < pb.v.length → colSum plan j ≤ pb.d.getD j 0) := by
  obtain ⟨plan, e, hv⟩ := t1d_valid pb h
  obtain ⟨h1, h2, h3⟩ := (validPlan_iff pb plan).mp hv
  refine ⟨plan, e, ?_, h2, h3⟩
  intro x hx
  have := List.all_eq_true.mp h1 x hx
  simpa [Bool.and_eq_true, and_assoc] using this

/-- non-vacuity (unsorted positions, a zero supply, a zero demand, slack) -/
example : solve ⟨[5, 0, 3], [4, 9, 1], [2, 0, 1], [2, 0, 3]⟩ = .ok [(2, 2, 1), (0, 0, 2)] ∧
    validPlan ⟨[5, 0, 3], [4, 9, 1], [2, 0, 1], [2, 0, 3]⟩ [(2, 2, 1), (0, 0, 2)] = true := by decide +kernel

/-- FULL.  Geometry behind the plan: on the sorted zero-free instance handed to the solver
(`t1d_solver_instance`), the sweep + `flushPositions` return one position per source such that the
sources' intervals `[S i + p i, S (i+1) + p i]` on the cumulative-demand axis lie inside
`[0, D.back()]`, in order and without overlap. -/
theorem t1d_positions (pb : Problem) (h : InDomain pb) :
    ∃ p, run (sortedSolver pb) = .ok p ∧ p.length = (sortedSolver pb).u.length ∧
        (∀ i, i < (sortedSolver pb).u.length → 0 ≤ p.getD i 0 ∧
          (sortedSolver pb).S.getD (i + 1) 0 + p.getD i 0
            ≤ (sortedSolver pb).D.getD (sortedSolver pb).v.length 0) ∧
        (∀ i, i + 1 < (sortedSolver pb).u.length →
          (sortedSolver pb).S.getD (i + 1) 0 + p.getD i 0
            ≤ (sortedSolver pb).S.getD (i + 1) 0 + p.getD (i + 1) 0) := by
  have dom := sortedSolver_dom pb ((checkOk_iff pb).mpr h)
  obtain ⟨p, e, hp⟩ := run_ok _ dom (sortedSolver_sink_of_source pb ((checkOk_iff pb).mpr h))
  exact ⟨p, e, hp.len, fun i hi => ⟨hp.nn i hi, Int.le_trans (Int.add_le_add_right
    (dom.Smono (i + 1) _ hi (Nat.le_refl _)) _) (hp.le i hi)⟩,
    fun i hi => Int.add_le_add_left (hp.mono i hi) _⟩

/-- `solve`/`assign` really run the sweep on `sortedSolver pb` -/
theorem t1d_solver_instance (pb : Problem) (h : InDomain pb) :
    mkSorter pb = .ok ⟨ord pb.u pb.s, ord pb.v pb.d⟩ ∧
    convert ⟨ord pb.u pb.s, ord pb.v pb.d⟩ pb = .ok (sortedSolver pb) :=
  ⟨mkSorter_ok pb h.1 h.2.1, convert_ok pb h.1 h.2.1⟩

/-- FULL.  The plan is read off the positions exactly: on the instance handed to the solver,
`computeSolution` ships from source `i` to sink `j` the length of the overlap of the intervals
`[S i + p i, S (i+1) + p i]` and `[D j, D (j+1)]`. -/
theorem t1d_plan_is_overlap (pb : Problem) (h : InDomain pb) :
    ∃ p plan, run (sortedSolver pb) = .ok p ∧ computeSolution (sortedSolver pb) p = .ok plan ∧
      ∀ i j, i < (sortedSolver pb).u.length → j < (sortedSolver pb).v.length →
        cellSum plan i j = ov (sortedSolver pb) p i j := by
  obtain ⟨p, plan, e1, _, e2, post⟩ := computeSolution_spec pb ((checkOk_iff pb).mpr h)
  exact ⟨p, plan, e1, e2, post.cell⟩

/-- FULL (weak duality + complementary slackness).  A plan that passes the decidable check
`certOk` for some potentials `al` (sources) / `be ≥ 0` (sinks) on the line —
`al i - be j ≤ |u i - v j|` everywhere, equality wherever the plan ships, sinks with positive
potential saturated — costs no more than any valid plan of the same problem. -/
theorem cert_optimal_1d (pb : Problem) (plan plan' : Plan) (al be : List Int)
    (hc : certOk pb plan al be = true) (hv : validPlan pb plan' = true) :
    planCost pb plan ≤ planCost pb plan' :=
  cert_optimal_core pb plan plan' al be hc hv

/-- non-vacuity: the certificate of the plan returned for u=[0,3], v=[1,2], s=[2,1], d=[2,2] -/
example : solve ⟨[0, 3], [1, 2], [2, 1], [2, 2]⟩ = .ok [(0, 0, 2), (1, 1, 1)] ∧
    certOk ⟨[0, 3], [1, 2], [2, 1], [2, 2]⟩ [(0, 0, 2), (1, 1, 1)] [1, 1] [0, 0] = true := by decide +kernel

/-- FULL under exact balance.  For every input of the domain with total supply = total demand
(what `balanceDemand` produces whenever supply exceeds demand) `solve` returns a valid plan of
minimum total distance cost (`t1d_optimal` on these inputs).  Proof of this case: the flushed
positions are all 0, so the sources tile the cumulative-demand axis as one run pressed against both
walls and the plan is the monotone coupling; the source potential propagated along the run by the
cost differences at the sink where one source ends and the next starts, shifted above all costs
(`balanced_dualPot` in `Proofs/Transp1dOptDual.lean`, by the Monge property of `|u i - v j|` alone),
gives sink prices that form the dual certificate on the sorted instance (`dualPot_glob`), and the
Kantorovich potential on the line `ψ x = min_j (be j + |x - v j|)` built from them passes `certOk` —
for every such input. -/
theorem t1d_optimal_balanced (pb : Problem) (h : InDomain pb) (hbal : pb.s.sum = pb.d.sum) :
    ∃ plan, solve pb = .ok plan ∧ validPlan pb plan = true ∧
      ∀ plan', validPlan pb plan' = true → planCost pb plan ≤ planCost pb plan' :=
  solve_optimal pb ((checkOk_iff pb).mpr h)

/-- FULL.  `balanceDemand` followed by `solve` on an instance whose supply is at least its demand
(sizes consistent, non-negative entries, at least one sink): the balanced problem is in the domain,
exactly balanced, and `solve` returns a valid plan of minimum cost for it. -/
theorem t1d_balance_then_solve_optimal (pb : Problem) (hs : pb.s.length = pb.u.length)
    (hd : pb.d.length = pb.v.length) (hsn : ∀ x ∈ pb.s, 0 ≤ x) (hdn : ∀ x ∈ pb.d, 0 ≤ x)
    (hm : 0 < pb.v.length) (hdef : pb.d.sum ≤ pb.s.sum) :
    ∃ pb' plan, balanceDemand pb = .ok pb' ∧ InDomain pb' ∧ pb'.s.sum = pb'.d.sum ∧
      solve pb' = .ok plan ∧ validPlan pb' plan = true ∧
      ∀ plan', validPlan pb' plan' = true → planCost pb' plan ≤ planCost pb' plan' := by
  obtain ⟨pb', plan, h1, h2, h3, h4, h5, h6⟩ := balance_then_solve_optimal pb hs hd hsn hdn hm hdef
  exact ⟨pb', plan, h1, (checkOk_iff pb').mp h2, h3, h4, h5, h6⟩

/-- non-vacuity: supply 5 > demand 2 -/
example : balanceDemand ⟨[3, 1], [0, 5], [4, 1], [1, 1]⟩ = .ok ⟨[3, 1], [0, 5], [4, 1], [3, 2]⟩ ∧
    solve ⟨[3, 1], [0, 5], [4, 1], [3, 2]⟩ = .ok [(1, 0, 1), (0, 0, 2), (0, 1, 2)] := by decide +kernel

/-- the certificate itself exists for every balanced input -/
theorem t1d_cert_exists_balanced (pb : Problem) (h : InDomain pb) (hbal : pb.s.sum = pb.d.sum) :
    ∃ plan al be, solve pb = .ok plan ∧ certOk pb plan al be = true :=
  solve_cert pb ((checkOk_iff pb).mpr h)

/-- non-vacuity: a balanced instance with unsorted positions, a zero supply and a split source -/
example : InDomain ⟨[7, 0, 2], [1, 9, 4], [3, 0, 2], [2, 2, 1]⟩ ∧
    ([3, 0, 2] : List Int).sum = ([2, 2, 1] : List Int).sum ∧
    solve ⟨[7, 0, 2], [1, 9, 4], [3, 0, 2], [2, 2, 1]⟩ = .ok [(2, 0, 2), (0, 2, 1), (0, 1, 2)] :=
  ⟨(checkOk_iff _).mp (by decide +kernel), by decide +kernel, by decide +kernel⟩

/-- FULL — the optimality clause of C14.  For every input of the domain (slack or exact balance,
unsorted and duplicate positions, zero supplies and demands) `solve` never errors and returns a
valid plan of minimum total distance cost among all valid plans.
Proof (`Proofs/Transp1dOpt*.lean`), for total supply < total demand: (1) loop invariants of the
slope-events sweep — the event queue encodes the marginal cost of pushing the last run of touching
sources to the left (`LoopInv.iev`), that cost is non-negative and non-increasing in the position,
every decision `pushToNewSink`/`pushToLastSink` keeps the marginal costs of pushing any suffix of the
run to the right non-negative; (2) hence the flushed positions satisfy the optimality conditions
`Kkt` of the position problem (`t1d_positions_kkt`); (3) `Kkt` yields sink prices that form a dual
certificate on the sorted instance (Monge property and quasi-convexity of `|u i - v j|`,
`t1d_kkt_dual`); (4) the certificate is carried back through the sorter's renaming to `certOk` on
the original problem (potential on the line `ψ x = min_j (be j + |x - v j|)`), and weak duality
(`cert_optimal_1d`) concludes.  Exact balance is `t1d_optimal_balanced`. -/
theorem t1d_optimal (pb : Problem) (h : InDomain pb) :
    ∃ plan, solve pb = .ok plan ∧ validPlan pb plan = true ∧
      ∀ plan', validPlan pb plan' = true → planCost pb plan ≤ planCost pb plan' :=
  solve_optimal pb ((checkOk_iff pb).mpr h)

/-- non-vacuity: an instance with slack, unsorted positions, a zero supply and a zero demand -/
example : InDomain ⟨[5, 0, 3], [4, 9, 1], [2, 0, 1], [2, 0, 3]⟩ ∧
    solve ⟨[5, 0, 3], [4, 9, 1], [2, 0, 1], [2, 0, 3]⟩ = .ok [(2, 2, 1), (0, 0, 2)] :=
  ⟨(checkOk_iff _).mp (by decide +kernel), by decide +kernel⟩

/-- FULL.  The dual certificate exists for every input of the domain: the plan returned by `solve`
passes the decidable check `certOk` for suitable potentials. -/
theorem t1d_cert_exists (pb : Problem) (h : InDomain pb) :
    ∃ plan al be, solve pb = .ok plan ∧ certOk pb plan al be = true :=
  solve_cert pb ((checkOk_iff pb).mpr h)

/-- FULL (soundness of the per-instance check of the driver's `loc` op).  If the positions returned
by the sweep on the instance handed to the solver pass the decidable interval certificate
`ivCertOk` for some sink prices, the plan returned by `solve` has minimum cost.  (Redundant with
`t1d_optimal`; the driver evaluates `ivCertOk` with closed-formula prices on every case, which ties
the executed model to steps 2-4 of the proof instance by instance.) -/
theorem t1d_local_cert_sound (pb : Problem) (h : InDomain pb)
    (hloc : ∀ p, run (sortedSolver pb) = .ok p → ∃ be, ivCertOk (sortedSolver pb) p be = true) :
    ∃ plan, solve pb = .ok plan ∧ validPlan pb plan = true ∧
      ∀ plan', validPlan pb plan' = true → planCost pb plan ≤ planCost pb plan' := by
  have hv := (checkOk_iff pb).mpr h
  refine solve_optimal_of_glob pb hv (fun p e => ?_)
  obtain ⟨be, hb⟩ := hloc p e
  exact ⟨_, ivCert_glob (sortedSolver pb) p (sortedSolver_dom pb hv).Dmono _
    ((ivCertOk_iff (sortedSolver pb) p be).mp hb)⟩

/-- non-vacuity: positions and prices of u=[5,0,3], v=[4,9,1], s=[2,0,1], d=[2,0,3] -/
example : run (sortedSolver ⟨[5, 0, 3], [4, 9, 1], [2, 0, 1], [2, 0, 3]⟩) = .ok [2, 2] ∧
    ivCertOk (sortedSolver ⟨[5, 0, 3], [4, 9, 1], [2, 0, 1], [2, 0, 3]⟩) [2, 2] [0, 1] = true := by decide +kernel

/-- FULL (step 2 of `t1d_optimal`).  With total supply < total demand, the positions returned by the
sweep + `flushPositions` on the instance handed to the solver satisfy the optimality conditions of
the position problem: for every run of touching sources, pushing any prefix of it to the left or
any suffix of it to the right does not decrease the cost (whenever there is room), and the first /
last source of a run does not prefer an earlier / later sink.  (`hsl` is not used: under exact
balance `Kkt` holds as well and says nothing.) -/
theorem t1d_positions_kkt (pb : Problem) (h : InDomain pb) (hsl : pb.s.sum < pb.d.sum) (p : List Int)
    (e : run (sortedSolver pb) = .ok p) : Kkt (sortedSolver pb) p :=
  run_kkt _ (sortedSolver_swDom pb ((checkOk_iff pb).mpr h)) p e

/-- FULL (step 3 of `t1d_optimal`).  On a sorted zero-free instance with strict slack, positions
that satisfy `Kkt` admit sink prices `be ≥ 0` — zero on every sink that is not completely covered —
for which every source is, prices included, cheapest in each sink it overlaps. -/
theorem t1d_kkt_dual (sv : Solver) (q : List Int) (dom : PosDom sv q) (kkt : Kkt sv q) :
    ∃ be : Nat → Int, GlobCert sv q be :=
  kkt_glob sv q dom kkt

/-- non-vacuity: one source of size 1 at the left wall, one sink of size 2 -/
example : PosDom (mkSolver [0] [0] [1] [2]) [0] ∧ Kkt (mkSolver [0] [0] [1] [2]) [0] := kkt_example

/-- FULL (one iteration of the `while` loop of `push`).  The loop invariant of the sweep — among
others: the cumulated slope of the events at positions `≥ x` equals the marginal cost of pushing
the current run of touching sources to the left at `x` — is preserved by `pushOnce`. -/
theorem t1d_pushOnce_invariant (sv : Solver) (sd : SwDom sv) (i : Nat) (st st' : St)
    (inv : LoopInv sv i st) (hc : Overflow sv i st) (e : pushOnce sv i st = .ok st') :
    LoopInv sv i st' :=
  pushOnce_loopInv sv sd i st st' inv hc e

/-- non-vacuity of the sweep invariants: they hold in the initial state of every instance of the
domain that has a sink -/
example (pb : Problem) (h : InDomain pb) (hm : 0 < (sortedSolver pb).v.length) :
    SwDom (sortedSolver pb) ∧ SweepInv (sortedSolver pb) St.init :=
  ⟨sortedSolver_swDom pb ((checkOk_iff pb).mpr h),
    sweepInv_init _ hm (sortedSolver_swDom pb ((checkOk_iff pb).mpr h))⟩

/-- FULL (after F10's repair), for ALL inputs of the domain — zero supplies and zero demands
included: `assign` never errors — no out-of-range access anywhere (sorter, sweep, flush, rounding
walk, mapping back) and the `while` loop of `push` terminates within the fuel the model passes
(`Err.outOfFuel` impossible) —, returns exactly one entry per source, and — as soon as some sink
has positive demand — every entry names a sink of positive demand. -/
theorem t1d_assign_safe (pb : Problem) (h : InDomain pb) :
    ∃ a, assign pb = .ok a ∧ a.length = pb.u.length ∧
      ((∃ j, j < pb.v.length ∧ 0 < pb.d.getD j 0) → ∀ k ∈ a, k < pb.v.length ∧ 0 < pb.d.getD k 0) :=
  assign_total pb ((checkOk_iff pb).mpr h)

/-- non-vacuity, and the F10 witness on the repaired model -/
example : assign ⟨[0, 1], [0, 1], [0, 1], [0, 1]⟩ = .ok [1, 1] := by decide +kernel

/-- FULL.  Termination of the sweep: on every instance whose prefix sums are monotone with total
supply ≤ total demand (`Solver.Dom`; `sortedSolver_dom`: every instance the sorter builds from an
input of the domain), `push` — whose `while` loop runs on `loopFuel` — started from a state
satisfying the sweep invariants ends normally, with the loop condition false and the invariants
re-established for the next source. -/
theorem t1d_push_terminates (sv : Solver) (dom : sv.Dom) (i : Nat) (hi : i < sv.u.length) (st : St)
    (inv : Inv sv st) (ei : EvInv st)
    (hJ : sv.D.getD st.lastOcc 0 - sv.S.getD i 0 ≤ st.lastPosition) :
    ∃ st', push sv i st = .ok st' ∧ Inv sv st' ∧ EvInv st' ∧
      sv.D.getD st'.lastOcc 0 - sv.S.getD (i + 1) 0 ≤ st'.lastPosition ∧
      st'.lastPosition ≤ sv.D.getD (st'.lastOcc + 1) 0 - sv.S.getD (i + 1) 0 := by
  obtain ⟨st', e, k1, _, k3, k4, k5⟩ := push_total sv dom i hi st inv ei hJ
  exact ⟨st', e, k1, k3, k4, k5⟩

/-- non-vacuity: the hypotheses hold for the initial state of every instance of the domain -/
example (pb : Problem) (h : InDomain pb) (hm : 0 < (sortedSolver pb).v.length) :
    (sortedSolver pb).Dom ∧ Inv (sortedSolver pb) St.init ∧ EvInv St.init :=
  ⟨sortedSolver_dom pb ((checkOk_iff pb).mpr h), ⟨hm, hm, Int.le_refl _, by simp [St.init]⟩,
    ⟨by simp [St.init, SortedEv], by simp [St.init]⟩⟩

/-- FULL, strong form.  A source of positive supply that the plan returned by `solve` does not
split — all its plan entries name the same sink `j` — is assigned exactly `j` by `assign`. -/
theorem t1d_unsplit_kept (pb : Problem) (h : InDomain pb) (plan : Plan) (a : List Nat) (i j : Nat)
    (hs : solve pb = .ok plan) (ha : assign pb = .ok a) (hi : i < pb.u.length)
    (hpos : 0 < pb.s.getD i 0) (hsingle : ∀ e ∈ plan, e.1 = i → e.2.1 = j) :
    a.getD i 0 = j :=
  solve_assign_unsplit pb ((checkOk_iff pb).mpr h) plan a hs ha i j hi hpos hsingle

/-- FULL, in the words of the property: such a source is sent to the plan's sink, or to another
sink at the same position (the first alternative always holds, by `t1d_unsplit_kept`). -/
theorem t1d_unsplit_kept_position (pb : Problem) (h : InDomain pb) (plan : Plan) (a : List Nat)
    (i j : Nat) (hs : solve pb = .ok plan) (ha : assign pb = .ok a) (hi : i < pb.u.length)
    (hpos : 0 < pb.s.getD i 0) (hsingle : ∀ e ∈ plan, e.1 = i → e.2.1 = j) :
    a.getD i 0 = j ∨ pb.v.getD (a.getD i 0) 0 = pb.v.getD j 0 :=
  Or.inl (t1d_unsplit_kept pb h plan a i j hs ha hi hpos hsingle)

/-- non-vacuity: u=[5,0,3], v=[4,9,1], s=[2,0,1], d=[2,0,3]: sources 0 and 2 are unsplit
(plan entries (0,0,2) and (2,2,1)) and are assigned sinks 0 and 2; the zero-supply source 1
gets the default sink -/
example : solve ⟨[5, 0, 3], [4, 9, 1], [2, 0, 1], [2, 0, 3]⟩ = .ok [(2, 2, 1), (0, 0, 2)] ∧
    assign ⟨[5, 0, 3], [4, 9, 1], [2, 0, 1], [2, 0, 3]⟩ = .ok [0, 2, 2] := by decide +kernel

/-- FULL, at the level of the instance handed to the solver: a source `k` whose interval
`[S k + p k, S (k+1) + p k]` lies inside sink `j`'s interval `[D j, D (j+1)]` is assigned `j`
by `computeAssignment` (used by `t1d_unsplit_kept`). -/
theorem t1d_unsplit_contained (pb : Problem) (h : InDomain pb)
    (p : List Int) (a : List Nat) (hrun : run (sortedSolver pb) = .ok p)
    (ha : computeAssignment (sortedSolver pb) p = .ok a) (k j : Nat)
    (hk : k < (sortedSolver pb).u.length) (hj : j < (sortedSolver pb).v.length)
    (h1 : (sortedSolver pb).D.getD j 0 ≤ (sortedSolver pb).S.getD k 0 + p.getD k 0)
    (h2 : (sortedSolver pb).S.getD (k + 1) 0 + p.getD k 0 ≤ (sortedSolver pb).D.getD (j + 1) 0) :
    a.getD k 0 = j :=
  computeAssignment_unsplit pb ((checkOk_iff pb).mpr h) p a hrun ha k j hk hj h1 h2

/-- non-vacuity: u=[0,3], v=[1,2], s=[2,1], d=[2,2]: positions [0,0]... source 0 inside sink 0 -/
example : run (sortedSolver ⟨[0, 3], [1, 2], [2, 1], [2, 2]⟩) = .ok [0, 0] ∧
    computeAssignment (sortedSolver ⟨[0, 3], [1, 2], [2, 1], [2, 2]⟩) [0, 0] = .ok [0, 1] := by decide +kernel

/-- the single rounding step: the walk stops at the unique sink containing the position -/
theorem t1d_round_step (d : List Int) (hpos : ∀ x ∈ d, 0 < x) (pos : Int)
    (cs j cs' : Nat) (rest' : List Int)
    (e : walk pos ((prefixFrom 0 d).drop (cs + 1)) cs = .ok (cs', rest'))
    (hstart : (prefixFrom 0 d).getD cs 0 ≤ pos) (hj : j < d.length)
    (h1 : (prefixFrom 0 d).getD j 0 ≤ pos) (h2 : pos < (prefixFrom 0 d).getD (j + 1) 0) :
    cs' = j ∧ rest' = (prefixFrom 0 d).drop (j + 1) :=
  walk_unique d hpos pos cs j cs' rest' e hstart hj h1 h2

example : walk 4 ((prefixFrom 0 [2, 3, 1]).drop 1) 0 = .ok (1, [5, 6]) := by decide +kernel

/-- FULL.  `balanceDemand` succeeds whenever there is a sink (or nothing to do), changes only the
demands, never decreases one, leaves a problem with supply ≤ demand, and is the identity when
supply ≤ demand already. -/
theorem balanceDemand_covers (pb : Problem) (hs : pb.s.length = pb.u.length)
    (hd : pb.d.length = pb.v.length) (hm : 0 < pb.v.length ∨ pb.s.sum ≤ pb.d.sum) :
    ∃ pb', balanceDemand pb = .ok pb' ∧ pb'.u = pb.u ∧ pb'.v = pb.v ∧ pb'.s = pb.s ∧
      pb'.d.length = pb.d.length ∧ pb'.s.sum ≤ pb'.d.sum ∧
      (∀ j, pb.d.getD j 0 ≤ pb'.d.getD j 0) ∧ (pb.s.sum ≤ pb.d.sum → pb' = pb) :=
  have ⟨pb', h1, h2, h3, h4, h5, h6, h7, h8, _⟩ := balanceDemand_spec pb hs hd hm
  ⟨pb', h1, h2, h3, h4, h5, h6, h7, h8⟩

example : balanceDemand ⟨[3, 1], [0, 5], [4, 1], [1, 1]⟩ = .ok ⟨[3, 1], [0, 5], [4, 1], [3, 2]⟩ := by
  decide +kernel

/-- FULL.  The input checks accept every input of the domain: `Transportation1d::check()` on the
problem, and `Transportation1dSolver::check()` (base check, sizes of the prefix sums, `checkSorted`,
`checkNonZeroCapacities`) on the instance the sorter hands to the solver. -/
theorem checks_accept_valid_input (pb : Problem) (h : InDomain pb) :
    checkInput pb = .ok () ∧ solverCheck (sortedSolver pb) 0 = .ok () :=
  ⟨(checkInput_ok_iff pb).mpr ((checkOk_iff pb).mpr h), sortedSolver_check pb ((checkOk_iff pb).mpr h)⟩

/-- FULL.  `Transportation1d::check()` accepts exactly the domain of C14 (for every input, sizes
of the four vectors arbitrary). -/
theorem checks_accept_iff_in_domain (pb : Problem) : checkInput pb = .ok () ↔ InDomain pb :=
  (checkInput_ok_iff pb).trans (checkOk_iff pb)

/-- non-vacuity (zeros, unsorted positions) -/
example : checkInput ⟨[5, 0, 3], [4, 9, 1], [2, 0, 1], [2, 0, 3]⟩ = .ok () ∧
    solverCheck (sortedSolver ⟨[5, 0, 3], [4, 9, 1], [2, 0, 1], [2, 0, 3]⟩) 0 = .ok () := by decide +kernel

/-- FULL.  For every input of the domain the two solution checks accept the plan `solve()` computes
on the instance handed to the solver: `checkSolutionValid` (the plan is valid) and
`checkSolutionOptimal` (no chain of moves to neighbouring sinks ending in a sink with spare capacity
has positive gain; derived from the dual certificate behind `t1d_optimal`: the running gain of a
scan from `snk` to `nxt` is at most `be nxt - be snk ≤ 0`; with exact balance no sink has spare
capacity).  Entries of `gainRight`/`gainLeft` are read only for sinks that receive something: the
`LLONG_MIN` sentinel (F11) never enters the arithmetic (`CkErr.sentinel` is an error). -/
theorem solve_passes_own_checks (pb : Problem) (h : InDomain pb) :
    ∃ p sol, run (sortedSolver pb) = .ok p ∧ computeSolution (sortedSolver pb) p = .ok sol ∧
      checkSolutionValid (sortedSolver pb).toProblem sol = .ok () ∧
      checkSolutionOptimal (sortedSolver pb) sol = .ok () := by
  obtain ⟨p, sol, h1, h2, h3, h4, _⟩ := solve_own_checks pb ((checkOk_iff pb).mpr h)
  exact ⟨p, sol, h1, h2, h3, h4⟩

/-- non-vacuity: positions [2,2] and plan of u=[5,0,3], v=[4,9,1], s=[2,0,1], d=[2,0,3] -/
example : computeSolution (sortedSolver ⟨[5, 0, 3], [4, 9, 1], [2, 0, 1], [2, 0, 3]⟩) [2, 2]
      = .ok [(0, 0, 1), (1, 1, 2)] ∧
    checkSolutionOptimal (sortedSolver ⟨[5, 0, 3], [4, 9, 1], [2, 0, 1], [2, 0, 3]⟩)
      [(0, 0, 1), (1, 1, 2)] = .ok () := by decide +kernel

/-- FULL.  `solve()` with all its self-checks never throws on an input of the domain (no
`std::runtime_error` from any check, no out-of-range access, no sentinel arithmetic, no fuel
exhaustion) and returns exactly the plan of `solve` — which is valid and of minimum cost. -/
theorem solveFull_never_throws (pb : Problem) (h : InDomain pb) :
    ∃ plan, solveFull pb = .ok plan ∧ solve pb = .ok plan ∧ validPlan pb plan = true ∧
      ∀ plan', validPlan pb plan' = true → planCost pb plan ≤ planCost pb plan' := by
  obtain ⟨plan, e1, e2⟩ := solveFull_ok pb ((checkOk_iff pb).mpr h)
  obtain ⟨plan', e3, hv, ho⟩ := t1d_optimal pb h
  rw [e2] at e3
  cases e3
  exact ⟨plan, e1, e2, hv, ho⟩

example : solveFull ⟨[5, 0, 3], [4, 9, 1], [2, 0, 1], [2, 0, 3]⟩ = .ok [(2, 2, 1), (0, 0, 2)] := by
  decide +kernel

/-- FULL.  The checks only ever add exceptions: whenever `solveFull` returns, `solve` returns the
same plan (for every input). -/
theorem solveFull_refines_solve (pb : Problem) (plan : Plan) (h : solveFull pb = .ok plan) :
    solve pb = .ok plan :=
  solveFull_refines pb plan h

/-- FULL.  Outside the domain `check()` — hence `solve()` — throws (`std::runtime_error`; never an
out-of-range access, whatever the sizes of the four vectors). -/
theorem checks_reject_outside_domain (pb : Problem) (h : ¬ InDomain pb) :
    (∃ s, checkInput pb = .error (.thrown s)) ∧ (∃ s, solveFull pb = .error (.thrown s)) :=
  ⟨checkInput_rejects pb (fun hv => h ((checkOk_iff pb).mp hv)),
    solveFull_rejects pb (fun hv => h ((checkOk_iff pb).mp hv))⟩

/-- FULL.  Supplies whose number differs from the number of sources: "Inconsistant supplies". -/
theorem checks_reject_supply_size (pb : Problem) (h : pb.s.length ≠ pb.u.length) :
    checkInput pb = .error (.thrown .supSize) := by
  rw [checkInput_eq, if_pos h]

/-- FULL.  Demands whose number differs from the number of sinks: "Inconsistant demands". -/
theorem checks_reject_demand_size (pb : Problem) (hs : pb.s.length = pb.u.length)
    (h : pb.d.length ≠ pb.v.length) : checkInput pb = .error (.thrown .demSize) := by
  rw [checkInput_eq, if_neg (not_not_intro hs), if_pos h]

/-- FULL.  A negative supply: "Supplies must be non-negative". -/
theorem checks_reject_negative_supply (pb : Problem) (hs : pb.s.length = pb.u.length)
    (hd : pb.d.length = pb.v.length) (h : ∃ x ∈ pb.s, x < 0) :
    checkInput pb = .error (.thrown .supNeg) := by
  rw [checkInput_eq, if_neg (not_not_intro hs), if_neg (not_not_intro hd), if_pos ((any_neg _).2 h)]

/-- FULL.  A negative demand (supplies non-negative): "Demands must be non-negative". -/
theorem checks_reject_negative_demand (pb : Problem) (hs : pb.s.length = pb.u.length)
    (hd : pb.d.length = pb.v.length) (hsn : ∀ x ∈ pb.s, 0 ≤ x) (h : ∃ x ∈ pb.d, x < 0) :
    checkInput pb = .error (.thrown .demNeg) := by
  rw [checkInput_eq, if_neg (not_not_intro hs), if_neg (not_not_intro hd),
    if_neg ((not_any_neg _).2 hsn), if_pos ((any_neg _).2 h)]

/-- FULL.  Total demand below total supply — in particular no sink but a positive supply: "The
supply should be no larger than the demand". -/
theorem checks_reject_excess_supply (pb : Problem) (hs : pb.s.length = pb.u.length)
    (hd : pb.d.length = pb.v.length) (hsn : ∀ x ∈ pb.s, 0 ≤ x) (hdn : ∀ x ∈ pb.d, 0 ≤ x)
    (h : pb.d.sum < pb.s.sum) : checkInput pb = .error (.thrown .supGtDem) := by
  rw [checkInput_eq, if_neg (not_not_intro hs), if_neg (not_not_intro hd),
    if_neg ((not_any_neg _).2 hsn), if_neg ((not_any_neg _).2 hdn), if_pos h]

/-- non-vacuity of the five classes (the last one: an empty sink side) -/
example : checkInput ⟨[0, 1], [0], [1], [2]⟩ = .error (.thrown .supSize) ∧
    checkInput ⟨[0], [0], [1], [2, 1]⟩ = .error (.thrown .demSize) ∧
    checkInput ⟨[0, 1], [0], [1, -1], [2]⟩ = .error (.thrown .supNeg) ∧
    checkInput ⟨[0], [0, 1], [1], [2, -1]⟩ = .error (.thrown .demNeg) ∧
    checkInput ⟨[0], [], [1], []⟩ = .error (.thrown .supGtDem) := by decide +kernel

/-- FULL.  `Transportation1dSolver::check()` on a solver built directly from an input of the domain
(no sorter in front) rejects unsorted source positions … -/
theorem checks_reject_unsorted_sources (pb : Problem) (h : InDomain pb) (i : Nat)
    (hi : i + 1 < pb.u.length) (hlt : pb.u.getD (i + 1) 0 < pb.u.getD i 0) :
    solverCheck (mkSolver pb.u pb.v pb.s pb.d) 0 = .error (.thrown .srcUnsorted) := by
  rw [solverCheck_mk _ _ _ _ h.1 h.2.1 ((checks_accept_iff_in_domain pb).mpr h), if_pos (hasDescent_true _ i hi hlt)]

/-- … unsorted sink positions (sources sorted) … -/
theorem checks_reject_unsorted_sinks (pb : Problem) (h : InDomain pb)
    (hus : List.Pairwise (fun a b => a ≤ b) pb.u) (j : Nat)
    (hj : j + 1 < pb.v.length) (hlt : pb.v.getD (j + 1) 0 < pb.v.getD j 0) :
    solverCheck (mkSolver pb.u pb.v pb.s pb.d) 0 = .error (.thrown .snkUnsorted) := by
  rw [solverCheck_mk _ _ _ _ h.1 h.2.1 ((checks_accept_iff_in_domain pb).mpr h),
    if_neg (Bool.eq_false_iff.1 (hasDescent_false _ hus)), if_pos (hasDescent_true _ j hj hlt)]

/-- … a zero supply (positions sorted) … -/
theorem checks_reject_zero_supply (pb : Problem) (h : InDomain pb)
    (hus : List.Pairwise (fun a b => a ≤ b) pb.u) (hvs : List.Pairwise (fun a b => a ≤ b) pb.v)
    (h0 : (0 : Int) ∈ pb.s) :
    solverCheck (mkSolver pb.u pb.v pb.s pb.d) 0 = .error (.thrown .supZero) := by
  rw [solverCheck_mk _ _ _ _ h.1 h.2.1 ((checks_accept_iff_in_domain pb).mpr h),
    if_neg (Bool.eq_false_iff.1 (hasDescent_false _ hus)),
    if_neg (Bool.eq_false_iff.1 (hasDescent_false _ hvs)), if_pos (hasZero_true _ h0)]

/-- … and a zero demand (positions sorted, supplies positive). -/
theorem checks_reject_zero_demand (pb : Problem) (h : InDomain pb)
    (hus : List.Pairwise (fun a b => a ≤ b) pb.u) (hvs : List.Pairwise (fun a b => a ≤ b) pb.v)
    (hsp : ∀ x ∈ pb.s, 0 < x) (h0 : (0 : Int) ∈ pb.d) :
    solverCheck (mkSolver pb.u pb.v pb.s pb.d) 0 = .error (.thrown .demZero) := by
  rw [solverCheck_mk _ _ _ _ h.1 h.2.1 ((checks_accept_iff_in_domain pb).mpr h),
    if_neg (Bool.eq_false_iff.1 (hasDescent_false _ hus)),
    if_neg (Bool.eq_false_iff.1 (hasDescent_false _ hvs)),
    if_neg (Bool.eq_false_iff.1 (hasZero_false _ hsp)), if_pos (hasZero_true _ h0)]

/-- non-vacuity of the four classes -/
example : solverCheck (mkSolver [1, 0] [0, 1] [1, 1] [1, 1]) 0 = .error (.thrown .srcUnsorted) ∧
    solverCheck (mkSolver [0, 1] [1, 0] [1, 1] [1, 1]) 0 = .error (.thrown .snkUnsorted) ∧
    solverCheck (mkSolver [0, 1] [0, 1] [0, 1] [1, 1]) 0 = .error (.thrown .supZero) ∧
    solverCheck (mkSolver [0, 1] [0, 1] [1, 1] [0, 2]) 0 = .error (.thrown .demZero) := by decide +kernel

/-- FULL.  `checkSolutionValid` accepts exactly the valid plans: with consistent sizes and entries in
range it returns normally iff every amount is positive, every supply is met exactly and no demand is
exceeded; otherwise it throws (never an index error). -/
theorem checkSolutionValid_accepts_iff (pb : Problem) (hs : pb.s.length = pb.u.length)
    (hd : pb.d.length = pb.v.length) (sol : Plan)
    (hr : ∀ e ∈ sol, e.1 < pb.u.length ∧ e.2.1 < pb.v.length) :
    (checkSolutionValid pb sol = .ok () ↔ validPlan pb sol = true) ∧
    (validPlan pb sol ≠ true → ∃ s, checkSolutionValid pb sol = .error (.thrown s)) :=
  ⟨checkSolutionValid_ok_iff pb hs hd sol hr, checkSolutionValid_rejects pb hs hd sol hr⟩

/-- non-vacuity: a non-positive amount, an unmet supply, an exceeded demand -/
example : checkSolutionValid ⟨[0, 1], [0, 1], [1, 1], [1, 1]⟩ [(0, 0, 1), (1, 1, 1), (1, 0, 0)]
      = .error (.thrown .allocNonPos) ∧
    checkSolutionValid ⟨[0, 1], [0, 1], [1, 1], [1, 1]⟩ [(0, 0, 1)] = .error (.thrown .supNotMet) ∧
    checkSolutionValid ⟨[0, 1], [0, 1], [1, 1], [1, 1]⟩ [(0, 0, 1), (1, 0, 1)]
      = .error (.thrown .demExceeded) := by decide +kernel

/-- The error branches of `checkSolutionOptimal` are reachable: a valid plan that ships to the far
sink although the near one has spare capacity is flagged, to the right and to the left (the
correspondence stream exercises both on mutated plans on every run). -/
theorem checks_reject_improving_moves :
    checkSolutionOptimal (mkSolver [5] [0, 5] [1] [1, 1]) [(0, 0, 1)]
      = .error (.thrown .improvingRight) ∧
    checkSolutionOptimal (mkSolver [0] [0, 5] [1] [1, 1]) [(0, 1, 1)]
      = .error (.thrown .improvingLeft) := by decide +kernel

/-- Before the repair of F10 (`Model/LegacyTransp1d.lean`): with u=[0,1], s=[0,1] the write
`ret[srcOrder[0]]` is out of range — the heap overflow ASan reports on the unrepaired tree. -/
theorem assign_oob_with_zero_supply :
    assignLegacy ⟨[0, 1], [0, 1], [0, 1], [0, 1]⟩ = .error Err.indexOutOfRange := by decide +kernel

end ColoVerif.C14
