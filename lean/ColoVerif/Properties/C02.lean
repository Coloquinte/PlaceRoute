import ColoVerif.Proofs.DetPlaceLegal
import ColoVerif.Proofs.DetPlaceCan
import ColoVerif.Model.LegacyLegalize
import ColoVerif.Model.LegacyDetPlace
import ColoVerif.Proofs.GeomTie
/-!
# C02 — detailed placement keeps the placement legal at every exposed state

Model: `ColoVerif.DetPlace` (Model/DetPlace.lean), the doubly linked row lists of
`DetailedPlacement` with the primitive moves of `DetailedPlacer` / `RowReordering`; tied to the C++
by the primitives stream and the history replay of `harness/h_C02.cpp`.

`Inv` = every test of `DetailedPlacement::check()` + symmetry of the links + orientation ≠ INVALID
+ y on the row + positive widths of optimised cells; it is decidable and the driver evaluates it
(`inv` → `inv true`) on every constructed instance and after every primitive / replayed move.

Theorems: `inv_init` (constructor ⇒ `Inv`, all placed), `fromCircuit_ok_of_legal` (constructor does not
fail on a legal circuit), `inv_step*` / `inv_run` (every move keeps `Inv`), `swap_never_throws` /
`insert_never_throws` (feasible moves are carried out), `ignored_frame`, `links_wf`, `inv_legal` (every state
reached from a legal circuit exports a legal circuit, C01's `Legal`); `constructor_ok_after_legalize` and
`detailed_legal_after_legalize` discharge the hypotheses on the circuit for whatever legalization returns.
`Legalize.DomL` / `LegalL` are the verbatim copies of `C01.Dom` / `C01.Legal` (tied by `rfl` in
Properties/C01.lean).
The proofs are in Proofs/DetPlace{Inv,Can,Frame,Init,InitOk,Legal}.lean.
-/
namespace ColoVerif.C02
open ColoVerif ColoVerif.DetPlace ColoVerif.DetPlace.State

/-- **Construction.**  For every circuit whose movable cells have a positive placed width and
a valid orientation: whatever `DetailedPlacement::fromIspdCircuit` returns satisfies `Inv` — the
links written by the constructor are symmetric, first/last cells are right, every placed cell is
inside its row segment at the row's y, in x order with its neighbours, in an allowed row with the
orientation the row demands — every optimised cell is placed, and the real `check()` passes.
(Proofs/DetPlaceInit.lean: `linkRow` establishes a `Chain` per row; the per-row cell lists of
`assignCells` are duplicate-free and disjoint, so later rows do not disturb earlier ones; geometry
from `locate`; the orientation facts are the ones the final `check()` tests along `rowCells`.) -/
theorem inv_init (c : Circuit) (s : State)
    (hd : ∀ cl ∈ c.cells, ¬ cl.fixed → 0 < cl.placedWidth ∧ cl.orient ≠ Orient.INVALID)
    (e : fromIspdCircuit c = .ok s) : Inv s ∧ s.allPlaced = true ∧ s.check = true := by
  obtain ⟨h1, h2⟩ := fromIspdCircuit_inv hd e
  obtain ⟨_, _, _, B⟩ := fromIspdCircuit_built e
  exact ⟨h1, h2, B.check⟩

/-- **"It never fails on a circuit that legalization alone accepts", constructor part.**
`Legalize.DomL` / `Legalize.LegalL` are C01's domain and legality (Properties/C01.lean ties
`C01.Dom = DomL`, `C01.Legal = LegalL` by `rfl`; `C01.legalize_legal` proves `LegalL` of everything
legalization returns).  `OrientLegal` is the orientation side of legality, which C01's `Legal` does
not contain (C04): a movable one-row cell lying in a row has the orientation this row demands for
its polarity.  Under these, `DetailedPlacement::fromIspdCircuit` — which looks every cell up in the
sorted free row segments, rejects overlaps and runs `check()` — returns normally.
(Proofs/DetPlaceInitOk.lean: a cell inside a free segment of `computeRows()` that
misses the multi-row cells lies in a free segment of `computeRows(multi-row cells)`; `upper_bound` on
the sorted disjoint segments finds it; cells sorted by x in one segment do not overlap because their
placements are disjoint; `check()` follows from the linking and `OrientLegal`.) -/
theorem fromCircuit_ok_of_legal (c : Circuit) (hd : Legalize.DomL c) (hl : Legalize.LegalL c) (ho : OrientLegal c) :
    ∃ s, fromIspdCircuit c = .ok s := fromIspdCircuit_succeeds c hd hl ho

/-- … and the state it returns satisfies `Inv` with every optimised cell placed (`inv_init`), when no
movable cell carries the INVALID orientation -/
theorem init_of_legal (c : Circuit) (hd : Legalize.DomL c) (hl : Legalize.LegalL c) (ho : OrientLegal c)
    (hv : ∀ cl ∈ c.cells, ¬ cl.fixed → cl.orient ≠ Orient.INVALID) :
    ∃ s, fromIspdCircuit c = .ok s ∧ Inv s ∧ s.allPlaced = true := by
  obtain ⟨s, e⟩ := fromIspdCircuit_succeeds c hd hl ho
  obtain ⟨h1, h2, _⟩ := inv_init c s (fun cl hcl hf => ⟨(hd.2.1 cl hcl (by simpa using hf)).1, hv cl hcl hf⟩) e
  exact ⟨s, e, h1, h2⟩

/-- **After a successful legalization the constructor never fails.**  For
every circuit of C01's domain, every rounding of the ordering key and all parameters: if legalization
(`legalizeWith`, the function C01's theorems are about) returns `c'`, then `c'` is again in the domain,
legal (`C01.legalize_legal`), row-conform in its orientations and free of INVALID orientations
(`Legalize.legalizeWith_orient`, the lemma behind C04 `legalize_orient`), hence `DetailedPlacement::fromIspdCircuit c'` returns normally, with a state
that satisfies `Inv` and has every optimised cell placed. -/
theorem constructor_ok_after_legalize (rnd : Rat → Rat) (p : Legalize.Params) (c c' : Circuit) (hd : Legalize.DomL c)
    (h : Legalize.legalizeWith rnd p c = .ok c') :
    ∃ s, fromIspdCircuit c' = .ok s ∧ Inv s ∧ s.allPlaced = true :=
  init_of_legal c' (Legalize.legalize_dom rnd p c c' hd h) (Legalize.legalizeWith_legal rnd p c c' hd h)
    (legalize_orientLegal rnd p c c' hd h) (legalize_noInvalid rnd p c c' hd h)

/-- `unplace` of a placed cell keeps the invariant (pointer surgery included) -/
theorem inv_unplace {s : State} (h : Inv s) {c : Int} (hc : s.validCell c) (hp : s.row c ≠ -1) :
    Inv (s.unplace c) := unplace_inv h hc hp

/-- `place` of an unplaced optimised cell at a site of a valid row keeps the invariant whenever the
real `canPlace` test lets it through -/
theorem inv_place {s t : State} (h : Inv s) {c r p x : Int} (ok : PlaceOk s c r p)
    (e : s.place c r p x = .ok t) : Inv t := place_inv h ok e

/-- `swap` (all three branches: c2 before c1, c1 before c2, apart / different rows) -/
theorem inv_step_swap {s t : State} (h : Inv s) {c1 c2 : Int} (e : s.step (.swap c1 c2) = .ok t) : Inv t :=
  step_inv h e

/-- `insert` with the integer midpoint `Int.tdiv` -/
theorem inv_step_insert {s t : State} (h : Inv s) {c r p : Int} (e : s.step (.insert c r p) = .ok t) : Inv t :=
  step_inv h e

/-- `shift`: any simultaneous x update that the model's re-check accepts (the code trusts lemon) -/
theorem inv_step_shift {s t : State} (h : Inv s) {mv : List (Int × Int)} (e : s.step (.shift mv) = .ok t) : Inv t :=
  step_inv h e

/-- `RowReordering::writeback` with arbitrary regions, orders and positions -/
theorem inv_step_reorder {s t : State} (h : Inv s) {cells : List Int} {regions : List Region}
    (e : s.step (.reorder cells regions) = .ok t) : Inv t := step_inv h e

/-- every primitive move keeps the invariant -/
theorem inv_step {s t : State} (h : Inv s) {op : Op} (e : s.step op = .ok t) : Inv t := step_inv h e

/-- every state reachable by any sequence of moves (with arbitrary arguments) satisfies `Inv` -/
theorem inv_run {s t : State} (h : Inv s) {ops : List Op} (e : s.run ops = .ok t) : Inv t := run_inv h e

/-- cells that detailed placement does not optimise (width −1: fixed cells, multi-row cells,
macros) keep x, y and orientation along every history; widths never change -/
theorem ignored_frame {s t : State} {ops : List Op} (e : s.run ops = .ok t) :
    t.width = s.width ∧ ∀ d, s.isIgnored d = true → t.x d = s.x d ∧ t.y d = s.y d ∧ t.orient d = s.orient d := by
  have := run_frame e
  exact ⟨this.1, fun d hd => this.2 d (by simpa [isIgnored] using hd)⟩

/-- **The linked representation is the list-of-lists view, after every move.**  In every state reached
by any history from a state satisfying `Inv`, for every row: `rowCells r` (the cells met by following
`cellNext_` from `rowFirstCell_[r]`, as `DetailedPlacement::rowCells` does) are exactly the valid cells
whose `cellRow_` is `r`, in increasing x without overlap.  So the pointer surgery of `place`/`unplace`
never loses, duplicates or misorders a cell. -/
theorem links_wf {s t : State} (h : Inv s) {ops : List Op} (e : s.run ops = .ok t) {r : Int} (hr : t.validRow r) :
    (∀ c, c ∈ t.rowCells r ↔ (t.validCell c ∧ t.row c = r)) ∧
    (t.rowCells r).Pairwise (fun a b => t.x a + t.width a ≤ t.x b) :=
  rowCells_spec (run_inv h e) hr

/-- Legality read off the invariant, cell by cell: a placed cell is an optimised cell of positive
width, sits at its row's y in an allowed row with a valid orientation, does not overlap its
predecessor or successor or *any other cell of its row* (transitivity of the order along the links,
`row_order`) and lies between the ends of its row segment (`row_bounds`, also for inner cells). -/
theorem inv_legal_cells {s : State} (h : Inv s) {c : Int} (hc : s.validCell c) (hp : s.row c ≠ -1) :
    s.validRow (s.row c) ∧ 0 < s.width c ∧ s.y c = s.rowY (s.row c) ∧ s.orient c ≠ Orient.INVALID ∧
    s.boundaryBefore c ≤ s.x c ∧ s.x c + s.width c ≤ s.boundaryAfter c ∧
    s.rowMinX (s.row c) ≤ s.x c ∧ s.x c + s.width c ≤ s.rowMaxX (s.row c) ∧
    ∀ d, s.validCell d → d ≠ c → s.row d = s.row c →
      s.x c + s.width c ≤ s.x d ∨ s.x d + s.width d ≤ s.x c := by
  have C2 := (h.cell hc).2 hp
  have C1 := (h.cell hc).1 C2.1
  have B := row_bounds h hc hp
  exact ⟨h.placed_row hc hp, C1.2, C2.2.2.2, C1.1, (h.fits hc hp).1, (h.fits hc hp).2, B.1, B.2,
    fun d hd hne hr => row_order h hc hd hp hr (Ne.symm hne)⟩

/-- **Legality of every exposed state.**  Let `c` be a circuit of C01's domain, legal in C01's
sense (what `C01.legalize_legal` proves of legalization's result), on which the constructor returned
`s0`, and let `s` be reached from `s0` by *any* history of the optimiser's moves (swap / insert /
checked shift / reorder write-back with arbitrary arguments) that the model accepts.  Then `s`
satisfies `Inv`, every optimised cell is placed, and the circuit that `exportPlacement` writes — what a
Detailed-step callback and the caller see — is legal in C01's sense: every row-high strip of every
movable cell inside one free segment of `computeRows`, no two movable cells intersecting; the cells
that are not optimised (multi-row cells, macros) sit exactly where the input has them.
(Proofs/DetPlaceLegal.lean: order along the links is transitive ⇒ cells of one row are apart and
inside the row's segment; segments of different rows are disjoint; the unoptimised movable cells were
obstacles when the segments were computed; the segments w.r.t. more obstacles lie inside the segments
of `computeRows()`; turn status, hence placed sizes, never change.) -/
theorem inv_legal (c : Circuit) (hd : Legalize.DomL c) (hl : Legalize.LegalL c)
    (hv : ∀ cl ∈ c.cells, ¬ cl.fixed → cl.orient ≠ Orient.INVALID)
    (s0 s : State) (e0 : fromIspdCircuit c = .ok s0) (ops : List Op) (e : s0.run ops = .ok s) :
    Inv s ∧ s.allPlaced = true ∧ Legalize.LegalL (exportPlacement s c) ∧
    (∀ (i : Nat) (cl : Cell), c.cells[i]? = some cl → cl.fixed = false → cl.placedHeight ≠ (Circuit.rowHeight c).getD 0 →
      (exportPlacement s c).cells[i]? = some cl) := by
  obtain ⟨i0, a0, _⟩ := inv_init c s0 (fun cl hcl hf => ⟨(hd.2.1 cl hcl (by simpa using hf)).1, hv cl hcl hf⟩) e0
  have hI := run_inv i0 e
  have hap := (Lg.allPlaced_iff s).2 (Lg.run_allPlaced ((Lg.allPlaced_iff s0).1 a0) e)
  obtain ⟨H, hrh, S⟩ := stateOf_of_run hd e0 e
  refine ⟨hI, hap, export_legal hd hrh S hI hap hl, ?_⟩
  intro i cl hg hf hh
  rw [hrh] at hh
  rw [export_get, hg]
  exact congrArg some (newCell_multi S hg hf hh)

/-- **C02, end to end on the model.**  For every circuit of C01's domain on which legalization returns
`c'`: the constructor of detailed placement succeeds on `c'`, and every state reached from its state by
any accepted history of the optimiser's moves satisfies `Inv`, has every optimised cell placed and
exports a circuit that is legal in C01's sense, with the unoptimised movable cells exactly where
legalization put them. -/
theorem detailed_legal_after_legalize (rnd : Rat → Rat) (p : Legalize.Params) (c c' : Circuit) (hd : Legalize.DomL c)
    (h : Legalize.legalizeWith rnd p c = .ok c') :
    ∃ s0, fromIspdCircuit c' = .ok s0 ∧
      ∀ (ops : List Op) (s : State), s0.run ops = .ok s →
        Inv s ∧ s.allPlaced = true ∧ Legalize.LegalL (exportPlacement s c') ∧
        (∀ (i : Nat) (cl : Cell), c'.cells[i]? = some cl → cl.fixed = false →
          cl.placedHeight ≠ (Circuit.rowHeight c').getD 0 → (exportPlacement s c').cells[i]? = some cl) := by
  obtain ⟨s0, e0, _, _⟩ := constructor_ok_after_legalize rnd p c c' hd h
  exact ⟨s0, e0, fun ops s e => inv_legal c' (Legalize.legalize_dom rnd p c c' hd h) (Legalize.legalizeWith_legal rnd p c c' hd h)
    (legalize_noInvalid rnd p c c' hd h) s0 s e0 ops e⟩

/-- the arithmetic fact behind `positionOnInsert` / `positionsOnSwap`: the C++ midpoint
(truncating division) of a site that is wide enough lies inside the site -/
theorem midpoint_in_site (b e w : Int) (h : b ≤ e - w) : b ≤ (b + e - w).tdiv 2 ∧ (b + e - w).tdiv 2 + w ≤ e :=
  midpoint_ok b e w h

/-- **`swap` never throws on a feasible move.**  On a state satisfying `Inv`, for optimised cells
`c1`, `c2`: if `canSwap` answers true, `swap` (unplace both, place both — the `canPlace` tests inside
`place` included) returns normally, in all three branches, and the new state satisfies `Inv`.  Hence
`step` never returns an error on a swap the optimiser found feasible. -/
theorem swap_never_throws {s : State} (h : Inv s) {c1 c2 : Int} (hl1 : s.liveCell c1 = true) (hl2 : s.liveCell c2 = true)
    (hcan : s.canSwap c1 c2 = .ok true) : ∃ t, s.step (.swap c1 c2) = .ok t ∧ Inv t :=
  step_swap_succeeds h hl1 hl2 hcan

/-- **`insert` never throws on a feasible move** (site = a valid row and a predecessor that is −1 or a
placed cell of that row; the new abscissa is the `Int.tdiv` midpoint of the site, `midpoint_in_site`) -/
theorem insert_never_throws {s : State} (h : Inv s) {c r p : Int} (hl : s.liveCell c = true) (hs : s.siteOk r p = true)
    (hcan : s.canInsert c r p = .ok true) : ∃ t, s.step (.insert c r p) = .ok t ∧ Inv t :=
  step_insert_succeeds h hl hs hcan

/-- F2 on the pre-fix constructor (kept in Model/LegacyDetPlace.lean): it throws on a legal placement
over a fixed non-obstruction cell; the repaired one does not (corpus/C02/w1.txt replays it on the code) -/
theorem legacy_F2_witness :
    isOk (fromIspdCircuitLegacy witnessF2) = false ∧ isOk (fromIspdCircuit witnessF2) = true := legacy_F2_throws

/-- F18 on the pre-fix constructor: a turned two-row cell is optimised as a 4-wide single-row cell;
the repaired one ignores it (corpus/C02/w2.txt) -/
theorem legacy_F18_witness :
    (match fromIspdCircuitLegacy witnessF18 with | .ok s => s.width 0 | .error _ => 0) = 4 ∧
    (match fromIspdCircuit witnessF18 with | .ok s => s.width 0 | .error _ => 0) = -1 :=
  legacy_F18_optimises_two_row_cell

/-! non-vacuity: a concrete two-row state built by the model's constructor satisfies `Inv`, and a
history of all four kinds of moves runs on it -/
def tiny : Circuit :=
  { cells := [⟨2, 2, 0, 0, .N, false, false, .ANY⟩, ⟨3, 2, 4, 0, .N, false, false, .ANY⟩,
              ⟨2, 2, 1, 2, .FS, false, false, .SAME⟩, ⟨2, 4, 8, 0, .N, false, false, .ANY⟩],
    nets := [],
    rows := [⟨⟨0, 10, 0, 2⟩, .N⟩, ⟨⟨0, 10, 2, 4⟩, .FS⟩] }

def tinyOps : List Op :=
  [.swap 0 1, .insert 2 0 0, .shift [(2, 6)], .reorder [1, 0] [⟨0, -1, [(0, 0), (1, 2)]⟩]]

-- non-vacuity of `inv_init`: `tiny` satisfies its hypothesis and the constructor accepts it
example : (∀ cl ∈ tiny.cells, ¬ cl.fixed → 0 < cl.placedWidth ∧ cl.orient ≠ Orient.INVALID) ∧
    isOk (fromIspdCircuit tiny) = true := by decide +kernel

example : (match fromIspdCircuit tiny with
           | .ok s => decide (Inv s) && s.isIgnored 3 &&
                      (match s.run tinyOps with | .ok t => decide (Inv t) | .error _ => false)
           | .error _ => false) = true := by decide +kernel

-- non-vacuity of `swap_never_throws` / `insert_never_throws`: feasible moves exist on `tiny`'s state
example : (match fromIspdCircuit tiny with
           | .ok s => s.liveCell 0 && s.liveCell 1 && s.liveCell 2 && s.siteOk 0 0 &&
                      (s.canSwap 0 1 == .ok true) && (s.canSwap 0 2 == .ok true) && (s.canInsert 2 0 0 == .ok true)
           | .error _ => false) = true := by decide +kernel

/-! non-vacuity of `fromCircuit_ok_of_legal` / `constructor_ok_after_legalize` / `detailed_legal_after_legalize` /
`inv_legal`: legalization of `tiny` (one two-row cell, three one-row cells, one of them with polarity SAME)
succeeds; its result is in the domain, legal (`legalizeWith_legal`, last example), orientation-conform, the
constructor accepts it and the history `tinyOps` is accepted from the constructor's state -/
instance (c : Circuit) : Decidable (Legalize.DomL c) := inferInstanceAs (Decidable (_ ∧ _ ∧ _ ∧ _))

example : Legalize.DomL tiny := by decide

example : (match Legalize.legalize LegacyLegalize.defaultParams tiny with
           | .ok c' => decide (Legalize.DomL c') && decide (OrientLegal c') &&
                       c'.cells.all (fun cl => cl.fixed || cl.orient != Orient.INVALID) &&
                       (match fromIspdCircuit c' with
                        | .ok s0 => isOk (s0.run tinyOps)   -- a history of all four kinds of moves is accepted
                        | .error _ => false)
           | .error _ => false) = true := by decide +kernel

-- … and what legalization returned is `LegalL` (C01), so `inv_legal` applies to it with `tinyOps`
example (c' : Circuit) (h : Legalize.legalize LegacyLegalize.defaultParams tiny = .ok c') : Legalize.LegalL c' :=
  Legalize.legalizeWith_legal _ _ tiny c' (by decide) h

/-- The shared geometry layer under `DetPlace.fromIspdCircuit` is *translated from the C++ source*: the definitions
of `Gen/GeomFns.lean`, regenerated on every run from the clang AST of the bodies of `Rectangle(int,int,int,int)`,
`isTurn`, `Circuit::x / y / orientation / isFixed / placedWidth / placedHeight / placement` and of the loop of
`Circuit::rowHeight()` (`none` = throws), are equal as functions to the hand-written `Cell.*` / `Circuit.rowHeight`
the constructor model uses (cell widths, the standard-cell height test, obstacles).  A semantic change of one of
these bodies breaks this theorem. -/
theorem geometry_layer_translated :
    Gen.Geom.Rectangle_ctor = Rect.mk ∧
    Gen.Geom.isTurn = Orient.isTurn ∧
    Gen.Geom.Circuit_x = Cell.x ∧
    Gen.Geom.Circuit_y = Cell.y ∧
    Gen.Geom.Circuit_orientation = Cell.orient ∧
    Gen.Geom.Circuit_isFixed = Cell.fixed ∧
    Gen.Geom.Circuit_placedWidth = Cell.placedWidth ∧
    Gen.Geom.Circuit_placedHeight = Cell.placedHeight ∧
    Gen.Geom.Circuit_placement = Cell.placement ∧
    Gen.Geom.Circuit_rowHeight = Circuit.rowHeight :=
  ⟨GeomTie.gen_Rectangle_ctor_eq_model,
   GeomTie.gen_isTurn_eq_model,
   GeomTie.gen_Circuit_x_eq_model,
   GeomTie.gen_Circuit_y_eq_model,
   GeomTie.gen_Circuit_orientation_eq_model,
   GeomTie.gen_Circuit_isFixed_eq_model,
   GeomTie.gen_Circuit_placedWidth_eq_model,
   GeomTie.gen_Circuit_placedHeight_eq_model,
   GeomTie.gen_Circuit_placement_eq_model,
   GeomTie.gen_Circuit_rowHeight_eq_model⟩

end ColoVerif.C02
