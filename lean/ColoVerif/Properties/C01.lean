import ColoVerif.Proofs.LegalizeLegalCircuit
import ColoVerif.Proofs.LegalizeTrivialTop
import ColoVerif.Model.LegacyLegalize
import ColoVerif.Proofs.GeomTie
/-
C01 — legalization returns a legal placement or fails loudly.

All statements are about the definitions the driver `drv_C01` executes (`Legalize.legalizeWith`,
instantiated by the driver with the binary32 rounding `f32`; the theorems hold for every rounding
function, legality does not depend on the ordering key).
-/
namespace ColoVerif.C01
open ColoVerif ColoVerif.Legalize

/-- The property's domain, as a decidable predicate.  With `H` the uniform row height
(`Circuit::rowHeight`, which exists and is positive): every movable cell has a positive placed
width and a placed height that is a positive multiple of `H`, and is unturned if it has a row
polarity; the rows are pairwise disjoint, have a non-empty x-range and an unturned (N/S/FN/FS, or
no) orientation.  Fixed cells are unrestricted.  (`dom_spelled` reads it with `∃ H`, `∃ k`.) -/
def Dom (c : Circuit) : Prop :=
  0 < (Circuit.rowHeight c).getD 0 ∧
  (∀ cl ∈ c.cells, cl.fixed = false →
    0 < cl.placedWidth ∧ 0 < cl.placedHeight ∧ cl.placedHeight % (Circuit.rowHeight c).getD 0 = 0 ∧
    (cl.pol ≠ Polarity.ANY → cl.orient.isTurn = false)) ∧
  c.rows.Pairwise (fun r s => r.rect.intersects s.rect = false) ∧
  (∀ r ∈ c.rows, r.rect.minX < r.rect.maxX ∧ r.orient.isTurn = false)

instance (c : Circuit) : Decidable (Dom c) :=
  inferInstanceAs (Decidable (_ ∧ _ ∧ _ ∧ _))

/-- the statement's legality, spelled out over `computeRows`: bottom edge on a row boundary, every
row-high strip inside one free segment, no two movable cells intersect -/
def Legal (c : Circuit) : Prop :=
  (∀ H, Circuit.rowHeight c = some H → ∀ cl ∈ c.cells, cl.fixed = false →
    ∀ k : Int, 0 ≤ k → k * H < cl.placedHeight →
      ∃ r ∈ c.computeRows, r.rect.minY = cl.y + k * H ∧ r.rect.minX ≤ cl.x ∧ cl.x + cl.placedWidth ≤ r.rect.maxX) ∧
  (c.cells.filter fun cl => !cl.fixed).Pairwise fun a b => a.placement.intersects b.placement = false

-- the helper files prove the theorem for verbatim copies of the two definitions
example : Dom = DomL := rfl
example : Legal = LegalL := rfl

/-- **C01, first clause (full).**  For every circuit of the domain, every rounding function of the
ordering key (in particular the compiled binary32 one) and all parameters: whenever legalization
returns normally, the returned circuit is legal — for every movable cell and every row-high strip
`k` of it (`0 ≤ k`, `k·H` below its placed height) there is a free row segment of
`computeRows` of the *returned* circuit (the rows minus the fixed obstructions) that starts at the
strip's bottom edge `y + k·H` and contains the strip's x-range; and no two movable cells intersect.

Proof (Proofs/LegalizeLegal*.lean): (i) `importLegalization` and `writeRows` are lists of writes to the
status vector (`posAt_setAll`, Proofs/LegalizeWriteBack.lean), `exportPlacement` updates the m-th movable
cell from the m-th status; (ii) `remainingRows` = free space of the rows minus
the placed macros, pairwise disjoint pieces of rows that miss every macro (C15's interval lemmas);
(iii) the Tetris invariant — `rowFreePos_` of a segment is right of every strip placed so far that
meets it, and `getPossibleIntervals` only offers positions whose strip lies in
`[rowFreePos_, maxX − w]` of one visited segment per level; (iv) Abacus: its own `check()`, which the
model executes, certifies bounds and order per segment; segments are disjoint; (v) export keeps
the turn status of every cell (so placed sizes are the ones legalized) and leaves `computeRows`
unchanged. -/
theorem legalize_legal (rnd : Rat → Rat) (p : Params) (c c' : Circuit) (hd : Dom c)
    (h : legalizeWith rnd p c = .ok c') : Legal c' :=
  legalizeWith_legal rnd p c c' hd h

/-- the same for `Circuit::legalize` as compiled (binary32 ordering key) -/
theorem legalize_legal_compiled (p : Params) (c c' : Circuit) (hd : Dom c) (h : legalize p c = .ok c') :
    Legal c' :=
  legalizeWith_legal f32 p c c' hd h

/-- the domain read as in the property's quantifier: a uniform positive row height `H`, movable
cells of positive placed width whose placed height is `k·H` with `k > 0`, pairwise disjoint
non-empty rows, polarised cells unturned — and unturned row orientations -/
theorem dom_spelled (c : Circuit) (hd : Dom c) :
    (∃ H, 0 < H ∧ Circuit.rowHeight c = some H ∧
      ∀ cl ∈ c.cells, cl.fixed = false → 0 < cl.placedWidth ∧ ∃ k : Int, 0 < k ∧ cl.placedHeight = k * H) ∧
    c.rows.Pairwise (fun r s => r.rect.intersects s.rect = false) ∧
    (∀ r ∈ c.rows, r.rect.minX < r.rect.maxX ∧ r.orient.isTurn = false) ∧
    (∀ cl ∈ c.cells, cl.fixed = false → cl.pol ≠ Polarity.ANY → cl.orient.isTurn = false) := by
  obtain ⟨h1, h2, _, h4⟩ := domL_spelled c hd
  exact ⟨h1, h2, hd.2.2.2, h4⟩

/-- non-vacuity of `legalize_legal`: a circuit of the domain — two rows of height 2, the lower one
split by a fixed obstruction, a movable two-row cell, two row-high cells (one with row polarity),
all overlapping at the origin — on which legalization returns normally and moves every cell -/
def exampleCircuit : Circuit :=
  { cells := [⟨3, 4, 0, 0, .N, false, false, .ANY⟩, ⟨2, 2, 0, 0, .N, false, false, .ANY⟩,
              ⟨2, 2, 0, 0, .FN, false, false, .SAME⟩, ⟨1, 2, 4, 0, .N, true, true, .ANY⟩],
    nets := [],
    rows := [⟨⟨0, 10, 0, 2⟩, .N⟩, ⟨⟨0, 10, 2, 4⟩, .FS⟩] }

example : Dom exampleCircuit := by decide
example : ((legalize LegacyLegalize.defaultParams exampleCircuit).toOption.map
    fun c' => c'.cells.map fun cl => (cl.x, cl.y, cl.orient)) =
    some [(0, 0, .N), (5, 0, .N), (3, 2, .FS), (4, 0, .N)] := by decide +kernel

/-- **Error or all placed.**  (1) If `legalize` returns a circuit, the parameter check passed, both
passes ran, *every* movable cell was placed, and the result is `exportPlacement` of that state —
export is only reached after `checkAllPlaced`.  (2) If both passes ran but a cell stayed unplaced
the call fails with the `checkAllPlaced` error (no partially legal result).  (3) The result differs
from the input only in x/y/orientation of movable cells: rows and nets are kept, and cell by cell
size, fixed/obstruction flags and polarity are kept and fixed cells are untouched.  In the
functional model an error carries no circuit: the input is unchanged (the C++ side of this is the
`unchanged on throw` oracle of the harness, shared with C10). -/
theorem legalize_error_or_all (rnd : Rat → Rat) (p : Params) (c : Circuit) :
    (∀ c', legalizeWith rnd p c = .ok c' →
      p.check = true ∧
      ∃ b1 b2, runTetris (fromCircuit c) (computeCellOrder rnd p.ow p.oy p.oh (fromCircuit c).cells) = .ok b1 ∧
        runAbacus b1 (computeCellOrder rnd p.ow p.oy p.oh (fromCircuit c).cells) = .ok b2 ∧
        b2.pos.all (·.placed) = true ∧ c' = exportPlacement b2 c) ∧
    (∀ b1 b2, p.check = true →
      runTetris (fromCircuit c) (computeCellOrder rnd p.ow p.oy p.oh (fromCircuit c).cells) = .ok b1 →
      runAbacus b1 (computeCellOrder rnd p.ow p.oy p.oh (fromCircuit c).cells) = .ok b2 →
      b2.pos.all (·.placed) = false → legalizeWith rnd p c = .error .notAllPlaced) ∧
    (∀ c', legalizeWith rnd p c = .ok c' →
      c'.rows = c.rows ∧ c'.nets = c.nets ∧ Pointwise SameFrame c.cells c'.cells) := by
  refine ⟨fun c' h => legalizeWith_ok rnd p c c' h, fun b1 b2 hc h1 h2 hu => legalizeWith_unplaced rnd p c b1 b2 hc h1 h2 hu, ?_⟩
  intro c' h
  obtain ⟨_, b1, b2, _, _, _, rfl⟩ := legalizeWith_ok rnd p c c' h
  exact ⟨rfl, rfl, exportCells_frame _ _⟩

/-- `Circuit::legalize` seen as the C++ sees it — a procedure on the circuit object: the object
after the call and the exception thrown, if any.  (`DetailedPlacer::legalize` works on a separate
`Legalizer`; the only write to the circuit is `exportPlacement`, evaluated after `run` returned.) -/
def legalizeInPlace (rnd : Rat → Rat) (p : Params) (c : Circuit) : Circuit × Option Err :=
  match legalizeWith rnd p c with
  | .ok c' => (c', none)
  | .error e => (c, some e)

/-- **A failed legalization leaves the circuit unchanged** (shared with C10).  If the call fails,
the error was raised by the parameter check or by `Legalizer::run` (Tetris, Abacus and its `check()`,
`checkAllPlaced`) — both before `exportPlacement`, the only place where a modified circuit is
built — so the circuit object after the call is the input, exactly. -/
theorem failed_legalize_unchanged (rnd : Rat → Rat) (p : Params) (c : Circuit) (e : Err)
    (h : legalizeWith rnd p c = .error e) :
    legalizeInPlace rnd p c = (c, some e) ∧
    ((p.check = false ∧ e = .params) ∨ (p.check = true ∧ run rnd p (fromCircuit c) = .error e)) := by
  refine ⟨by simp [legalizeInPlace, h], ?_⟩
  unfold legalizeWith at h
  by_cases hc : p.check = true
  · right
    refine ⟨hc, ?_⟩
    simp only [hc, Bool.not_true, Bool.false_eq_true, if_false] at h
    cases hr : run rnd p (fromCircuit c) with
    | error e' => rw [hr] at h; simp only [Except.error.injEq] at h; rw [h]
    | ok b => rw [hr] at h; simp at h
  · left
    have hc' : p.check = false := by simpa using hc
    simp only [hc', Bool.not_false, if_true, Except.error.injEq] at h
    exact ⟨hc', h.symm⟩

/-- non-vacuity: an overfull circuit (three cells of width 4 in one row of width 10) fails with the
`checkAllPlaced` error and is left as it was -/
example : legalizeInPlace f32 LegacyLegalize.defaultParams
    ⟨[⟨4, 2, 0, 0, .N, false, false, .ANY⟩, ⟨4, 2, 1, 0, .N, false, false, .ANY⟩, ⟨4, 2, 2, 0, .N, false, false, .ANY⟩],
     [], [⟨⟨0, 10, 0, 2⟩, .N⟩]⟩ =
    (⟨[⟨4, 2, 0, 0, .N, false, false, .ANY⟩, ⟨4, 2, 1, 0, .N, false, false, .ANY⟩, ⟨4, 2, 2, 0, .N, false, false, .ANY⟩],
      [], [⟨⟨0, 10, 0, 2⟩, .N⟩]⟩, some .notAllPlaced) := by decide +kernel

-- `legalizeWith_trivial` takes the domain in its `∃ H`, `∃ k` form (`DomC`, which `domL_spelled` gives); `LegalC` is the
-- verbatim copy of `Legal` that the proofs of C11 use
example : Legal = LegalC := rfl

/-- **C01, third clause (full): legalization never fails when success is trivial.**  For every
circuit of the domain whose movable cells are all one row high, without row restriction (polarity
ANY) and with a valid orientation, every rounding of the ordering key and all parameters accepted
by `check`: if `W` bounds the placed widths of the movable cells (in particular `W` = the maximum
width) and their total width is at most the total width of the free row segments (`computeRows`)
less `W` per segment, then `legalize` returns normally.

Proof (Proofs/LegalizeTrivial*.lean): the Tetris pass is empty and `remainingRows` are the free
segments themselves; pigeonhole on `remainingSpace`: before every `placeCell` the segments' remaining
spaces sum to at least `#segments·W + w`, so one has room; `evaluatePlacement` accepts every segment
with room (`canEval_any`; on its own below, `evaluatePlacement_accepts_room`); the early exit of
`tryPlace` needs `bestRow != -1`, so until a row has been found every row is visited, hence one is
found and it was accepted; pushes
that fit keep every `RowLegalizer` feasible (C12: inside the segment, in order), the index lists
`rowToCells_` are duplicate-free, so `AbacusLegalizer::check` passes and `checkAllPlaced` finds every
cell placed. -/
theorem legalize_trivial_success (rnd : Rat → Rat) (p : Params) (c : Circuit) (hp : p.check = true) (hd : Dom c)
    (hu : ∀ cl ∈ c.cells, cl.fixed = false →
      cl.pol = Polarity.ANY ∧ cl.orient ≠ Orient.INVALID ∧ Circuit.rowHeight c = some cl.placedHeight)
    (W : Int) (hW : ∀ cl ∈ c.cells, cl.fixed = false → cl.placedWidth ≤ W)
    (hsum : ((c.cells.filter fun cl => !cl.fixed).map Cell.placedWidth).sum
      ≤ (c.computeRows.map fun r => r.rect.width).sum - (c.computeRows.length : Int) * W) :
    ∃ c', legalizeWith rnd p c = .ok c' :=
  legalizeWith_trivial rnd p c hp (domL_spelled c hd) hu W hW hsum

/-- … and what it returns is legal (`legalize_legal`) -/
theorem legalize_trivial_success_legal (rnd : Rat → Rat) (p : Params) (c : Circuit) (hp : p.check = true) (hd : Dom c)
    (hu : ∀ cl ∈ c.cells, cl.fixed = false →
      cl.pol = Polarity.ANY ∧ cl.orient ≠ Orient.INVALID ∧ Circuit.rowHeight c = some cl.placedHeight)
    (W : Int) (hW : ∀ cl ∈ c.cells, cl.fixed = false → cl.placedWidth ≤ W)
    (hsum : ((c.cells.filter fun cl => !cl.fixed).map Cell.placedWidth).sum
      ≤ (c.computeRows.map fun r => r.rect.width).sum - (c.computeRows.length : Int) * W) :
    ∃ c', legalizeWith rnd p c = .ok c' ∧ Legal c' := by
  obtain ⟨c', h⟩ := legalize_trivial_success rnd p c hp hd hu W hW hsum
  exact ⟨c', h, legalize_legal rnd p c c' hd h⟩

/-- non-vacuity of `legalize_trivial_success`: three segments ([0,4], [5,10], [0,10]: total 19), three
overlapping cells of widths 2, 2, 3 (W = 3): 7 ≤ 19 − 3·3 -/
def trivialCircuit : Circuit :=
  { cells := [⟨2, 2, 0, 0, .N, false, false, .ANY⟩, ⟨2, 2, 0, 0, .FN, false, false, .ANY⟩,
              ⟨3, 2, 1, 0, .S, false, false, .ANY⟩, ⟨1, 2, 4, 0, .N, true, true, .ANY⟩],
    nets := [],
    rows := [⟨⟨0, 10, 0, 2⟩, .N⟩, ⟨⟨0, 10, 2, 4⟩, .FS⟩] }

example : LegacyLegalize.defaultParams.check = true ∧ Dom trivialCircuit ∧
    (∀ cl ∈ trivialCircuit.cells, cl.fixed = false →
      cl.pol = Polarity.ANY ∧ cl.orient ≠ Orient.INVALID ∧ Circuit.rowHeight trivialCircuit = some cl.placedHeight) ∧
    (∀ cl ∈ trivialCircuit.cells, cl.fixed = false → cl.placedWidth ≤ 3) ∧
    ((trivialCircuit.cells.filter fun cl => !cl.fixed).map Cell.placedWidth).sum
      ≤ (trivialCircuit.computeRows.map fun r => r.rect.width).sum - (trivialCircuit.computeRows.length : Int) * 3 := by
  decide +kernel

/-- **Trivial success, local step.**  `evaluatePlacement` accepts every segment with enough
remaining space for a cell without row restriction (polarity ANY, valid orientation): the only
refusals are lack of space and an INVALID orientation. -/
theorem evaluatePlacement_accepts_room (rows : List Row) (legs : List RowLeg.State) (c : LCell) (row : Nat)
    (hp : c.pol = Polarity.ANY) (ho : c.torient ≠ Orient.INVALID) (hs : c.w ≤ (legAt legs row).remaining) :
    canEval rows legs c row = true :=
  (canEval_any rows legs c row hp ho).mpr hs

/-- **Pre-fix witness (F1).**  On `LegacyLegalize.turnedCircuit` (corpus/C01/case0.txt) the pre-fix
Tetris pass, which swapped width and height of the turned two-row cell, returns two movable cells
whose placements intersect; the fixed model places them side by side. -/
theorem legacy_tetris_turned_overlap :
    LegacyLegalize.placements (LegacyLegalize.legalize LegacyLegalize.defaultParams LegacyLegalize.turnedCircuit)
      = [⟨0, 2, 0, 4⟩, ⟨0, 2, 2, 6⟩] ∧
    Rect.intersects ⟨0, 2, 0, 4⟩ ⟨0, 2, 2, 6⟩ = true ∧
    LegacyLegalize.placements (legalize LegacyLegalize.defaultParams LegacyLegalize.turnedCircuit)
      = [⟨0, 2, 0, 4⟩, ⟨2, 4, 2, 6⟩] ∧
    Rect.intersects ⟨0, 2, 0, 4⟩ ⟨2, 4, 2, 6⟩ = false := by
  decide +kernel

/-- **Pre-fix witness (cost narrowing).**  `int dist = <long long>` turned the cost 40000·180000 of
moving a cell to another segment into a negative number, which beats the cost 0 of staying. -/
theorem legacy_cost_narrowing_negative : LegacyLegalize.narrowedCost = -1389934592 ∧ (0 : Int) ≤ 40000 * 180000 := by
  decide

/-- The shared geometry layer under the legalization model is *translated from the C++ source*: the
definitions of `Gen/GeomFns.lean`, regenerated on every run from the clang AST of the bodies of
`Rectangle(int,int,int,int)`, `Rectangle::height`, `isTurn`, `Circuit::x / y / orientation / isFixed / isObstruction /
placedWidth / placedHeight / placement`, are equal as functions to the hand-written `Rect.*` / `Cell.*` that
`Legalize.fromCircuit` (placed sizes, targets, orientations), the row-height tests and `Circuit.computeRows` (placements
of the fixed obstructions) are written in.  A semantic change of one of these bodies breaks this theorem. -/
theorem geometry_layer_translated :
    Gen.Geom.Rectangle_ctor = Rect.mk ∧
    Gen.Geom.Rectangle_height = Rect.height ∧
    Gen.Geom.isTurn = Orient.isTurn ∧
    Gen.Geom.Circuit_x = Cell.x ∧
    Gen.Geom.Circuit_y = Cell.y ∧
    Gen.Geom.Circuit_orientation = Cell.orient ∧
    Gen.Geom.Circuit_isFixed = Cell.fixed ∧
    Gen.Geom.Circuit_isObstruction = Cell.obstruction ∧
    Gen.Geom.Circuit_placedWidth = Cell.placedWidth ∧
    Gen.Geom.Circuit_placedHeight = Cell.placedHeight ∧
    Gen.Geom.Circuit_placement = Cell.placement :=
  ⟨GeomTie.gen_Rectangle_ctor_eq_model,
   GeomTie.gen_Rectangle_height_eq_model,
   GeomTie.gen_isTurn_eq_model,
   GeomTie.gen_Circuit_x_eq_model,
   GeomTie.gen_Circuit_y_eq_model,
   GeomTie.gen_Circuit_orientation_eq_model,
   GeomTie.gen_Circuit_isFixed_eq_model,
   GeomTie.gen_Circuit_isObstruction_eq_model,
   GeomTie.gen_Circuit_placedWidth_eq_model,
   GeomTie.gen_Circuit_placedHeight_eq_model,
   GeomTie.gen_Circuit_placement_eq_model⟩

end ColoVerif.C01
