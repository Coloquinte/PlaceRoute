import ColoVerif.Proofs.CheckedRowLeg
import ColoVerif.Proofs.CheckedCores
import ColoVerif.Proofs.CheckedTetris
import ColoVerif.Proofs.CheckedIncrNet
import ColoVerif.Proofs.CheckedCircuitDom
import ColoVerif.Proofs.CheckedDetPlaceRun
import ColoVerif.Proofs.Transp1dSorter
import ColoVerif.Proofs.CheckedTranspTree
import ColoVerif.Proofs.CheckedTranspCosts
import ColoVerif.Properties.C13
import ColoVerif.Proofs.CheckedTransp1dScale
import ColoVerif.Model.LegacyChecked
import ColoVerif.Proofs.CheckedGridHier
/-
C07 — placement calls return or throw; never crash or invoke undefined behaviour.

Theorems for the modelled integer cores: on the C07 domain (coordinates within ±2^22 =
±4194304, positive widths, pushes that fit) the *checked* models — which carry the C++ type
of every sub-expression and the source's `assert`s — never return a `Fault` and return exactly
the value of the unbounded models used by the other properties: `checked = .ok unchecked`.

Termination: the checked functions are structural recursions (on the bound queue, on the cell
lists, on the loop counter), so the loops they mirror terminate.  The loops without such a measure
(the levels of a Tetris cell, `push` of `Transportation1d`, `updateTree` / `sendSource` of the
transportation solver) carry the fuel of the unbounded model; in the transportation solvers its
exhaustion is an error value, which the theorems exclude.

The rest of the library (Eigen, boost::polygon, lemon, iostream, float→int conversions, the
glue between the cores) is NOT covered by these theorems: it is monitored by the sanitized
fault oracle of `harness/h_C07.cpp` only (see `tools/props/C07.py`, PARTIAL).
-/
namespace ColoVerif.C07
open ColoVerif.RowLeg ColoVerif.Checked

/-- A fresh row legalizer over a segment inside ±2^22 is in the domain. -/
theorem rowleg_new_in_domain (b e : Int) (hb : -4194304 ≤ b) (he : e ≤ 4194304) (hbe : b ≤ e) :
    Dom (State.new b e) := dom_new b e hb he hbe

/-- **Row legalizer: no fault.**  In a state of the domain (`Dom`: segment ends within ±2^22,
positive widths that fit, at most 2^15 cells — see `Dom`), a cost query or a push of a cell of
positive width that fits, with a target within ±2^22, and reading the placement back

* never overflows `int`/`long long`, never trips one of the five `assert`s (with assertions
  enabled, `asr = true`, or disabled),
* returns exactly what the unbounded model returns,
* and leaves a state of the domain (for `push`: as long as fewer than 2^15 cells were pushed),

so the statement chains over any sequence of operations starting from `rowleg_new_in_domain`. -/
theorem rowleg_no_fault (asr : Bool) (s : State) (w t : Int) (hd : Dom s) (hw : 0 < w)
    (hfit : w ≤ s.remaining) (ht1 : -4194304 ≤ t) (ht2 : t ≤ 4194304) :
    getCostC asr s w t = .ok (getCost s w t) ∧
    pushC asr s w t = .ok (push s w t) ∧
    placementC asr s = .ok (placement s) ∧
    Dom (getCost s w t).2 ∧
    (s.widthsRev.length < maxCells → Dom (push s w t).2) :=
  ⟨getCostC_eq asr hd hw hfit ht1 ht2, pushC_eq asr hd hw hfit ht1 ht2, placementC_eq asr hd,
   getCost_dom hd w t, fun hn => push_dom hd hw hfit hn⟩

inductive Op
  | cost (w t : Int)
  | push (w t : Int)
  | place

/-- run a sequence of operations on the unbounded model: the answers and the final state -/
def run : State → List Op → List (List Int) × State
  | s, [] => ([], s)
  | s, .cost w t :: ops => ([(getCost s w t).1] :: (run (getCost s w t).2 ops).1, (run (getCost s w t).2 ops).2)
  | s, .push w t :: ops =>
    ([(RowLeg.push s w t).1] :: (run (RowLeg.push s w t).2 ops).1, (run (RowLeg.push s w t).2 ops).2)
  | s, .place :: ops => (placement s :: (run s ops).1, (run s ops).2)

/-- run the same sequence on the checked model: the first fault, or the answers and the final state -/
def runC (asr : Bool) : State → List Op → Except Fault (List (List Int) × State)
  | s, [] => .ok ([], s)
  | s, .cost w t :: ops =>
    match getCostC asr s w t with
    | .error f => .error f
    | .ok r =>
      match runC asr r.2 ops with
      | .error f => .error f
      | .ok rs => .ok ([r.1] :: rs.1, rs.2)
  | s, .push w t :: ops =>
    match pushC asr s w t with
    | .error f => .error f
    | .ok r =>
      match runC asr r.2 ops with
      | .error f => .error f
      | .ok rs => .ok ([r.1] :: rs.1, rs.2)
  | s, .place :: ops =>
    match placementC asr s with
    | .error f => .error f
    | .ok p =>
      match runC asr s ops with
      | .error f => .error f
      | .ok rs => .ok (p :: rs.1, rs.2)

/-- the operations a client of the domain issues: positive widths that fit in what remains,
targets within ±2^22, at most 2^15 cells in total -/
def OpsOk : State → List Op → Prop
  | _, [] => True
  | s, .cost w t :: ops =>
    0 < w ∧ w ≤ s.remaining ∧ -4194304 ≤ t ∧ t ≤ 4194304 ∧ OpsOk (getCost s w t).2 ops
  | s, .push w t :: ops =>
    0 < w ∧ w ≤ s.remaining ∧ -4194304 ≤ t ∧ t ≤ 4194304 ∧ s.widthsRev.length < maxCells ∧
      OpsOk (RowLeg.push s w t).2 ops
  | s, .place :: ops => OpsOk s ops

instance decOpsOk : (s : State) → (ops : List Op) → Decidable (OpsOk s ops)
  | _, [] => isTrue trivial
  | s, .cost w t :: ops => by
    unfold OpsOk; have := decOpsOk (getCost s w t).2 ops; exact inferInstance
  | s, .push w t :: ops => by
    unfold OpsOk; have := decOpsOk (RowLeg.push s w t).2 ops; exact inferInstance
  | s, .place :: ops => by
    unfold OpsOk; exact decOpsOk s ops

/-- **Whole sessions.**  From a state of the domain (in particular a fresh legalizer over a
segment within ±2^22), every sequence of in-domain operations runs through the checked model
without a fault and with the unbounded model's answers at every step. -/
theorem rowleg_session_no_fault (asr : Bool) (ops : List Op) :
    ∀ s, Dom s → OpsOk s ops → runC asr s ops = .ok (run s ops) := by
  induction ops with
  | nil => intro s _ _; rfl
  | cons op ops ih =>
    intro s hd hok
    cases op with
    | cost w t =>
      obtain ⟨hw, hfit, ht1, ht2, hrest⟩ := hok
      have h := rowleg_no_fault asr s w t hd hw hfit ht1 ht2
      simp only [runC, run, h.1, ih _ h.2.2.2.1 hrest]
    | push w t =>
      obtain ⟨hw, hfit, ht1, ht2, hn, hrest⟩ := hok
      have h := rowleg_no_fault asr s w t hd hw hfit ht1 ht2
      simp only [runC, run, h.2.1, ih _ (h.2.2.2.2 hn) hrest]
    | place =>
      simp only [runC, run, placementC_eq asr hd, ih s hd hok]

/-- non-vacuity: a two-cell session at the far end of the range (conflict, clamped at the
segment end) satisfies the hypotheses, and the checked model answers -/
example : OpsOk (State.new (-4194304) 4194304)
    [.cost 4194304 4194304, .push 4194304 4194304, .push 4194304 4194304, .place] := by
  decide

example : (runC true (State.new (-4194304) 4194304)
    [.cost 4194304 4194304, .push 4194304 4194304, .push 4194304 4194304, .place]).toOption.map (·.1) =
    some [[17592186044416], [17592186044416], [35184372088832], [-4194304, 0]] := by
  decide

/-- **Termination** of the row-legalizer loops is by construction: `scanC`, `placeRevC` (and
`subdivLoopC`, `placementsC`) are structural recursions — one recursive call on the tail of the
bound queue per `bounds.pop()`, one per cell, one per loop index — which Lean's termination
checker accepted without fuel.  What can be *stated* is that the loop consumes exactly the popped
prefix of the queue: the bounds still queued and the bounds passed partition the queue, whatever
the inputs. -/
theorem rowleg_terminates (width tgt lim climit : Int) (bs : List Bound) (slope curPos curCost : Int) :
    (scan width tgt lim climit bs slope curPos curCost []).passed ++
      (scan width tgt lim climit bs slope curPos curCost []).rest = bs :=
  scan_split width tgt lim climit bs slope curPos curCost

/-- **computeSubdivisions: no fault** (src/utils/helpers.hpp with
fixes/applied/c07-subdivisions-int-overflow.diff).  For an interval within ±2^22 and any positive bin
count that leaves room for `number + 1` in an `int`, no operation overflows, the division is
never by zero, the five assertions hold, and the result is the unbounded one. -/
theorem subdivisions_no_fault (asr : Bool) (mn mx number : Int) (h1 : -4194304 ≤ mn) (h2 : mx ≤ 4194304)
    (hle : mn ≤ mx) (hn1 : 1 ≤ number) (hn2 : number ≤ 2147483646) :
    subdivisionsC asr mn mx number = .ok (subdivisions mn mx number) :=
  subdivisionsC_ok asr h1 h2 hle hn1 hn2

example : subdivisionsC true (-4194304) 4194304 4 = .ok [-4194304, -2097152, 0, 2097152, 4194304] := by decide

/-- **Witness (pre-fix code).**  With the `int` arithmetic of the unrepaired
`computeSubdivisions`, the in-domain call `computeSubdivisions(-4194304, 4194304, 256)` —
the one `DensityGrid::updateBinsToSize` makes for a 2^23-wide placement area and 2^15-wide bins —
overflows at `i = 256`.  (This is what the harness observes on the unfixed tree.) -/
theorem legacy_subdivisions_overflow :
    Legacy.subdivAtC (-4194304) 4194304 256 256 =
      .error (.intOverflow "computeSubdivisions: i * (max - min)") := rfl

/-- **Abacus: no fault.**  (src/place_detailed/abacus_legalizer.cpp with
fixes/applied/c11-abacus-cost-narrowing.diff.)  For a row legalizer in the domain, a cell of positive
width at most 2^23 and a target within ±2^22: `evaluatePlacement` (remaining-space test, 64-bit cost) never
faults and equals the unbounded model; and the distance `placeCell` derives from it
(`xDist + cellWidth * |row.minY - targetY|`, rows and targets within ±2^22) fits in 64 bits. -/
theorem abacus_no_fault (asr : Bool) (s : State) (w t rowMinY targetY : Int) (hd : Dom s) (hw : 0 < w)
    (hw2 : w ≤ 8388608) (ht1 : -4194304 ≤ t) (ht2 : t ≤ 4194304)
    (hr1 : -4194304 ≤ rowMinY) (hr2 : rowMinY ≤ 4194304) (hy1 : -4194304 ≤ targetY) (hy2 : targetY ≤ 4194304) :
    evalPlacementC asr s w t = .ok (evalPlacement s w t) ∧
    placeCostC w rowMinY targetY (evalPlacement s w t).1.2 =
      .ok (placeCost w rowMinY targetY (evalPlacement s w t).1.2) := by
  have hb := evalPlacement_bound hd hw ht1 ht2
  exact ⟨evalPlacementC_ok asr hd hw ht1 ht2, placeCostC_ok (by omega) hw2 hr1 hr2 hy1 hy2 hb.1 hb.2⟩

/-- **Witness (pre-fix code).**  `int dist = getCost(…)`: a 2^21-wide cell whose target lies 2^22
left of an empty row [0, 2^22] costs 2^43, which the unrepaired `evaluatePlacement` narrowed
to `int` (to 0: the row looked free of charge). -/
theorem legacy_abacus_narrowing :
    Legacy.evalPlacementC true (State.new 0 4194304) 2097152 (-4194304) =
      .error (.intOverflow "evaluatePlacement: int dist = getCost()") ∧
    evalPlacementC true (State.new 0 4194304) 2097152 (-4194304) =
      .ok ((true, 8796093022208), State.new 0 4194304) := ⟨rfl, by decide⟩

/-- **Witness (code before commit 6923697, finding F9).**  `width * abs(finalAbsPos - targetAbsPos)`
as `int * int` overflows for a 2^22-wide cell displaced by 2^22. -/
theorem legacy_rowleg_int_product_overflow :
    Legacy.retC 4194304 0 (-4194304) = .error (.intOverflow "getDisplacement: width * abs (int)") := rfl

/-- **Freespace: no fault.**  The only arithmetic on the way to `Row::freespace` is
`Circuit::placement` (`x + placedWidth`, `y + placedHeight`); for cells within ±2^22 with sizes
in [0, 2^22] it cannot overflow, and the checked `computeRows` equals the model's.  The interval
subtraction itself (boost::polygon in the C++) compares and copies coordinates: every output
coordinate is a row end or an obstacle end (`C15`), so nothing new can overflow there — but boost's
internals are monitored by the sanitizers only. -/
theorem freespace_no_fault (c : Circuit) (h : ∀ cl ∈ c.cells, CellOk cl) :
    computeRowsC c = .ok c.computeRows := computeRowsC_ok c h

example : CellOk ⟨4194304, 512, -4194304, 4194304 - 512, .N, true, true, .ANY⟩ := by
  unfold CellOk; decide

open ColoVerif.Legalize in
/-- **Tetris: no fault, one cell.**  (src/place_detailed/tetris_legalizer.cpp, `closestRow` of
legalizer.cpp.)  In a legalizer state of the domain (`TDom`: at least one row, row coordinates and
free positions within ±2^22, row height in [1, 2^23]) placing a cell of the domain (`CellOkT`:
placed width in [0, 2^22], height ≤ 2^22, target within ±2^29 — what `placeGlobal` can hand over)
evaluates every `int` expression of `placeCell`, `attemptPlacement`, `getPossibleIntervals`,
`instanciateCell` and `closestRow` (`targetY - y`, `std::abs(…) + std::abs(…)`, `e + width`,
`rows_[r].maxX - w`, `y + rowHeight()`, `x + w`, …) without overflow and without an out-of-range
row access, returns exactly the unbounded model's result, and leaves a state of the domain. -/
theorem tetris_place_no_fault (t : Tetris) (c : LCell) (hd : TDom t) (hc : CellOkT c) :
    tetrisPlaceC t c = .ok (tetrisPlace t c) ∧ TDom (tetrisPlace t c).1 :=
  tetrisPlaceC_ok hd hc

open ColoVerif.Legalize in
/-- **Tetris: no fault, whole run.**  Constructor (`rowHeight()` = `maxY - minY`) and
`TetrisLegalizer::run` over any list of cells of the domain, for any non-empty set of rows with
all four coordinates within ±2^22 and positive height.  Termination: `tetrisRunC` and every
function below it is a structural recursion (over the cells, the rows, the intervals, or the same
fuel `h + 1` as the unbounded model, which suffices because `rowHeight() ≥ 1`). -/
theorem tetris_no_fault (rows : List Row) (cells : List LCell) (hne : rows ≠ [])
    (hr : ∀ r ∈ rows, RowOkFull r) (hc : ∀ c ∈ cells, CellOkT c) :
    andThen (Tetris.initC rows) (fun t => tetrisRunC t cells) = .ok (tetrisRun (Tetris.init rows) cells) := by
  have h1 := initC_ok hne hr
  rw [h1.1]
  exact tetrisRunC_ok cells _ h1.2 hc

open ColoVerif.Legalize in
/-- non-vacuity: two stacked rows at the corner of the range, a two-row cell targeted at the
opposite corner of the target range and a one-row cell -/
example :
    andThen (Tetris.initC [⟨⟨4194204, 4194304, 4194284, 4194294⟩, .N⟩, ⟨⟨4194204, 4194304, 4194294, 4194304⟩, .FS⟩])
      (fun t => tetrisRunC t [⟨30, 20, .ANY, -536870912, -536870912, .N⟩, ⟨50, 10, .SAME, 4194304, 4194304, .N⟩]) =
    .ok [⟨4194204, 4194284, .N, true⟩, ⟨4194254, 4194294, .FS, true⟩] := by decide

open ColoVerif.Legalize in
/-- **Witness (beyond the domain).**  A target at `INT_MIN` — what the unrepaired `placeGlobal`
exported for a NaN position (fixed by ff24028) — makes `std::abs(targetX - x)` overflow in
`TetrisLegalizer::placeCell`: the checked model reports the fault UBSan reported. -/
theorem tetris_overflow_beyond_domain :
    andThen (Tetris.initC [⟨⟨0, 10, 0, 1⟩, .N⟩]) (fun t => tetrisRunC t [⟨1, 1, .ANY, -2147483648, 0, .N⟩]) =
      .error (.intOverflow "placeCell: std::abs(targetX - x)") := rfl

/-- **Pin offsets: no fault.**  `Circuit::pinXOffset/pinYOffset` (`placedWidth - offs` for flipped
orientations) on a cell and a pin of the domain; the results lie within ±2^23. -/
theorem pin_offset_no_fault (cl : Cell) (p : Pin) (hc : CellOk cl) (hp : PinOk p) :
    pinXOffsetC cl p = .ok (Circuit.pinXOffset cl p) ∧ pinYOffsetC cl p = .ok (Circuit.pinYOffset cl p) ∧
    -8388608 ≤ Circuit.pinXOffset cl p ∧ Circuit.pinXOffset cl p ≤ 8388608 ∧
    -8388608 ≤ Circuit.pinYOffset cl p ∧ Circuit.pinYOffset cl p ≤ 8388608 :=
  ⟨(pinXOffsetC_ok hc hp).1, (pinYOffsetC_ok hc hp).1, (pinXOffsetC_ok hc hp).2.1, (pinXOffsetC_ok hc hp).2.2,
   (pinYOffsetC_ok hc hp).2.1, (pinYOffsetC_ok hc hp).2.2⟩

open ColoVerif.IncrNet in
/-- **IncrNetModel: no fault, one update.**  (src/place_detailed/incr_net_model.cpp.)  In a model
of the domain (`DomC`: positions within ±2^23, offsets within ±2^24, no empty net, at most 2^31
nets, stored net bounds ordered and within ±2^25, `value_` consistent) `updateCellPos(cell, pos)`
with `|pos| ≤ 2^23` evaluates `cellPos_[c] + netPinOffset` (int), the three `int` differences of
`recomputeNet` and the `long long` accumulation without overflow, equals the unbounded model and
stays in the domain. -/
theorem incrnet_update_no_fault (m : Model) (cell : Nat) (pos : Int) (hd : m.DomC)
    (hp : -8388608 ≤ pos ∧ pos ≤ 8388608) (hnets : ∀ n ∈ m.cellNetList cell, n < m.nbNets) :
    m.updateCellPosC cell pos = .ok (m.updateCellPos cell pos) ∧ (m.updateCellPos cell pos).DomC :=
  updateCellPosC_ok m cell pos hd hp hnets

open ColoVerif.IncrNet in
/-- **IncrNetModel: no fault on circuits of the domain.**  For a circuit whose cells lie within
±2^22 with sizes in [0, 2^22], whose pin offsets are within ±2^22 and which has at most 2^31 nets, building the x and y
topologies for any subset of cells (`int pos = circuit.x(cell) + offset` for the other cells,
`computeNetMinMaxPos`, `computeValue`: `second - first` in `int`, sum in `long long`) and then any
sequence of `updateCellPos` calls with positions within ±2^23 never faults; the values are the
unbounded model's (which `C09` proves to be the HPWL). -/
theorem incrnet_no_fault (c : Circuit) (cells : List Nat) (ops : List (Nat × Int)) (hc : CircuitOk c)
    (hops : ∀ o ∈ ops, -8388608 ≤ o.2 ∧ o.2 ≤ 8388608) :
    xTopologyC c cells = .ok (xTopology c cells) ∧ yTopologyC c cells = .ok (yTopology c cells) ∧
    IncrNet.runC ops (xTopology c cells) = .ok (IncrNet.run (xTopology c cells) ops) ∧
    IncrNet.runC ops (yTopology c cells) = .ok (IncrNet.run (yTopology c cells) ops) := by
  have hox : ∀ n ∈ c.nets, ∀ p ∈ n.pins, -8388608 ≤ Circuit.pinXOffset (c.cell p.cell) p ∧
      Circuit.pinXOffset (c.cell p.cell) p ≤ 8388608 :=
    fun n hn p hp => (pinXOffsetC_ok (hc.cell p.cell) (hc.pins n hn p hp)).2
  have hoy : ∀ n ∈ c.nets, ∀ p ∈ n.pins, -8388608 ≤ Circuit.pinYOffset (c.cell p.cell) p ∧
      Circuit.pinYOffset (c.cell p.cell) p ≤ 8388608 :=
    fun n hn p hp => (pinYOffsetC_ok (hc.cell p.cell) (hc.pins n hn p hp)).2
  have hx := topologySiteC_ok "xTopology: circuit.x(cell) + offset" Circuit.pinXOffset (·.x) c cells
    (fun i => ⟨(hc.cell i).1, (hc.cell i).2.1⟩) hox hc.nets
  have hy := topologySiteC_ok "yTopology: circuit.y(cell) + offset" Circuit.pinYOffset (·.y) c cells
    (fun i => ⟨(hc.cell i).2.2.1, (hc.cell i).2.2.2.1⟩) hoy hc.nets
  exact ⟨hx.1, hy.1, (runC_ok ops _ hx.2 (topology_Good _ _ c cells).wf hops).1,
    (runC_ok ops _ hy.2 (topology_Good _ _ c cells).wf hops).1⟩

open ColoVerif.IncrNet in
/-- **Witnesses (beyond the domain).**  A pin at `INT_MAX + 1` overflows `cellPos_[c] +
netPinOffset`; a net without pins (which `IncrNetModelBuilder::addNet` never creates) would make
`computeValue` evaluate `INT_MIN - INT_MAX`. -/
theorem incrnet_overflow_beyond_domain :
    overflowWitness.computeNetMinMaxPosC 0 =
      .error (.intOverflow "computeNetMinMaxPos: cellPos_[c] + netPinOffset") ∧
    (Builder.mk 1 [0, 0] [] []).buildC [0] =
      .error (.intOverflow "computeValue: minMaxPos.second - minMaxPos.first") :=
  ⟨rfl, rfl⟩

open ColoVerif.DetPlace ColoVerif.DetPlace.State in
/-- **DetailedPlacement: no fault, one query or move.**  (src/place_detailed/detailed_placement.cpp.)
In a state of the domain (`DomC`: optimised cells and row ends within ±2^22, widths ≥ 0, links that
are −1 or an optimised cell) the feasibility tests (`siteEnd - siteBegin`, `e2 - b2`, `x + width`),
the midpoint computations (`(boundaryBefore + boundaryAfter - width) / 2`,
`(siteEnd - width + siteBegin) / 2`: three `int` operations each) and the moves `insert` / `swap`
(with their `assert(isPlaced(c))`, assertions enabled or not, and every vector index) evaluate
without fault, return what the unbounded model returns (a C++ `std::runtime_error` is a value, not
a fault), and an accepted move leaves a state of the domain. -/
theorem detplace_no_fault {s : DetPlace.State} (h : s.DomC) (asr : Bool) {c1 c2 r p : Int} (h1 : s.LiveC c1)
    (h2 : s.LiveC c2) (vr : s.validRow r) (hp : s.LinkC p) :
    s.canInsertC c1 r p = .ok (s.canInsert c1 r p) ∧
    s.positionOnInsertC c1 r p = .ok (s.positionOnInsert c1 r p) ∧
    s.insertC c1 r p = .ok (s.insert c1 r p) ∧
    s.canSwapC asr c1 c2 = .ok (s.canSwap c1 c2) ∧
    s.swapC asr c1 c2 = .ok (s.swap c1 c2) ∧
    (s.row c1 ≠ -1 → s.row c2 ≠ -1 → s.positionsOnSwapC asr c1 c2 = .ok (s.positionsOnSwap c1 c2)) ∧
    (∀ t, s.insert c1 r p = .ok t → t.DomC) ∧ (∀ t, s.swap c1 c2 = .ok t → t.DomC) :=
  ⟨canInsertC_ok h h1 vr hp, (positionOnInsertC_ok h h1 vr hp).1, insertC_ok h h1 vr hp, canSwapC_ok h asr h1 h2,
   swapC_ok h asr h1 h2, fun r1 r2 => positionsOnSwapC_ok h asr h1 h2 r1 r2,
   fun _ e => insert_DomC h h1 vr hp e, fun _ e => swap_DomC h h1 h2 e⟩

open ColoVerif.DetPlace ColoVerif.DetPlace.State in
/-- **DetailedPlacement: no fault along any history.**  From a state satisfying the structural
invariant of `C02` with rows within ±2^22 and every optimised cell placed — in particular the state
`fromIspdCircuit` builds for a legal circuit of the domain (`fromIspdCircuit_DomC`) — after *any*
sequence of accepted swaps, inserts, shifts and reorderings (`State.run`), the queries and moves
above still evaluate without fault.  (The arithmetic of the callers in place_detailed.cpp — shift
and reordering searches — is outside the modelled core.) -/
theorem detplace_history_no_fault {s t : DetPlace.State} (h : Inv s) (hr : RowsC s) (hap : Lg.AllPlaced s)
    {ops : List DetPlace.Op} (e : s.run ops = .ok t) (asr : Bool) {c1 c2 r p : Int} (h1 : t.LiveC c1) (h2 : t.LiveC c2)
    (vr : t.validRow r) (hp : t.LinkC p) :
    t.canInsertC c1 r p = .ok (t.canInsert c1 r p) ∧
    t.positionOnInsertC c1 r p = .ok (t.positionOnInsert c1 r p) ∧
    t.insertC c1 r p = .ok (t.insert c1 r p) ∧
    t.canSwapC asr c1 c2 = .ok (t.canSwap c1 c2) ∧
    t.swapC asr c1 c2 = .ok (t.swap c1 c2) ∧
    (t.row c1 ≠ -1 → t.row c2 ≠ -1 → t.positionsOnSwapC asr c1 c2 = .ok (t.positionsOnSwap c1 c2)) :=
  have d := detplace_no_fault (run_DomC h hr hap e) asr h1 h2 vr hp
  ⟨d.1, d.2.1, d.2.2.1, d.2.2.2.1, d.2.2.2.2.1, d.2.2.2.2.2.1⟩

open ColoVerif.DetPlace ColoVerif.DetPlace.State in
/-- **Witnesses (beyond the domain).**  A predecessor at `x = INT_MAX` overflows
`cellX(pred) + cellWidth(pred)`; rows `[-2·10^9, 2·10^9]` overflow `siteEnd - siteBegin`. -/
theorem detplace_overflow_beyond_domain :
    farState.siteBeginC 0 0 = .error (.intOverflow "siteBegin: cellX(pred) + cellWidth(pred)") ∧
    wideState.canInsertC 0 1 (-1) =
      .error (.intOverflow "canInsert: siteEnd(row, pred) - siteBegin(row, pred)") :=
  ⟨siteBeginC_far, canInsertC_wide⟩

open ColoVerif.Transp1d in
/-- **1-D transportation: no out-of-range access, termination.**  (src/place_global/transportation_1d.cpp,
as called by `DensityLegalizer::improveXTransport/improveYTransport` after `balanceDemand`.)  The
model of `Transportation1d::assign` returns `Err.indexOutOfRange` wherever the C++ would index a
vector out of range (in particular `D[currentSink + 1]` in the rounding walk of
`computeAssignment`, the loop a supply-1 source flush against the end of a full line of bins would
overrun if the midpoint were rounded up) and `Err.outOfFuel` if the `while` loop of `push` did not
terminate.  For every instance with as many supplies as sources, as many demands as sinks,
non-negative supplies and demands and total supply ≤ total demand — zero and unit supplies
included — neither happens, and there is one sink per source.  (Proved for `C14`; restated here
because out-of-bounds accesses and non-termination are C07 events.  Signed overflow of the
`long long` position / slope arithmetic is `transp1d_arith_no_fault` below.) -/
theorem transp1d_no_fault (pb : Problem) (h1 : pb.s.length = pb.u.length) (h2 : pb.d.length = pb.v.length)
    (h3 : ∀ x ∈ pb.s, 0 ≤ x) (h4 : ∀ x ∈ pb.d, 0 ≤ x) (h5 : pb.s.sum ≤ pb.d.sum) :
    ∃ a, assign pb = .ok a ∧ a.length = pb.u.length := by
  obtain ⟨a, e, hl, _⟩ := assign_total pb ((checkOk_iff pb).mpr ⟨h1, h2, h3, h4, h5⟩)
  exact ⟨a, e, hl⟩

open ColoVerif.Transp1d in
/-- non-vacuity: two unit cells, the second one flush against the end of a full line of two bins -/
example : assign ⟨[0, 10], [0, 10], [1, 1], [1, 1]⟩ = .ok [0, 1] := by decide

open ColoVerif.Transp1d in
/-- **1-D transportation: no signed `long long` overflow.**  (src/place_global/transportation_1d.{hpp,cpp}:
`Transportation1d pb(u, v, s, d); pb.balanceDemand(); pb.assign();`, the sequence of
`DensityLegalizer::improveXTransport / improveYTransport`.)  The checked twin `balanceThenAssignC`
(Model/Transp1dChecked.lean) types every `long long` operation of the sequence — `totalSupply` /
`totalDemand` accumulations, `missing / nbSinks()`, `added * nbSinks()`, the prefix sums `D`, `S`,
`cost = std::abs(u[i] - v[j])`, the four-term `delta`, `slope += events.top().second`,
`getSlope() + cost(i, j)`, every `D[..] - S[..]`, `p[i] + S[i] + s[i] / 2`, `totalDemand() - S[p.size()]`.
On the decidable domain `T1dDom` (one supply per source, one demand per sink, at least one sink, fewer than
`2^31 − 1` of each, positions of magnitude at most `2^60 − 1`, non-negative supplies and demands with
totals at most `2^61 − 1`) it never faults and returns what the unbounded model (C14) returns, which is
an assignment with one sink per source.  The slope accumulations do not depend on the number of
sources: `Σ |slope of the queued events|` is bounded by `6·max|position|` (sink events telescope over the
sorted sinks, source events over the sorted sources; merging never increases the sum). -/
theorem transp1d_arith_no_fault (pb : Problem) (h : T1dDom pb) :
    balanceThenAssignC pb = .ok (balanceThenAssign pb) ∧
      ∃ a, balanceThenAssign pb = .ok a ∧ a.length = pb.u.length := by
  obtain ⟨a, _, e2, hl⟩ := assignC_total pb h
  exact ⟨Transp1d.assignC_eq pb h, a, e2, hl⟩

open ColoVerif.Transp1d in
/-- non-vacuity: width-1 scale (positions ~2^55), unsorted sources, a zero supply, demand to balance -/
example : T1dDom ⟨[36028797018963968, -36028797018963968, 7, 100], [0, 10, 20], [2, 1, 0, 3], [1, 1, 1]⟩ ∧
    balanceThenAssignC ⟨[36028797018963968, -36028797018963968, 7, 100], [0, 10, 20], [2, 1, 0, 3], [1, 1, 1]⟩
      = .ok (.ok [2, 0, 0, 1]) := by decide

open ColoVerif.Transp1d in
/-- **Witness beyond the domain**: with positions ±1.5·2^62 the first `+` of `delta`
(transportation_1d.hpp:233) overflows; UBSan stops the real code at the same line. -/
theorem transp1d_overflow_beyond_domain :
    balanceThenAssignC ⟨[0, 1], [-6917529027641081856, 6917529027641081856], [2, 2], [1, 3]⟩
      = .error (.intOverflow "delta: cost(i,j+1) + cost(i+1,j)") := rfl

open ColoVerif.Transp1d in
/-- **The instances `improveXTransport / improveYTransport` build are in the domain.**  With the scaling of
density_legalizer.cpp modelled over exact rationals (`Model/Transp1dScale.lean`:
`float factor = 1.0e8 / width`, `u = std::round(factor * cellTargetX(c))`, `v = std::round(factor * binX(i, j))`),
a placement area of width at least 1, `float` targets and bin centres of magnitude at most `2^29`
(`checkFinitePlacement` of place_global.cpp rejects `|x| > 2^28`, the targets are blends with weights in
`[-0.1, 0.9]` of such a position and one inside the area), `int` cell demands and `long long` capacities
that are non-negative with totals at most `2^61 − 1`: `|u|, |v| ≤ 2^56` (`scalePos_bounds`), so the instance
lies in `T1dDom` and the checked run never faults. -/
theorem transp1d_scaled_no_fault (width : Int) (hw : 1 ≤ width) (targets centres : List Rat)
    (demands caps : List Int)
    (ht : ∀ x ∈ targets, -536870912 ≤ x ∧ x ≤ 536870912)
    (hc : ∀ x ∈ centres, -536870912 ≤ x ∧ x ≤ 536870912)
    (hl1 : demands.length = targets.length) (hl2 : caps.length = centres.length)
    (hm : 0 < centres.length) (hn1 : targets.length < 2147483647) (hn2 : centres.length < 2147483647)
    (hs : ∀ x ∈ demands, 0 ≤ x) (hd : ∀ x ∈ caps, 0 ≤ x)
    (hss : demands.sum ≤ 2305843009213693951) (hds : caps.sum ≤ 2305843009213693951) :
    balanceThenAssignC (scaledProblem width targets centres demands caps)
      = .ok (balanceThenAssign (scaledProblem width targets centres demands caps)) :=
  Transp1d.assignC_eq _ (scaledProblem_dom width hw targets centres demands caps ht hc hl1 hl2 hm hn1 hn2 hs hd hss hds)

/-- the label sums of `updateTree` / `bestSink` at a state characterised by C13's invariants -/
def TreeSumsFit : Prop :=
  ∀ (p : Transp.Problem) (alloc : Transp.Mat) (qs : Transp.Queues) (rem : List Int) (d : Nat → Int) (C : Int),
    Transp.Mid p alloc qs rem → Transp.Pot p alloc rem d → (∀ i, i < p.nbSinks → d i ≤ Transp.intMax) →
    (∀ i j, i < p.nbSinks → j < p.nbSources → 0 ≤ p.cost i j ∧ p.cost i j ≤ C) → 0 ≤ C → 2 * C ≤ Transp.intMax →
    (∀ i, i < p.nbSinks → 0 < p.capacity i) →
    (∃ t, Transp.updateTreeC p qs rem = .ok t ∧ Transp.updateTree p qs rem = .ok t ∧
      ((∃ f, f < p.nbSinks ∧ rem.getD f 0 > 0) → ∀ src, src < p.nbSources →
        Transp.bestSinkC p t.sendCost src = .ok (Transp.bestSink p t.sendCost src)))

open ColoVerif.Transp in
/-- **Transportation fixed-point costs: the path sums fit at every state of the run.**
(src/place_global/transportation.cpp; `CostType = int`.)  At every state at which the solver calls
`updateTree` — characterised by the invariants `Mid` / `Pot` of the C13 termination proof — with stored
costs in `[0, C]` and `2·C ≤ INT_MAX`: every `movingCost(i, bestVisit) + sendingCost_[bestVisit]` of the
label-correcting search is a representable `int` although the labels start at `INT_MAX` (the selected
label is always within `[0, C]`: `pickVisit` takes a minimum and a sink with free capacity has label 0),
the checked `updateTree` returns the unbounded model's tree, and — while some sink has capacity left —
every `sendingCost_[i] + cost(i, src)` of `bestSink` fits as well.  (The whole-run theorem
`transp_run_no_fault` below rests on the same lemma, `updateTreeC_at_mid`, at each augmentation.) -/
theorem transp_tree_sums_fit : TreeSumsFit := by
  intro p alloc qs rem d C hm hp hdle hC hC0 h2C hcap
  obtain ⟨t, h1, h2, spec⟩ := updateTreeC_at_mid p alloc qs rem d hm hp hdle C hC h2C hC0 hcap
  refine ⟨t, h1, h2, ?_⟩
  intro hfree src hs
  exact bestSinkC_ok p t.sendCost src C C (spec.range hp.nn hC0 hfree) (fun i hi => hC i src hi hs)
    (by have im : intMax = 2147483647 := rfl; omega)

open ColoVerif.Transp in
/-- **The whole successive-shortest-path run: no fault, checked = unbounded.**
(`solver.increaseCapacity(); solver.solve(); solver.toAssignment()` of `DensityLegalizer::reoptimize`;
checked twin `assignC`, Model/TranspRunChecked.lean: `int` cost differences and label sums with the
`INT_MAX` sentinel, `long long` demands / capacities / allocations, every partial sum of the
`std::accumulate`s, `missing / nbSinks()`, the `assert`s.)  On the decidable domain `assignDomOk` —
`check()` passes, there is a sink, no stored cost is negative, C13's `costBoundOk` (`3·cost < INT_MAX`),
total demand and total capacity at most `2^61` — with assertions enabled or not, the checked sequence
returns exactly the assignment of the unbounded model, and the problem handed to `solve()` satisfies
the precondition `WellFormed` of C13's `ssp_terminates` / `ssp_optimal` (so the plan behind the
assignment is feasible and of minimum cost). -/
theorem transp_run_no_fault (asr : Bool) (p : Problem) (h : assignDomOk p = true) :
    C13.WellFormed p.increaseCapacity ∧
    ∃ a, Transp.assign p = .ok a ∧ Transp.assignC asr p = .ok a := by
  have hd := (assignDomOk_iff p).mp h
  have hr := runDom_increaseCapacity p hd
  exact ⟨⟨hr.chk, hr.bal, (costBoundOk_iff _).mpr hr.cb⟩, Transp.assignC_eq asr p hd⟩

open ColoVerif.Transp in
/-- non-vacuity of `transp_run_no_fault`: two bins, three cells, demand above capacity -/
example : assignDomOk (Problem.make [2, 1] [2, 1, 2] [[0, 536870912, 7], [536870912, 0, 9]]) = true := by decide

open ColoVerif.Transp in
/-- **The transportation that `DensityLegalizer::reoptimize` builds never faults.**
For the `float` cost matrix `fc` of `reoptimize` (`reoptCostsC`: `distance(bx − cx, by − cy)` with any of the
six cost models and a penalty factor `≥ 0`, every `float` operation rounded as IEEE-754 binary32 — finite on
the C07 domain by `transp_float_costs_finite`), at least one and at most `2^31` bins, and `long long` capacities /
`int` demands whose totals are at most `2^61`:

* `costsFromIntegers` is defined: every `std::round(cost * conversionFactor_)` (binary64 arithmetic) is
  an integer in `[0, 2^29]`, so its conversion to `int` is not undefined;
* then either `check()` throws `std::runtime_error` (a cell without area) — an allowed outcome — or
* the problem is in the domain of `transp_run_no_fault` (in particular C13's `costBoundOk` holds and
  `solve()` runs on a `WellFormed` problem, so `ssp_optimal` applies to it), and the checked
  `increaseCapacity(); solve(); toAssignment()` returns the unbounded model's assignment without a fault,
  with assertions enabled or disabled. -/
theorem transp_costs_fit (asr : Bool) (m : CostModel) (qf : Rat) (bins cells : List (Rat × Rat))
    (caps dems : List Int) (fc : List (List Rat))
    (hq : 0 ≤ qf) (hfc : reoptCostsC m qf bins cells = .ok fc)
    (hb1 : 1 ≤ bins.length) (hb : bins.length ≤ 2147483648)
    (hcapQ : caps.sum ≤ 2305843009213693952) (hdemQ : dems.sum ≤ 2305843009213693952) :
    ∃ costs, costsFromIntegersC fc = .ok costs ∧
      (((Problem.make caps dems costs).check = false ∧
          reoptTransportC asr caps dems fc = .ok .throwRuntimeError) ∨
       ((Problem.make caps dems costs).check = true ∧ assignDomOk (Problem.make caps dems costs) = true ∧
         C13.WellFormed (Problem.make caps dems costs).increaseCapacity ∧
         ∃ a, Transp.assign (Problem.make caps dems costs) = .ok a ∧
           reoptTransportC asr caps dems fc = .ok (.assignment a))) := by
  obtain ⟨hlen, hrange⟩ := reoptCostsC_range m qf bins cells fc hq hfc
  obtain ⟨costs, h1, h | ⟨hc, hd, hr⟩⟩ :=
    reoptTransportC_no_fault asr caps dems fc (by omega) (by omega) hrange hcapQ hdemQ
  · exact ⟨costs, h1, Or.inl h⟩
  · obtain ⟨hw, a, ha, hca⟩ := transp_run_no_fault asr _ hd
    exact ⟨costs, h1, Or.inr ⟨hc, hd, hw, a, ha, hr a hca⟩⟩

open ColoVerif.Transp in
/-- non-vacuity of `transp_costs_fit`: L1 costs of two bins at (1/2, 1/2), (21/2, 1/2) and two cells are
finite, and their fixed-point image is `[[26843546, 241591910], [268435456, 53687091]]` -/
example : reoptCostsC .L1 0 [(1/2, 1/2), (21/2, 1/2)] [(1, 0), (9, 1)] = .ok [[1, 9], [10, 2]] ∧
    costsFromIntegersC [[1, 9], [10, 2]] = .ok [[26843546, 241591910], [268435456, 53687091]] := by
  decide +kernel

open ColoVerif.Transp in
/-- **No `float` of `reoptimize`'s cost evaluation overflows to infinity on the C07 domain** (all six cost
models): bin centres and cell targets of magnitude at most `2^30` (the placement area lies within `2^22`;
`checkFinitePlacement` of place_global.cpp keeps the targets below `2^29`), penalty factor in `[0, 1]` for L1 / L2 /
LInf and `0` for the squared models, as `GlobalPlacer::GlobalPlacer` sets it (`quadraticPenalty / (width +
height)`, `quadraticPenalty ≤ 1`).  Hence the hypothesis `reoptCostsC … = .ok fc` of `transp_costs_fit` holds.
(For L2 the bound uses `f32sqrt q ≤ 8·B` for `q ≤ B²`, proved for the rational `sqrtf` of `Model/F64.lean`;
that this `sqrtf` is *correctly rounded* is validated by execution only — it does not matter for the bound.) -/
theorem transp_float_costs_finite (m : CostModel) (qf : Rat)
    (bins cells : List (Rat × Rat)) (hq0 : 0 ≤ qf) (hq1 : qf ≤ 1) (hq : m.linear = false → qf = 0)
    (hb : ∀ b, b ∈ bins → rabs b.1 ≤ 1073741824 ∧ rabs b.2 ≤ 1073741824)
    (hc : ∀ c, c ∈ cells → rabs c.1 ≤ 1073741824 ∧ rabs c.2 ≤ 1073741824) :
    ∃ fc, reoptCostsC m qf bins cells = .ok fc :=
  reoptCostsC_finite m qf bins cells hq0 hq1 hq hb hc

open ColoVerif.Transp in
/-- **Witness (why the labels matter).**  `sendingCost_` is initialised to `INT_MAX`: adding a cost
to such a label — which `bestSink` would do for an unreached sink, e.g. if it were called with no
capacity left anywhere — overflows. -/
theorem transp_sentinel_overflow :
    bestSinkC ⟨[1], [1], [[1]], [[0]]⟩ [2147483647] 0 =
      .error (.intOverflow "bestSink: sendingCost_[i] + pb_.cost(i, src)") := rfl

open ColoVerif.Transp in
/-- **Witness (why the costs must be non-negative).**  C13's `costBoundOk` (`3·|cost| < INT_MAX`) admits
signed costs; with them a label and an edge of `updateTree` can both reach `2·|cost|`, and
`movingCost(i, bestVisit) + sendingCost_[bestVisit]` overflows `int` for `|cost| > INT_MAX/4` although the
unbounded model (and C13's optimality theorem) is unaffected.  The state below — sink 1 full with label
`1431655764`, the queue of sink 2 towards sink 1 topped by a cost of `1431655764` — is the one the
`int`-cost constructor reaches on capacities `[1,1,1]`, demands `[1,1]`, costs `[[-c,-c],[-c,c],[c,c]]`,
`c = 715827882` (stream H of the harness; UBSan stops the real code at this addition).
`costsFromIntegers` never produces such costs (`transp_costs_fit`). -/
theorem transp_signed_costs_overflow :
    (match relaxC #[#[], #[], #[#[], #[⟨1431655764, 0⟩], #[]]] [1, 0, 0] 1 1 2
        ⟨[0, 1431655764, 2147483647], [none, some 0, none], [false, true, false]⟩ with
      | .error f => decide (f = .intOverflow "updateTree: movingCost(i, bestVisit) + sendingCost_[bestVisit]")
      | .ok _ => false) = true := by decide

open ColoVerif.Grid in
/-- **DensityGrid constructor: no fault.**  (src/place_global/density_grid.cpp, `DensityGrid(binSize, regions)`;
checked twin `DGrid.ofRegionsC`, Model/GridChecked.lean.)  For at most 2^16 regions, each a well-formed
rectangle with coordinates within ±2^22 (`RectOk`), and a bin size of at least 1: the `int` extents
`placementArea_.width() / maxSize`, both `computeSubdivisions` calls, the `int` sums `binLimit_[i] +
binLimit_[i + 1]` of `updateBinCenters`, the `int` differences and 64-bit products of `updateBinCapacity()`,
every `Rectangle::intersection(…).area()` (two `int` subtractions, one 64-bit product) and every
`binCapacity_[i][j] +=` of `updateBinCapacity(regions)`, the `assert`s of `binLimitX/Y`, `updateBinCapacity`
and `check()` and every vector index evaluate without fault, assertions enabled or not, and the grid is the
one of the unbounded model (whose capacities C16 proves to be the region areas).  The capacity table has the
grid's shape.  (The `float` halves of `updateBinCenters` and of `fromIspdCircuit` are not modelled.) -/
theorem grid_capacity_no_fault (asr : Bool) (binSize : Int) (regions : List Rect) (hb : 1 ≤ binSize)
    (hr : ∀ r ∈ regions, RectOk r) (hn : regions.length ≤ 65536) :
    DGrid.ofRegionsC asr binSize regions = .ok (DGrid.ofRegions binSize regions) ∧
    CapShape (DGrid.ofRegions binSize regions) :=
  ⟨ofRegionsC_ok asr binSize regions hb hr hn, capacities_shape _ _ regions⟩

open ColoVerif.Grid in
/-- non-vacuity: two half-planes of the whole ±2^22 square, 2^21-wide bins (a 4 × 4 grid of 2^42-area bins) -/
example : (∀ r ∈ [(⟨-4194304, 4194304, -4194304, 0⟩ : Rect), ⟨-4194304, 4194304, 0, 4194304⟩], RectOk r) ∧
    (DGrid.ofRegionsC true 2097152 [⟨-4194304, 4194304, -4194304, 0⟩, ⟨-4194304, 4194304, 0, 4194304⟩]).toOption.map
      (fun g => (g.limX, g.binCapacity 3 3)) = some ([-4194304, -2097152, 0, 2097152, 4194304], 4398046511104) := by
  decide +kernel

open ColoVerif.Grid in
/-- **totalCapacity(): no fault.**  On any grid whose capacity table has the grid's shape, with non-negative
capacities and a total that fits a `long long` (on the grid `grid_capacity_no_fault` builds the total is the
total region area — C16 `grid_tiles_and_conserves` — hence at most 2^16 · 2^46), `totalCapacity()` indexes
in range and none of its partial sums overflows. -/
theorem grid_total_capacity_no_fault (g : DGrid) (hs : CapShape g)
    (hnn : ∀ i j, i < g.nbX → j < g.nbY → 0 ≤ g.binCapacity i j) (ht : g.totalCapacity ≤ 9223372036854775807) :
    g.totalCapacityC = .ok g.totalCapacity := totalCapacityC_ok g hs hnn ht

open ColoVerif.Grid in
example : (DGrid.mk [0, 5, 10] [0, 4] [[16], [14]]).totalCapacityC = .ok 30 := by decide

open ColoVerif.Grid in
/-- **Demands and usage: no fault.**  `HierarchicalDensityPlacement::fromIspdCircuit` narrows the `long long`
area of every movable cell to the `int` element type of `cellDemand_`: no value is lost when the areas fit an
`int` (`CellAreaOk`, the C07 domain: cell areas below 2^31).  With at most 2^20 cells and demands in
`[0, 2^31)` (`DemandOk`), `totalDemand()` never overflows; and `binUsage(x, y)` on a bin of the table whose
cells are cell indices (at most 2^20 of them — under C16's `AllocInv` a bin holds each cell at most once)
passes `cellDemand`'s assertion, indexes in range and never overflows.  All equal the unbounded model. -/
theorem grid_usage_no_fault (asr : Bool) (c : Circuit) (s : HState) (x y : Nat)
    (hc : ∀ cl ∈ c.cells, CellAreaOk cl) (hd : DemandOk s.demand)
    (hx : x < s.bins.length) (hy : y < (s.bins.getD x []).length)
    (hcells : ∀ k ∈ s.cells x y, k < s.nbCells) (hlen : (s.cells x y).length ≤ 1048576) :
    circuitDemandsC c = .ok (circuitDemands c) ∧
    s.totalDemandC = .ok s.demand.sum ∧
    s.binUsageC asr x y = .ok (s.binUsage x y) :=
  ⟨circuitDemandsC_ok c hc, totalDemandC_ok s hd, binUsageC_ok asr s x y hx hy hcells hlen hd⟩

open ColoVerif.Grid in
/-- non-vacuity: a single-bin placement over three cells of area 2^31 − 1, 0 and 12 -/
example : DemandOk [2147483647, 0, 12] ∧
    (HState.init ⟨[0, 5, 10], [0, 4], [[16], [14]]⟩ [2147483647, 0, 12]).binUsageC true 0 0 = .ok 2147483659 ∧
    (HState.init ⟨[0, 5, 10], [0, 4], [[16], [14]]⟩ [2147483647, 0, 12]).totalDemandC = .ok 2147483659 := by
  decide

open ColoVerif.Grid in
/-- **Witness (beyond the domain).**  A movable cell of 2^16 × 2^15 has area 2^31: the narrowing to `int` in
`fromIspdCircuit` loses the value (the C++ stores `INT_MIN`). -/
theorem grid_demand_narrowing_beyond_domain :
    cellDemandOfC ⟨65536, 32768, 0, 0, .N, false, false, .ANY⟩ =
      .error (.intOverflow "fromIspdCircuit: demands.push_back(circuit.area(i)) (long long -> int)") := rfl

open ColoVerif.Grid in
/-- **refine / coarsen: no fault.**  In every state satisfying C16's invariant `Grid.Inv` (the allocation
invariant and well-formed hierarchies over `nX × nY` fine bins — what `alloc_inv` proves for every state
reachable from the constructor), with `int`-sized level counts: `refineX/refineY` at a level ≥ 1 and
`coarsenX/coarsenY` below the top level pass their assertion, compute `levelX_ ± 1` without overflow, index
`xLimits_[lvl]`, `parentX_[lvl][i]`, `binCells_[p][j]`, `newCells[p][j]` and, in `updateCellToBin()`,
`cellBinX_[c]` in range, and return the unbounded model's state (which satisfies `Grid.Inv` again). -/
theorem grid_refine_no_fault (asr : Bool) (s : HState) (nX nY : Nat) (h : Inv nX nY s)
    (hnx : s.hx.nbLevels ≤ 2147483647) (hny : s.hy.nbLevels ≤ 2147483647) :
    (1 ≤ s.levelX → s.refineXC asr = .ok s.refineX) ∧
    (1 ≤ s.levelY → s.refineYC asr = .ok s.refineY) ∧
    (s.levelX + 1 < s.hx.nbLevels → s.coarsenXC asr = .ok s.coarsenX) ∧
    (s.levelY + 1 < s.hy.nbLevels → s.coarsenYC asr = .ok s.coarsenY) :=
  ⟨fun hl => refineXC_ok asr s nX nY h hl hnx, fun hl => refineYC_ok asr s nX nY h hl hny,
   fun hl => coarsenXC_ok asr s nX nY h hl hnx, fun hl => coarsenYC_ok asr s nX nY h hl hny⟩

open ColoVerif.Grid in
/-- non-vacuity: the state the constructor builds over a 2 × 1 grid satisfies the invariant, is at level 1 in
x, and the checked `refineX` answers -/
example : Inv 2 1 (HState.init ⟨[0, 5, 10], [0, 4], [[16], [14]]⟩ [3, 0, 12]) ∧
    1 ≤ (HState.init ⟨[0, 5, 10], [0, 4], [[16], [14]]⟩ [3, 0, 12]).levelX ∧
    ((HState.init ⟨[0, 5, 10], [0, 4], [[16], [14]]⟩ [3, 0, 12]).refineXC true).toOption.map (·.bins) =
      some [[[0, 2]], [[]]] :=
  ⟨inv_init ⟨[0, 5, 10], [0, 4], [[16], [14]]⟩ [3, 0, 12] (by decide) (by decide), by decide, by decide⟩

open ColoVerif.Grid in
/-- **Witnesses (beyond the domain / outside the contract).**  A placement area wider than `INT_MAX` overflows
`Rectangle::width()`; an area `[2^30, 2^31 − 1]` overflows the `int` sum of `updateBinCenters`; three regions of
`(2^31 − 1)²` overflow the 64-bit accumulation of `updateBinCapacity(regions)`; `refineX()` at level 0 trips its
assertion and, without assertions, indexes `xLimits_[-1]`. -/
theorem grid_overflow_beyond_domain :
    DGrid.ofRegionsC true 1000 [⟨-1073741824, 1073741824, 0, 10⟩] =
      .error (.intOverflow "Rectangle::width: max - min") ∧
    DGrid.ofRegionsC true 1073741824 [⟨1073741824, 2147483647, 0, 10⟩] =
      .error (.intOverflow "updateBinCenters: binLimit_[i] + binLimit_[i + 1]") ∧
    DGrid.ofRegionsC true 2147483647 [⟨-1073741824, 1073741823, -1073741824, 1073741823⟩,
        ⟨-1073741824, 1073741823, -1073741824, 1073741823⟩, ⟨-1073741824, 1073741823, -1073741824, 1073741823⟩] =
      .error (.intOverflow "updateBinCapacity: binCapacity_[i][j] += intersection.area()") ∧
    (HState.init ⟨[0, 10], [0, 4], [[40]]⟩ [3]).refineXC true = .error (.assertFailed "refineX: levelX_ >= 1") ∧
    (HState.init ⟨[0, 10], [0, 4], [[40]]⟩ [3]).refineXC false =
      .error (.indexOutOfRange "refineX: xLimits_[levelX_]") :=
  ⟨rfl, rfl, rfl, rfl, rfl⟩

open ColoVerif.Grid in
/-- **binCapacity(BinGroup): no fault.**  (`DensityGrid::binCapacity(BinGroup)`, what
`HierarchicalDensityPlacement::binCapacity(x, y)` evaluates through `getGroup`.)  On a grid of consistent shape
with non-negative capacities whose total fits a `long long`, every group of bins inside the grid is summed with
all indices in range and without overflow (a group holds at most the total: `groupCapacity_le_total`). -/
theorem grid_group_capacity_no_fault (g : DGrid) (hs : CapShape g)
    (hnn : ∀ i j, i < g.nbX → j < g.nbY → 0 ≤ g.binCapacity i j) (ht : g.totalCapacity ≤ 9223372036854775807)
    (x0 x1 y0 y1 : Nat) (hx : x0 ≤ x1) (hx1 : x1 ≤ g.nbX) (hy : y0 ≤ y1) (hy1 : y1 ≤ g.nbY) :
    g.groupCapacityC x0 x1 y0 y1 = .ok (g.groupCapacity x0 x1 y0 y1) :=
  groupCapacityC_ok g hs hnn ht x0 x1 y0 y1 hx hx1 hy hy1

open ColoVerif.Grid in
example : (DGrid.mk [0, 5, 10] [0, 4] [[16], [14]]).groupCapacityC 1 2 0 1 = .ok 14 := by decide

open ColoVerif.Grid in
/-- **The constructed grid satisfies the hypotheses of the capacity theorems.**  On the domain of
`grid_capacity_no_fault` the grid `DensityGrid(binSize, regions)` builds has non-negative capacities and a total
of at most `2^16 · 2^46 = 2^62` (the total is the sum of the region areas, C16), so `totalCapacity()` - and by
`grid_group_capacity_no_fault` every `binCapacity(BinGroup)` - evaluates on it without fault, with no further
hypothesis. -/
theorem grid_total_capacity_of_constructed_grid (binSize : Int) (regions : List Rect) (hb : 1 ≤ binSize)
    (hr : ∀ r ∈ regions, RectOk r) (hn : regions.length ≤ 65536) :
    (DGrid.ofRegions binSize regions).totalCapacityC = .ok (DGrid.ofRegions binSize regions).totalCapacity ∧
    CapShape (DGrid.ofRegions binSize regions) ∧
    (∀ i j, i < (DGrid.ofRegions binSize regions).nbX → j < (DGrid.ofRegions binSize regions).nbY →
      0 ≤ (DGrid.ofRegions binSize regions).binCapacity i j) ∧
    0 ≤ (DGrid.ofRegions binSize regions).totalCapacity ∧
    (DGrid.ofRegions binSize regions).totalCapacity ≤ 4611686018427387904 :=
  ⟨ofRegions_totalCapacityC binSize regions hr hn, capacities_shape _ _ regions,
   (ofRegions_capacity_bounds binSize regions hr hn).1, (ofRegions_capacity_bounds binSize regions hr hn).2.1,
   (ofRegions_capacity_bounds binSize regions hr hn).2.2⟩

open ColoVerif.Grid in
/-- **check()'s usage accumulation: no fault, and the assertion holds.**  In every state satisfying C16's
invariant `Grid.Inv`, with demands of the domain (`DemandOk`: at most 2^20 cells, demands in `[0, 2^31)`):
every `binUsage(i, j)` of the view (that a bin holds at most 2^20 cells is derived from `AllocInv`: no cell
twice, every cell an index), the 64-bit accumulation `usage += binUsage(i, j)` and `totalDemand()` evaluate
without fault, `assert(usage == totalDemand())` holds, and the value is the sum of the demands. -/
theorem grid_usage_sum_no_fault (asr : Bool) (s : HState) (nX nY : Nat) (h : Inv nX nY s) (hd : DemandOk s.demand) :
    s.usageSumC asr = .ok s.demand.sum := usageSumC_ok asr s nX nY h hd

open ColoVerif.Grid in
example : DemandOk [2147483647, 0, 12] ∧
    (HState.init ⟨[0, 5, 10], [0, 4], [[16], [14]]⟩ [2147483647, 0, 12]).refineX.usageSumC true = .ok 2147483659 := by
  decide

/-- one operation of a hierarchical-placement session through the checked twins; the redistribution
skeletons (`rebisect`, `reoptimize`, transports, `setBinCells`) only move cell lists (C16) -/
def gridApplyC (asr : Bool) (s : Grid.HState) : Grid.Op → Except Fault Grid.HState
  | .refineX => s.refineXC asr
  | .refineY => s.refineYC asr
  | .coarsenX => s.coarsenXC asr
  | .coarsenY => s.coarsenYC asr
  | op => .ok (s.apply op)

/-- a whole session through the checked twins: the first fault, or the final state -/
def gridRunC (asr : Bool) : Grid.HState → List Grid.Op → Except Fault Grid.HState
  | s, [] => .ok s
  | s, op :: ops =>
    match gridApplyC asr s op with
    | .error f => .error f
    | .ok t => gridRunC asr t ops

/-- the contract of one call: refine above level 0, coarsen below the top level, `int`-sized level counts -/
def GridStepOk (s : Grid.HState) : Grid.Op → Prop
  | .refineX => 1 ≤ s.levelX ∧ s.hx.nbLevels ≤ 2147483647
  | .refineY => 1 ≤ s.levelY ∧ s.hy.nbLevels ≤ 2147483647
  | .coarsenX => s.levelX + 1 < s.hx.nbLevels ∧ s.hx.nbLevels ≤ 2147483647
  | .coarsenY => s.levelY + 1 < s.hy.nbLevels ∧ s.hy.nbLevels ≤ 2147483647
  | _ => True

/-- every call of the session is made within its contract -/
def GridOpsOk : Grid.HState → List Grid.Op → Prop
  | _, [] => True
  | s, op :: ops => GridStepOk s op ∧ GridOpsOk (s.apply op) ops

open ColoVerif.Grid in
/-- **Whole sessions.**  From any state satisfying C16's invariant (in particular the constructor's state,
`inv_init`), every sequence of refine / coarsen calls made within their contracts, interleaved with arbitrary
redistribution steps, runs through the checked twins without a fault and ends in the unbounded model's state
(`HState.run`, the object of C16's `alloc_inv`). -/
theorem grid_session_no_fault (asr : Bool) (nX nY : Nat) (ops : List Grid.Op) :
    ∀ s : HState, Inv nX nY s → GridOpsOk s ops → gridRunC asr s ops = .ok (s.run ops) := by
  induction ops with
  | nil => intro s _ _; rfl
  | cons op ops ih =>
    intro s h hok
    obtain ⟨hstep, hrest⟩ := hok
    have hnext := ih (s.apply op) (inv_apply s h op) hrest
    have hstepC : gridApplyC asr s op = .ok (s.apply op) := by
      cases op with
      | refineX => exact refineXC_ok asr s nX nY h hstep.1 hstep.2
      | refineY => exact refineYC_ok asr s nX nY h hstep.1 hstep.2
      | coarsenX => exact coarsenXC_ok asr s nX nY h hstep.1 hstep.2
      | coarsenY => exact coarsenYC_ok asr s nX nY h hstep.1 hstep.2
      | _ => rfl
    simp only [gridRunC, hstepC, hnext, HState.run, List.foldl_cons]

open ColoVerif.Grid in
/-- non-vacuity: refine then coarsen again on the constructor's state of a 2 × 1 grid -/
example : GridOpsOk (HState.init ⟨[0, 5, 10], [0, 4], [[16], [14]]⟩ [3, 0, 12]) [.refineX, .coarsenX] ∧
    (gridRunC true (HState.init ⟨[0, 5, 10], [0, 4], [[16], [14]]⟩ [3, 0, 12]) [.refineX, .coarsenX]).toOption.map (·.bins) =
      some [[[0, 2]]] := by
  refine ⟨⟨⟨?_, ?_⟩, ⟨?_, ?_⟩, trivial⟩, ?_⟩ <;> decide

end ColoVerif.C07
