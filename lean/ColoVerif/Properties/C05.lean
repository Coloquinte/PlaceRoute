import ColoVerif.Proofs.DetReorderTotal
/-!
# C05 — detailed placement never worsens wirelength

Model: the acceptance rules of `DetailedPlacer` (Model/DetOpt.lean) over the `DetPlace` moves, and
the whole object `DetailedPlacer = (placement_, xtopo_, ytopo_)` (Model/DetIncr.lean): the two
`IncrNetModel`s of C09 built from the circuit at construction and told about every move through
`updateCellPos` exactly as `doSwap / doInsert / runShiftsOnCells / RowReordering::writeback` do.

* the first block is about *any* objective that depends on the cell positions only (`Value`);
* the second block instantiates it with the real one: `value_eq_hpwl_if_orient_kept` (the maintained
  `value()` is `Circuit::hpwl()` of the exported circuit while the export has the orientations the
  models were built with), `placer_in_sync`, `optimiser_evaluates_circuit_value`;
* the `RowReordering` block is about the modelled enumeration itself (Model/DetReorder.lean: `addCells`,
  `runRegionChoice`, `runOrdering` with `std::next_permutation`, keep-best, `writeback`): every evaluated leaf is
  the objective of its own write-back, the pass never worsens the objective, on the coordinate vectors and on the
  two incremental net models alike (`reorder_leaf_faithful`, `reorder_not_worse`, `reorder_preserves_inv`,
  `reorder_window_on_object`, `reorder_window_registered`, `reorder_pass_accepted`);
* the search block is about the modelled candidate enumeration (Model/DetSearch.lean, RowNbh.lean): every move
  `runSwaps` / `runInserts` issue was chosen by the scan inside the `canSwap` / `canInsert` contract and the pass
  is an accepted history (`scan_calls_within_contract`, `search_pass_accepted`, `history_value_monotone`,
  `passes_never_fail`);
* at the end, C05 itself while orientations are kept: `hpwl_monotone_orient_kept`, `passes_hpwl_not_worse`.

The property itself is **false on the tree** (known finding KF-C05-1): `Circuit::hpwl()` uses the
current orientation of every cell, `IncrNetModel` the one at construction; `hpwl_can_increase`
exhibits it, `hpwl_monotone_full_statement` stays a statement.
-/
namespace ColoVerif.C05
open ColoVerif ColoVerif.DetPlace ColoVerif.DetPlace.State

/-- the state after a swap is exactly the one `valueOnSwap` evaluated (x from `positionsOnSwap`,
y of the other cell), on an invariant state -/
theorem swap_value_eq (V : Value) {s t : State} (h : Inv s) {c1 c2 : Int}
    (hc1 : s.validCell c1) (hc2 : s.validCell c2) (e : s.swap c1 c2 = .ok t) :
    s.valueOnSwap V c1 c2 = some (t.value V) :=
  valueOnSwap_of_swap V h hc1 hc2 e

/-- the state after an insert is exactly the one `valueOnInsert` evaluated -/
theorem insert_value_eq (V : Value) {s t : State} {c r p : Int} (e : s.insert c r p = .ok t) :
    s.valueOnInsert V c r p = some (t.value V) :=
  valueOnInsert_of_insert V e

/-- a swap performed by `bestSwap` / `bestSwapUpdate` strictly decreases the optimiser's value -/
theorem accepted_move_decreases (V : Value) {s t : State} (h : Inv s) {c b : Int} {cands : List Int}
    (hc : s.validCell c) (hb : s.validCell b)
    (hch : s.bestSwapChoice V c cands = some b) (e : s.swap c b = .ok t) :
    t.value V < s.value V :=
  scan_lt hch (swap_value_eq V h hc hb e)

/-- the same for `bestInsert` -/
theorem accepted_insert_decreases (V : Value) {s t : State} {c r b : Int} {cands : List Int}
    (hch : s.bestInsertChoice V c r cands = some b) (e : s.insert c r b = .ok t) :
    t.value V < s.value V :=
  scan_lt hch (insert_value_eq V e)

/-- the keep-best rule of `RowReordering` on a *given* list of evaluated leaves: either nothing is written
(the state is returned as it is — state equality, not only value), or the written leaf was evaluated
strictly below the value before the pass.  (`reorder_not_worse` below is about the leaves the modelled
enumeration really evaluates.) -/
theorem reorder_decision_not_worse (V : Value) (s : State) (cells : List Int) (leaves : List Leaf) :
    (s.reorderDecision V cells leaves = .ok s) ∨
    ∃ leaf, leaf ∈ leaves ∧ leaf.value < s.value V ∧
      s.reorderDecision V cells leaves = s.reorderWriteback cells leaf.regions := by
  unfold reorderDecision
  have spec := keepBest_spec (s.value V) leaves none (s.value V) (Int.le_refl _) nofun
  cases hk : (keepBest (s.value V) leaves none).2 with
  | none => exact .inl rfl
  | some leaf => exact .inr ⟨leaf, (keepBest_mem _ _ _ _ hk).resolve_left nofun, (spec.2 leaf hk).2, rfl⟩

/-- a history of moves each of which does not increase the value -/
inductive Monotone (V : Value) : State → State → Prop
  | refl (s) : Monotone V s s
  | step {s t u} : Monotone V s t → u.value V ≤ t.value V → Monotone V s u

/-- Value level, for any position-only objective: along any history of moves none of which increases
the value, the optimiser's value never increases.  The connection with `Circuit::hpwl()` is
`hpwl_monotone_orient_kept` (= `hpwl_monotone_partial`) below. -/
theorem value_monotone (V : Value) {s t : State} (m : Monotone V s t) : t.value V ≤ s.value V := by
  induction m with
  | refl => exact Int.le_refl _
  | step _ hle ih => exact Int.le_trans hle ih

/-- full strength (false on the tree, see `hpwl_can_increase`): the HPWL of the exported circuit
never increases along any history the optimiser performs -/
def hpwl_monotone_full_statement : Prop :=
  ∀ (c : Circuit) (s t : State) (ops : List Op), fromIspdCircuit c = .ok s → s.run ops = .ok t →
    (exportPlacement t c).hpwl ≤ (exportPlacement s c).hpwl

/-- the circuit with the positions of `a` and the orientations of `b`: what the incremental net
model "sees" when its offsets were frozen at `b` -/
def withOrientOf (a b : Circuit) : Circuit :=
  { a with cells := List.zipWith (fun ca cb => { ca with orient := cb.orient }) a.cells b.cells }

/-- KF-C05-1 witness: rows N / FS; cell 0 (SAME polarity) sits on the FS row with a pin at the
bottom (two nets to a fixed pin below the rows) and a pin at the top (one net to a fixed pin above).
Inserting it into the N row at the same x shortens the two lower nets by 2 each and, *with the pin
offsets frozen*, lengthens the upper one by 2: the optimiser's value drops from 10 to 8 and the move
is accepted.  But the cell is re-oriented FS → N, both pins flip vertically, and the real HPWL goes
from 10 to 14. -/
def kfBefore : Circuit :=
  { cells := [⟨2, 2, 4, 2, .FS, false, false, .SAME⟩, ⟨1, 1, 4, -3, .N, true, false, .ANY⟩,
              ⟨1, 1, 4, 4, .N, true, false, .ANY⟩],
    nets := [⟨1, 0, [⟨0, 0, 2⟩, ⟨1, 0, 0⟩]⟩, ⟨1, 0, [⟨0, 0, 2⟩, ⟨1, 0, 0⟩]⟩, ⟨1, 0, [⟨0, 0, 0⟩, ⟨2, 0, 0⟩]⟩],
    rows := [⟨⟨0, 10, 0, 2⟩, .N⟩, ⟨⟨0, 10, 2, 4⟩, .FS⟩] }

theorem hpwl_can_increase :
    (match fromIspdCircuit kfBefore with
     | .ok s => match s.step (.insert 0 0 (-1)) with
       | .ok t =>
         -- value with frozen offsets: 10 → 8 (accepted); real HPWL: 10 → 14
         decide ((exportPlacement s kfBefore).hpwl = 10 ∧
                 (withOrientOf (exportPlacement t kfBefore) (exportPlacement s kfBefore)).hpwl = 8 ∧
                 (exportPlacement t kfBefore).hpwl = 14)
       | .error _ => false
     | .error _ => false) = true := by decide +kernel

/-- **value() = hpwl().**  `p` is the `DetailedPlacer` object after any history of primitive moves from
its construction on circuit `c` (each move = the placement change followed by the `updateCellPos`
calls of the code).  If no cell of the exported circuit has another orientation than in `c` (the
orientations the two incremental models were built with), the incrementally maintained
`xtopo_.value() + ytopo_.value()` is `Circuit::hpwl()` of the exported circuit.  Uses C09: the invariant
`IncrNet.Good` behind `incr_inv` (`run_good`, `good_value`), `incr_init`, `detailed_value_is_hpwl`. -/
theorem value_eq_hpwl_if_orient_kept (c : Circuit) (p0 p : Placer) (ops : List Op)
    (h0 : Placer.init c = .ok p0) (hr : p0.run ops = .ok p)
    (hk : ∀ i, ((exportPlacement p.pl c).cell i).orient = (c.cell i).orient) :
    p.value = (exportPlacement p.pl c).hpwl := by
  obtain ⟨hs, e0, er⟩ := reached_sync h0 hr
  rw [hs.value]
  exact circuitValue_eq_hpwl c p.pl hk (frame_fixed e0 (run_frame er))

/-- the flag printed by the driver and the harness (`Placer.orientKept`) is a sufficient form of the
hypothesis of `value_eq_hpwl_if_orient_kept` -/
theorem value_eq_hpwl_if_orientKept_flag (c : Circuit) (p0 p : Placer) (ops : List Op)
    (h0 : Placer.init c = .ok p0) (hr : p0.run ops = .ok p) (hk : p.orientKept c = true) :
    p.value = (exportPlacement p.pl c).hpwl :=
  value_eq_hpwl_if_orient_kept c p0 p ops h0 hr (orientKept_spec hk)

/-- **The glue is sound.**  After any history the placement component of the object is the `DetPlace`
model's state after the same history, both incremental models pass `IncrNetModel::check()`
(maintained bounds and value = from-scratch recomputation), and `value()` is the position-only
objective `circuitValue c` at the placement's positions — whatever happened to the orientations. -/
theorem placer_in_sync (c : Circuit) (p0 p : Placer) (ops : List Op)
    (h0 : Placer.init c = .ok p0) (hr : p0.run ops = .ok p) :
    fromIspdCircuit c = .ok p0.pl ∧ p0.pl.run ops = .ok p.pl ∧
    p.xt.consistent = true ∧ p.yt.consistent = true ∧
    p.value = p.pl.value (circuitValue c) := by
  obtain ⟨hs, e0, er⟩ := reached_sync h0 hr
  refine ⟨e0, er, ?_, ?_, hs.value⟩
  · exact (C09.incr_inv p.xt hs.x.good []).2.2.1
  · exact (C09.incr_inv p.yt hs.y.good []).2.2.1

/-- **What the optimiser evaluates.**  On the object reached by any history, `valueOnSwap` /
`valueOnInsert` (update both models to the candidate positions, read `value()`, update back) return
the position-only objective at the candidate positions *and* leave the object exactly as it was
(state equality); hence `bestSwap` / `bestSwapUpdate` / `bestInsert` choose what the modelled
acceptance rule chooses for `circuitValue c`. -/
theorem optimiser_evaluates_circuit_value (c : Circuit) (p0 p : Placer) (ops : List Op)
    (h0 : Placer.init c = .ok p0) (hr : p0.run ops = .ok p) :
    (∀ c1 c2, p.pl.validCell c1 → p.pl.validCell c2 →
      (p.valueOnSwap c1 c2).1 = p.pl.valueOnSwap (circuitValue c) c1 c2 ∧ (p.valueOnSwap c1 c2).2 = p) ∧
    (∀ k r q, p.pl.validCell k →
      (p.valueOnInsert k r q).1 = p.pl.valueOnInsert (circuitValue c) k r q ∧ (p.valueOnInsert k r q).2 = p) ∧
    (∀ k cands, p.pl.validCell k → (∀ b ∈ cands, p.pl.validCell b) →
      p.bestSwapChoice k cands = p.pl.bestSwapChoice (circuitValue c) k cands) ∧
    (∀ k r cands, p.pl.validCell k →
      p.bestInsertChoice k r cands = p.pl.bestInsertChoice (circuitValue c) k r cands) := by
  have hs := (reached_sync h0 hr).1
  exact ⟨fun _ _ v1 v2 => valueOnSwap_eq hs v1 v2, fun _ _ _ v => valueOnInsert_eq hs v,
    fun _ _ vk vc => bestSwapChoice_eq hs vk vc, fun _ _ _ vk => bestInsertChoice_eq hs vk⟩

/-- **`RowReordering::run` repairs the models it dirtied.**  The enumeration leaves `xtopo_` / `ytopo_` at
the positions of the last evaluated leaf (`dirt`: arbitrary `updateCellPos` calls on registered cells).
Whatever they are, the pass ends in the object obtained from clean models; its placement component is
the modelled keep-best decision for the real objective; the object is in sync again; and when no leaf
was better it is *equal* to the object before the pass (state equality, not only value). -/
theorem reorder_pass_from_dirty_models (c : Circuit) (p0 p : Placer) (ops : List Op)
    (h0 : Placer.init c = .ok p0) (hr : p0.run ops = .ok p)
    (dirt : List (Int × Int × Int)) (cells : List Int) (leaves : List Leaf)
    (hd : ∀ m ∈ dirt, m.1 ∈ cells) (hv : ∀ k ∈ cells, p.pl.validCell k) (q : Placer)
    (e : p.reorderRun dirt cells leaves = .ok q) :
    p.reorderRun [] cells leaves = .ok q ∧
    p.pl.reorderDecision (circuitValue c) cells leaves = .ok q.pl ∧
    q.value = q.pl.value (circuitValue c) ∧
    ((keepBest p.value leaves none).2 = none → q = p) := by
  obtain ⟨h1, h2, hq, h4⟩ := reorderRun_spec (reached_sync h0 hr).1 hd hv e
  exact ⟨h1, h2, hq.value, h4⟩

/-- an accepted move is a (possibly empty) run of the `DetPlace` model and does not increase the objective -/
theorem accepted_not_worse (V : Value) {s t : State} (h : Inv s) (a : Accepted V s t) :
    t.value V ≤ s.value V ∧ ∃ ops, s.run ops = .ok t :=
  a.not_worse h

/-- **Every leaf `RowReordering` evaluates is evaluated on its own write-back.**  `rr0` is the object after
`addCells(window)`; its registered cells are distinct and non-negative.  Then for every leaf of the
enumeration (`runRegionChoice` / `runOrdering` with `std::next_permutation`, width and row-polarity tests,
positions packed from `minPos`): the value read at the leaf (`xtopo_.value() + ytopo_.value()` after the
`updateCellPos` calls of the enumeration) is the objective with the registered cells at the leaf's positions
(`FaithfulLeaf`), which is the objective of the placement `writeback` produces from that leaf whenever it
succeeds; the pass is the keep-best decision (strict `<`, started from the value before the pass) over these
leaves in evaluation order; no `next_permutation` loop runs out of the model's fuel and no `assert` of the
enumeration fires. -/
theorem reorder_leaf_faithful (V : Value) (s : State) (w : List Int) (rr0 : RowReord PS)
    (e0 : addCells s (RowReord.new (s.x, s.y)) w = .ok rr0) (hn : rr0.cells.Nodup) (hnn : ∀ c ∈ rr0.cells, 0 ≤ c) :
    (∀ leaf ∈ windowLeaves V s rr0, FaithfulLeaf V s leaf ∧
      ∀ cells t, s.reorderWriteback cells leaf.regions = .ok t → t.value V = leaf.value) ∧
    s.reorderWindow V w = s.reorderDecision V (sortDesc rr0.cells) (windowLeaves V s rr0) ∧
    (rr0.run (pureStore V) s).fuelOut = false ∧ (rr0.run (pureStore V) s).assertFail = rr0.assertFail := by
  obtain ⟨h1, h2, h3, h4⟩ := reorderWindow_decision V s w rr0 e0 hn hnn
  refine ⟨fun leaf hl => ⟨h2 leaf hl, fun cells t e => ?_⟩, h1, h3, h4⟩
  rw [reorderWriteback_value V e]
  exact (h2 leaf hl).symm

/-- **`RowReordering` never worsens the objective** — no hypothesis on the leaves, the window or the
placement: if `runReorderingOnCells(window)` returns normally, either the placement is exactly the one before
(state equality) or the objective strictly decreased.  (A write-back that succeeds forces the registered
cells to be distinct valid cells, hence non-negative, which is what `reorder_leaf_faithful` needs.) -/
theorem reorder_not_worse (V : Value) (s t : State) (w : List Int) (e : s.reorderWindow V w = .ok t) :
    t = s ∨ t.value V < s.value V :=
  (reorderWindow_not_worse V s t w e).imp_right (·.1)

/-- **`RowReordering` keeps the invariant of C02**: the pass is the identity or one `reorder` write-back
of the `DetPlace` model (`inv_step_reorder`). -/
theorem reorder_preserves_inv (V : Value) {s t : State} (h : Inv s) (w : List Int) (e : s.reorderWindow V w = .ok t) :
    Inv t ∧ ∃ ops, s.run ops = .ok t := by
  rcases reorderWindow_not_worse V s t w e with rfl | ⟨_, cells, regions, e'⟩
  · exact ⟨h, [], rfl⟩
  · exact ⟨step_inv h e', [.reorder cells regions], by simp only [State.run, e']⟩

/-- **The same on the real object.**  `p` is the `DetailedPlacer` reached by any history from its
construction on `c`; `runReorderingOnCells(window)` — the enumeration driving the two incremental net models
through `updateCellPos`, then `writeback` — returns `q`, the logged write-back `ops` (hook H3) and the window
report `info` (hook H3b).  If the registered cells are distinct valid cells (which `reorder_window_registered`
below derives from `Inv`), then: its placement is the result of the pass on the coordinate vectors for the real
objective; `q` is in sync (`value()` = the objective of its placement); replaying the logged write-back on `p`
gives `q`; without improvement `q = p` (whole object) and nothing is logged; the reported number of leaves, best
value and decision are those of the enumeration of `reorder_leaf_faithful`, all of whose leaves are faithful. -/
theorem reorder_window_on_object (c : Circuit) (p0 p q : Placer) (ops0 : List Op) (w : List Int) (ops : List Op)
    (info : WindowInfo) (h0 : Placer.init c = .ok p0) (hr : p0.run ops0 = .ok p)
    (e : p.reorderWindow w = .ok (q, ops, info))
    (hreg : info.cells.Nodup ∧ ∀ k ∈ info.cells, p.pl.validCell k) :
    p.pl.reorderWindow (circuitValue c) w = .ok q.pl ∧ q.value = q.pl.value (circuitValue c) ∧
    p0.run (ops0 ++ ops) = .ok q ∧ (info.improvement = false → q = p ∧ ops = []) ∧
    info.fuelOut = false ∧ info.valueAfter = q.value ∧
    ∃ rr0 : RowReord PS, addCells p.pl (RowReord.new (p.pl.x, p.pl.y)) w = .ok rr0 ∧
      info.nbLeaves = (windowLeaves (circuitValue c) p.pl rr0).length ∧
      info.bestVal = (rr0.run (pureStore (circuitValue c)) p.pl).bestVal ∧
      info.improvement = (rr0.run (pureStore (circuitValue c)) p.pl).improvement ∧
      ∀ leaf ∈ windowLeaves (circuitValue c) p.pl rr0, FaithfulLeaf (circuitValue c) p.pl leaf := by
  have hs := (reached_sync h0 hr).1
  obtain ⟨h1, h2, h3, h4, h5, h6, h7⟩ := reorderWindow_placer c p q w ops info hs e hreg
  exact ⟨h1, h2.value, run_append hr h3, h4, h5, h6, h7⟩

/-- **The hypothesis of `reorder_window_on_object` holds for the windows the code builds.**  On a placement
satisfying `Inv`, a window of distinct valid placed cells — such as the windows `runReorderingOnRows` cuts out
of `rowCells(rows)` (`reorderWindows_ok`, `rowsAbove_ok`) — makes `addCells` register distinct valid cells:
each region is a run of window cells linked by `cellNext`, two runs never meet. -/
theorem reorder_window_registered (p q : Placer) (w : List Int) (ops : List Op) (info : WindowInfo) (h : Inv p.pl)
    (hn : w.Nodup) (hw : ∀ k ∈ w, p.pl.validCell k ∧ p.pl.row k ≠ -1) (e : p.reorderWindow w = .ok (q, ops, info)) :
    info.cells.Nodup ∧ ∀ k ∈ info.cells, p.pl.validCell k :=
  windowOk_of_inv h hn hw q ops info e

/-- **`runReordering` as modelled is an accepted history — no hypothesis on the windows.**  `p` reached by any
history from the construction on `c`, its placement satisfying `Inv` with every optimised cell placed (C02:
`inv_init`, `inv_run`).  If the modelled `runReordering(maxNbRows, maxNbCells)` — rows `{row} ∪ rowsAbove(row)` of
`RowNeighbourhood(rows, maxNbRows − 1)`, cells of these rows sorted by (x, index), overlapping windows of
`maxNbCells` cells, `RowReordering` on each — returns `q` with the write-backs `ops`: `q` is reached from `p` by a
`History` of accepted moves for the real objective, it is in sync and satisfies `Inv`, and it is what replaying
`ops0 ++ ops` gives. -/
theorem reorder_pass_accepted (c : Circuit) (p0 p q : Placer) (ops0 : List Op) (a b : Int) (ops : List Op)
    (infos : List WindowInfo) (h0 : Placer.init c = .ok p0) (hr : p0.run ops0 = .ok p) (hi : Inv p.pl)
    (ha : p.pl.allPlaced = true) (e : p.runReordering a b = .ok (q, ops, infos)) :
    (∃ states, History (circuitValue c) p.pl states ∧ (p.pl :: states).getLast? = some q.pl) ∧
    q.value = q.pl.value (circuitValue c) ∧ p0.run (ops0 ++ ops) = .ok q ∧ Inv q.pl ∧ q.pl.allPlaced = true := by
  have hs := (reached_sync h0 hr).1
  obtain ⟨⟨hsq, hist⟩, hrun, hiq, haq⟩ := runReordering_reaches hs hi ((Lg.allPlaced_iff _).1 ha) e
  exact ⟨hist, hsq.value, run_append hr hrun, hiq, (Lg.allPlaced_iff _).2 haq⟩

/-- **Every primitive the modelled scan issues is inside its contract.**  `runSwaps` / `runInserts` of the
whole-object model (row neighbourhoods of `RowNeighbourhood`, windows of `nbNeighbours` cells, the
`bestSwapUpdate` walks): whenever the pass returns, the moves it performed form a `SearchTrace` — each one
was chosen by the scan (`bestSwapChoice` / `bestInsertChoice`: last candidate strictly below `value()`) among
the candidates enumerated at that point, `canSwap` / `canInsert` answered true for it in the state it is
applied to, and the checked step went through.  With `Inv` (C02: `swap_never_throws`, `insert_never_throws`)
a move with these properties cannot throw. -/
theorem scan_calls_within_contract (p q : Placer) (a b : Int) (ops : List Op) :
    (p.runSwaps a b = .ok (q, ops) → SearchTrace p ops q) ∧
    (p.runInserts a b = .ok (q, ops) → SearchTrace p ops q) ∧
    (∀ k cands x, p.bestSwapChoice k cands = some x → x ∈ cands ∧ p.pl.canSwap k x = .ok true ∧
      (Inv p.pl → p.pl.liveCell k = true → p.pl.liveCell x = true → ∃ t, p.pl.step (.swap k x) = .ok t ∧ Inv t)) ∧
    (∀ k r cands x, p.bestInsertChoice k r cands = some x → x ∈ cands ∧ p.pl.canInsert k r x = .ok true ∧
      (Inv p.pl → p.pl.liveCell k = true → p.pl.siteOk r x = true → ∃ t, p.pl.step (.insert k r x) = .ok t ∧ Inv t)) :=
  ⟨runSwaps_trace, runInserts_trace,
    fun _ _ _ h => ⟨bestSwapChoice_mem h, bestSwapChoice_canSwap h,
      fun hi l1 l2 => step_swap_succeeds hi l1 l2 (bestSwapChoice_canSwap h)⟩,
    fun _ _ _ _ h => ⟨bestInsertChoice_mem h, bestInsertChoice_canInsert h,
      fun hi l1 l2 => step_insert_succeeds hi l1 l2 (bestInsertChoice_canInsert h)⟩⟩

/-- **The modelled passes never fail.**  `p` reached by any history from the construction on `c`, its
placement satisfying `Inv` with every optimised cell placed (C02: `inv_init`, `inv_run`).  Then `runSwaps(a, b)`
and `runInserts(a, b)` (for `nbNeighbours = b ≥ 0`) and `runReordering(a, b)` (any arguments) of the model return
normally — no C++ exception (`Err.runtime`: `canSwap`/`canInsert`/`canPlace`/`place`/`cellsBetween`), no
model-only guard, no fuel exhaustion: every scanned cell is a live cell of its row, every chosen move is
feasible and carried out (`swap_never_throws` / `insert_never_throws`), the `bestSwapUpdate` loops terminate
because `value() ≥ 0` strictly decreases and the row walk advances, `addCells` finds the end of every run, and
`place` accepts the kept leaf of `RowReordering` (the enumeration only recurses under the `allocatedWidth` and
row-polarity tests and packs from `minPos`).  `Inv` holds afterwards.  (`runShifts` is not covered: lemon.) -/
theorem passes_never_fail (c : Circuit) (p0 p : Placer) (ops0 : List Op) (a b : Int)
    (h0 : Placer.init c = .ok p0) (hr : p0.run ops0 = .ok p) (hi : Inv p.pl) (ha : p.pl.allPlaced = true) :
    (0 ≤ b → ∃ q ops, p.runSwaps a b = .ok (q, ops) ∧ Inv q.pl) ∧
    (0 ≤ b → ∃ q ops, p.runInserts a b = .ok (q, ops) ∧ Inv q.pl) ∧
    (∃ q ops infos, p.runReordering a b = .ok (q, ops, infos) ∧ Inv q.pl) := by
  have hs := (reached_sync h0 hr).1
  refine ⟨fun hb => ?_, fun hb => ?_, ?_⟩
  · obtain ⟨q, ops, e, hq, _, _⟩ := runSwaps_no_error c hs hi a hb
    exact ⟨q, ops, e, hq⟩
  · obtain ⟨q, ops, e, hq, _, _⟩ := runInserts_no_error hi a hb
    exact ⟨q, ops, e, hq⟩
  · obtain ⟨⟨q, ops, infos⟩, e⟩ := runReordering_total p a b hs hi ((Lg.allPlaced_iff _).1 ha)
    exact ⟨q, ops, infos, e, (runReordering_reaches hs hi ((Lg.allPlaced_iff _).1 ha) e).2.2.1⟩

/-- **The modelled search passes are accepted histories.**  `p` reached by any history from the construction
on `c`.  A pass `runSwaps(a, b)` or `runInserts(a, b)` of the model that returns `q` after performing `ops`:
`q` is reached from `p` by a `History` of accepted moves for the real objective (so
`hpwl_monotone_orient_kept` applies to it), it is in sync, and it is the object the replay of `ops0 ++ ops`
gives (so the pass can be followed by another one). -/
theorem search_pass_accepted (c : Circuit) (p0 p q : Placer) (ops0 : List Op) (a b : Int) (ops : List Op)
    (h0 : Placer.init c = .ok p0) (hr : p0.run ops0 = .ok p)
    (e : p.runSwaps a b = .ok (q, ops) ∨ p.runInserts a b = .ok (q, ops)) :
    (∃ states, History (circuitValue c) p.pl states ∧ (p.pl :: states).getLast? = some q.pl) ∧
    q.value = q.pl.value (circuitValue c) ∧ p0.run (ops0 ++ ops) = .ok q := by
  have hs := (reached_sync h0 hr).1
  have tr : SearchTrace p ops q := by
    rcases e with e | e
    · exact runSwaps_trace e
    · exact runInserts_trace e
  obtain ⟨hsq, hist⟩ := trace_history tr hs
  exact ⟨hist, hsq.value, run_append hr tr.run⟩

/-- **Value level, all inputs.**  Along any history of accepted moves from a placement satisfying `Inv`, the
optimiser's objective never increases and `Inv` is kept — whatever happens to the orientations (the
orientation caveat KF-C05-1 only concerns the step from the objective to `Circuit::hpwl()`). -/
theorem history_value_monotone (V : Value) {s : State} {states : List State} (h : Inv s) (hist : History V s states) :
    ∀ t, (s :: states).getLast? = some t → t.value V ≤ s.value V ∧ Inv t := by
  intro t ht
  obtain ⟨pw, hr⟩ := hist.pairwise h
  refine ⟨?_, (hr t (List.mem_of_getLast? ht)).1⟩
  rcases List.mem_cons.1 (List.mem_of_getLast? ht) with rfl | hm
  · exact Int.le_refl _
  · exact (List.pairwise_cons.1 pw).1 t hm

/-- **C05 while orientations are kept.**  `c` is the legalized circuit handed to detailed placement,
`s0` the placement constructed from it.  Along any history of moves accepted by the optimiser's rules
for its real objective (`circuitValue c` — by `placer_in_sync` / `optimiser_evaluates_circuit_value`
what `value()`, `valueOnSwap`, `valueOnInsert` compute on the real object), if the export of every
state has the orientations of `c`, then the HPWL of the exported circuit never increases: every later
state is at most every earlier one (in particular at successive callbacks), all are at most the
initial one, and the initial one is the HPWL of the legalized circuit.
Assumed: `Inv s0` (C02: `inv_init`), per-shift `value' ≤ value` (inside `Accepted.shift`). -/
theorem hpwl_monotone_orient_kept (c : Circuit) (s0 : State) (states : List State)
    (h0 : fromIspdCircuit c = .ok s0) (hinv : Inv s0)
    (hist : History (circuitValue c) s0 states)
    (hk : ∀ t ∈ states, ∀ i, ((exportPlacement t c).cell i).orient = (c.cell i).orient) :
    List.Pairwise (fun a b => (exportPlacement b c).hpwl ≤ (exportPlacement a c).hpwl) (s0 :: states) ∧
    (exportPlacement s0 c).hpwl = c.hpwl := by
  obtain ⟨pw, hr⟩ := hist.pairwise hinv
  -- every state of the history keeps the fixed cells and the orientations: its objective is its HPWL
  have hv : ∀ t ∈ s0 :: states, t.value (circuitValue c) = (exportPlacement t c).hpwl := fun t ht =>
    circuitValue_eq_hpwl c t (List.forall_mem_cons.2 ⟨init_orient_kept h0, hk⟩ t ht) (frame_fixed h0 (hr t ht).2.toFrame)
  exact ⟨pw.imp_of_mem fun ha hb hle => by rw [← hv _ ha, ← hv _ hb]; exact hle, (init_value h0).2⟩

/-- **C05 for a sequence of modelled passes, while orientations are kept.**  `q` is reached from the freshly
constructed placer by any sequence of passes — `search_pass_accepted`, `reorder_pass_accepted` and accepted
shifts compose by `Reaches.trans` — i.e. by a `History` for the real objective ending in `q`'s placement.  If
every state of it exports the orientations of `c`, the HPWL `q` exports is at most the legalized circuit's. -/
theorem passes_hpwl_not_worse (c : Circuit) (p0 q : Placer) (states : List State) (h0 : Placer.init c = .ok p0)
    (hinv : Inv p0.pl) (hist : History (circuitValue c) p0.pl states) (hlast : (p0.pl :: states).getLast? = some q.pl)
    (hk : ∀ t ∈ states, ∀ i, ((exportPlacement t c).cell i).orient = (c.cell i).orient) :
    (exportPlacement q.pl c).hpwl ≤ c.hpwl := by
  obtain ⟨hpw, hfirst⟩ := hpwl_monotone_orient_kept c p0.pl states (init_sync h0).2 hinv hist hk
  rw [← hfirst]
  rcases List.mem_cons.1 (List.mem_of_getLast? hlast) with e | hm
  · exact e ▸ Int.le_refl _
  · exact (List.pairwise_cons.1 hpw).1 _ hm

/-- The proved part of `hpwl_monotone_full_statement` under the name DESIGN.md gives it: this *is*
`hpwl_monotone_orient_kept`.  Missing with respect to the full statement: histories in which a move
changes an orientation (there the statement is false: `hpwl_can_increase`, KF-C05-1); shift steps are
covered only under the per-step premise `value' ≤ value` (NetworkSimplex optimality, assumed); the
moves must be the ones the modelled acceptance rules choose (tied to the loops of the code by the
hook-H3 replay); `Inv s0` is C02's `inv_init`. -/
theorem hpwl_monotone_partial (c : Circuit) (s0 : State) (states : List State)
    (h0 : fromIspdCircuit c = .ok s0) (hinv : Inv s0)
    (hist : History (circuitValue c) s0 states)
    (hk : ∀ t ∈ states, ∀ i, ((exportPlacement t c).cell i).orient = (c.cell i).orient) :
    List.Pairwise (fun a b => (exportPlacement b c).hpwl ≤ (exportPlacement a c).hpwl) (s0 :: states) ∧
    (exportPlacement s0 c).hpwl = c.hpwl :=
  hpwl_monotone_orient_kept c s0 states h0 hinv hist hk

/-- KF-C05-1 on the whole object: on the same witness `bestInsert` — evaluating the *real* maintained
objective through `valueOnInsert` — accepts inserting cell 0 at the head of row 0; `value()` goes from
10 to 8, the orientation flag drops, and `Circuit.hpwl` of the export goes from 10 to 14.  So the
hypothesis of `hpwl_monotone_orient_kept` cannot be removed. -/
theorem hpwl_can_increase_on_object :
    (match Placer.init kfBefore with
     | .ok p => (p.bestInsertChoice 0 0 [-1] == some (-1)) && decide (p.value = 10) && p.orientKept kfBefore &&
       (match p.step (.insert 0 0 (-1)) with
        | .ok q => decide (q.value = 8 ∧ (exportPlacement q.pl kfBefore).hpwl = 14) && !q.orientKept kfBefore
        | .error _ => false)
     | .error _ => false) = true := by decide +kernel

/-! non-vacuity of `accepted_move_decreases`: on a two-cell row, with V = distance of cell 0 to
abscissa 9, the scan accepts swapping 0 and 1 -/
example :
    let c : Circuit := { cells := [⟨2, 2, 0, 0, .N, false, false, .ANY⟩, ⟨3, 2, 4, 0, .N, false, false, .ANY⟩],
                         nets := [], rows := [⟨⟨0, 10, 0, 2⟩, .N⟩] }
    let V : Value := fun x _ => (9 - x 0).natAbs
    (match fromIspdCircuit c with
     | .ok s => decide (Inv s) && (s.bestSwapChoice V 0 [0, 1] == some 1) &&
                (match s.swap 0 1 with | .ok t => decide (t.value V < s.value V) | .error _ => false)
     | .error _ => false) = true := by decide +kernel


/-! non-vacuity of the second block: cell 0 is tied to a fixed pin on its right; `bestSwap` (for the
real objective) accepts swapping it with its right neighbour; the history is accepted, no
orientation changes, the HPWL goes from 12 (the legalized circuit's) to 9 -/
def exC : Circuit :=
  { cells := [⟨2, 2, 0, 0, .N, false, false, .ANY⟩, ⟨3, 2, 4, 0, .N, false, false, .ANY⟩, ⟨1, 1, 12, 0, .N, true, false, .ANY⟩],
    nets := [⟨1, 0, [⟨0, 0, 0⟩, ⟨2, 0, 0⟩]⟩], rows := [⟨⟨0, 10, 0, 2⟩, .N⟩] }

example : ∃ s0 t, fromIspdCircuit exC = .ok s0 ∧ Inv s0 ∧ History (circuitValue exC) s0 [t] ∧
    (∀ i, ((exportPlacement t exC).cell i).orient = (exC.cell i).orient) ∧
    exC.hpwl = 12 ∧ (exportPlacement t exC).hpwl = 9 := by
  obtain ⟨s0, e0, hi, hch, hstep⟩ := ok_of_check (x := fromIspdCircuit exC)
    (P := fun s => Inv s ∧ s.bestSwapChoice (circuitValue exC) 0 [0, 1] = some 1 ∧
      checkOk (s.step (.swap 0 1)) (fun t =>
        (⟨t, IncrNet.xTopologyAll exC, IncrNet.yTopologyAll exC⟩ : Placer).orientKept exC = true ∧
        (exportPlacement t exC).hpwl = 9) = true) (by decide +kernel)
  obtain ⟨t, e1, hk, h9⟩ := ok_of_check hstep
  exact ⟨s0, t, e0, hi, .cons (.swap 0 1 [0, 1] hch e1) (.nil t), orientKept_spec hk, by decide +kernel, h9⟩

/-! non-vacuity of `value_eq_hpwl_if_orient_kept`: the object after the same swap -/
example : (match Placer.init exC with
    | .ok p0 => match p0.run [.swap 0 1] with
      | .ok p => p.orientKept exC && decide (p.value = 9)
      | .error _ => false
    | .error _ => false) = true := by decide +kernel

/-! non-vacuity of `reorder_pass_from_dirty_models`: a reordering pass over cells 1, 0 whose enumeration
left the models dirty; with a strictly better leaf (cell 1 at 0, cell 0 at 3: value 9 < 12) it is written
back and the object is in sync; with no better leaf both models are exactly the ones before the pass -/
example : (match Placer.init exC with
    | .ok p =>
      (match p.reorderRun [(0, 7, 0), (1, 1, 0)] [1, 0] [⟨9, [⟨0, -1, [(1, 0), (0, 3)]⟩]⟩] with
       | .ok q => decide (q.value = 9 ∧ (exportPlacement q.pl exC).hpwl = 9)
       | .error _ => false) &&
      (match p.reorderRun [(0, 7, 0)] [1, 0] [⟨12, []⟩] with
       | .ok q => decide (q.xt = p.xt ∧ q.yt = p.yt ∧ q.value = 12)
       | .error _ => false)
    | .error _ => false) = true := by decide +kernel

/-! non-vacuity of the `RowReordering` block: three movable cells 0, 1, 3 in one row, cell 0 tied to a fixed pin
on the right.  `addCells [0, 1, 3]` registers one region with the three (distinct, non-negative) cells; the
enumeration evaluates 5 leaves (the 6 orders minus the one `next_permutation` starts from); the pass returns a
strictly better placement (12 → 7); a one-cell window evaluates nothing and returns the placement unchanged. -/
def exR : Circuit :=
  { cells := [⟨2, 2, 0, 0, .N, false, false, .ANY⟩, ⟨3, 2, 4, 0, .N, false, false, .ANY⟩, ⟨1, 1, 12, 0, .N, true, false, .ANY⟩,
              ⟨2, 2, 7, 0, .N, false, false, .ANY⟩],
    nets := [⟨1, 0, [⟨0, 0, 0⟩, ⟨2, 0, 0⟩]⟩], rows := [⟨⟨0, 10, 0, 2⟩, .N⟩] }

example : (match fromIspdCircuit exR with
    | .ok s =>
      (match addCells s (RowReord.new (s.x, s.y)) [0, 1, 3] with
       | .ok rr0 => decide (rr0.cells.Nodup ∧ (∀ c ∈ rr0.cells, 0 ≤ c) ∧ rr0.regions.length = 1) &&
                    decide ((windowLeaves (circuitValue exR) s rr0).length = 5)
       | .error _ => false) &&
      (match s.reorderWindow (circuitValue exR) [0, 1, 3] with
       | .ok t => decide (s.value (circuitValue exR) = 12 ∧ t.value (circuitValue exR) = 7 ∧ Inv s ∧ Inv t)
       | .error _ => false) &&
      (match s.reorderWindow (circuitValue exR) [1] with
       | .ok t => decide (t.value (circuitValue exR) = 12 ∧ t.x 0 = s.x 0 ∧ t.x 1 = s.x 1 ∧ t.x 3 = s.x 3)
       | .error _ => false)
    | .error _ => false) = true := by decide +kernel

/-! non-vacuity of `reorder_window_on_object`: the same window on the whole object; the report of hook H3b
(5 leaves, best value 7, improvement) and the hypothesis on the registered cells -/
example : (match Placer.init exR with
    | .ok p =>
      (match p.reorderWindow [0, 1, 3] with
       | .ok (q, ops, info) =>
         decide (info.cells = [3, 1, 0] ∧ info.cells.Nodup ∧ (∀ k ∈ info.cells, p.pl.validCell k) ∧ info.nbLeaves = 5 ∧
                 info.bestVal = 7 ∧ info.improvement = true ∧ info.fuelOut = false ∧ info.assertFail = false ∧
                 q.value = 7 ∧ ops.length = 1)
       | .error _ => false)
    | .error _ => false) = true := by decide +kernel

/-! non-vacuity of `search_pass_accepted` / `scan_calls_within_contract`: `runSwaps(1, 1)` on `exC` performs the
swap of cells 0 and 1 (value 12 → 9) and `runInserts(1, 1)` an insertion -/
example : (match Placer.init exC with
    | .ok p =>
      (match p.runSwaps 1 1 with
       | .ok (q, ops) => decide (ops = [.swap 0 1] ∧ q.value = 9)
       | .error _ => false) &&
      (match p.runInserts 1 1 with
       | .ok (q, ops) => decide (ops.length = 1 ∧ q.value < 12)
       | .error _ => false)
    | .error _ => false) = true := by
  obtain ⟨p, q, e0, e1, hv⟩ := passIs_spec exSearch1_runSwaps
  obtain ⟨p', q', e0', e2, hv'⟩ := passIs_spec exSearch1_runInserts
  obtain rfl : p' = p := Except.ok.inj (e0'.symm.trans e0)
  -- `exC` is the circuit `exSearch1`
  have e0C : Placer.init exC = .ok p' := e0
  simp only [e0C, e1, e2, hv, hv']
  decide

/-! non-vacuity of `reorder_pass_accepted`: `runReordering(1, 3)` on `exR` (Inv, all placed) handles two windows
([0, 1, 3] and [1, 3]) and writes back one better order -/
example : (match Placer.init exR with
    | .ok p => decide (Inv p.pl) && p.pl.allPlaced &&
      (match p.runReordering 1 3 with
       | .ok (q, ops, infos) => decide (ops.length = 1 ∧ infos.length = 2 ∧ q.value = 7)
       | .error _ => false)
    | .error _ => false) = true := by decide +kernel

end ColoVerif.C05
