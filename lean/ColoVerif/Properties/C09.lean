import ColoVerif.Model.Circuit
import ColoVerif.Model.OrientSpec
import ColoVerif.Model.IncrNet
import ColoVerif.Gen.OrientTables
import ColoVerif.Proofs.C09Hpwl
import ColoVerif.Proofs.IncrNetTopology
import ColoVerif.Proofs.GeomTie
import ColoVerif.Proofs.CheckedHpwl
/-
C09 — wirelength is geometrically exact and incrementally consistent.

`Gen.*` is regenerated from the C++ on every run; `Circuit.*` and `IncrNet.*` are the
hand-written models executed by `drv_C09` against the real code.
-/
namespace ColoVerif.C09
open ColoVerif ColoVerif.OrientSpec

/-- The eight orientation matrices form a group of isometries: pairwise distinct, orthogonal
with determinant ±1, closed under product, containing the identity and all inverses
(transposes); rotations (N, W, S, E) have determinant 1 and mirrored ones −1. -/
theorem spec_is_dihedral_group :
    (∀ a ∈ Orient.eight, ∀ b ∈ Orient.eight, matrix a = matrix b → a = b) ∧
    (∀ a ∈ Orient.eight, (matrix a).mul (matrix a).transpose = Mat.one ∧
        ((matrix a).det = 1 ∨ (matrix a).det = -1)) ∧
    (∀ a ∈ Orient.eight, ∀ b ∈ Orient.eight, ∃ c ∈ Orient.eight, matrix c = (matrix a).mul (matrix b)) ∧
    (∀ a ∈ Orient.eight, ∃ c ∈ Orient.eight, matrix c = (matrix a).transpose) ∧
    matrix .N = Mat.one ∧
    (∀ a ∈ [Orient.N, .W, .S, .E], (matrix a).det = 1) ∧
    (∀ a ∈ [Orient.FN, .FS, .FW, .FE], (matrix a).det = -1) := by
  decide +kernel

/-- The alias enumerators of `CellOrientation` in coloquinte.hpp (R0, R90, R180, R270, MY, MX,
MX90, MY90 — regenerated from the header) name exactly the transformation the specification
assigns to the orientation they alias. -/
theorem spec_matches_header_aliases :
    Gen.orientAliases.length = 8 ∧ ∀ p ∈ Gen.orientAliases, named p.1 = some (matrix p.2) := by
  decide

/-- For all eight orientations, every non-negative cell size and every pin offset (inside or
outside the outline) the code's `(pinXOffset, pinYOffset, placedWidth, placedHeight)` — the
functions *generated from the C++ source* — equal the geometric specification. -/
theorem pin_offset_geometric (o : Orient) (ho : o ∈ Orient.eight) (w h px py : Int) (hw : 0 ≤ w) (hh : 0 ≤ h) :
    (⟨Gen.pinXOffset o w h px py, Gen.pinYOffset o w h px py, Gen.placedWidth o w h, Gen.placedHeight o w h⟩ : Placed)
      = spec o w h px py := by
  simp only [spec, matrix_eq_flags o ho, Gen.pinXOffset, Gen.pinYOffset, Gen.placedWidth, Gen.placedHeight,
    lowerLeft_eq, upperRight_eq, Mat.apply, flagMat]
  -- the axes are exchanged or not; on each axis `axis_flip`
  cases Gen.isTurn o <;>
    simp only [if_true, if_false, Bool.false_eq_true, Int.zero_mul, Int.zero_add, Int.add_zero, Int.min_self,
      Int.max_self, axis_flip _ hw, axis_flip _ hh]

example : (3 : Int) ≥ 0 ∧ Orient.FE ∈ Orient.eight ∧
    spec .FE 3 2 (-5) 7 = ⟨2 - 7, 3 - (-5), 2, 3⟩ := by decide

/-- The hand-written shared model (`Circuit.pinXOffset`, …, the definitions the drivers execute)
agrees with the generated functions, hence with the specification. -/
theorem model_pin_offset_geometric (cl : Cell) (p : Pin) (ho : cl.orient ∈ Orient.eight) (hw : 0 ≤ cl.w) (hh : 0 ≤ cl.h) :
    (⟨Circuit.pinXOffset cl p, Circuit.pinYOffset cl p, cl.placedWidth, cl.placedHeight⟩ : Placed)
      = spec cl.orient cl.w cl.h p.xo p.yo := by
  rw [← pin_offset_geometric cl.orient ho cl.w cl.h p.xo p.yo hw hh]
  simp only [Gen.pinXOffset, Gen.pinYOffset, Gen.placedWidth, Gen.placedHeight, gen_isTurn_eq, gen_xFlipped_eq,
    gen_yFlipped_eq, Circuit.pinXOffset, Circuit.pinYOffset, Cell.placedWidth, Cell.placedHeight]

/-- The placed outline reported by the code, `Cell.placement`, is the image of `[0,w]×[0,h]`
under the orientation, translated to the cell position. -/
theorem placement_is_image (cl : Cell) (ho : cl.orient ∈ Orient.eight) (hw : 0 ≤ cl.w) (hh : 0 ≤ cl.h) :
    cl.placement =
      ⟨cl.x, cl.x + ((upperRight (matrix cl.orient) cl.w cl.h).1 - (lowerLeft (matrix cl.orient) cl.w cl.h).1),
       cl.y, cl.y + ((upperRight (matrix cl.orient) cl.w cl.h).2 - (lowerLeft (matrix cl.orient) cl.w cl.h).2)⟩ := by
  have h := model_pin_offset_geometric cl ⟨0, 0, 0⟩ ho hw hh
  simp only [spec, Placed.mk.injEq] at h
  simp [Cell.placement, h.2.2.1, h.2.2.2]

theorem pinX_eq_spec (c : Circuit) (h : CellsOk c) (p : Pin) : c.pinX p = (specPin c p).1 := by
  have hc := c.cell_forall _ (by decide) h p.cell
  have := congrArg Placed.pinX (model_pin_offset_geometric (c.cell p.cell) p hc.1 hc.2.1 hc.2.2)
  simp only at this
  simp [Circuit.pinX, specPin, ← this]

theorem pinY_eq_spec (c : Circuit) (h : CellsOk c) (p : Pin) : c.pinY p = (specPin c p).2 := by
  have hc := c.cell_forall _ (by decide) h p.cell
  have := congrArg Placed.pinY (model_pin_offset_geometric (c.cell p.cell) p hc.1 hc.2.1 hc.2.2)
  simp only at this
  simp [Circuit.pinY, specPin, ← this]

/-- `Circuit::hpwl` is the sum over the nets of the half-perimeter of the bounding box of the
pin locations given by the orientation specification; `bboxHalfPerimeter` is `span xs + span ys`
where `span` is characterised (uniquely) by `IsSpan`: 0 for no point, otherwise `hi − lo` with
`lo`, `hi` attained and bounding.  Empty and single-pin nets contribute 0. -/
theorem hpwl_is_bbox_sum (c : Circuit) (h : CellsOk c) :
    c.hpwl = (c.nets.map fun n => bboxHalfPerimeter (n.pins.map (specPin c))).sum ∧
    (∀ l, IsSpan l (span l) ∧ ∀ v, IsSpan l v → v = span l) ∧
    bboxHalfPerimeter [] = 0 ∧ (∀ pt, bboxHalfPerimeter [pt] = 0) := by
  refine ⟨?_, fun l => ⟨span_isSpan l, fun v hv => isSpan_unique l v _ hv (span_isSpan l)⟩, by decide, ?_⟩
  · rw [hpwl_eq_span]
    refine congrArg List.sum (List.map_congr_left fun n _ => ?_)
    simp only [bboxHalfPerimeter, List.map_map, Function.comp_def, ← pinX_eq_spec c h, ← pinY_eq_spec c h]
  · intro pt; simp [bboxHalfPerimeter, span, maxOf, minOf]

example : CellsOk ⟨[⟨4, 2, 0, 0, .N, false, false, .ANY⟩, ⟨3, 2, 10, 5, .W, false, false, .ANY⟩],
    [⟨1, 0, [⟨0, 1, 1⟩, ⟨1, 0, 2⟩]⟩], []⟩ := by decide

/-- **The reported value is the mathematical one, as compiled.**  `Checked.hpwlC` is the expression
tree of `Circuit::hpwl()` with every `int` operation (pin offset `placedWidth − offs`, `x(cell) + offset`,
`maxX − minX`) and every `long long` accumulation checked for overflow (executed by `drv_C09` against the
real function under UBSan on the `h<k>` cases, coordinates up to ±8·10^8).  On `HpwlDom` — cell origins
within ±8·10^8, cell sizes and pin offsets within ±10^8, at most 2^30 nets — no operation overflows and
the result is the unbounded `Circuit.hpwl` of `hpwl_is_bbox_sum`.  The two extents of a net are added to
the 64-bit total separately: a net may be 1.2·10^9 wide and high (witness: `hpwlC = 2.4·10^9`), where an
`int` sum `width + height` taken first would overflow (`netHpwlSum32C`, not the code, faults there). -/
theorem hpwl_no_overflow (c : Circuit) (h : Checked.HpwlDom c) : Checked.hpwlC c = .ok c.hpwl :=
  Checked.hpwlC_ok c h

theorem hpwl_no_overflow_witness :
    Checked.HpwlDom Checked.diagonalWitness ∧
    Checked.hpwlC Checked.diagonalWitness = .ok 2400000000 ∧
    Checked.netHpwlSum32C Checked.diagonalWitness 0 (Checked.diagonalWitness.nets.getD 0 default)
      = .error (.intOverflow "width() + height()") :=
  ⟨Checked.diagonalWitness_in_dom, Checked.diagonalWitness_hpwl, Checked.hpwl_sum32_can_fault⟩

open IncrNet in
/-- **Initial value.**  For every circuit and every list `cells` of selected cells (any subset,
any order; the other cells are folded into the pseudo-pins of the extra fixed cell, nets reduced
to at most one pin are dropped) the value of the freshly built x (resp. y) model is the 1-D
half-perimeter wirelength of the circuit: Σ over *all* nets of the extent of the pins' x (resp. y)
coordinates.  The built model is moreover well formed (its cell CSR is the exact transpose of its
net CSR) and consistent, so `incr_inv` applies to it. -/
theorem incr_init (c : Circuit) (cells : List Nat) :
    (xTopology c cells).value = (c.nets.map fun n => span (n.pins.map c.pinX)).sum ∧
    (yTopology c cells).value = (c.nets.map fun n => span (n.pins.map c.pinY)).sum ∧
    Good (xTopology c cells) ∧ Good (yTopology c cells) ∧
    (xTopology c cells).cellPos = cells.map (fun i => (c.cell i).x) ++ [0] ∧
    (yTopology c cells).cellPos = cells.map (fun i => (c.cell i).y) ++ [0] :=
  ⟨topology_value Circuit.pinXOffset (·.x) c cells, topology_value Circuit.pinYOffset (·.y) c cells,
   topology_Good _ _ c cells, topology_Good _ _ c cells,
   topology_cellPos _ _ c cells, topology_cellPos _ _ c cells⟩

open IncrNet in
/-- The two 1-D models together give `Circuit::hpwl` (what `DetailedPlacer::value()` reports),
for the full model and for every subset. -/
theorem detailed_value_is_hpwl (c : Circuit) (cells : List Nat) :
    (xTopology c cells).value + (yTopology c cells).value = c.hpwl := by
  obtain ⟨hx, hy, _⟩ := incr_init c cells
  rw [hx, hy, hpwl_eq_span, ListFacts.sum_map_add]

open IncrNet in
/-- **Invariant.**  After *any* sequence of `updateCellPos(cell, pos)` calls on a good model
(in particular on every model built by `x/yTopology`, full or subset, see `incr_init`, and on
every model built through `IncrNetModelBuilder` from nets whose cells are in range) the
maintained `netMinMaxPos_` and `value_` equal their from-scratch recomputation
(`IncrNetModel::check()` passes), the value is the 1-D wirelength Σ over the nets of the extent
of the pin positions at the *current* cell positions, and these positions are the initial ones
overwritten by the updates in order.  Repeated cells in a net, repeated updates and updates of
out-of-range cells are covered. -/
theorem incr_inv (m : Model) (hm : Good m) (ops : List (Nat × Int)) :
    (run m ops).netMinMaxPos = (run m ops).computeAllMinMaxPos ∧
    (run m ops).value = (run m ops).computeValue ∧
    (run m ops).consistent = true ∧
    (run m ops).value = scratchValue (run m ops) ∧
    (run m ops).cellPos = applyOps m.cellPos ops ∧
    Good (run m ops) := by
  have hg := run_good m ops hm
  have hc := (inv_iff_consistent _).mp hg.inv
  refine ⟨hc.1, hc.2, ?_, good_value _ hg, ?_, hg⟩
  · unfold Model.consistent
    rw [← hc.1, ← hc.2]; simp
  · obtain ⟨X, Y, h⟩ := run_frame ops m
    rw [h]

open IncrNet in
/-- `incr_inv` instantiated: update sequences on the x and y models of a circuit (any subset). -/
theorem incr_inv_topology (c : Circuit) (cells : List Nat) (ops : List (Nat × Int)) :
    (run (xTopology c cells) ops).value = scratchValue (run (xTopology c cells) ops) ∧
    (run (yTopology c cells) ops).value = scratchValue (run (yTopology c cells) ops) ∧
    (run (xTopology c cells) ops).consistent = true ∧ (run (yTopology c cells) ops).consistent = true :=
  ⟨(incr_inv _ (topology_Good _ _ c cells) ops).2.2.2.1, (incr_inv _ (topology_Good _ _ c cells) ops).2.2.2.1,
   (incr_inv _ (topology_Good _ _ c cells) ops).2.2.1, (incr_inv _ (topology_Good _ _ c cells) ops).2.2.1⟩

open IncrNet in
/-- Models built directly with `IncrNetModelBuilder` (as the unit tests do)
are good whenever every pin's cell index is below the number of cells. -/
theorem builder_models_good (K : Nat) (Ls : List (List Pin1)) (pos : List Int) (hK : pos.length = K)
    (hrange : ∀ l ∈ Ls, ∀ p ∈ l, p.1 < K) : Good ((Ls.foldl Builder.addNet (Builder.new K)).build pos) :=
  builder_Good K Ls pos hK hrange

open IncrNet in
/-- **The cell→pin table is the exact transpose of the net→pin table, offsets included.**
`finalize` (counting sort) fills `cellNets_` and the parallel `cellPinOffsets_`: for every model built
by `x/yTopology` (all cells or any subset) and after any update sequence, the list of
`(pinNet(cell, i), cellPinOffset(cell, i))` for `i < nbCellPins(cell)` is — for *every* cell index —
exactly the list of `(net, offset)` of the pins of that cell in the net→pin table, in net order (then
pin order within the net); cells without pins and out-of-range indices get the empty list. -/
theorem cell_pin_table_is_transpose (c : Circuit) (cells : List Nat) (ops : List (Nat × Int)) (cell : Nat) :
    cellPinList (run (xTopology c cells) ops) cell
      = ((run (xTopology c cells) ops).allPins.filter (fun p => p.2.1 == cell)).map (fun p => (p.1, p.2.2)) ∧
    cellPinList (run (yTopology c cells) ops) cell
      = ((run (yTopology c cells) ops).allPins.filter (fun p => p.2.1 == cell)).map (fun p => (p.1, p.2.2)) :=
  ⟨run_wfOff _ ops (topology_wfOff _ _ c cells) cell, run_wfOff _ ops (topology_wfOff _ _ c cells) cell⟩

open IncrNet in
/-- … and for every model built directly with `IncrNetModelBuilder` from nets whose cells are in range. -/
theorem builder_cell_pin_table_is_transpose (K : Nat) (Ls : List (List Pin1)) (pos : List Int) (hK : pos.length = K)
    (hrange : ∀ l ∈ Ls, ∀ p ∈ l, p.1 < K) (ops : List (Nat × Int)) (cell : Nat) :
    cellPinList (run ((Ls.foldl Builder.addNet (Builder.new K)).build pos) ops) cell
      = ((run ((Ls.foldl Builder.addNet (Builder.new K)).build pos) ops).allPins.filter (fun p => p.2.1 == cell)).map
          (fun p => (p.1, p.2.2)) :=
  run_wfOff _ ops (builder_wfOff K Ls pos hK hrange) cell

open IncrNet in
/-- **`DetailedPlacer::value()`.**  The placer's two models (`PlacerModels.build` = its constructor,
`PlacerModels.updateCellPos` = `DetailedPlacer::updateCellPos(c, pos)`): right after construction
`value()` is `Circuit::hpwl` of the circuit; after ANY history of `updateCellPos(cell, (x, y))` both
models are consistent (`IncrNetModel::check()` passes), `value()` is the from-scratch wirelength
Σ nets (x-extent + y-extent) of the pin positions at the *current* cell positions, and those positions are
the circuit's positions overwritten by the updates in order. -/
theorem placer_value_is_incremental (c : Circuit) (ops : List (Nat × Int × Int)) :
    (PlacerModels.build c).value = c.hpwl ∧
    ((PlacerModels.build c).run ops).value
      = scratchValue ((PlacerModels.build c).run ops).x + scratchValue ((PlacerModels.build c).run ops).y ∧
    ((PlacerModels.build c).run ops).x.consistent = true ∧ ((PlacerModels.build c).run ops).y.consistent = true ∧
    ((PlacerModels.build c).run ops).x.cellPos
      = applyOps (c.cells.map (·.x) ++ [0]) (ops.map fun o => (o.1, o.2.1)) ∧
    ((PlacerModels.build c).run ops).y.cellPos
      = applyOps (c.cells.map (·.y) ++ [0]) (ops.map fun o => (o.1, o.2.2)) := by
  have hx := incr_inv (xTopologyAll c) (topology_Good _ _ c _) (ops.map fun o => (o.1, o.2.1))
  have hy := incr_inv (yTopologyAll c) (topology_Good _ _ c _) (ops.map fun o => (o.1, o.2.2))
  have hpx := (incr_init c (List.range c.cells.length)).2.2.2.2.1
  have hpy := (incr_init c (List.range c.cells.length)).2.2.2.2.2
  rw [Circuit.cells_map_range] at hpx hpy
  rw [placer_run]
  exact ⟨detailed_value_is_hpwl c _, congr (congrArg _ hx.2.2.2.1) hy.2.2.2.1, hx.2.2.1, hy.2.2.1,
    hx.2.2.2.2.1.trans (congrArg (fun l => applyOps l _) hpx),
    hy.2.2.2.2.1.trans (congrArg (fun l => applyOps l _) hpy)⟩

/-- non-vacuity: a concrete good model (net with a repeated cell, a fixed-only net, a dropped
single-pin net; subset `[1]`), updated twice -/
example :
    let c : Circuit := ⟨[⟨4, 2, 0, 0, .N, false, false, .ANY⟩, ⟨3, 2, 10, 5, .W, false, false, .ANY⟩,
                         ⟨1, 1, -3, 7, .FE, true, true, .ANY⟩],
                        [⟨1, 0, [⟨0, 1, 1⟩, ⟨1, 0, 2⟩, ⟨2, 5, 5⟩, ⟨1, 1, 1⟩]⟩, ⟨1, 0, [⟨0, 0, 0⟩]⟩, ⟨1, 0, [⟨0, 0, 0⟩, ⟨2, 0, 0⟩]⟩], []⟩
    (IncrNet.yTopology c [1]).value = 13 ∧ (IncrNet.run (IncrNet.yTopology c [1]) [(0, 100), (0, -50)]).value = 61 := by
  decide

/-- The hand-written shared geometry in which `Circuit.hpwl`, `IncrNet.*` and the theorems above are stated
(`Cell.placedWidth / placedHeight / placement`, `Circuit.pinXOffset / pinYOffset`, the accessors
`x / y / orientation`, `isTurn`, `Rect.mk`, and `Expand.cellArea` for `Circuit::area`) is *translated from the
C++ source*: the definitions of `Gen/GeomFns.lean`, regenerated on every run from the clang AST of the
whole bodies of these functions (not only their flip sets, as `Gen/OrientTables` does), are equal as
functions to the hand-written ones.  A semantic change of one of these bodies breaks this theorem. -/
theorem geometry_layer_translated :
    Gen.Geom.isTurn = Orient.isTurn ∧
    Gen.Geom.Circuit_x = Cell.x ∧ Gen.Geom.Circuit_y = Cell.y ∧ Gen.Geom.Circuit_orientation = Cell.orient ∧
    Gen.Geom.Circuit_placedWidth = Cell.placedWidth ∧ Gen.Geom.Circuit_placedHeight = Cell.placedHeight ∧
    Gen.Geom.Circuit_pinXOffset = Circuit.pinXOffset ∧ Gen.Geom.Circuit_pinYOffset = Circuit.pinYOffset ∧
    Gen.Geom.Rectangle_ctor = Rect.mk ∧ Gen.Geom.Circuit_placement = Cell.placement ∧
    Gen.Geom.Circuit_area = Expand.cellArea :=
  ⟨GeomTie.gen_isTurn_eq_model, GeomTie.gen_Circuit_x_eq_model, GeomTie.gen_Circuit_y_eq_model,
   GeomTie.gen_Circuit_orientation_eq_model, GeomTie.gen_Circuit_placedWidth_eq_model,
   GeomTie.gen_Circuit_placedHeight_eq_model, GeomTie.gen_Circuit_pinXOffset_eq_model,
   GeomTie.gen_Circuit_pinYOffset_eq_model, GeomTie.gen_Rectangle_ctor_eq_model,
   GeomTie.gen_Circuit_placement_eq_model, GeomTie.gen_Circuit_area_eq_model⟩

/-- The loops of `Circuit::hpwl()` itself are translated from the source: `Gen.Geom.Circuit_hpwl` (two nested
`List.foldl`s of named step functions generated from the clang AST of coloquinte.cpp: the `continue` on empty
nets, the INT_MAX / INT_MIN sentinels read from `std::numeric_limits<int>`, the `std::min/std::max` updates,
`ret += …`) equals the hand-written `Circuit.hpwl` whenever every pin position is a C++ `int`
(`GeomTie.PinsInInt`, decidable), in particular on `Checked.HpwlDom` (where `hpwl_no_overflow` shows that the
C++ arithmetic does not overflow either).  The hypothesis cannot be dropped: over unbounded `Int` a pin beyond
INT_MAX is clipped by the sentinel (example in `Proofs/GeomTie.lean`). -/
theorem geometry_loops_translated (c : Circuit) :
    (GeomTie.PinsInInt c → Gen.Geom.Circuit_hpwl c = c.hpwl) ∧
    (Checked.HpwlDom c → GeomTie.PinsInInt c) ∧
    (Checked.HpwlDom c → Gen.Geom.Circuit_hpwl c = c.hpwl) := by
  have hdom : Checked.HpwlDom c → GeomTie.PinsInInt c := by
    intro h n hn p hp
    have hx := (Checked.pinXC_ok c p (h.2 n hn p hp)).2
    have hy := (Checked.pinYC_ok c p (h.2 n hn p hp)).2
    omega
  exact ⟨GeomTie.gen_Circuit_hpwl_eq_model c, hdom, fun h => GeomTie.gen_Circuit_hpwl_eq_model c (hdom h)⟩

-- non-vacuity: a circuit in both domains (an empty net included), and the value the generated loops compute
example :
    let c : Circuit := ⟨[⟨4, 2, 0, 0, .N, false, false, .ANY⟩, ⟨3, 2, 10, 5, .W, false, false, .ANY⟩],
                        [⟨1, 0, [⟨0, 1, 1⟩, ⟨1, 0, 2⟩]⟩, ⟨1, 0, []⟩], []⟩
    Checked.HpwlDom c ∧ GeomTie.PinsInInt c ∧ Gen.Geom.Circuit_hpwl c = 13 := by decide

end ColoVerif.C09
