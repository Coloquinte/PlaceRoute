import ColoVerif.Proofs.Freespace
import ColoVerif.Proofs.GeomTie
/-
C15 — free row space is exactly the rows minus fixed obstructions.

All theorems are about `Row.freespace` / `Circuit.computeRows` of `Model/Freespace.lean`, the
definitions the driver `drv_C15` executes against `Row::freespace` / `Circuit::computeRows`.
They hold for *all* rows and obstacle lists (no well-formedness hypotheses), with the conventions
of the code: an obstacle is read with min/max put in order on both axes (`Freespace.Obstructs`),
a row's x-range is `[lo, hi) = [min minX maxX, max minX maxX)` (for a well-formed row this is
`[minX, maxX)`, see `lo_wf`/`hi_wf`), and a row with `maxY ≤ minY` has no free space.
-/
namespace ColoVerif.C15
open ColoVerif ColoVerif.Freespace

/-- Every returned segment is a non-empty x-range inside the row's x-range (and exists only for
rows of positive height). -/
theorem freespace_inside (r : Row) (obs : List Rect) (s : Row) (hs : s ∈ r.freespace obs) :
    lo r.rect ≤ s.rect.minX ∧ s.rect.minX < s.rect.maxX ∧ s.rect.maxX ≤ hi r.rect ∧
    r.rect.minY < r.rect.maxY := by
  obtain ⟨iv, hiv, rfl⟩ := (Row.mem_freespace r obs s).mp hs
  obtain ⟨h0, h1, h2, h3⟩ := freeIntervals_inside r.rect obs iv hiv
  exact ⟨h1, h2, h3, h0⟩

/-- The segments come left to right and are pairwise disjoint — in fact strictly separated: a later
segment starts strictly after the end of an earlier one. -/
theorem freespace_disjoint_sorted (r : Row) (obs : List Rect) :
    (r.freespace obs).Pairwise (fun a b => a.rect.maxX < b.rect.minX) := by
  simp only [Row.freespace]
  rw [List.pairwise_map]
  exact freeIntervals_pairwise r.rect obs

/-- Every segment has exactly the row's y-range and keeps its orientation. -/
theorem freespace_full_height_orient (r : Row) (obs : List Rect) (s : Row) (hs : s ∈ r.freespace obs) :
    s.rect.minY = r.rect.minY ∧ s.rect.maxY = r.rect.maxY ∧ s.orient = r.orient := by
  obtain ⟨iv, _, rfl⟩ := (Row.mem_freespace r obs s).mp hs
  exact ⟨rfl, rfl, rfl⟩

/-- No column of a segment is touched by any obstacle; hence the segment does not intersect
(`Rectangle::intersects`) any obstacle that has an interior, nor the normalisation of any obstacle
at all. -/
theorem freespace_misses_obstacles (r : Row) (obs : List Rect) (s : Row) (hs : s ∈ r.freespace obs)
    (o : Rect) (ho : o ∈ obs) :
    (∀ x, s.rect.minX ≤ x → x < s.rect.maxX → ¬ Obstructs r.rect o x) ∧
    (o.minX < o.maxX → o.minY < o.maxY → s.rect.intersects o = false) ∧
    (o.normalize.minX < o.normalize.maxX → o.normalize.minY < o.normalize.maxY →
      s.rect.intersects o.normalize = false) := by
  refine ⟨?_, r.freespace_misses obs s hs o ho, r.freespace_misses_normalize obs s hs o ho⟩
  obtain ⟨iv, hiv, rfl⟩ := (Row.mem_freespace r obs s).mp hs
  exact fun x h1 h2 => freeIntervals_misses r.rect obs iv hiv x h1 h2 o ho

/-- Every column of the row (positive height) that no obstacle touches lies in some segment. -/
theorem freespace_complete (r : Row) (obs : List Rect) (x : Int) (hy : r.rect.minY < r.rect.maxY)
    (hx1 : lo r.rect ≤ x) (hx2 : x < hi r.rect) (hfree : ∀ o ∈ obs, ¬ Obstructs r.rect o x) :
    ∃ s ∈ r.freespace obs, s.rect.minX ≤ x ∧ x < s.rect.maxX := by
  obtain ⟨iv, hiv, h⟩ := freeIntervals_complete r.rect obs x hy hx1 hx2 hfree
  exact ⟨_, (Row.mem_freespace r obs _).mpr ⟨iv, hiv, rfl⟩, h⟩

/-- Maximality.  (1) No segment can be extended: it starts at the row's lower end or right after a
column touched by an obstacle, and it ends at the row's upper end or at a touched column.
(2) Two consecutive segments are separated by a touched column. -/
theorem freespace_maximal (r : Row) (obs : List Rect) :
    (∀ s ∈ r.freespace obs,
      (s.rect.minX = lo r.rect ∨ ∃ o ∈ obs, Obstructs r.rect o (s.rect.minX - 1)) ∧
      (s.rect.maxX = hi r.rect ∨ ∃ o ∈ obs, Obstructs r.rect o s.rect.maxX)) ∧
    (∀ l₁ a b l₂, r.freespace obs = l₁ ++ a :: b :: l₂ →
      ∃ x, a.rect.maxX ≤ x ∧ x < b.rect.minX ∧ ∃ o ∈ obs, Obstructs r.rect o x) := by
  have h1 : ∀ s ∈ r.freespace obs,
      (s.rect.minX = lo r.rect ∨ ∃ o ∈ obs, Obstructs r.rect o (s.rect.minX - 1)) ∧
      (s.rect.maxX = hi r.rect ∨ ∃ o ∈ obs, Obstructs r.rect o s.rect.maxX) := by
    intro s hs
    obtain ⟨iv, hiv, rfl⟩ := (Row.mem_freespace r obs s).mp hs
    exact freeIntervals_maximal r.rect obs iv hiv
  refine ⟨h1, ?_⟩
  intro l₁ a b l₂ heq
  have hp := freespace_disjoint_sorted r obs
  rw [heq, List.pairwise_append] at hp
  have hab : a.rect.maxX < b.rect.minX := (List.pairwise_cons.mp hp.2.1).1 b (by simp)
  have ha : a ∈ r.freespace obs := by rw [heq]; simp
  have hb : b ∈ r.freespace obs := by rw [heq]; simp
  have hbin := freespace_inside r obs b hb
  rcases (h1 a ha).2 with h | h
  · omega
  · exact ⟨a.rect.maxX, Int.le_refl _, hab, h⟩

/-- `computeRows` is the concatenation, in row order, of the rows' free space with respect to the
extra obstacles and the placements of the cells that are fixed *and* obstructions — so the six
theorems above apply to each of its segments with `obs := extra ++ c.obstacles`. -/
theorem computeRows_segments (c : Circuit) (extra : List Rect) (s : Row) :
    s ∈ c.computeRows extra ↔ ∃ r ∈ c.rows, s ∈ r.freespace (extra ++ c.obstacles) := by
  simp only [Circuit.computeRows, List.mem_flatMap]

/-- Which obstacles the circuit contributes: exactly the placements of fixed obstruction cells. -/
theorem obstacles_mem (c : Circuit) (o : Rect) :
    o ∈ c.obstacles ↔ ∃ cl ∈ c.cells, cl.fixed = true ∧ cl.obstruction = true ∧ o = cl.placement := by
  simp only [Circuit.obstacles, List.mem_map, List.mem_filter, Bool.and_eq_true]
  constructor
  · rintro ⟨cl, ⟨h1, h2, h3⟩, rfl⟩; exact ⟨cl, h1, h2, h3, rfl⟩
  · rintro ⟨cl, h1, h2, h3, rfl⟩; exact ⟨cl, ⟨h1, h2, h3⟩, rfl⟩

/-- Movable cells and fixed cells flagged as non-obstructions do not influence the result: inserting,
deleting or changing such cells in any way (`SameUpToIgnored`) leaves `computeRows` unchanged. -/
theorem computeRows_ignores (c c' : Circuit) (extra : List Rect) (hrows : c.rows = c'.rows)
    (hcells : SameUpToIgnored c.cells c'.cells) : c.computeRows extra = c'.computeRows extra := by
  simp only [Circuit.computeRows, hrows, Circuit.obstacles_congr c c' hcells]

/-- Pointwise form: same number of cells and, index by index, the same cell or two cells that are
both movable or non-obstructions (whatever their sizes, positions, orientations, flags). -/
theorem computeRows_ignores_pointwise (c c' : Circuit) (extra : List Rect) (hrows : c.rows = c'.rows)
    (hlen : c.cells.length = c'.cells.length)
    (h : ∀ i, i < c.cells.length → c.cell i = c'.cell i ∨ ((c.cell i).ignored ∧ (c'.cell i).ignored)) :
    c.computeRows extra = c'.computeRows extra :=
  computeRows_ignores c c' extra hrows (SameUpToIgnored.of_pointwise _ _ hlen h)

/-- In particular all ignored cells can be deleted. -/
theorem computeRows_ignores_delete (c : Circuit) (extra : List Rect) :
    c.computeRows extra =
      ({ c with cells := c.cells.filter (fun cl => cl.fixed && cl.obstruction) } : Circuit).computeRows extra := by
  simp only [Circuit.computeRows, Circuit.obstacles, List.filter_filter, Bool.and_self]

/-- for a well-formed row the x-range is `[minX, maxX)` -/
theorem lo_wf (r : Rect) (h : r.minX ≤ r.maxX) : lo r = r.minX := Int.min_eq_left h
theorem hi_wf (r : Rect) (h : r.minX ≤ r.maxX) : hi r = r.maxX := Int.max_eq_right h

/-- for a well-formed obstacle, `Obstructs` is: positive height, open y-ranges meet, `x` in its x-range -/
theorem obstructs_wf (row o : Rect) (x : Int) (hx : o.minX ≤ o.maxX) (hy : o.minY ≤ o.maxY) :
    Obstructs row o x ↔
      (o.minY < o.maxY ∧ o.minY < row.maxY ∧ row.minY < o.maxY ∧ o.minX ≤ x ∧ x < o.maxX) := by
  simp only [Obstructs, Int.min_eq_left hx, Int.max_eq_right hx, Int.min_eq_left hy, Int.max_eq_right hy]

-- the hypotheses of the theorems are satisfiable, and the model computes what the C++ prints
example : (⟨⟨0, 10, 0, 4⟩, .FS⟩ : Row).freespace [⟨7, 8, 0, 4⟩, ⟨3, 5, 1, 2⟩, ⟨1, 2, -3, 9⟩] =
    [⟨⟨0, 1, 0, 4⟩, .FS⟩, ⟨⟨2, 3, 0, 4⟩, .FS⟩, ⟨⟨5, 7, 0, 4⟩, .FS⟩, ⟨⟨8, 10, 0, 4⟩, .FS⟩] := by decide
example : Obstructs ⟨0, 10, 0, 4⟩ ⟨5, 3, 2, 1⟩ 4 := by simp only [Obstructs]; omega
example : ¬ Obstructs ⟨0, 10, 0, 4⟩ ⟨3, 5, 2, 2⟩ 4 := by simp only [Obstructs]; omega
example : SameUpToIgnored [⟨1, 1, 0, 0, .N, false, true, .ANY⟩, ⟨2, 2, 0, 0, .N, true, true, .ANY⟩]
    [⟨2, 2, 0, 0, .N, true, true, .ANY⟩, ⟨9, 9, 5, 5, .E, true, false, .SAME⟩] :=
  .dropLeft rfl (.keep _ (.dropRight rfl .nil))

/-- The shared geometry layer this property's model is written in is *translated from the C++ source*:
the definitions of `Gen/GeomFns.lean`, regenerated on every run from the clang AST of the bodies of
`Rectangle::Rectangle / width / height / intersects / contains / intersection`,
`Circuit::isFixed / isObstruction / x / y / orientation / placedWidth / placedHeight / placement` and
`isTurn`, are equal as functions to the hand-written `Rect.*` / `Cell.*` used by `Row.freespace`,
`Circuit.obstacles` (`Cell.placement` of the cells with `fixed && obstruction`) and by the statements
above (`Rect.intersects`).  A semantic change of one of these bodies breaks this theorem.  (That
`Row::freespace` itself — boost::polygon — computes the model's list is not proved: `drv_C15` tests it.) -/
theorem geometry_layer_translated :
    Gen.Geom.Rectangle_ctor = Rect.mk ∧ Gen.Geom.Rectangle_ctor0 = ⟨0, 0, 0, 0⟩ ∧
    Gen.Geom.Rectangle_width = Rect.width ∧ Gen.Geom.Rectangle_height = Rect.height ∧
    Gen.Geom.Rectangle_intersects = Rect.intersects ∧ Gen.Geom.Rectangle_contains = Rect.contains ∧
    Gen.Geom.Rectangle_intersection = Rect.intersection ∧
    Gen.Geom.isTurn = Orient.isTurn ∧
    Gen.Geom.Circuit_isFixed = Cell.fixed ∧ Gen.Geom.Circuit_isObstruction = Cell.obstruction ∧
    Gen.Geom.Circuit_x = Cell.x ∧ Gen.Geom.Circuit_y = Cell.y ∧ Gen.Geom.Circuit_orientation = Cell.orient ∧
    Gen.Geom.Circuit_placedWidth = Cell.placedWidth ∧ Gen.Geom.Circuit_placedHeight = Cell.placedHeight ∧
    Gen.Geom.Circuit_placement = Cell.placement :=
  ⟨GeomTie.gen_Rectangle_ctor_eq_model, GeomTie.gen_Rectangle_ctor0_eq_model.2,
   GeomTie.gen_Rectangle_width_eq_model, GeomTie.gen_Rectangle_height_eq_model,
   GeomTie.gen_Rectangle_intersects_eq_model, GeomTie.gen_Rectangle_contains_eq_model,
   GeomTie.gen_Rectangle_intersection_eq_model, GeomTie.gen_isTurn_eq_model,
   GeomTie.gen_Circuit_isFixed_eq_model, GeomTie.gen_Circuit_isObstruction_eq_model,
   GeomTie.gen_Circuit_x_eq_model, GeomTie.gen_Circuit_y_eq_model, GeomTie.gen_Circuit_orientation_eq_model,
   GeomTie.gen_Circuit_placedWidth_eq_model, GeomTie.gen_Circuit_placedHeight_eq_model,
   GeomTie.gen_Circuit_placement_eq_model⟩

/-- The two whole-circuit row queries are translated from the source, loops included
(`Gen.Geom.Circuit_computePlacementArea`, `Gen.Geom.Circuit_rowHeight`: `List.foldl`s of named step functions
generated from the clang AST of coloquinte.cpp):
* `Circuit::rowHeight()` equals the model's `Circuit.rowHeight` for every circuit (`none` = throws: no rows, or
  rows of different heights);
* `Circuit::computePlacementArea()` starts its min/max from `std::numeric_limits<int>::max()/min()`, so it equals
  `Circuit.placementArea` when the row coordinates are C++ `int`s (`GeomTie.RowsInInt`, decidable; only the first
  row's matter, and over unbounded `Int` a coordinate beyond INT_MAX would be clipped by the sentinel);
* for a circuit without rows both sides are `Rectangle(0, 0, 0, 0)` resp. `none`, with no hypothesis. -/
theorem geometry_loops_translated :
    Gen.Geom.Circuit_rowHeight = Circuit.rowHeight ∧
    (∀ c : Circuit, GeomTie.RowsInInt c → Gen.Geom.Circuit_computePlacementArea c = c.placementArea) ∧
    (∀ c : Circuit, c.rows = [] →
      Gen.Geom.Circuit_computePlacementArea c = ⟨0, 0, 0, 0⟩ ∧ c.placementArea = ⟨0, 0, 0, 0⟩ ∧
      Gen.Geom.Circuit_rowHeight c = none ∧ c.rowHeight = none) :=
  ⟨GeomTie.gen_Circuit_rowHeight_eq_model, GeomTie.gen_Circuit_computePlacementArea_eq_model, GeomTie.gen_no_rows⟩

-- non-vacuity of `RowsInInt`, and what the generated loops compute
example :
    let c : Circuit := ⟨[], [], [⟨⟨0, 10, 0, 4⟩, .N⟩, ⟨⟨-5, 8, 4, 8⟩, .FS⟩]⟩
    GeomTie.RowsInInt c ∧ Gen.Geom.Circuit_computePlacementArea c = ⟨-5, 10, 0, 8⟩ ∧
      Gen.Geom.Circuit_rowHeight c = some 4 := by decide

end ColoVerif.C15
