import ColoVerif.Proofs.LegalizeIdem
import ColoVerif.Proofs.LegalizeIdemCircuit
import ColoVerif.Proofs.LegalizeF32
/-
C11 — legalization does not move an already legal single-row placement.

The driver `drv_C11` executes `Legalize.legalize` (`legalizeWith f32`: the binary32 key as compiled),
`computeCellOrder f32` and the KF-C11-2 classifier `kf2`/`kf2Class`.  The exact-key statements are about
`legalizeExact = legalizeWith id`, the same function with the other rounding; the driver does not run it.
-/
namespace ColoVerif.C11
open ColoVerif ColoVerif.Legalize ColoVerif.RowLeg

/-- **Order preservation (exact key).**  With `0 ≤ orderingWidth ≤ 1`, for two cells of one row
(same y, same height) of positive width with the first entirely left of the second
(`x₁ + w₁ ≤ x₂`), the pair `(key, index)` of the first is smaller in the order `std::stable_sort`
uses, for every `orderingY`, `orderingHeight` and whatever the indices.  Key computed exactly
(`rnd = id`), which is the property's own assumption on the float key. -/
theorem order_preserved (ww wy wh : Rat) (h0 : 0 ≤ ww) (h1 : ww ≤ 1) (c1 c2 : LCell) (i1 i2 : Nat)
    (hy : c1.ty = c2.ty) (hh : c1.h = c2.h) (hw1 : 0 < c1.w) (hw2 : 0 < c2.w) (hx : c1.tx + c1.w ≤ c2.tx) :
    keyLt (orderKey id ww wy wh c1, i1) (orderKey id ww wy wh c2, i2) = true := by
  have h := orderKey_lt_exact ww wy wh h0 h1 c1 c2 hy hh hw1 hw2 hx
  simp [keyLt, h]

/-- non-vacuity of `order_preserved` (two abutting cells, orderingWidth = 1/5) -/
example : keyLt (orderKey id (1/5) 0 (-1) ⟨4, 2, .ANY, 0, 0, .N⟩, 1) (orderKey id (1/5) 0 (-1) ⟨1, 2, .ANY, 4, 0, .N⟩, 0) = true :=
  order_preserved (1/5) 0 (-1) (by decide +kernel) (by decide +kernel) _ _ 1 0 rfl rfl (by decide) (by decide) (by decide)

/-- **Order preservation under rounding.**  For *any* monotone rounding of the key arithmetic that
is exact on 0, 1 and on the x/width of the two cells (binary32 is, for |v| ≤ 2^24), the key of the
left cell never exceeds the key of the right cell: the computed order can differ from the
left-to-right order only on an exact tie of the rounded keys (then the index decides). -/
theorem order_never_inverted_rounded (rnd : Rat → Rat) (hmono : ∀ a b, a ≤ b → rnd a ≤ rnd b)
    (r0 : rnd 0 = 0) (r1 : rnd 1 = 1) (ww wy wh : Rat) (h0 : 0 ≤ ww) (h1 : ww ≤ 1) (c1 c2 : LCell) (i1 i2 : Nat)
    (hy : c1.ty = c2.ty) (hh : c1.h = c2.h) (hw1 : 0 < c1.w) (hw2 : 0 < c2.w) (hx : c1.tx + c1.w ≤ c2.tx)
    (x1 : rnd (c1.tx : Rat) = c1.tx) (x2 : rnd (c2.tx : Rat) = c2.tx)
    (w1 : rnd (c1.w : Rat) = c1.w) (w2 : rnd (c2.w : Rat) = c2.w) :
    keyLt (orderKey rnd ww wy wh c2, i2) (orderKey rnd ww wy wh c1, i1) = true →
      orderKey rnd ww wy wh c1 = orderKey rnd ww wy wh c2 ∧ i2 < i1 := by
  have h := orderKey_le_rounded rnd hmono r0 r1 ww wy wh h0 h1 c1 c2 hy hh hw1 hw2 hx x1 x2 w1 w2
  intro hk
  simp only [keyLt, Bool.or_eq_true, decide_eq_true_eq, Bool.and_eq_true, beq_iff_eq] at hk
  rcases hk with hk | ⟨hk, hi⟩
  · exact absurd hk (not_lt.mpr h)
  · exact ⟨hk.symm, hi⟩

/-- **No conflict, no move (row legalizer).**  Pushing cells `(width, target)` whose targets are in
order, non-overlapping and inside `[b, e]` (`InOrder`) returns cost 0 at every push (hence at
every `getCost` query, which returns the same value) and `getPlacement` returns the targets. -/
theorem rowleg_no_conflict (b e : Int) (cs : List (Int × Int)) (h : InOrder e b cs) :
    (∀ c ∈ (pushAll (State.new b e) cs).1, c = 0) ∧
    placement (pushAll (State.new b e) cs).2 = cs.map Prod.snd := by
  have := pushAll_no_conflict cs (State.new b e) b [] (nc_new b e) h
  refine ⟨this.1, ?_⟩
  simp [placement, this.2]

/-- non-vacuity of `rowleg_no_conflict` -/
example : InOrder 10 0 [(4, 0), (1, 4), (2, 7)] := by simp [InOrder]

/-- **The cell order is a sorted permutation.**  `computeCellOrder` returns a permutation of the cell
indices, listed in non-decreasing `(key, index)` order (`std::stable_sort` on the pairs), for every
rounding of the key. -/
theorem cell_order_sorted_perm (rnd : Rat → Rat) (ww wy wh : Rat) (cells : List LCell) :
    (computeCellOrder rnd ww wy wh cells).Perm (List.range cells.length) ∧
    (computeCellOrder rnd ww wy wh cells).Pairwise fun i j =>
      ¬ keyLt (orderKey rnd ww wy wh (cellAt cells j), j) (orderKey rnd ww wy wh (cellAt cells i), i) = true :=
  ⟨computeCellOrder_perm rnd ww wy wh cells, computeCellOrder_sorted rnd ww wy wh cells⟩

/-- **`placeCell` keeps a legal cell in its own segment.**  State of `AbacusLegalizer` (`SearchCtx`):
sorted rows of the cell's height, every row legalizer reachable by pushes that fit, and the cell `c`
lies in segment `k0` (`minY = c.ty`, ends inside, orientation not INVALID) to the right of
everything pushed there so far (the no-conflict invariant `NC` with `lo ≤ c.tx`), every other
segment of the same y lying entirely left or right of the cell.  Then the row search of
`placeCell` — upwards from `closestRow`, then downwards, with the early exit — returns exactly
`(bestRow, bestDist) = (k0, 0)` and the row legalizers unchanged: the own segment costs 0 and is
reached before any segment at non-zero y distance; the segments of the same y visited before it
cost > 0 or have no room, and `dist < bestDist` is strict, so later ties do not replace it. -/
theorem abacus_keeps_own_row (S : List Row) (legs : List RowLeg.State) (c : LCell) (k0 : Nat)
    (x : SearchCtx S legs c k0) :
    searchRows (abacusTry S c) S.length (startRow S c.ty) (legs, none) = (legs, some ⟨k0, 0⟩) :=
  x.search

/-- **The Abacus pass moves nothing** when every cell sits in a segment of the (sorted) rows with
the orientation it gets there and the cells of one segment are visited left to right (`IdemOK`): all cells
are reported placed at their own x/y/orientation and `AbacusLegalizer::check` passes. -/
theorem abacus_pass_fixed (R : List Row) (H : Int) (cells : List LCell) (ok : IdemOK (sortRows R) H cells) :
    abacusRun R cells = .ok (cells.map fun c => ⟨c.tx, c.ty, c.torient, true⟩) :=
  abacusRun_fixed R H cells ok

/-- **Idempotence (flagship), for any rounding that keeps the left-to-right order.**
`c` in the C01 domain (`DomC`: the domain as the property spells it out, implied by the decidable
`C01.Dom` through `Legalize.domL_spelled`), all movable cells exactly one row high (`SingleRow`),
legal as C01 defines it over `computeRows` (`LegalC` = `C01.Legal` verbatim) and orientation-legal
(`OrientLegal`: no movable cell has orientation INVALID, and a cell already has the orientation
`cellOrientationInRow` prescribes in the free segment it sits in, if it prescribes one — C01's
`Legal` says nothing about orientations, and without this `legalize` re-orients the cell), parameters
accepted by `check`, and a key rounding `rnd` under which a cell entirely left of another one at the
same y sorts first (`KeyOrder`).  Then `legalize` returns the circuit itself: no position, no
orientation, nothing changes. -/
theorem legalize_idempotent_any_key (rnd : Rat → Rat) (p : Params) (c : Circuit) (hp : p.check = true)
    (hd : DomC c) (hs : SingleRow c) (hl : LegalC c) (ho : OrientLegal c) (hk : KeyOrder rnd p (movable c)) :
    legalizeWith rnd p c = .ok c :=
  legalizeWith_fixed rnd p c hp hd hs hl ho hk

/-- **Idempotence, exact key** (the property's own assumption on the float key), for every
`0 ≤ orderingWidth ≤ 1` and every accepted `orderingY`, `orderingHeight`. -/
theorem legalize_idempotent (p : Params) (c : Circuit) (hp : p.check = true) (h0 : 0 ≤ p.ow) (h1 : p.ow ≤ 1)
    (hd : DomC c) (hs : SingleRow c) (hl : LegalC c) (ho : OrientLegal c) :
    legalizeExact p c = .ok c :=
  legalizeWith_fixed id p c hp hd hs hl ho (keyOrder_exact p h0 h1 _)

/-- **Idempotence, binary32 key as compiled**, whenever the binary32 key of every movable cell equals
the exact key ("coordinates small enough that the float ordering key is exact").  Without that
hypothesis the statement is false for the compiled code: `orderingHeight` is unbounded, a large
`orderingHeight·h` term absorbs the x part of the key, ties are then broken by index and two cells
of a row are swapped. -/
theorem legalize_idempotent_binary32 (p : Params) (c : Circuit) (hp : p.check = true) (h0 : 0 ≤ p.ow) (h1 : p.ow ≤ 1)
    (hd : DomC c) (hs : SingleRow c) (hl : LegalC c) (ho : OrientLegal c)
    (hexact : ∀ lc ∈ movable c, orderKey f32 p.ow p.oy p.oh lc = orderKey id p.ow p.oy p.oh lc) :
    legalize p c = .ok c := by
  apply legalizeWith_fixed f32 p c hp hd hs hl ho
  intro i j hi hj hy hh hw1 hw2 hx
  rw [hexact _ (cellAt_mem _ i hi), hexact _ (cellAt_mem _ j hj)]
  exact keyOrder_exact p h0 h1 _ i j hi hj hy hh hw1 hw2 hx

/-- **Legalizing twice = legalizing once** (exact key, `0 ≤ orderingWidth ≤ 1`), for *arbitrary*
input positions: `c` in the C01 domain (`DomL` = `C01.Dom`, by `rfl` in Properties/C01.lean) with all
movable cells one row high.  If the first call returns `c'` then the second call returns `c'` again.
The first result is in the domain and single-row (sizes and turn status are kept), legal (C01's
`legalize_legal`) and orientation-legal (each cell carries the orientation `getOrientation` gave it
in the one free segment that contains it, and `evaluatePlacement` refused INVALID), so
`legalize_idempotent` applies to it. -/
theorem legalize_twice (p : Params) (c c' : Circuit) (h0 : 0 ≤ p.ow) (h1 : p.ow ≤ 1)
    (hd : DomL c) (hs : SingleRow c) (hfirst : legalizeExact p c = .ok c') :
    legalizeExact p c' = .ok c' :=
  legalizeWith_twice id p c c' hd hs hfirst (keyOrder_exact p h0 h1 _)

/-- the same for any rounding of the key (e.g. the compiled binary32 one) that keeps the
left-to-right order on the first result -/
theorem legalize_twice_any_key (rnd : Rat → Rat) (p : Params) (c c' : Circuit) (hd : DomL c) (hs : SingleRow c)
    (hfirst : legalizeWith rnd p c = .ok c') (hk : KeyOrder rnd p (movable c')) :
    legalizeWith rnd p c' = .ok c' :=
  legalizeWith_twice rnd p c c' hd hs hfirst hk

def positions (c : Circuit) : List (Int × Int) := c.cells.map fun cl => (cl.x, cl.y)
def resultPositions : Except Err Circuit → Option (List (Int × Int))
  | .ok c => some (positions c)
  | .error _ => none

/-! Non-vacuity of the idempotence theorems: a circuit with a split row (fixed obstruction at
x ∈ [4,6) of row 0), two rows of different orientation, polarised and unpolarised cells, two abutting
cells — it satisfies every hypothesis, and the parameters `orderingWidth = 1/5` are accepted. -/
def demoCircuit : Circuit :=
  ⟨[⟨2, 2, 4, 0, .N, true, true, .ANY⟩, ⟨3, 2, 1, 0, .N, false, false, .SAME⟩, ⟨2, 2, 6, 0, .FN, false, false, .ANY⟩,
    ⟨2, 2, 8, 0, .N, false, false, .ANY⟩, ⟨4, 2, 3, 2, .FS, false, false, .SAME⟩],
   [], [⟨⟨0, 10, 0, 2⟩, .N⟩, ⟨⟨0, 10, 2, 4⟩, .FS⟩]⟩
def demoParams : Params := ⟨0, 1/5, -1, 0⟩

theorem demo_rows : demoCircuit.computeRows = [⟨⟨0, 4, 0, 2⟩, .N⟩, ⟨⟨6, 10, 0, 2⟩, .N⟩, ⟨⟨0, 10, 2, 4⟩, .FS⟩] := by
  decide +kernel

example : demoParams.check = true ∧ 0 ≤ demoParams.ow ∧ demoParams.ow ≤ 1 := by decide +kernel

example : DomC demoCircuit ∧ SingleRow demoCircuit ∧ LegalC demoCircuit ∧ OrientLegal demoCircuit := by
  have hH : Circuit.rowHeight demoCircuit = some 2 := by decide
  refine ⟨domL_spelled _ (by unfold DomL; decide), by unfold SingleRow; decide, ⟨?_, by decide⟩, ?_⟩
  · intro H hH' cl hcl hf k hk0 hk
    rw [hH] at hH'
    have : H = 2 := (Option.some.inj hH').symm
    subst this
    rw [demo_rows]
    simp only [demoCircuit, List.mem_cons, List.not_mem_nil, or_false] at hcl
    rcases hcl with rfl | rfl | rfl | rfl | rfl
    · simp at hf
    · have : k = 0 := by change k * 2 < 2 at hk; omega
      subst this
      exact ⟨⟨⟨0, 4, 0, 2⟩, .N⟩, List.mem_cons_self, by decide⟩
    · have : k = 0 := by change k * 2 < 2 at hk; omega
      subst this
      exact ⟨⟨⟨6, 10, 0, 2⟩, .N⟩, List.mem_cons_of_mem _ List.mem_cons_self, by decide⟩
    · have : k = 0 := by change k * 2 < 2 at hk; omega
      subst this
      exact ⟨⟨⟨6, 10, 0, 2⟩, .N⟩, List.mem_cons_of_mem _ List.mem_cons_self, by decide⟩
    · have : k = 0 := by change k * 2 < 2 at hk; omega
      subst this
      exact ⟨⟨⟨0, 10, 2, 4⟩, .FS⟩, List.mem_cons_of_mem _ (List.mem_cons_of_mem _ List.mem_cons_self), by decide⟩
  · unfold OrientLegal
    rw [demo_rows]
    decide

/-- the conclusion on the demo circuit, evaluated by the kernel on the executed model (binary32 and
exact key): positions unchanged -/
example : resultPositions (legalize demoParams demoCircuit) = some (positions demoCircuit) ∧
    resultPositions (legalizeExact demoParams demoCircuit) = some (positions demoCircuit) := by
  decide +kernel

/-- non-vacuity of `legalize_twice`: an illegal input of the domain (all cells piled up at the origin,
one polarised cell with the wrong orientation, a split row): the first call moves and re-orients
cells, the second call changes nothing -/
def pileCircuit : Circuit :=
  ⟨[⟨2, 2, 4, 0, .N, true, true, .ANY⟩, ⟨3, 2, 0, 0, .FN, false, false, .SAME⟩, ⟨2, 2, 0, 0, .FN, false, false, .ANY⟩,
    ⟨2, 2, 0, 0, .N, false, false, .ANY⟩, ⟨4, 2, 0, 0, .N, false, false, .OPPOSITE⟩],
   [], [⟨⟨0, 10, 0, 2⟩, .N⟩, ⟨⟨0, 10, 2, 4⟩, .FS⟩]⟩

example : DomL pileCircuit ∧ SingleRow pileCircuit := by
  constructor
  · unfold DomL; decide
  · unfold SingleRow; decide

def resultCells : Except Err Circuit → Option (List (Int × Int × Orient))
  | .ok c => some (c.cells.map fun cl => (cl.x, cl.y, cl.orient))
  | .error _ => none

def twice (p : Params) (c : Circuit) : Except Err Circuit :=
  match legalizeExact p c with
  | .ok c' => legalizeExact p c'
  | .error e => .error e

example : resultCells (legalizeExact demoParams pileCircuit)
      = some [(4, 0, .N), (0, 2, .FS), (0, 0, .FN), (2, 0, .N), (3, 2, .N)] ∧
    resultCells (twice demoParams pileCircuit) = resultCells (legalizeExact demoParams pileCircuit) := by
  decide +kernel

/-- non-vacuity of `abacus_keeps_own_row`: the context is satisfiable (fresh legalizers, one row) -/
example : SearchCtx [⟨⟨0, 10, 0, 2⟩, .N⟩] [RowLeg.State.new 0 10] ⟨3, 2, .ANY, 4, 0, .N⟩ 0 := by
  refine ⟨by decide, rfl, by simp [SortedBy], ?_, ?_, by decide, rfl, ⟨0, [], nc_new 0 10, by decide⟩, by decide,
    by decide, ?_⟩
  · intro k hk
    have : k = 0 := by simp at hk; omega
    subst this; rfl
  · intro k hk
    have : k = 0 := by simp at hk; omega
    subst this; exact ⟨[], 0, Reach.new⟩
  · intro k hk hne
    simp at hk; omega

/-- **Idempotence, single-segment core** (subsumed by `legalize_idempotent`).  For the cells of one free segment `[b, e]` listed left to right and
`0 ≤ orderingWidth ≤ 1`: their exact ordering keys are strictly increasing, pushing them in that
order costs 0 each time and `getPlacement` returns their own positions. -/
theorem legalize_idempotent_single_segment (b e : Int) (ww wy wh : Rat) (h0 : 0 ≤ ww) (h1 : ww ≤ 1) (ty hh : Int)
    (cs : List LCell) (hs : ∀ c ∈ cs, c.ty = ty ∧ c.h = hh)
    (h : InOrder e b (cs.map fun c => (c.w, c.tx))) :
    (cs.Pairwise fun c1 c2 => orderKey id ww wy wh c1 < orderKey id ww wy wh c2) ∧
    (∀ c ∈ (pushAll (State.new b e) (cs.map fun c => (c.w, c.tx))).1, c = 0) ∧
    placement (pushAll (State.new b e) (cs.map fun c => (c.w, c.tx))).2 = cs.map (·.tx) := by
  refine ⟨inOrder_pairwise e ww wy wh h0 h1 ty hh cs b hs h, ?_⟩
  have := rowleg_no_conflict b e _ h
  refine ⟨this.1, ?_⟩
  rw [this.2]
  simp [List.map_map, Function.comp_def]

/-- The witness of known finding KF-C11-1 (corpus/C11/kf1.json): one row `[0,10]`, two abutting
cells at x = 0 (width 4) and x = 4 (width 1), `orderingWidth = 2` (accepted by
`LegalizationParameters::check`). -/
def wideParams : Params := ⟨0, 2, -1, 0⟩
def wideCircuit : Circuit :=
  ⟨[⟨4, 2, 0, 0, .N, false, false, .ANY⟩, ⟨1, 2, 4, 0, .N, false, false, .ANY⟩], [], [⟨⟨0, 10, 0, 2⟩, .N⟩]⟩

/-- **Idempotence fails outside the unit interval.**  The parameters pass the check, the placement
is legal, and both the binary32 model and the exact-key model move both cells
(keys 0+2·4 = 8 > 4+2·1 = 6 invert the order). -/
theorem idempotence_fails_wide_ordering :
    wideParams.check = true ∧ positions wideCircuit = [(0, 0), (4, 0)] ∧
    resultPositions (legalize wideParams wideCircuit) = some [(1, 0), (0, 0)] ∧
    resultPositions (legalizeExact wideParams wideCircuit) = some [(1, 0), (0, 0)] := by
  decide +kernel

/-- The witness of known finding KF-C11-2 (corpus/C11/kf2.json, replayed on the real code on every run), a
second way out of the property's assumption "the float key is exact" (the hypothesis `hexact` of
`legalize_idempotent_binary32`): `orderingHeight` is not bounded by `LegalizationParameters::check`.
One row `[0,10]`, the cell at x = 4 (width 1) listed before the cell at x = 0 (width 4), `orderingWidth = 1/2`,
`orderingHeight = 2^30`: in binary32 both keys round to 2^31 (the x and width terms are absorbed), the
tie is broken by index, and the compiled code swaps the cells although all coordinates are tiny and
`orderingWidth ∈ [0,1]`; with the exact key nothing moves (`legalize_idempotent`). -/
def tallParams : Params := ⟨0, 1/2, 1073741824, 0⟩
def tallCircuit : Circuit :=
  ⟨[⟨1, 2, 4, 0, .N, false, false, .ANY⟩, ⟨4, 2, 0, 0, .N, false, false, .ANY⟩], [], [⟨⟨0, 10, 0, 2⟩, .N⟩]⟩

theorem idempotence_binary32_needs_exact_key :
    tallParams.check = true ∧ 0 ≤ tallParams.ow ∧ tallParams.ow ≤ 1 ∧
    positions tallCircuit = [(4, 0), (0, 0)] ∧
    resultPositions (legalize tallParams tallCircuit) = some [(0, 0), (1, 0)] ∧
    resultPositions (legalizeExact tallParams tallCircuit) = some [(4, 0), (0, 0)] ∧
    orderKey f32 tallParams.ow tallParams.oy tallParams.oh ⟨1, 2, .ANY, 4, 0, .N⟩
      = orderKey f32 tallParams.ow tallParams.oy tallParams.oh ⟨4, 2, .ANY, 0, 0, .N⟩ := by
  decide +kernel

/-- **binary32 rounding is monotone** (`f32`: the model's round-to-nearest-even binary32 rounding over
`Rat`, subnormals included, no overflow). -/
theorem f32_monotone (x y : Rat) (h : x ≤ y) : f32 x ≤ f32 y := f32_mono h

/-- **binary32 rounding is exact on the integers `|v| ≤ 2^24`** (cell coordinates and widths of the
property's domain, `|v| < 2^20`, are far inside). -/
theorem f32_exact_on_integers (v : Int) (hv : -16777216 ≤ v ∧ v ≤ 16777216) : f32 (v : Rat) = (v : Rat) :=
  f32_exact_int v hv

/-- **binary32 rounding is exact on dyadic rationals with at most 24 significant bits**: `m·2^k`,
`|m| ≤ 2^24`, down to the subnormal exponent `k ≥ −149`. -/
theorem f32_exact_on_dyadics (m k : Int) (hm : -16777216 ≤ m ∧ m ≤ 16777216) (hk : -149 ≤ k) :
    f32 ((m : Rat) * pow2 k) = (m : Rat) * pow2 k :=
  f32_exact_dyadic m k hm hk

/-- the bounds are tight and the rounding is not the identity: `2^24 + 1` rounds to `2^24` (tie to even),
`2^24 + 3` to `2^24 + 4`, `1/10` is not a binary32 value, `3·2^−149` is a (subnormal) one, `2^−150`
rounds to 0 (tie to even) -/
example : f32 16777217 = 16777216 ∧ f32 16777219 = 16777220 ∧ f32 (1 / 10) ≠ 1 / 10 ∧
    f32 (3 * pow2 (-149)) = 3 * pow2 (-149) ∧ f32 (pow2 (-150)) = 0 ∧ f32 (-(1 / 3)) = -f32 (1 / 3) := by
  decide +kernel

/-- **Order preservation in binary32.**  `order_never_inverted_rounded` instantiated with the compiled
rounding: for `0 ≤ orderingWidth ≤ 1`, two cells of one row with x and width `≤ 2^24` in absolute value,
the first entirely left of the second, *every* `orderingY` and `orderingHeight` (however large): the
binary32 key of the left cell never exceeds the key of the right one; the computed order differs from the
left-to-right order only on an exact tie of the rounded keys with inverted indices.  So under these
bounds the class of KF-C11-2 consists of index-inverted ties only. -/
theorem order_never_inverted_binary32 (ww wy wh : Rat) (h0 : 0 ≤ ww) (h1 : ww ≤ 1) (c1 c2 : LCell) (i1 i2 : Nat)
    (hy : c1.ty = c2.ty) (hh : c1.h = c2.h) (hw1 : 0 < c1.w) (hw2 : 0 < c2.w) (hx : c1.tx + c1.w ≤ c2.tx)
    (x1 : -16777216 ≤ c1.tx ∧ c1.tx ≤ 16777216) (x2 : -16777216 ≤ c2.tx ∧ c2.tx ≤ 16777216)
    (w1 : c1.w ≤ 16777216) (w2 : c2.w ≤ 16777216) :
    keyLt (orderKey f32 ww wy wh c2, i2) (orderKey f32 ww wy wh c1, i1) = true →
      orderKey f32 ww wy wh c1 = orderKey f32 ww wy wh c2 ∧ i2 < i1 :=
  order_never_inverted_rounded f32 (fun _ _ h => f32_mono h) f32_zero f32_one ww wy wh h0 h1 c1 c2 i1 i2 hy hh hw1 hw2 hx
    (f32_exact_int _ x1) (f32_exact_int _ x2) (f32_exact_int _ ⟨by omega, w1⟩) (f32_exact_int _ ⟨by omega, w2⟩)

/-- **The KF-C11-2 classifier is the negation of the order-keeping hypothesis.**  `kf2ClassSeg` is the
executable classifier the driver runs against the harness' own binary32 computation (op `kf2`): some cell
entirely left of another one *in the same free segment* has the larger rounded key, or the same key and
the larger index.  It is false exactly when `KeyOrderSeg` holds, which is all the idempotence proof needs
of the key (the visiting order of cells of different segments is irrelevant). -/
theorem kf2_class_iff_not_key_order (rnd : Rat → Rat) (p : Params) (R : List Row) (cells : List LCell) :
    kf2ClassSeg rnd p R cells = false ↔ KeyOrderSeg rnd p R cells :=
  kf2ClassSeg_false_iff rnd p R cells

/-- **Idempotence for any key rounding that keeps the left-to-right order inside every free segment**
(strengthens `legalize_idempotent_any_key`: pairs of cells of different segments need not be ordered). -/
theorem legalize_idempotent_any_key_seg (rnd : Rat → Rat) (p : Params) (c : Circuit) (hp : p.check = true)
    (hd : DomC c) (hs : SingleRow c) (hl : LegalC c) (ho : OrientLegal c)
    (hk : KeyOrderSeg rnd p c.computeRows (movable c)) :
    legalizeWith rnd p c = .ok c :=
  legalizeWith_fixed_seg rnd p c hp hd hs hl ho hk

/-- **Idempotence, binary32 key as compiled, outside the class of KF-C11-2.**  `0 ≤ orderingWidth ≤ 1`,
x and width of the movable cells `≤ 2^24` in absolute value (`SmallCoords`; the property says `< 2^20`),
every accepted `orderingY`/`orderingHeight`, and no two cells of one free segment, one entirely left of the
other, whose binary32 keys are *equal* with the left cell having the larger index (`NoInvertedTie`; by
`order_never_inverted_binary32` this is all that is left of the KF-C11-2 class under these bounds).  Then
the compiled `legalize` returns the circuit itself.  No exactness of the key is assumed: `f32` is monotone
and exact on the integer data, so rounding can merge keys but never invert them. -/
theorem legalize_idempotent_binary32_classified (p : Params) (c : Circuit) (hp : p.check = true)
    (h0 : 0 ≤ p.ow) (h1 : p.ow ≤ 1) (hd : DomC c) (hs : SingleRow c) (hl : LegalC c) (ho : OrientLegal c)
    (hsmall : SmallCoords (movable c)) (hnokf : NoInvertedTie p c.computeRows (movable c)) :
    legalize p c = .ok c :=
  legalizeWith_fixed_seg f32 p c hp hd hs hl ho (keyOrderSeg_f32_of_noInvertedTie p h0 h1 _ _ hsmall hnokf)

/-- **The same with the executable classifier** `kf2 p c = kf2ClassSeg f32 p c.computeRows (movable c)`
(whatever `orderingWidth` and the coordinate sizes): a legal single-row placement on which the classifier
is false is a fixed point of the compiled `legalize`.  For `orderingWidth ∉ [0,1]` (KF-C11-1) the class
also contains the strict inversions. -/
theorem legalize_idempotent_binary32_not_kf2 (p : Params) (c : Circuit) (hp : p.check = true)
    (hd : DomC c) (hs : SingleRow c) (hl : LegalC c) (ho : OrientLegal c) (hk : kf2 p c = false) :
    legalize p c = .ok c :=
  legalizeWith_fixed_seg f32 p c hp hd hs hl ho ((kf2ClassSeg_false_iff f32 p _ _).mp hk)

/-- legalizing twice = legalizing once for the compiled key when the first result is outside the class -/
theorem legalize_twice_binary32_not_kf2 (p : Params) (c c' : Circuit) (hd : DomL c) (hs : SingleRow c)
    (hfirst : legalize p c = .ok c') (hk : kf2 p c' = false) :
    legalize p c' = .ok c' :=
  legalizeWith_twice_seg f32 p c c' hd hs hfirst ((kf2ClassSeg_false_iff f32 p _ _).mp hk)

/-- non-vacuity: the demo circuit (hypotheses `DomC … OrientLegal` shown above) is outside the class, has
small coordinates and no inverted tie. -/
example : kf2 demoParams demoCircuit = false ∧ SmallCoords (movable demoCircuit) ∧
    NoInvertedTie demoParams demoCircuit.computeRows (movable demoCircuit) := by
  have h : kf2 demoParams demoCircuit = false := by decide +kernel
  refine ⟨h, by unfold SmallCoords; decide,
    noInvertedTie_of_keyOrderSeg _ _ _ ((kf2ClassSeg_false_iff f32 _ _ _).mp h)⟩

/-- a row `[0,10]` cut by a fixed obstruction at `[4,6)`, the cell of the right segment listed before the
cell of the left segment, `orderingHeight = 2^30` -/
def splitCircuit : Circuit :=
  ⟨[⟨2, 2, 4, 0, .N, true, true, .ANY⟩, ⟨2, 2, 7, 0, .N, false, false, .ANY⟩, ⟨2, 2, 1, 0, .N, false, false, .ANY⟩],
   [], [⟨⟨0, 10, 0, 2⟩, .N⟩]⟩

/-- The class on the witnesses.  The KF-C11-2 witness is inside the class for the binary32 key and outside
for the exact key; with the same `orderingHeight = 2^30` and the cells listed left to right the keys still
tie but the index order agrees: outside the class, and stable.  On `splitCircuit` the keys tie and the
indices are inverted, but the two cells sit in different free segments: inside the row-wide class
`kf2Class`, outside the classifier `kf2`, and the compiled `legalize` moves nothing. -/
theorem kf2_witness_in_class :
    kf2 tallParams tallCircuit = true ∧ kf2ClassSeg id tallParams tallCircuit.computeRows (movable tallCircuit) = false ∧
    kf2 tallParams ⟨tallCircuit.cells.reverse, [], tallCircuit.rows⟩ = false ∧
    resultPositions (legalize tallParams ⟨tallCircuit.cells.reverse, [], tallCircuit.rows⟩) = some [(0, 0), (4, 0)] ∧
    kf2Class f32 tallParams (movable splitCircuit) = true ∧ kf2 tallParams splitCircuit = false ∧
    resultPositions (legalize tallParams splitCircuit) = some (positions splitCircuit) := by
  decide +kernel

end ColoVerif.C11
