import ColoVerif.Gen.Api
import ColoVerif.Gen.ApiSizes
import ColoVerif.Gen.ApiExpansion
import ColoVerif.Gen.WriteSets
import ColoVerif.Proofs.BusyLemmas
import ColoVerif.Proofs.BusySizes
import ColoVerif.Proofs.NetsValue
import ColoVerif.Proofs.NetsValueTie
import ColoVerif.Model.LegacyBusy
import ColoVerif.Properties.C01
/-
C10 — busy-circuit protocol and exception safety of placement calls.

The theorems are about `Gen.Api.setters` / `Gen.Api.placementCalls`, regenerated from
`src/coloquinte.cpp` on every run, under the semantics of `Model/Busy.lean` (which the driver
`drv_C10` executes on the traces observed by `harness/h_C10.cpp`).
-/
namespace ColoVerif.C10
open ColoVerif.ApiIR ColoVerif.Busy ColoVerif.Gen

/-- The structural setters.  This list is part of the specification (properties.jsonl, C10) and is
written by hand; it is not derived from the source. -/
def structuralSetters : List String :=
  ["addNet", "setNets", "setRows", "setupRows", "setCellIsFixed", "setCellIsObstruction", "setCellRowPolarity"]

/-- Every structural setter exists in the translated API (so the quantifier of `busy_refuses`
ranges over all seven). -/
theorem structural_setters_translated :
    ∀ n ∈ structuralSetters, (lookup Api.setters n).isSome = true := by decide +kernel

/-- The translated placement calls are exactly the three public ones. -/
theorem placement_calls_translated :
    Api.placementCalls.map (·.name) = ["placeGlobal", "legalize", "placeDetailed"] := by decide +kernel

/-- While the circuit is in use every structural setter throws — for all arguments — and leaves the
circuit equal (no member written, flag unchanged): in the translated body the busy guard precedes
the first write, return or call. -/
theorem busy_refuses :
    ∀ f ∈ Api.setters, f.name ∈ structuralSetters →
      ∀ (env : Env) (st : St), st.inUse = true → exec noCall env f.body st = ⟨.thrown, st, []⟩ := by
  intro f hf hn env st hu
  have key : ∀ f ∈ Api.setters, f.name ∈ structuralSetters → guardFirst f.body = true := by decide +kernel
  exact exec_guardFirst noCall env f.body st (key f hf hn) hu

/-- While a placement call is in progress the flag stays set: across any trace of callbacks, each
running any setters with any arguments (no setter touches the flag) and any *nested placement calls*
on the same circuit, to any depth, however they end (each placement call puts the flag back to what
it was when it started).  Traces are prefix-closed, so this is the state at every point of every
callback of every stage, and `busy_refuses` applies there. -/
theorem busy_in_every_callback :
    ∀ (t : Tr) (st : St), st.inUse = true → (runTr Api.setters Api.placementCalls t st).st.inUse = true := by
  intro t st hu
  rw [runTr_flag Api.setters Api.placementCalls (fun f hf => (setters_plain f hf).1)
    (fun f hf => restoringCall_first _ (placement_calls_restoring f hf)) t st, hu]

/-- A placement call is: run the stage with the flag set, then give the flag the value it had when
the call started — whether the stage returned or threw.  (So the stage of an outermost call, and of
a call nested in a callback alike, runs busy; with `busy_in_every_callback` it is busy throughout.) -/
theorem placement_runs_stage_busy :
    ∀ f ∈ Api.placementCalls, ∀ (t : Tr) (st : St),
      execPlacement Api.setters Api.placementCalls f.body t st =
        (runTr Api.setters Api.placementCalls t { st with inUse := true }).restore st.inUse := by
  intro f hf t st
  exact exec_restoringCall _ emptyEnv f.body (placement_calls_restoring f hf) st

/-- A placement call made while another one is in progress (from a callback) does not release the
circuit when it ends, by return or by exception: the flag is what it was. -/
theorem nested_call_keeps_busy :
    ∀ f ∈ Api.placementCalls, ∀ (t : Tr) (st : St),
      (execPlacement Api.setters Api.placementCalls f.body t st).st.inUse = st.inUse := by
  intro f hf t st
  exact exec_restoringFirst _ emptyEnv f.body st (restoringCall_first _ (placement_calls_restoring f hf))

/-- After the OUTERMOST placement call (one that started on a circuit not in use) has ended — by
return, by an exception of a callback at any index, by an exception of the stage at any point
(infeasible legalization, rejected parameters, …), after any nested calls — the circuit is no longer
in use.  For every stage trace and every initial state that is not in use. -/
theorem busy_released :
    ∀ f ∈ Api.placementCalls, ∀ (t : Tr) (st : St), st.inUse = false →
      (execPlacement Api.setters Api.placementCalls f.body t st).st.inUse = false := by
  intro f hf t st h0
  rw [nested_call_keeps_busy f hf t st, h0]

/-- An exception thrown inside propagates to the caller: if every way to the end of the stage finds it
throwing, the call does not return normally.  (That the call always ends, by return or by the exception,
and is never stuck is `placement_returns_or_throws`.) -/
theorem exception_propagates :
    ∀ f ∈ Api.placementCalls, ∀ (t : Tr) (st : St), t.endsThrowing = true →
      (execPlacement Api.setters Api.placementCalls f.body t st).out ≠ .normal := by
  intro f hf t st ht
  exact execPlacement_propagates Api.setters Api.placementCalls f.body
    (restoringCall_guarded _ (placement_calls_restoring f hf)) t ht st

/-- A placement call whose callbacks invoke (any) translated setters and placement calls ends by return
or by an exception: no path of the translated API aborts or gets stuck (no `assert` is left in a setter). -/
theorem placement_returns_or_throws :
    ∀ f ∈ Api.placementCalls, ∀ (t : Tr) (st : St), t.known Api.setters Api.placementCalls = true →
      (execPlacement Api.setters Api.placementCalls f.body t st).out = .normal ∨
      (execPlacement Api.setters Api.placementCalls f.body t st).out = .thrown := by
  intro f hf t st hk
  have k1 : ∀ f ∈ Api.placementCalls, guardedCall f.body = true :=
    fun f hf => restoringCall_guarded _ (placement_calls_restoring f hf)
  exact execPlacement_ended Api.setters Api.placementCalls (fun f hf => (setters_plain f hf).2) k1 f.body (k1 f hf) t st hk

/-- **Third clause: a legalization that failed has left the placement exactly as it was** — restated
from C01 (`C01.failed_legalize_unchanged`), over the legalization model that `drv_C01` executes
against `Circuit::legalize`: `legalizeInPlace` is the call as the C++ sees it (the circuit object after
the call and the exception, if any).  If the call fails, for whatever reason (rejected parameters,
Tetris/Abacus failure, a cell that could not be placed), the circuit after the call is the circuit
before it — every cell position and orientation, and everything else; the error was raised before
`exportPlacement`, the only writer.  For every circuit, all parameters, every rounding of the ordering key. -/
theorem failed_legalize_leaves_placement (rnd : Rat → Rat) (p : Legalize.Params) (c : ColoVerif.Circuit) (e : Legalize.Err)
    (h : Legalize.legalizeWith rnd p c = .error e) :
    (C01.legalizeInPlace rnd p c).1 = c ∧ (C01.legalizeInPlace rnd p c).2 = some e ∧
    ((p.check = false ∧ e = .params) ∨ (p.check = true ∧ Legalize.run rnd p (Legalize.fromCircuit c) = .error e)) := by
  obtain ⟨h1, h2⟩ := C01.failed_legalize_unchanged rnd p c e h
  exact ⟨by rw [h1], by rw [h1], h2⟩

/-! Non-vacuity: a concrete trace.  The callback calls `setRows` (refused, nothing written), then
`legalize` on the same circuit (its stage throws: the nested call ends by the exception, circuit
still in use), `setRows` again (still refused) and then throws; the outer call ends with the
exception and the flag cleared. -/
example :
    ∀ f ∈ Api.placementCalls, f.name = "placeDetailed" →
    execPlacement Api.setters Api.placementCalls f.body
      (.setter ⟨"setRows", ⟨3, 0, [⟨2, [], 0⟩]⟩⟩ (.nested "legalize" (.done true)
        (.setter ⟨"setRows", ⟨3, 0, [⟨2, [], 0⟩]⟩⟩ (.cbEnd true (.done false))))) ⟨false, []⟩
      = ⟨.thrown, ⟨false, []⟩, ["set setRows throw:runtime_error w=0", "end throw inuse=1",
                                 "set setRows throw:runtime_error w=0"]⟩ := by decide +kernel

example : ∃ f ∈ Api.setters, f.name ∈ structuralSetters := by decide +kernel
example : (Tr.cbEnd true (.done false)).endsThrowing = true := by decide

/- "… and the circuit is internally consistent": the sizes of the member vectors.
The theorems below are about `Gen.ApiSizes` (every setter, the constructor and the expansion API with the effect
of each member write on the length of the written member — regenerated from `src/coloquinte.cpp` on every run),
`Gen.Api.placementCalls` and `Gen.WriteSets.writeSites`, under the size semantics of `Model/BusySizes.lean`
(which `drv_C10` executes for every setter call the harness makes: `szset`). -/
section Sizes
open ColoVerif.BusySizes

/-- Forgetting the size effects gives back the skeletons the other theorems of C10/C19 are about: the sized setters
are `Gen.Api.setters`, the sized constructor is `Gen.ApiExpansion.constructors`, each sized expansion method is in
`Gen.ApiExpansion.validated` and every method there that writes a member has a sized version; a written `netLimits_`
always comes with its new last element. -/
theorem sized_tables_erase_to_api :
    ApiSizes.setters.map SFn.erased = Api.setters.map FnDef.view ∧
    ApiSizes.constructors.map SFn.erased = ApiExpansion.constructors.map FnDef.view ∧
    (∀ f ∈ ApiSizes.expansion, (ApiExpansion.validated.map FnDef.view).contains f.erased = true) ∧
    (∀ g ∈ ApiExpansion.validated, (g.body.any fun s => match s with | .assign _ => true | _ => false) = true →
      (ApiSizes.expansion.map (·.name)).contains g.name = true) ∧
    (∀ f ∈ ApiSizes.setters ++ ApiSizes.constructors ++ ApiSizes.expansion, f.body.all SStmt.wf = true) := by
  decide +kernel

/-- Every public non-const method of `Circuit` (`Gen.ApiExpansion.publicMutators`: the whole class surface) is one of:
a setter, a placement call, an expansion method — the three kinds of `ApiCall` —, an inline `(int effort)` wrapper that
only calls placement calls, or a method whose skeleton writes no member (the Disruption methods).  So a history of
`ApiCall`s is any history of calls of the public API. -/
theorem every_public_mutator_is_an_api_call :
    ∀ m ∈ ApiExpansion.publicMutators,
      (ApiSizes.setters.map (·.name)).contains m.1 = true ∨ (Api.placementCalls.map (·.name)).contains m.1 = true ∨
      (ApiSizes.expansion.map (·.name)).contains m.1 = true ∨
      (ApiExpansion.effortWrappers.any fun w => w.1 == m.1 &&
        w.2.all fun c => (Api.placementCalls.map (·.name)).contains c.1) = true ∨
      (ApiExpansion.validated.any fun g => g.name == m.1 &&
        g.body.all fun s => match s with | .assign _ => false | _ => true) = true := by
  decide +kernel

/-- the member a write site of the placers targets (`none`: the in-use flag or a method call) -/
def targetMember : WriteSets.Target → Option String
  | .cellX_ => some "cellX_"
  | .cellY_ => some "cellY_"
  | .cellOrientation_ => some "cellOrientation_"
  | .hasCellSizeUpdate_ => some "hasCellSizeUpdate_"
  | .hasNetUpdate_ => some "hasNetUpdate_"
  | .otherField n => some n
  | .isInUse_ => none
  | .method _ => none

def siteWrite (w : WriteSets.WriteSite) : Option (String × WKind) :=
  match w.kind, targetMember w.target with
  | .element, some m => some (m, .element)
  | .whole, some m => some (m, .whole)
  | _, _ => none

/-- what the placers (everything reachable from the three placement calls) write, from `Gen.WriteSets` -/
def placerWrites : List (String × WKind) := WriteSets.writeSites.filterMap siteWrite

/-- a write site is an element write or a whole write of a data member, or the scoped guard of the flag — not a
non-const method call on the circuit or on one of its members -/
def siteUnderstood (w : WriteSets.WriteSite) : Bool :=
  match w.kind, w.target with
  | .scoped, .isInUse_ => true
  | .scopedRestore, .isInUse_ => true
  | .element, t => (targetMember t).isSome
  | .whole, t => (targetMember t).isSome
  | _, _ => false

/-- **The placers cannot change a length.**  Every site at which the code reachable from the placement calls can
modify the circuit is an element write `member[i] = …` (which cannot change `member.size()`), a whole write of a
member that is not one of the vectors of the invariant (the two scalar update flags), or the scoped in-use guard.
There is no `resize`/`push_back`/`clear`/whole assignment of a vector and no call of a non-const `Circuit` method. -/
theorem placer_writes_keep_lengths :
    WriteSets.writeSites.all siteUnderstood = true ∧
    (∀ p ∈ placerWrites, p.2 = WKind.whole → p.1 ∉ trackedMembers) ∧
    WriteSets.constEscapes.length = 0 := by
  decide +kernel

/-- the tables of the public API, all regenerated from the source -/
def apiTables : Tables := ⟨ApiSizes.setters, ApiSizes.expansion, Api.placementCalls, placerWrites⟩

/-- **The constructor establishes the invariant.**  `Circuit(n)` on a default-constructed object (every vector
empty): for `n ≥ 0` it returns with `nbCells() = n`, the circuit not in use and consistent sizes; for `n < 0` it throws
(no object exists). -/
theorem constructor_sizes_consistent :
    ∀ f ∈ ApiSizes.constructors, ∀ (args : List Arg) (free : Int),
      (0 ≤ (argAt args 0).ival →
        (execS noCallS args free f.body ⟨false, Sz.empty⟩).out = .normal ∧
        (execS noCallS args free f.body ⟨false, Sz.empty⟩).st.inUse = false ∧
        (execS noCallS args free f.body ⟨false, Sz.empty⟩).st.sz.nbCells = (argAt args 0).ival ∧
        SizesConsistent (execS noCallS args free f.body ⟨false, Sz.empty⟩).st.sz) ∧
      ((argAt args 0).ival < 0 → (execS noCallS args free f.body ⟨false, Sz.empty⟩).out = .thrown) := by
  simp only [ApiSizes.constructors, List.forall_mem_cons]
  repeat' apply And.intro
  all_goals first
    | exact fun x hx => absurd hx List.not_mem_nil
    | (intro args free
       simp only [execS, Cond.eval_iff, Cond.holds, Expr.eval, envOf_arg]
       constructor
       · intro h
         rw [if_neg (by omega), sizesConsistent_def]
         refine ⟨rfl, rfl, ?_⟩
         simp only [applyEff, LExpr.eval, Sz.nbCells, Sz.len_set_same, Sz.len_set_ne, Sz.empty, ne_eq,
           String.reduceEq, not_false_eq_true, true_and, and_true]
         omega
       · intro h
         rw [if_pos (by omega)])

set_option linter.unusedSimpArgs false in
/-- **Every setter and every expansion method preserves the invariant** — for all arguments (a vector argument has a
non-negative `size()`), in every state (in use or not), whether the call returns, returns early or throws at any of
its checks. -/
theorem setter_preserves_sizes :
    ∀ f ∈ ApiSizes.setters ++ ApiSizes.expansion, ∀ (args : List Arg) (free : Int) (st : SSt),
      ArgsOk args → SizesConsistent st.sz → SizesConsistent (execS noCallS args free f.body st).st.sz := by
  simp only [ApiSizes.setters, ApiSizes.expansion, List.cons_append, List.nil_append, List.forall_mem_cons]
  repeat' apply And.intro
  all_goals first
    | exact fun x hx => absurd hx List.not_mem_nil
    | (intro args free st ha hc
       have a0 := argLen_nonneg ha 0
       have a1 := argLen_nonneg ha 1
       have a2 := argLen_nonneg ha 2
       have a3 := argLen_nonneg ha 3
       have a4 := argLen_nonneg ha 4
       -- one case per way through the body: the exits before the first write leave the sizes as they are
       simp only [execS, Cond.eval_iff, Cond.holds, Expr.eval, envOf_arg,
         envOf_nbCells, envOf_nbNets]
       repeat' first
         | exact hc
         | refine res_ite (P := fun r => SizesConsistent r.st.sz) (fun _ => ?_) (fun _ => ?_)
       -- after the last write: the twelve clauses, each length read off the writes, the old ones rewritten by `hc`
       all_goals
         rw [sizesConsistent_def] at hc ⊢
         obtain ⟨h1, h2, h3, h4, h5, h6, h7, h8, h9, h10, h11, h12⟩ := hc
         simp only [applyEff, LExpr.eval, Sz.len_set_same, Sz.len_set_ne, Sz.last_set, ne_eq, String.reduceEq,
           not_false_eq_true, h1, h2, h3, h4, h5, h6, h7, h9, h10, h11, h12, true_and, and_true]
         omega)

/-- … as a statement about calls by name (`runFnS`; a name that is not in the table leaves the circuit alone). -/
theorem api_call_preserves_sizes :
    ∀ (c : ApiCall) (st : SSt), c.argsOk → SizesConsistent st.sz → SizesConsistent (runApi apiTables c st).st.sz := by
  intro c st ha h
  have hs := setter_preserves_sizes
  refine runApi_preserves SizesConsistent apiTables ?_ ?_ ?_ c st ha h
  · exact runFnS_preserves _ _ (fun f hf => hs f (List.mem_append_left _ hf))
  · exact runFnS_preserves _ _ (fun f hf => hs f (List.mem_append_right _ hf))
  · intro m n s hm hc
    exact consistent_set_untracked n (placer_writes_keep_lengths.2.1 (m, .whole) hm rfl) hc

/-- **The sizes are consistent after any history.**  Start from the constructor (with any argument it accepts) and
make any finite sequence of calls of the public API, each with arbitrary arguments: setters (accepted, refused by one
of their checks, refused because the circuit is busy), expansion calls, and placement calls whose stage is an
arbitrary trace — callbacks that call any setters and any *nested placement calls* to any depth, element/whole writes
by the placers at the sites of `Gen.WriteSets`, exceptions of setters, callbacks, nested calls and stages at any point.
The circuit the last call leaves has consistent sizes.  Histories and traces are prefix-closed, so this holds after
every call of the history and at every point inside every stage. -/
theorem sizes_consistent_after_any_history :
    ∀ (ctor : SCall) (cs : List ApiCall),
      (runCtorS ApiSizes.constructors ctor).out = .normal → (∀ c ∈ cs, c.argsOk) →
      SizesConsistent (runHistory apiTables cs (runCtorS ApiSizes.constructors ctor).st).sz := by
  intro ctor cs hn ha
  have h0 : SizesConsistent (runCtorS ApiSizes.constructors ctor).st.sz := by
    unfold runCtorS runFnS lookupS at hn ⊢
    cases hf : ApiSizes.constructors.find? (fun f => f.name == ctor.name) with
    | none => rw [hf] at hn; cases hn
    | some f =>
      rw [hf] at hn
      simp only [] at hn ⊢
      have hc := constructor_sizes_consistent f (List.mem_of_find?_eq_some hf) ctor.args ctor.free
      by_cases hneg : 0 ≤ (argAt ctor.args 0).ival
      · exact (hc.1 hneg).2.2.2
      · rw [hc.2 (by omega)] at hn; cases hn
  exact runHistory_preserves SizesConsistent apiTables api_call_preserves_sizes cs _ ha h0

/-- **The size clauses of `Circuit::check()` follow from the invariant.**  `Gen.ApiSizes.checkClauses` is `check()` as
translated from the source (13 `if (c) throw` clauses) and `Gen.ApiSizes.getters` the inline `nbCells()`/`nbNets()`/
`nbPins()`.  (1) The getters are what the model reads from the sizes.  (2) Twelve clauses compare sizes (the seven
per-cell vectors `check()` looks at against `nbCells()`, `netLimits_.empty()`, `netWeights_` against `nbNets()`, the three
per-pin vectors against `nbPins()`) and are `checkSizeClauses`; exactly one, `netLimits_.front() != 0`, is about a value
and is not covered (nor are the values C10 does not speak about: sortedness of the limits, pin cells in range — C19 has
the refusals).  (3) On consistent sizes no size clause fires.  (4) Conversely the size clauses say everything the
invariant says except `cellRowPolarity_.size() == nbCells()`, which `check()` omits and the invariant has. -/
theorem check_size_clauses_hold :
    (∀ s : Sz, getterVal ApiSizes.getters s "nbCells" = s.nbCells ∧ getterVal ApiSizes.getters s "nbNets" = s.nbNets ∧
      getterVal ApiSizes.getters s "nbPins" = s.nbPins) ∧
    (∀ s : Sz, ApiSizes.checkClauses.filterMap (·.fires ApiSizes.getters s) = (checkSizeClauses s).map (·.1)) ∧
    ApiSizes.checkClauses.filter (fun c => (c.fires ApiSizes.getters Sz.empty).isNone) = [.frontNe "netLimits_" 0] ∧
    (∀ s : Sz, SizesConsistent s → ∀ c ∈ ApiSizes.checkClauses, c.fires ApiSizes.getters s ≠ some true) ∧
    (∀ s : Sz, checkPasses (checkSizeClauses s) = true ∧ s.len "cellRowPolarity_" = s.nbCells ∧ 0 ≤ s.len "netLimits_" ↔
      SizesConsistent s) := by
  have h2 : ∀ s : Sz, ApiSizes.checkClauses.filterMap (·.fires ApiSizes.getters s) = (checkSizeClauses s).map (·.1) :=
    fun s => rfl
  exact ⟨fun s => ⟨rfl, rfl, rfl⟩, h2, by decide +kernel, fun s => no_size_clause_fires (h2 s), checkSizeClauses_pass_iff⟩

/-! Non-vacuity.  The constructor returns for `n = 3`; a history with a refused `setCellX` (wrong length), an
`addNet`, an `expandCellsByFactor`, and a `placeDetailed` whose callback calls `setCellY`, a nested `legalize` (whose
stage writes `cellX_[i]` and throws) and then throws itself; the arguments are well-formed; the result is consistent
(by `decide` on the executable form) and has 3 cells, 1 net, 2 pins. -/
def exampleHistory : List ApiCall := [
  .setter ⟨"setCellX", [⟨4, [], 0⟩], 0⟩,
  .setter ⟨"addNet", [⟨2, [0, 2], 0⟩, ⟨2, [], 0⟩, ⟨2, [], 0⟩, ⟨0, [], 0⟩], 0⟩,
  .expansion ⟨"expandCellsByFactor", [⟨3, [], 0⟩], 0⟩,
  .placement "placeDetailed"
    (.write "hasNetUpdate_" .whole 0 (.setter ⟨"setCellY", [⟨3, [], 0⟩], 0⟩
      (.nested "legalize" (.write "cellX_" .element 0 (.done true)) (.cbEnd true (.done false)))))]

example : (runCtorS ApiSizes.constructors ⟨"Circuit", [⟨0, [], 3⟩], 0⟩).out = .normal := by decide +kernel
example : ∀ c ∈ exampleHistory, c.argsOk := by
  simp [exampleHistory, ApiCall.argsOk, STr.argsOk, ArgsOk]
example : (runHistory apiTables exampleHistory (runCtorS ApiSizes.constructors ⟨"Circuit", [⟨0, [], 3⟩], 0⟩).st).sz.toList
    = [3, 3, 3, 3, 3, 3, 3, 3, 2, 1, 2, 2, 2, 0, 2] := by decide +kernel
/-- … and the invariant is not trivially true: a `cellX_` of the wrong length violates it. -/
example : ¬ SizesConsistent (Sz.ofList [3, 3, 3, 3, 3, 4, 3, 3, 1, 0, 0, 0, 0, 0, 0]) := by
  rw [← consistent_iff]; decide +kernel

end Sizes

/- Net arrays: the VALUE clauses of "internally consistent".
`Model/NetsValue.lean` is the constructor, `Circuit::addNet`, `Circuit::setNets` and `Circuit::setNetWeights` on the
values of `netLimits_` and `pinCells_` (and the lengths of the offset / weight vectors), statement for statement; `drv_C10` runs it against the
real object on histories of valid and malformed calls (`nv*` lines: outcome, both arrays and the three lengths compared
after every call).  `Wf` is the value invariant; the 13th clause of `Circuit::check()` is its `front` field. -/
section Nets
open ColoVerif.NetsValue

/-- The constructor establishes the value invariant (for every cell count the constructor accepts — and the others). -/
theorem nets_wf_constructor (n : Int) : Wf (NetsValue.init n) := init_wf n

/-- An accepted `addNet` — any cells, any offset lengths — keeps the invariant. -/
theorem nets_wf_addNet (s s' : Nets) (cells : List Int) (nxo nyo : Nat) (h : Wf s)
    (hr : addNet s cells nxo nyo = some s') : Wf s' := addNet_wf h hr

/-- An accepted `setNets` establishes the invariant whatever the circuit held before (no hypothesis on `s`). -/
theorem nets_wf_setNets (s s' : Nets) (limits cells : List Int) (nxo nyo nwt : Nat)
    (hr : setNets s limits cells nxo nyo nwt = some s') : Wf s' := setNets_wf hr

/-- A refused net call changes nothing (in the model the refusal precedes every write; the driver compares the real
arrays after every refused call). -/
theorem refused_net_call_changes_nothing (s : Nets) (o : Op) (h : apply? s o = none) : step s o = s := by
  simp [step, h]

/-- **After any history** of `addNet` / `setNets` / `setNetWeights` calls, accepted or refused, with any arguments, the net arrays are
well formed: `netLimits_` starts at 0 (the 13th clause of `check()`), is non-decreasing and ends at `pinCells_.size()`,
every pin names an existing cell, and the offset / weight vectors have matching lengths. -/
theorem nets_wf_after_any_history (n : Int) (ops : List Op) : Wf (run (NetsValue.init n) ops) :=
  run_wf (init_wf n) ops

/-- The 13th clause of `Circuit::check()`, `netLimits_.front() == 0`, after any history. -/
theorem check_front_clause_holds (n : Int) (ops : List Op) :
    (run (NetsValue.init n) ops).limits.head? = some 0 := (nets_wf_after_any_history n ops).front

/-- **Every read the net getters make is in bounds and names an existing cell**, after any history: for every net
`net < nbNets()` the pin count is non-negative and for every `i < nbPinsNet(net)` the index `netLimits_[net] + i` used
by `pinCell` / `pinXOffset` / `pinYOffset` lies inside the per-pin vectors and `pinCell(net, i)` is a cell of the
circuit. -/
theorem net_getters_in_range (n : Int) (ops : List Op) (net : Nat)
    (hn : (net : Int) < nbNets (run (NetsValue.init n) ops)) :
    0 ≤ nbPinsNet (run (NetsValue.init n) ops) net ∧
    ∀ i : Nat, (i : Int) < nbPinsNet (run (NetsValue.init n) ops) net →
      0 ≤ pinIndex (run (NetsValue.init n) ops) net i ∧
      pinIndex (run (NetsValue.init n) ops) net i < (run (NetsValue.init n) ops).pins.length ∧
      (run (NetsValue.init n) ops).nx = (run (NetsValue.init n) ops).pins.length ∧
      (run (NetsValue.init n) ops).ny = (run (NetsValue.init n) ops).pins.length ∧
      0 ≤ pinCell (run (NetsValue.init n) ops) net i ∧ pinCell (run (NetsValue.init n) ops) net i < n := by
  have hw := nets_wf_after_any_history n ops
  have hc : (run (NetsValue.init n) ops).nbCells = n := run_nbCells _ ops
  obtain ⟨h0, hi⟩ := getters_in_range hw net hn
  refine ⟨h0, fun i hlt => ?_⟩
  obtain ⟨a, b, c, d⟩ := hi i hlt
  exact ⟨a, b, hw.xLen, hw.yLen, c, by rw [hc] at d; exact d⟩

/-- Non-vacuity: a history with a refused `addNet` (pin 5 of 3 cells), two accepted ones, a refused `setNets` (limits
not starting at 0) and an accepted one; the result has 2 nets, 3 pins. -/
example : run (NetsValue.init 3) [.add [0, 5] 2 2, .add [0, 2] 2 2, .add [1] 1 1, .set [1, 2] [0, 1] 2 2 0,
      .set [0, 1, 3] [2, 0, 1] 3 3 0, .weights 3, .weights 2]
    = ⟨3, [0, 1, 3], [2, 0, 1], 3, 3, 2⟩ := by decide
/-- … and the invariant is not trivially true: limits that do not start at 0, or a pin naming no cell, violate it. -/
example : ¬ Wf ⟨3, [1, 2], [0], 1, 1, 1⟩ ∧ ¬ Wf ⟨3, [0, 1], [3], 1, 1, 1⟩ := by decide

/-- **The hand-written value model of `addNet` agrees with the skeleton regenerated from the source**, for all states and
all arguments: the translated body of `addNet` (`Gen/ApiSizes.lean`), run by the size semantics on the abstraction
`absSz` of the value state, throws exactly when `NetsValue.addNet` refuses, and leaves exactly the lengths of
`netLimits_`, `netWeights_`, `pinCells_`, `pinXOffsets_`, `pinYOffsets_` and the `netLimits_.back()` of the value
model's result.  So the three validation steps of the hand model (length test, pin range, empty net) and its five
length effects are re-derived from `src/coloquinte.cpp` on every run.  -/
theorem addNet_value_model_matches_translation (s : Nets) (cells : List Int) (nxo nyo : Nat) :
    ∀ f ∈ ApiSizes.setters, f.name = "addNet" →
      ((BusySizes.execS BusySizes.noCallS (addArgs cells nxo nyo) 0 f.body ⟨false, absSz s⟩).out = .thrown
          ↔ addNet s cells nxo nyo = none) ∧
      netView (BusySizes.execS BusySizes.noCallS (addArgs cells nxo nyo) 0 f.body ⟨false, absSz s⟩).st.sz
        = netView (absSz (step s (.add cells nxo nyo))) := by
  simp only [ApiSizes.setters, List.forall_mem_cons, String.reduceEq, false_imp_iff, forall_const, true_and]
  refine ⟨?_, fun x hx => absurd hx List.not_mem_nil⟩
  simp only [BusySizes.execS, pinRange_eval, Cond.eval_iff, Cond.holds, Expr.eval, BusySizes.envOf_arg, addArgs, BusySizes.argAt,
    List.getD_cons_zero, List.getD_cons_succ, absSz_cellWidth, step, apply?, addNet]
  simp only [Int.natCast_inj, Int.natCast_eq_zero, List.length_eq_zero_iff, List.isEmpty_iff, Bool.false_eq_true,
    Bool.not_eq_true', ne_eq, ↓reduceIte]
  refine Agree.throwIf fun _ => .throwIf fun _ => .returnIf fun _ => .done ?_
  simp only [netView, BusySizes.applyEff, BusySizes.LExpr.eval, BusySizes.Sz.len_set_same, BusySizes.Sz.len_set_ne, BusySizes.Sz.last_set, ne_eq, String.reduceEq,
    not_false_eq_true, absSz_last, absSz_cellWidth, absSz_netLimits, absSz_netWeights, absSz_pinCells, absSz_pinX,
    absSz_pinY, BusySizes.argAt, List.getD_cons_zero, List.getD_cons_succ, List.length_append,
    List.length_singleton, Int.natCast_add, back_append_singleton]
  rfl

/-- The same for `setNets`: its four validation blocks (limits non-empty / starting at 0 / sorted; `limits.back()` against
the three pin vectors; the weights length; the pin range) and its six length effects, for all states and arguments. -/
theorem setNets_value_model_matches_translation (s : Nets) (limits cells : List Int) (nxo nyo nwt : Nat) :
    ∀ f ∈ ApiSizes.setters, f.name = "setNets" →
      ((BusySizes.execS BusySizes.noCallS (setArgs limits cells nxo nyo nwt) 0 f.body ⟨false, absSz s⟩).out = .thrown
          ↔ setNets s limits cells nxo nyo nwt = none) ∧
      netView (BusySizes.execS BusySizes.noCallS (setArgs limits cells nxo nyo nwt) 0 f.body ⟨false, absSz s⟩).st.sz
        = netView (absSz (step s (.set limits cells nxo nyo nwt))) := by
  simp only [ApiSizes.setters, List.forall_mem_cons, String.reduceEq, false_imp_iff, forall_const, true_and]
  refine ⟨?_, fun x hx => absurd hx List.not_mem_nil⟩
  simp only [BusySizes.execS, pinRange_eval, Cond.eval_iff, Cond.holds, Expr.eval, BusySizes.envOf_arg, setArgs, BusySizes.argAt,
    List.getD_cons_zero, List.getD_cons_succ, absSz_cellWidth, step, apply?, setNets]
  have e3 : (¬(limits.length : Int) = nwt + 1 ∧ ¬(nwt : Int) = 0) ↔ (limits.length ≠ nwt + 1 ∧ nwt ≠ 0) := by omega
  have e2 : ((¬limits.getLastD 0 = (cells.length : Int) ∨ ¬limits.getLastD 0 = (nxo : Int)) ∨ ¬limits.getLastD 0 = (nyo : Int)) ↔
      (back limits ≠ cells.length ∨ back limits ≠ nxo ∨ back limits ≠ nyo) := or_assoc
  simp only [limitsRefused_iff, e2, e3, Bool.false_eq_true, Bool.not_eq_true', ↓reduceIte]
  refine Agree.throwIf fun h1 => .throwIf fun _ => .throwIf fun _ => .throwIf fun _ => .done ?_
  simp only [netView, BusySizes.applyEff, BusySizes.LExpr.eval, BusySizes.Sz.len_set_same, BusySizes.Sz.len_set_ne, BusySizes.Sz.last_set, ne_eq, String.reduceEq,
    not_false_eq_true, absSz_last, absSz_cellWidth, absSz_netLimits, absSz_netWeights, absSz_pinCells, absSz_pinX,
    absSz_pinY, BusySizes.argAt, List.getD_cons_zero, List.getD_cons_succ]
  have hl : limits.length ≠ 0 := fun h => h1 (Or.inl (List.isEmpty_iff.mpr (List.length_eq_zero_iff.mp h)))
  rw [show (limits.length : Int) + -1 = ↑(limits.length - 1) by omega]
  rfl

/-- **The nets partition the pins**, after any history: the pin counts `nbPinsNet(n)` of the `nbNets()` nets add up to
`nbPins()` — together with `net_getters_in_range`, iterating "for every net, for every pin of the net" visits every entry of
the per-pin vectors exactly once. -/
theorem nets_partition_pins (n : Int) (ops : List Op) :
    ((List.range (nbNets (run (NetsValue.init n) ops)).toNat).map (nbPinsNet (run (NetsValue.init n) ops))).sum
      = nbPins (run (NetsValue.init n) ops) ∧
    nbPins (run (NetsValue.init n) ops) = (run (NetsValue.init n) ops).pins.length :=
  ⟨pins_partitioned (nets_wf_after_any_history n ops), (nets_wf_after_any_history n ops).backPins⟩

/-- The value invariant implies the five net clauses of the size invariant on the abstraction: `netLimits_` non-empty, one
weight per net, the three per-pin vectors of `nbPins() = netLimits_.back()` entries — the two invariants agree where they
overlap. -/
theorem nets_wf_implies_size_clauses (s : Nets) (h : Wf s) :
    1 ≤ (absSz s).len "netLimits_" ∧ (absSz s).len "netWeights_" = (absSz s).nbNets ∧
    (absSz s).len "pinCells_" = (absSz s).nbPins ∧ (absSz s).len "pinXOffsets_" = (absSz s).nbPins ∧
    (absSz s).len "pinYOffsets_" = (absSz s).nbPins := by
  have h1 := List.length_pos_iff.mpr h.nonempty
  have h2 := h.wLen
  have h3 := h.backPins
  have h4 := h.xLen
  have h5 := h.yLen
  simp only [BusySizes.Sz.nbNets, BusySizes.Sz.nbPins, absSz_last, absSz_netLimits, absSz_netWeights, absSz_pinCells,
    absSz_pinX, absSz_pinY]
  omega

/-- The same as `addNet_value_model_matches_translation` for `setNetWeights` (length test, assignment). -/
theorem setNetWeights_value_model_matches_translation (s : Nets) (nwt : Nat) :
    ∀ f ∈ ApiSizes.setters, f.name = "setNetWeights" →
      ((BusySizes.execS BusySizes.noCallS [⟨nwt, [], 0⟩] 0 f.body ⟨false, absSz s⟩).out = .thrown
          ↔ setNetWeights s nwt = none) ∧
      netView (BusySizes.execS BusySizes.noCallS [⟨nwt, [], 0⟩] 0 f.body ⟨false, absSz s⟩).st.sz
        = netView (absSz (step s (.weights nwt))) := by
  simp only [ApiSizes.setters, List.forall_mem_cons, String.reduceEq, false_imp_iff, forall_const, true_and]
  refine ⟨?_, fun x hx => absurd hx List.not_mem_nil⟩
  simp only [BusySizes.execS, Cond.eval_iff, Cond.holds, Expr.eval, BusySizes.envOf_arg, BusySizes.envOf_nbNets, BusySizes.argAt, List.getD_cons_zero,
    absSz_netLimits, step, apply?, setNetWeights, ne_eq]
  refine Agree.throwIf fun _ => .done ?_
  simp only [netView, BusySizes.applyEff, BusySizes.LExpr.eval, BusySizes.Sz.len_set_same, BusySizes.Sz.len_set_ne, BusySizes.Sz.last_set, ne_eq, String.reduceEq,
    not_false_eq_true, absSz_last, absSz_cellWidth, absSz_netLimits, absSz_netWeights, absSz_pinCells, absSz_pinX,
    absSz_pinY, BusySizes.argAt, List.getD_cons_zero]

/-- non-vacuity: the table has an `addNet` and a `setNets` entry -/
example : (∃ f ∈ ApiSizes.setters, f.name = "addNet") ∧ ∃ f ∈ ApiSizes.setters, f.name = "setNets" := by decide +kernel

end Nets

end ColoVerif.C10
