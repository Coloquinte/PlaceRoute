import ColoVerif.Proofs.Expand
import ColoVerif.Proofs.ExpandF
import ColoVerif.Proofs.ExpandFBound
import ColoVerif.Model.LegacyExpandF
/-
C18 — cell expansion respects density caps and never touches fixed cells.

Two models, both executed by the driver `drv_C18` against `Circuit::expandCellsToDensity`,
`expandCellsByFactor`, `computeCellExpansion` and `computeRowPlacementArea`:

* `Model/Expand.lean` (first part of this file): exact rationals, compared with the code on dyadic instances
  where no floating-point operation rounds.  `expandCellsByFactor` is the repaired function
  (fixes/applied/expand-by-factor-area.diff); `legacy_byFactor_exceeds_cap` shows that the unrepaired one breaks
  the cap.  `FrameCell` and `NonnegSizes` (the property's domain) are defined in `Proofs/Expand.lean`.
* `Model/ExpandF.lean` (second part, theorems `…F…`): the functions as compiled, compared with the code on
  arbitrary arguments, result for result.  `expandCellsByFactor` is the function after
  `fixes/applied/c18-byfactor-wide-cells.diff`; the unrepaired step is `Model/LegacyExpandF.lean` with
  `legacy_byFactorF_wide_witness`.  `byFactorF_utilisation_full_statement` is stated, not proved; proved are its
  `float` path (`byFactorF_utilisation_partial`), the branch without ratio adjustment (`byFactorF_cap_unadjusted`)
  and the adjusted branch up to the computed ratio (`byFactorF_cap_adjusted_partial`).
-/
namespace ColoVerif.C18
open ColoVerif ColoVerif.Expand

/-- `expandCellsToDensity` changes only widths of movable cells. -/
theorem expand_frame (c : Circuit) (target margin maxExp : Rat) :
    (expandCellsToDensity c target margin maxExp).rows = c.rows ∧
    (expandCellsToDensity c target margin maxExp).nets = c.nets ∧
    (expandCellsToDensity c target margin maxExp).cells.length = c.cells.length ∧
    ∀ i, FrameCell (c.cell i) ((expandCellsToDensity c target margin maxExp).cell i) := by
  unfold expandCellsToDensity
  split
  · exact ⟨rfl, rfl, rfl, fun i => FrameCell.refl _⟩
  · exact ⟨rfl, rfl, (frame_expandCells _ _ _ _).1, (frame_expandCells _ _ _ _).2⟩

/-- `expandCellsByFactor` changes only widths of movable cells (and nothing when it throws). -/
theorem expand_frame_byFactor (c c' : Circuit) (efs : List Rat) (maxD margin ret : Rat)
    (h : expandCellsByFactor c efs maxD margin = some (c', ret)) :
    c'.rows = c.rows ∧ c'.nets = c.nets ∧ c'.cells.length = c.cells.length ∧
    ∀ i, FrameCell (c.cell i) (c'.cell i) := by
  obtain ⟨_, rfl | ⟨_, rfl⟩⟩ := expandCellsByFactor_eq_some h
  · exact ⟨rfl, rfl, rfl, fun i => FrameCell.refl _⟩
  · exact ⟨rfl, rfl, (frame_applyFactors _ _).1, (frame_applyFactors _ _).2⟩

/-- No movable area, no row area, or density already at the target: nothing changes. -/
theorem noop_when_dense (c : Circuit) (target margin maxExp : Rat)
    (h : movableArea c.cells = 0 ∨ rowPlacementArea c margin = 0 ∨
      (movableArea c.cells : Rat) / (rowPlacementArea c margin : Rat) ≥ target) :
    expandCellsToDensity c target margin maxExp = c := by
  unfold expandCellsToDensity
  rw [if_pos (show densityNoop c target margin from h)]

theorem noop_when_dense_byFactor (c : Circuit) (efs : List Rat) (maxD margin : Rat)
    (hvalid : ¬ (efs.length ≠ c.cells.length ∨ efs.any (fun e => decide (e < minFactor)) = true))
    (h : movableArea c.cells = 0 ∨ rowPlacementArea c margin = 0 ∨ density c margin ≥ maxD) :
    expandCellsByFactor c efs maxD margin = some (c, 1) := by
  unfold expandCellsByFactor
  rw [if_neg hvalid]
  unfold byFactorWith
  by_cases h0 : movableArea c.cells = 0 ∨ rowPlacementArea c margin = 0
  · rw [if_pos h0]
  · have hden : density c margin ≥ maxD :=
      (h.resolve_left fun h1 => h0 (Or.inl h1)).resolve_left fun h2 => h0 (Or.inr h2)
    rw [if_neg h0, if_pos hden]

theorem maxRowWidth_nonneg (rows : List Row) : 0 ≤ maxRowWidth rows := Expand.maxRowWidth_nonneg rows

theorem factor_ge_one (c : Circuit) (target margin : Rat) (hA : 0 < movableArea c.cells)
    (hR : 0 < rowPlacementArea c margin) (hn : ¬ densityNoop c target margin) :
    1 ≤ densityFactor c target margin :=
  Expand.factor_ge_one c target margin hA hR hn

/-- A movable cell whose width does not exceed the cap `maxRowWidth * maxExpandedWidth` is not narrower
after `expandCellsToDensity` (positive movable and row area, non-negative `maxExpandedWidth`). -/
theorem expand_not_narrower (c : Circuit) (target margin maxExp : Rat) (hA : 0 < movableArea c.cells)
    (hR : 0 < rowPlacementArea c margin) (hx : 0 ≤ maxExp) (i : Nat)
    (hw : ((c.cell i).w : Rat) ≤ widthCap c maxExp) :
    (c.cell i).w ≤ ((expandCellsToDensity c target margin maxExp).cell i).w := by
  unfold expandCellsToDensity
  split
  · exact Int.le_refl _
  · rename_i hn
    exact (expandCells_not_narrower _ _ (factor_ge_one c target margin hA hR hn) c.cells 0).2 i hw

/-- With factors at least 1, `expandCellsByFactor` makes no movable cell (of non-negative width) narrower. -/
theorem expand_not_narrower_byFactor (c c' : Circuit) (efs : List Rat) (maxD margin ret : Rat)
    (h : expandCellsByFactor c efs maxD margin = some (c', ret)) (he : ∀ e ∈ efs, 1 ≤ e) (i : Nat)
    (hw : 0 ≤ (c.cell i).w) : (c.cell i).w ≤ (c'.cell i).w := by
  obtain ⟨_, rfl | ⟨hd, rfl⟩⟩ := expandCellsByFactor_eq_some h
  · exact Int.le_refl _
  · exact (applyFactors_not_narrower _ _ (effectiveFactors_ge_one c efs maxD margin hd he)).2 i hw

/-- Carry bound, per cell: after each cell touched by the loop the carried missing area is in `[0, h)`
for that cell's height `h`. -/
theorem carry_bound_step (factor cap missing : Rat) (cl : Cell) (hf : 0 ≤ factor) (hcap : 0 ≤ cap)
    (hm : 0 ≤ missing) (ha : active cl = true) :
    0 ≤ stepMissing factor cap missing cl ∧ stepMissing factor cap missing cl < (cl.h : Rat) := by
  unfold stepMissing
  rw [if_pos ha]
  exact newMissing_bounds factor cap missing cl hf hcap hm ha

/-- Carry bound, whole call (density below target, positive areas, non-negative sizes):
(1) the movable area afterwards is at most `target * rowArea`;
(2) if no touched cell hits the width cap, it is more than `target * rowArea - H` for every bound `H > 0`
    on the heights of the touched cells (e.g. the largest movable cell height). -/
theorem carry_bound (c : Circuit) (target margin maxExp : Rat) (hA : 0 < movableArea c.cells)
    (hR : 0 < rowPlacementArea c margin) (hx : 0 ≤ maxExp) (hsz : NonnegSizes c.cells)
    (hn : ¬ densityNoop c target margin) :
    ((movableArea (expandCellsToDensity c target margin maxExp).cells : Rat)
        ≤ target * (rowPlacementArea c margin : Rat)) ∧
    ((∀ cl ∈ c.cells, active cl = true → (cl.w : Rat) * densityFactor c target margin ≤ widthCap c maxExp) →
      ∀ H : Int, 0 < H → (∀ cl ∈ c.cells, active cl = true → cl.h ≤ H) →
        target * (rowPlacementArea c margin : Rat) - (H : Rat)
          < (movableArea (expandCellsToDensity c target margin maxExp).cells : Rat)) := by
  have hf0 : (0 : Rat) ≤ densityFactor c target margin := le_trans zero_le_one (factor_ge_one c target margin hA hR hn)
  have hcap := widthCap_nonneg c hx
  have hAne : (movableArea c.cells : Rat) ≠ 0 := by exact_mod_cast hA.ne'
  -- the exact factor aims at `target * rowArea`
  have hfa : densityFactor c target margin * (movableArea c.cells : Rat) = target * (rowPlacementArea c margin : Rat) := by
    unfold densityFactor
    rw [div_div_eq_mul_div, div_mul_cancel₀ _ hAne]
  have hcells : (expandCellsToDensity c target margin maxExp).cells =
      expandCells (densityFactor c target margin) (widthCap c maxExp) 0 c.cells := by
    unfold expandCellsToDensity; rw [if_neg hn]
  rw [hcells, ← hfa]
  exact ⟨expandCells_area_le _ _ hf0 hcap _ hsz, expandCells_area_gt _ _ _ hsz⟩

/-- With factors at least 1, positive areas and non-negative sizes, the movable area after
`expandCellsByFactor` is at most `max (maxDensity * rowArea) (area before)`. -/
theorem byFactor_under_cap (c c' : Circuit) (efs : List Rat) (maxD margin ret : Rat)
    (h : expandCellsByFactor c efs maxD margin = some (c', ret)) (he : ∀ e ∈ efs, 1 ≤ e)
    (hA : 0 < movableArea c.cells) (hR : 0 < rowPlacementArea c margin) (hsz : NonnegSizes c.cells) :
    (movableArea c'.cells : Rat) ≤ max (maxD * (rowPlacementArea c margin : Rat)) (movableArea c.cells : Rat) := by
  have hRq : (0 : Rat) < (rowPlacementArea c margin : Rat) := by exact_mod_cast hR
  obtain ⟨hlen, rfl | ⟨hd, rfl⟩⟩ := expandCellsByFactor_eq_some h
  · exact le_max_right _ _
  · refine le_trans ?_ (le_max_left _ _)
    have hnn : ∀ e ∈ effectiveFactors c efs maxD margin (expandedArea c.cells efs), 0 ≤ e :=
      fun e hem => le_trans zero_le_one (effectiveFactors_ge_one c efs maxD margin hd he e hem)
    show (movableArea (applyFactors c.cells _) : Rat) ≤ _
    unfold effectiveFactors at hnn ⊢
    by_cases hadj : expandedArea c.cells efs / (rowPlacementArea c margin : Rat) > maxD
    · rw [if_pos hadj] at hnn ⊢
      -- adjusted: the expanded area of the adjusted factors is exactly maxD * R
      have hle := applyFactors_area_le c.cells _ hsz hnn (by simpa using hlen)
      rw [expandedArea_adjust _ c.cells efs hlen,
        capRatio_mul c maxD margin _ hRq.ne' (sub_pos.mpr (lt_trans hd hadj)).ne'] at hle
      linarith
    · rw [if_neg hadj] at hnn ⊢
      exact le_trans (applyFactors_area_le c.cells efs hsz hnn hlen) ((div_le_iff₀ hRq).mp (not_lt.mp hadj))

/-- `computeCellExpansion` throws exactly on a negative fixed penalty or a penalty factor below 1; otherwise
it returns one factor per cell: 1 for a fixed cell; for a movable cell the factor is at least 1, at least
`(c-1)*penaltyFactor + fixedPenalty + 1` for every congested region (`c > 1`) its placement intersects, and
it is either 1 (only possible value when it intersects no congested region) or attained by such a region. -/
theorem cellExpansion_max (c : Circuit) (cmap : List (Rect × Rat)) (fp pf : Rat) :
    (computeCellExpansion c cmap fp pf = none ↔ (fp < 0 ∨ pf < 1)) ∧
    ∀ l, computeCellExpansion c cmap fp pf = some l →
      l.length = c.cells.length ∧
      ∀ i, i < c.cells.length →
        ((c.cell i).fixed = true → l.getD i 1 = 1) ∧
        ((c.cell i).fixed = false →
          1 ≤ l.getD i 1 ∧
          (∀ r cg, (r, cg) ∈ cmap → cg > 1 → r.intersects (c.cell i).placement = true →
            (cg - 1) * pf + fp + 1 ≤ l.getD i 1) ∧
          (l.getD i 1 = 1 ∨ ∃ r cg, (r, cg) ∈ cmap ∧ cg > 1 ∧ r.intersects (c.cell i).placement = true ∧
            l.getD i 1 = (cg - 1) * pf + fp + 1)) :=
  cellExpansion_spec c cmap _ (fun cg => (cg - 1) * pf + fp + 1) (mem_expansionMap cmap fp pf) _

/-- one movable cell 10 x 1 in a row 16 x 1, factor 19/16, maxDensity 85/128 -/
def witness : Circuit :=
  ⟨[⟨10, 1, 0, 0, .N, false, true, .ANY⟩], [], [⟨⟨0, 16, 0, 1⟩, .N⟩]⟩

/-- On the unrepaired tree (expanded area truncated to an integer) the cell is widened to 11, so the movable
area 11 exceeds `maxDensity * rowArea = 85/128 * 16 = 85/8`; the repaired function keeps the width 10. -/
theorem legacy_byFactor_exceeds_cap :
    ((LegacyExpand.expandCellsByFactor witness [19 / 16] (85 / 128) 0).map fun r => movableArea r.1.cells) = some 11 ∧
    rowPlacementArea witness 0 = 16 ∧ (85 / 128 : Rat) * ((16 : Int) : Rat) < ((11 : Int) : Rat) ∧
    ((expandCellsByFactor witness [19 / 16] (85 / 128) 0).map fun r => movableArea r.1.cells) = some 10 := by
  decide +kernel

-- the hypotheses of the quantitative theorems are satisfiable
example : 0 < movableArea witness.cells ∧ 0 < rowPlacementArea witness 0 ∧ ¬ densityNoop witness (3 / 4) 0 := by
  decide +kernel

example : NonnegSizes witness.cells := List.forall_mem_singleton.mpr (by decide)

/-! The theorems below are about `ExpandF.*` (`Model/ExpandF.lean`): the same four functions with every `double`
operation rounded by `F64.f64` and every `float` operation by `F64.f32'` (IEEE-754 round-to-nearest-even over exact
rationals), which the driver executes against the real code on arbitrary (non-dyadic) arguments, result for result.
The functions are total; `ExpandF.densityGuard` / `byFactorGuard` / `cellExpansionGuard` are the decidable
domains on which they are the compiled code (finite values, conversions to `int`/`long long` in range).
A hypothesis of the form `… ≠ 0`, `isI32 …`, `cellsGuard …` below is a conjunct of the corresponding guard. -/

/-- `expandCellsToDensity`, with rounding: only the widths of movable cells change. -/
theorem expandF_frame (c : Circuit) (target margin maxExp : Rat) :
    (ExpandF.expandCellsToDensity c target margin maxExp).rows = c.rows ∧
    (ExpandF.expandCellsToDensity c target margin maxExp).nets = c.nets ∧
    (ExpandF.expandCellsToDensity c target margin maxExp).cells.length = c.cells.length ∧
    ∀ i, FrameCell (c.cell i) ((ExpandF.expandCellsToDensity c target margin maxExp).cell i) := by
  unfold ExpandF.expandCellsToDensity ExpandF.toDensityWith
  split
  · exact ⟨rfl, rfl, rfl, fun i => FrameCell.refl _⟩
  · exact ⟨rfl, rfl, (ExpandF.frame_expandCells _ _ _ _).1, (ExpandF.frame_expandCells _ _ _ _).2⟩

/-- `expandCellsByFactor`, with rounding: only the widths of movable cells change (nothing when it throws). -/
theorem byFactorF_frame (c c' : Circuit) (efs : List Rat) (maxD margin ret : Rat)
    (h : ExpandF.expandCellsByFactor c efs maxD margin = some (c', ret)) :
    c'.rows = c.rows ∧ c'.nets = c.nets ∧ c'.cells.length = c.cells.length ∧
    ∀ i, FrameCell (c.cell i) (c'.cell i) := by
  obtain ⟨_, _, rfl | ⟨_, rfl⟩⟩ := ExpandF.expandCellsByFactor_eq_some h
  · exact ⟨rfl, rfl, rfl, fun i => FrameCell.refl _⟩
  · exact ⟨rfl, rfl, (ExpandF.frame_applyFactors _ _).1, (ExpandF.frame_applyFactors _ _).2⟩

/-- no-op when already dense, with rounding: the test is on the rounded quotient `(double)A / (double)R`. -/
theorem noopF_when_dense (c : Circuit) (target margin maxExp : Rat)
    (h : movableArea c.cells = 0 ∨ ExpandF.rowPlacementArea c margin = 0 ∨ ExpandF.density c margin ≥ target) :
    ExpandF.expandCellsToDensity c target margin maxExp = c := by
  unfold ExpandF.expandCellsToDensity ExpandF.toDensityWith
  rw [if_pos (show ExpandF.noopOf _ _ target from h)]

theorem noopF_when_dense_byFactor (c : Circuit) (efs : List Rat) (maxD margin : Rat)
    (hvalid : ExpandF.factorsRejected c efs = false)
    (h : movableArea c.cells = 0 ∨ ExpandF.rowPlacementArea c margin = 0 ∨ ExpandF.density c margin ≥ maxD) :
    ExpandF.expandCellsByFactor c efs maxD margin = some (c, 1) := by
  unfold ExpandF.expandCellsByFactor ExpandF.byFactorWith
  rw [if_neg (by simp [hvalid]), if_pos (show ExpandF.noopOf _ _ maxD from h)]

/-- With rounding: a movable cell whose width does not exceed the (rounded) cap
`(double)maxRowWidth * maxExpandedWidth` is not narrower after `expandCellsToDensity`.  Transfer of
`expand_not_narrower` by monotonicity of `f64`: `density < target` gives a rounded factor `≥ 1`, hence
`f64 (w·factor) ≥ w`.  No sign condition on `maxExpandedWidth` is needed.  `hd` (the rounded density is not
0, a conjunct of `densityGuard`) excludes a quotient that underflows. -/
theorem expandF_not_narrower (c : Circuit) (target margin maxExp : Rat) (hA : 0 < movableArea c.cells)
    (hR : 0 < ExpandF.rowPlacementArea c margin) (hd : ExpandF.density c margin ≠ 0) (i : Nat)
    (hsz : ExpandF.isI32 (c.cell i).w = true)
    (hw : ((c.cell i).w : Rat) ≤ ExpandF.widthCap c maxExp) :
    (c.cell i).w ≤ ((ExpandF.expandCellsToDensity c target margin maxExp).cell i).w := by
  unfold ExpandF.expandCellsToDensity ExpandF.toDensityWith
  split
  · exact Int.le_refl _
  · rename_i hn
    have hpos := ExpandF.densityOf_pos (le_of_lt hA) (le_of_lt hR) hd
    exact (ExpandF.expandCells_not_narrower _ _ (ExpandF.factorOf_ge_one _ _ target hpos hn) c.cells 0).2 i
      (ExpandF.abs53_of_abs31 (ExpandF.isI32_abs hsz)) hw

/-- With rounding and factors at least 1: `expandCellsByFactor` (after `fixes/applied/c18-byfactor-wide-cells.diff`)
makes no cell narrower, whatever its width: every applied factor, adjusted or not, is at least 1 after rounding,
and the width update keeps at least the old width for such a factor.  (Up to `2^24` the float product alone is
already at least the width, `ExpandF.applyOne_eq_of_small`; above, see `legacy_byFactorF_wide_witness`.) -/
theorem byFactorF_not_narrower (c c' : Circuit) (efs : List Rat) (maxD margin ret : Rat)
    (h : ExpandF.expandCellsByFactor c efs maxD margin = some (c', ret)) (he : ∀ e ∈ efs, 1 ≤ e) (i : Nat) :
    (c.cell i).w ≤ (c'.cell i).w := by
  obtain ⟨_, _, rfl | ⟨hd, rfl⟩⟩ := ExpandF.expandCellsByFactor_eq_some h
  · exact Int.le_refl _
  · exact (ExpandF.applyFactors_not_narrower _ _ (ExpandF.effectiveFactors_ge_one c efs maxD margin hd he)).2 i

/-- The repair is invisible to the rational model `Model/Expand.lean`: for a width `w ≥ 0` and a factor
`e ≥ 1` the exact product truncates to at least `w`, so `std::max(newW, w)` is `newW`. -/
theorem byFactor_repair_noop_exact (w : Int) (e : Rat) (hw : 0 ≤ w) (he : 1 ≤ e) :
    max (truncRat ((w : Rat) * e)) w = truncRat ((w : Rat) * e) := by
  have hq : (0 : Rat) ≤ (w : Rat) := by exact_mod_cast hw
  have h2 : (w : Rat) ≤ (w : Rat) * e := le_mul_of_one_le_right hq he
  exact max_eq_left (le_truncRat w _ (le_trans hq h2) h2)

/-- What holds for every ACCEPTED factor vector (`e ≥ 0.999f`, so also for factors in `[0.999f, 1)`): every
applied factor is at least `0.999f` after the ratio adjustment and all roundings, hence a movable cell of
width `w ≥ 0` ends at least `(int) f32' (f32' w · 0.999f)` wide.  (Sharp: see `byFactorF_below_one_witness`.) -/
theorem byFactorF_width_lower_bound (c c' : Circuit) (efs : List Rat) (maxD margin ret : Rat)
    (h : ExpandF.expandCellsByFactor c efs maxD margin = some (c', ret)) (i : Nat) (hi : i < c.cells.length)
    (hfx : (c.cell i).fixed = false) (hw : 0 ≤ (c.cell i).w) :
    (c'.cell i).w = (c.cell i).w ∨
    truncRat (ExpandF.scaledF (c.cell i).w ExpandF.minFactor) ≤ (c'.cell i).w := by
  obtain ⟨_, hmin, rfl | ⟨hd, rfl⟩⟩ := ExpandF.expandCellsByFactor_eq_some h
  · exact Or.inl rfl
  · exact (ExpandF.applyFactors_ge ExpandF.minFactor (le_trans (by norm_num) ExpandF.half_le_minFactor) _ _
      (ExpandF.effectiveFactors_ge_min c efs maxD margin hd hmin)).2 i hw

/-- one movable cell 1000 x 1 in a row 4000 x 1 -/
def witnessBelowOne : Circuit :=
  ⟨[⟨1000, 1, 0, 0, .N, false, true, .ANY⟩], [], [⟨⟨0, 4000, 0, 1⟩, .N⟩]⟩

/-- The acceptance threshold is `0.999f`, not 1: the factor `0.999f` is accepted and makes the 1000-wide
cell 999 wide (replayed on the real code as case `w2`); the bound of `byFactorF_width_lower_bound` is
attained (a factor below 1 is not raised by the repair).  Factors below 1 are outside the property's domain ("factor vectors >= 1"). -/
theorem byFactorF_below_one_witness :
    ((ExpandF.expandCellsByFactor witnessBelowOne [ExpandF.minFactor] 1 0).map fun r => r.1.cells.map (·.w))
      = some [999] ∧
    truncRat (ExpandF.scaledF 1000 ExpandF.minFactor) = 999 ∧
    ExpandF.byFactorGuard witnessBelowOne [ExpandF.minFactor] 1 0 = true := by
  decide +kernel

/-- one movable cell (2^24+1) x 1 in a row 2^26 x 1 -/
def witnessWide : Circuit :=
  ⟨[⟨16777217, 1, 0, 0, .N, false, true, .ANY⟩], [], [⟨⟨0, 67108864, 0, 1⟩, .N⟩]⟩

/-- Before `fixes/applied/c18-byfactor-wide-cells.diff` never-narrower was false above `2^24`: with the factor
exactly `1.0f` a cell of width `2^24 + 1` became `2^24` wide, because `cellWidth_[i] *= expansion[i]` converts
the width to `float` first; the repaired function keeps the width (replayed on the real code as case `w3`). -/
theorem legacy_byFactorF_wide_witness :
    ((LegacyExpandF.expandCellsByFactor witnessWide [1] 1 0).map fun r => r.1.cells.map (·.w))
      = some [16777216] ∧
    ((ExpandF.expandCellsByFactor witnessWide [1] 1 0).map fun r => r.1.cells.map (·.w)) = some [16777217] ∧
    ExpandF.byFactorGuard witnessWide [1] 1 0 = true := by
  decide +kernel

-- non-vacuity of `expandF_not_narrower` / `byFactorF_not_narrower`
example : 0 < movableArea witness.cells ∧ 0 < ExpandF.rowPlacementArea witness 0 ∧
    ExpandF.density witness 0 ≠ 0 ∧ ExpandF.isI32 (witness.cell 0).w = true ∧
    ((witness.cell 0).w : Rat) ≤ ExpandF.widthCap witness 1 ∧
    ExpandF.densityGuard witness (3 / 4) 0 1 = true ∧
    (ExpandF.expandCellsToDensity witness (3 / 4) 0 1).cells.map (·.w) = [12] := by
  decide +kernel

example : ((ExpandF.expandCellsByFactor witness [19 / 16] (85 / 128) 0).map fun r => r.1.cells.map (·.w))
    = some [10] := by decide +kernel

/-- **Not above the target beyond rounding.**  On the domain of the model (`densityGuard`), density below the
target, positive areas, non-negative sizes, `maxExpandedWidth ≥ 0`: after `expandCellsToDensity` *as compiled*
the movable area is at most

  `target · rowArea · (1 + 2^-50)  +  (number of cells touched) · 2^-51 · H`

for every bound `H` on the heights of the touched cells.  The relative term covers the roundings of
`(double)cellArea`, `(double)rowArea`, the density, the factor and `w * expansionFactor`
(`(1+u)³/(1−u)² ≤ 1+2^-50`, `u = 2^-53`); the absolute term the roundings of `h * (fracW - newW)` and
`missingArea += …` (at most `4u·H` per cell; `fracW - newW` and every `missingArea -= h` are exact).  With
exact arithmetic this is `carry_bound` (1): `≤ target · rowArea`. -/
theorem expandF_utilisation (c : Circuit) (target margin maxExp : Rat)
    (hg : ExpandF.densityGuard c target margin maxExp = true)
    (hA : 0 < movableArea c.cells) (hR : 0 < ExpandF.rowPlacementArea c margin) (hx : 0 ≤ maxExp)
    (hsz : NonnegSizes c.cells) (hn : ¬ ExpandF.densityNoop c target margin)
    (H : Int) (hH0 : 0 ≤ H) (hH : ∀ cl ∈ c.cells, active cl = true → cl.h ≤ H) :
    (movableArea (ExpandF.expandCellsToDensity c target margin maxExp).cells : Rat) ≤
      target * (ExpandF.rowPlacementArea c margin : Rat) * (1 + (2 : Rat) ^ (-50 : Int)) +
      ((c.cells.filter active).length : Rat) * ((2 : Rat) ^ (-51 : Int) * (H : Rat)) := by
  have hn' : ¬ ExpandF.noopOf (movableArea c.cells) (ExpandF.rowPlacementArea c margin) target := hn
  simp only [ExpandF.densityGuard, ExpandF.toDensityGuardWith, Bool.and_eq_true, Bool.or_eq_true,
    decide_eq_true_eq] at hg
  obtain ⟨⟨⟨⟨hsizes, _⟩, _⟩, _⟩, ⟨_, hR64⟩, hrest⟩ := hg
  rcases hrest with hno | ⟨⟨⟨hd, _⟩, _⟩, hcg⟩
  · exact absurd hno hn'
  have hsz32 : ∀ cl ∈ c.cells, |cl.w| ≤ 2 ^ 31 ∧ |cl.h| ≤ 2 ^ 31 := by
    intro cl hcl
    have := (List.all_eq_true.mp hsizes) cl hcl
    simp only [Bool.and_eq_true] at this
    exact ⟨ExpandF.isI32_abs this.1, ExpandF.isI32_abs this.2⟩
  have hcap0 : 0 ≤ ExpandF.widthCap c maxExp :=
    F64.f64_nonneg (mul_nonneg (ExpandF.d_nonneg (maxRowWidth_nonneg c.rows)) hx)
  have hcells : (ExpandF.expandCellsToDensity c target margin maxExp).cells =
      ExpandF.expandCells (ExpandF.factorOf (movableArea c.cells) (ExpandF.rowPlacementArea c margin) target)
        (ExpandF.widthCap c maxExp) 0 c.cells := by
    unfold ExpandF.expandCellsToDensity ExpandF.toDensityWith; rw [if_neg hn']
  rw [hcells]
  exact ExpandF.expandCells_area_le c.cells _ target _ H hA hR (ExpandF.isI64_abs hR64) hd hn' hcap0
    (F64.f64_idem _) hsz hsz32 hcg hH0 hH

-- non-vacuity: the hypotheses of `expandF_utilisation` hold on the witness (target 3/4, one cell of height 1)
example : ExpandF.densityGuard witness (3 / 4) 0 1 = true ∧ 0 < movableArea witness.cells ∧
    0 < ExpandF.rowPlacementArea witness 0 ∧ ¬ ExpandF.densityNoop witness (3 / 4) 0 ∧
    (∀ cl ∈ witness.cells, active cl = true → cl.h ≤ 1) := by
  exact ⟨by decide +kernel, by decide +kernel, by decide +kernel, by decide +kernel,
    List.forall_mem_singleton.mpr (by decide)⟩

/-- **Not above the cap beyond rounding**, full statement (NOT proved; supported by the exact model/code
correspondence on arbitrary arguments and by the direct oracle): for factors at least 1, widths at most `2^24`,
the movable area after `expandCellsByFactor` as compiled is at most `max(maxDensity·rowArea, area before)` up to
a relative `2^-22` (two `float` roundings per cell: the adjusted factor and the product) and an absolute
`n·2^-50·Σ eᵢ·areaᵢ` (the `double` accumulation of `expandedArea`, which the ratio adjustment divides by). -/
def byFactorF_utilisation_full_statement : Prop :=
  ∀ (c c' : Circuit) (efs : List Rat) (maxD margin ret : Rat),
    ExpandF.byFactorGuard c efs maxD margin = true →
    ExpandF.expandCellsByFactor c efs maxD margin = some (c', ret) → (∀ e ∈ efs, 1 ≤ e) →
    0 < movableArea c.cells → 0 < ExpandF.rowPlacementArea c margin → NonnegSizes c.cells →
    (∀ cl ∈ c.cells, cl.fixed = false → cl.w ≤ 2 ^ 24) →
    (movableArea c'.cells : Rat) ≤
      max (maxD * (ExpandF.rowPlacementArea c margin : Rat)) (movableArea c.cells : Rat) *
        (1 + (2 : Rat) ^ (-22 : Int)) +
      (c.cells.length : Rat) * (2 : Rat) ^ (-50 : Int) * expandedArea c.cells efs

/-- The proved part of `byFactorF_utilisation_full_statement` — the `float` path
`cellWidth_[i] *= expansion[i]`: for every accepted factor vector (so also factors in `[0.999f, 1)`),
non-negative sizes and widths at most `2^24`, either nothing changes or the movable area afterwards is at most
`(1 + 2^-24) · Σ e'ᵢ·areaᵢ` (exact sum) over the factors `e'` that are actually applied
(`ExpandF.effectiveFactors`: the given ones, or their ratio-adjusted, `float`-rounded versions, each at least 1
when the given one is — `byFactorF_not_narrower` — and at least `0.999f` in any case).
MISSING: the bound of `Σ e'ᵢ·areaᵢ` by `maxDensity·rowArea` through the `double` computations of `expandedArea`,
`expandedDensity` and `ratio` (in exact arithmetic: `byFactor_under_cap`). -/
theorem byFactorF_utilisation_partial (c c' : Circuit) (efs : List Rat) (maxD margin ret : Rat)
    (h : ExpandF.expandCellsByFactor c efs maxD margin = some (c', ret)) (hsz : NonnegSizes c.cells)
    (hw : ∀ cl ∈ c.cells, cl.fixed = false → cl.w ≤ 2 ^ 24) :
    c' = c ∨
    ((movableArea c'.cells : Rat) ≤ (1 + (2 : Rat) ^ (-24 : Int)) *
        expandedArea c.cells (ExpandF.effectiveFactors c efs maxD margin) ∧
      ∀ e ∈ ExpandF.effectiveFactors c efs maxD margin, ExpandF.minFactor ≤ e) := by
  obtain ⟨hlen, hmin, rfl | ⟨hd, rfl⟩⟩ := ExpandF.expandCellsByFactor_eq_some h
  · exact Or.inl rfl
  · have hge := ExpandF.effectiveFactors_ge_min c efs maxD margin hd hmin
    exact Or.inr ⟨ExpandF.applyFactors_area_le c.cells _ hsz
      (fun e he => le_trans ExpandF.half_le_minFactor (hge e he)) hw
      (by rw [ExpandF.effectiveFactors_length, hlen]), hge⟩

/-- The same float-path bound for ANY non-negative width (cells wider than `2^24` included, where `(float)w`
rounds as well): area after ≤ `(1 + 2^-24)² · Σ e'ᵢ·areaᵢ`; the `std::max` of the repair costs nothing because
`w ≤ w·e'` for `e' ≥ 1`.  Same missing part as `byFactorF_utilisation_partial`. -/
theorem byFactorF_utilisation_partial_any_width (c c' : Circuit) (efs : List Rat) (maxD margin ret : Rat)
    (h : ExpandF.expandCellsByFactor c efs maxD margin = some (c', ret)) (hsz : NonnegSizes c.cells) :
    c' = c ∨
    (movableArea c'.cells : Rat) ≤ (1 + (2 : Rat) ^ (-24 : Int)) ^ 2 *
        expandedArea c.cells (ExpandF.effectiveFactors c efs maxD margin) := by
  obtain ⟨hlen, hmin, rfl | ⟨hd, rfl⟩⟩ := ExpandF.expandCellsByFactor_eq_some h
  · exact Or.inl rfl
  · exact Or.inr (ExpandF.applyFactors_area_le_any c.cells _ hsz
      (fun e he => le_trans ExpandF.half_le_minFactor (ExpandF.effectiveFactors_ge_min c efs maxD margin hd hmin e he))
      (by rw [ExpandF.effectiveFactors_length, hlen]))

/-- Accumulation error of `expandedArea += (double)e * (double)area(i)` (lower side, the one the cap needs):
for non-negative sizes and factors at least 1/2 (every accepted factor is at least `0.999f`) the accumulated
`double` is at least the exact sum `Σ eᵢ·areaᵢ` times `(1−2^-53)^(4n)` — four roundings per cell — and it is
0 or at least 1/4 (never subnormal). -/
theorem byFactorF_expandedArea_error (cells : List Cell) (efs : List Rat) (hsz : NonnegSizes cells)
    (he : ∀ e ∈ efs, 1 / 2 ≤ e) :
    expandedArea cells efs * (1 - (2 : Rat) ^ (-53 : Int)) ^ (4 * cells.length) ≤
      ExpandF.expandedArea 0 cells efs ∧
    (ExpandF.expandedArea 0 cells efs = 0 ∨ 1 / 4 ≤ ExpandF.expandedArea 0 cells efs) := by
  have := ExpandF.expandedArea_rle cells efs 0 hsz he (Or.inl rfl)
  rw [zero_add] at this
  exact ⟨this.1.down, this.2⟩

/-- **The by-factor cap with rounding, branch without ratio adjustment** (`expandedDensity ≤ maxDensity` as
computed): for every accepted factor vector, non-negative sizes of any width, positive areas, `rowArea ≤ 2^63`,
either nothing changes or

  `area after · (1−2^-53)^(4n+1)  ≤  (1+2^-24)² · (1+2^-53) · maxDensity · rowArea`      (`n` = number of cells)

— the `double` path (`4n` roundings of the accumulation, one of the quotient, one of `(double)rowArea`) and the
`float` path (two roundings per cell) chained.  MISSING for `byFactorF_utilisation_full_statement`: the branch
in which the factors are scaled by `ratio`. -/
theorem byFactorF_cap_unadjusted (c c' : Circuit) (efs : List Rat) (maxD margin ret : Rat)
    (h : ExpandF.expandCellsByFactor c efs maxD margin = some (c', ret)) (hsz : NonnegSizes c.cells)
    (hA : 0 < movableArea c.cells) (hR : 0 < ExpandF.rowPlacementArea c margin)
    (hR63 : ExpandF.isI64 (ExpandF.rowPlacementArea c margin) = true)
    (hun : ¬ ExpandF.expandedDensity c efs margin > maxD) :
    c' = c ∨
    (movableArea c'.cells : Rat) * (1 - (2 : Rat) ^ (-53 : Int)) ^ (4 * c.cells.length + 1) ≤
      (1 + (2 : Rat) ^ (-24 : Int)) ^ 2 * (1 + (2 : Rat) ^ (-53 : Int)) * maxD *
        (ExpandF.rowPlacementArea c margin : Rat) := by
  obtain ⟨hlen, hmin, rfl | ⟨_, rfl⟩⟩ := ExpandF.expandCellsByFactor_eq_some h
  · exact Or.inl rfl
  · right
    have hhalf : ∀ e ∈ efs, (1 : Rat) / 2 ≤ e := fun e he => le_trans ExpandF.half_le_minFactor (hmin e he)
    have heff : ExpandF.effectiveFactors c efs maxD margin = efs := by
      unfold ExpandF.effectiveFactors ExpandF.effectiveOf; rw [if_neg hun]
    simp only [heff]
    -- the `float` path of the width update, then the `double` path of the test against `maxDensity`
    have h1 := ExpandF.applyFactors_area_le_any c.cells efs hsz hhalf hlen.symm
    have h2 := ((ExpandF.expandedArea_rle_of_density_le c.cells efs _ maxD hsz hhalf hR (ExpandF.isI64_abs hR63)
      (not_lt.mp hun)).mul_left (sq_nonneg (1 + (2 : Rat) ^ (-24 : Int)))).le
    refine (mul_le_mul_of_nonneg_right h1 (F64.Rle.q_pos _).le).trans (h2.trans_eq ?_)
    rw [pow_one, F64.u53_eq]
    ring

/-- **The by-factor cap with rounding, ratio-adjusted branch, up to the computed ratio** (partial).  For `float`
factors `1 ≤ e ≤ 2^53` (the property's quantifier: factor vectors ≥ 1), non-negative sizes of any width, in the
branch `expandedDensity > maxDensity`: either nothing changes or

  `area after ≤ (1+2^-24)³·(1+2^-53)² · (A + ρ·(S − A))`

with `A` the movable area before, `S = Σ eᵢ·areaᵢ` (exact) and `ρ = ExpandF.ratioOf …` the `double` ratio the code
computes (`0 ≤ ρ ≤ 1`): `e - 1.0` is exact, the product by `ρ`, the sum, the narrowing to `float`, `(float)w`
and the `float` product round once each.  MISSING for `byFactorF_utilisation_full_statement`: that the computed
`ρ` satisfies `ρ·(S − A) ≤ maxDensity·rowArea − A` up to rounding (two-sided bound of the accumulated
`expandedArea`, of `density` and of the two differences); in exact arithmetic this is `byFactor_under_cap`. -/
theorem byFactorF_cap_adjusted_partial (c c' : Circuit) (efs : List Rat) (maxD margin ret : Rat)
    (h : ExpandF.expandCellsByFactor c efs maxD margin = some (c', ret)) (hsz : NonnegSizes c.cells)
    (hfl : ∀ e ∈ efs, F64.f64 e = e ∧ 1 ≤ e ∧ e ≤ 2 ^ 53)
    (hadj : ExpandF.expandedDensity c efs margin > maxD) :
    c' = c ∨
    (movableArea c'.cells : Rat) ≤
      (1 + (2 : Rat) ^ (-24 : Int)) ^ 2 * ((1 + (2 : Rat) ^ (-53 : Int)) ^ 2 * (1 + (2 : Rat) ^ (-24 : Int))) *
        ((movableArea c.cells : Rat) +
          ExpandF.ratioOf maxD (ExpandF.density c margin) (ExpandF.expandedDensity c efs margin) *
            (expandedArea c.cells efs - (movableArea c.cells : Rat))) := by
  obtain ⟨hlen, _, rfl | ⟨hd, rfl⟩⟩ := ExpandF.expandCellsByFactor_eq_some h
  · exact Or.inl rfl
  · right
    obtain ⟨r0, _⟩ := ExpandF.ratioOf_bounds maxD _ _ hd hadj
    have heff : ExpandF.effectiveFactors c efs maxD margin =
        efs.map (ExpandF.adjust (ExpandF.ratioOf maxD (ExpandF.density c margin)
          (ExpandF.expandedDensity c efs margin))) := by
      unfold ExpandF.effectiveFactors ExpandF.effectiveOf; rw [if_pos hadj]
    have hone := ExpandF.effectiveFactors_ge_one c efs maxD margin hd (fun e he => (hfl e he).2.1)
    have h1 := ExpandF.applyFactors_area_le_any c.cells (ExpandF.effectiveFactors c efs maxD margin) hsz
      (fun e he => le_trans (by norm_num) (hone e he)) (by rw [ExpandF.effectiveFactors_length, hlen])
    simp only [heff] at h1 ⊢
    have h2 := ExpandF.expandedArea_adjust_le _ r0 c.cells efs hsz hfl hlen.symm
    exact le_trans h1 (by rw [mul_assoc]; exact mul_le_mul_of_nonneg_left h2 (sq_nonneg _))

-- non-vacuity of `byFactorF_cap_adjusted_partial`: the witness with maxDensity 85/128 is in the adjusted branch
example : (∀ e ∈ [(19 / 16 : Rat)], F64.f64 e = e ∧ 1 ≤ e ∧ e ≤ 2 ^ 53) ∧
    ExpandF.expandedDensity witness [19 / 16] 0 > 85 / 128 ∧
    ¬ ExpandF.noopOf (movableArea witness.cells) (ExpandF.rowPlacementArea witness 0) (85 / 128) := by
  exact ⟨List.forall_mem_singleton.mpr (by decide +kernel), by decide +kernel, by decide +kernel⟩

-- non-vacuity of `byFactorF_cap_unadjusted`: the witness with maxDensity 1 is expanded (10 -> 11) without adjustment
example : ExpandF.isI64 (ExpandF.rowPlacementArea witness 0) = true ∧
    ¬ ExpandF.expandedDensity witness [19 / 16] 0 > 1 ∧
    ((ExpandF.expandCellsByFactor witness [19 / 16] 1 0).map fun r => r.1.cells.map (·.w)) = some [11] := by
  decide +kernel

example : NonnegSizes witness.cells ∧ (∀ cl ∈ witness.cells, cl.fixed = false → cl.w ≤ 2 ^ 24) ∧
    ¬ ExpandF.noopOf (movableArea witness.cells) (ExpandF.rowPlacementArea witness 0) (85 / 128) ∧
    ((ExpandF.expandCellsByFactor witness [19 / 16] (85 / 128) 0).map fun r => r.1.cells.map (·.w)) = some [10] ∧
    ExpandF.effectiveFactors witness [19 / 16] (85 / 128) 0 ≠ [19 / 16] := by
  exact ⟨List.forall_mem_singleton.mpr (by decide), List.forall_mem_singleton.mpr (by decide),
    by decide +kernel, by decide +kernel, by decide +kernel⟩

/-- `computeCellExpansion` with rounding: it throws exactly on a negative fixed penalty or a penalty factor
below 1; otherwise one factor per cell: 1 for a fixed cell; for a movable cell the factor is at least 1, at
least the float-rounded region factor `regionFactor fp pf cg = f32' (f64 (f32' (f32' (f32' (cg−1)·pf) + fp) + 1))`
of every congested region (`cg > 1`) its placement intersects, and it is either 1 (the only possible value when
it intersects no congested region) or attained by such a region: the maximum of the rounded factors. -/
theorem cellExpansionF_max (c : Circuit) (cmap : List (Rect × Rat)) (fp pf : Rat) :
    (ExpandF.computeCellExpansion c cmap fp pf = none ↔ (fp < 0 ∨ pf < 1)) ∧
    ∀ l, ExpandF.computeCellExpansion c cmap fp pf = some l →
      l.length = c.cells.length ∧
      ∀ i, i < c.cells.length →
        ((c.cell i).fixed = true → l.getD i 1 = 1) ∧
        ((c.cell i).fixed = false →
          1 ≤ l.getD i 1 ∧
          (∀ r cg, (r, cg) ∈ cmap → cg > 1 → r.intersects (c.cell i).placement = true →
            ExpandF.regionFactor fp pf cg ≤ l.getD i 1) ∧
          (l.getD i 1 = 1 ∨ ∃ r cg, (r, cg) ∈ cmap ∧ cg > 1 ∧ r.intersects (c.cell i).placement = true ∧
            l.getD i 1 = ExpandF.regionFactor fp pf cg)) :=
  cellExpansion_spec c cmap _ (ExpandF.regionFactor fp pf) (ExpandF.mem_sortedMap cmap fp pf) _

/-- The `std::sort` of the expansion map is unobservable: whatever order the (unstable) sort leaves the
regions in — any permutation `m` of the unsorted map — the maximum a cell takes over it is the one of the model. -/
theorem cellExpansionF_order_independent (place : Rect) (cmap : List (Rect × Rat)) (fp pf : Rat)
    (m : List (Rect × Rat)) (hm : m.Perm (ExpandF.expansionMap cmap fp pf)) :
    regionMax place 1 m = regionMax place 1 (ExpandF.sortedMap cmap fp pf) :=
  ExpandF.regionMax_perm place (hm.trans (ExpandF.sortedMap_perm cmap fp pf).symm) 1

/-- The rounded region factor is at least 1 and monotone in the congestion value, so "the largest factor
among the intersected congested regions" is the factor of the largest congestion among them. -/
theorem regionFactorF_ge_one_and_monotone (fp pf : Rat) (hfp : 0 ≤ fp) (hpf : 1 ≤ pf) :
    (∀ cg, 1 < cg → 1 ≤ ExpandF.regionFactor fp pf cg) ∧
    (∀ c₁ c₂, c₁ ≤ c₂ → ExpandF.regionFactor fp pf c₁ ≤ ExpandF.regionFactor fp pf c₂) :=
  ⟨fun cg h => ExpandF.regionFactor_ge_one fp pf cg hfp (by linarith) (le_of_lt h),
   fun _ _ h => ExpandF.regionFactor_mono fp pf (by linarith) h⟩

-- the float factor differs from the rational one: 1/3-congestion over 1 with penalty factor 1.1f
example : ExpandF.regionFactor 0 (11 / 10) (4 / 3) ≠ (4 / 3 - 1) * (11 / 10) + 0 + 1 := by decide +kernel

end ColoVerif.C18
