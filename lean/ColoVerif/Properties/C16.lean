import ColoVerif.Proofs.GridGroup
import ColoVerif.Proofs.GridCircuit
import ColoVerif.Proofs.GridSched
import ColoVerif.Proofs.GeomTie
/-
C16 — density bins account for all free area; every cell is in exactly one bin.

All statements are about the definitions of `ColoVerif/Model/Grid.lean`, which `Driver/C16.lean`
executes against the C++ (`harness/h_C16.cpp`).  Predicates (`RectValid`, `overlap`, `InsideLimits`,
`HierOk`, `ParOk`, `AllocInv`) are spelled out in `Proofs/GridDefs.lean`.

`circuit_grid_capacity_is_free_area` discharges the hypotheses of `capacity_conserved` for the grids
`fromIspdCircuit` builds (lemmas: `Proofs/GridCircuit.lean`, on top of C15's interval lemmas);
`schedule_ops_preserve_alloc` instantiates `alloc_inv` on the schedules of the public passes
(`Model/GridSched.lean`, tied to the code call by call through the op-log hook H4).

Not proved here (see tools/props/C16.py PARTIAL): that the real float-driven calls are instances of the
skeleton steps and that the real passes follow the schedule model (both checked per explored call by the
correspondence), and that the reported coordinates of a cell lie inside its bin (C06, `spread_inside`).
-/
namespace ColoVerif.C16
open ColoVerif ColoVerif.Grid

/-- `computeSubdivisions`: the limits are monotone, start at `min`, end at `max` — consecutive limits tile
`[min, max)`. -/
theorem subdivisions_partition (mn mx : Int) (n : Nat) (hn : 1 ≤ n) (h : mn ≤ mx) :
    (computeSubdivisions mn mx n).length = n + 1 ∧
    (computeSubdivisions mn mx n).head? = some mn ∧
    (computeSubdivisions mn mx n).getLast? = some mx ∧
    (computeSubdivisions mn mx n).Pairwise (· ≤ ·) :=
  subdivisions_partition_lem mn mx n hn h

/-- `updateBinCapacity(regions)` over monotone limits: per bin, the accumulated capacity is the sum over the
regions of the geometric area of region ∩ bin (with pairwise disjoint regions: the free area inside the bin);
for regions inside the area spanned by the limits, the bins' capacities add up to the regions' total area. -/
theorem capacity_conserved (limX limY : List Int) (regions : List Rect)
    (hX : limX.Pairwise (· ≤ ·)) (hY : limY.Pairwise (· ≤ ·)) (hxne : limX ≠ []) (hyne : limY ≠ [])
    (hv : ∀ r ∈ regions, RectValid r) :
    (∀ i j, i + 1 < limX.length → j + 1 < limY.length →
      binCapOf limX limY regions i j = (regions.map fun r => overlap r (regionOf limX limY i j)).sum) ∧
    ((∀ r ∈ regions, InsideLimits limX limY r) →
      ((capacities limX limY regions).map List.sum).sum = (regions.map Rect.area).sum) :=
  ⟨fun i j hi hj => binCap_eq_overlap limX limY regions hX hY hv i j hi hj,
   fun hin => capacities_total limX limY regions hX hY hv hin⟩

/-- `DensityGrid(binSize, regions)` (hence `fromIspdCircuit`, which calls it with the clipped rows), any bin
size: the limits tile the bounding box of the regions, which contains every region, and the total capacity is
the total region area. -/
theorem grid_tiles_and_conserves (binSize : Int) (regions : List Rect) (hne : regions ≠ [])
    (hv : ∀ r ∈ regions, RectValid r) :
    let g := DGrid.ofRegions binSize regions
    let a := computePlacementArea regions
    (∀ r ∈ regions, a.minX ≤ r.minX ∧ r.maxX ≤ a.maxX ∧ a.minY ≤ r.minY ∧ r.maxY ≤ a.maxY) ∧
    g.limX.head? = some a.minX ∧ g.limX.getLast? = some a.maxX ∧ g.limX.Pairwise (· ≤ ·) ∧
    g.limY.head? = some a.minY ∧ g.limY.getLast? = some a.maxY ∧ g.limY.Pairwise (· ≤ ·) ∧
    g.totalCapacity = (regions.map Rect.area).sum :=
  ofRegions_ok binSize regions hv

/-- `setupHierarchyHelper(n)`: every level's limits strictly increase from 0 to `n`; the coarsest level is the
single bin and the finest the grid itself (so the loop's fuel suffices); parent vectors have the right size,
list children parent after parent without skipping one; a bin lies inside its parent and the children of a
bin tile it (`HierOk`). -/
theorem hierarchy_wf (n : Nat) (hn : 1 ≤ n) : HierOk (setupHierarchy n) n :=
  hierarchy_wf_lem n hn

/-- On every state reachable from the constructor by any operation list: coarsening in x (resp. y) gives bins
whose capacity is exactly the sum of the capacities of their children in the previous view, and the
capacities of the current view add up to the capacity of the whole grid — which is `totalCapacity` for a grid
built by `DensityGrid(binSize, regions)`. -/
theorem group_capacity_exact (g : DGrid) (demand : List Int) (hx : 1 ≤ g.nbX) (hy : 1 ≤ g.nbY) (ops : List Op) :
    let s := (HState.init g demand).run ops
    (∀ p j, s.levelX + 1 < s.hx.nbLevels → p < s.coarsenX.nbX →
      s.coarsenX.binCapacity p j =
        (((List.range s.nbX).filter fun x => s.parentX x == p).map fun x => s.binCapacity x j).sum) ∧
    (∀ i p, s.levelY + 1 < s.hy.nbLevels → p < s.coarsenY.nbY →
      s.coarsenY.binCapacity i p =
        (((List.range s.nbY).filter fun y => s.parentY y == p).map fun y => s.binCapacity i y).sum) ∧
    ((List.range s.nbX).map fun x => ((List.range s.nbY).map fun y => s.binCapacity x y).sum).sum =
      g.groupCapacity 0 g.nbX 0 g.nbY ∧
    (∀ binSize regions, g = DGrid.ofRegions binSize regions → g.groupCapacity 0 g.nbX 0 g.nbY = g.totalCapacity) := by
  intro s
  have hinv : Inv g.nbX g.nbY s := inv_run ops _ (inv_init g demand hx hy)
  have hg : s.grid = g := (run_frame ops (HState.init g demand)).2.2.2
  refine ⟨fun p j hl hp => coarsenX_capacity s g.nbX hinv.hxOk hl p j hp,
    fun i p hl hp => coarsenY_capacity s g.nbY hinv.hyOk hl i p hp, ?_, ?_⟩
  · have := view_total s g.nbX g.nbY hinv.hxOk hinv.hyOk hinv.alloc.lvlX hinv.alloc.lvlY
    rw [hg] at this
    exact this
  · intro binSize regions e
    subst e
    exact groupCapacity_whole _ (capacities_shape _ _ regions)

/-- The allocation invariant holds after the constructor and after any sequence of `refineX/Y`,
`coarsenX/Y` and skeleton steps — `rebisect` for every permutation and split index, `reoptimize` for every
assignment vector, `improveX/YTransport` for every assignment per row/column, and the general
`redistribute` for every choice of bins and new contents: the table has the shape of the view, no cell is
twice in a bin or in two bins, exactly the positive-demand cells are allocated, `cellBinX/Y` agree with
`binCells` and are `-1` for unallocated cells. -/
theorem alloc_inv (g : DGrid) (demand : List Int) (hx : 1 ≤ g.nbX) (hy : 1 ≤ g.nbY) (ops : List Op) :
    AllocInv ((HState.init g demand).run ops) :=
  (inv_run ops _ (inv_init g demand hx hy)).alloc

/-- `alloc_inv` cell by cell, on grids built by `DensityGrid(binSize, regions)` (no side condition): a cell of
positive demand is in exactly one bin of the current view, exactly once, and `cellBinX/Y` name that bin; any
other cell is in no bin and its `cellBinX/Y` are `-1`. -/
theorem alloc_inv_cellwise (binSize : Int) (regions : List Rect) (demand : List Int) (ops : List Op) (c : Nat) :
    let s := (HState.init (DGrid.ofRegions binSize regions) demand).run ops
    ((c < demand.length ∧ demand.getD c 0 > 0) →
      ∃ i j, i < s.nbX ∧ j < s.nbY ∧ (s.cells i j).count c = 1 ∧
        (∀ i' j', c ∈ s.cells i' j' → i' = i ∧ j' = j) ∧
        s.cbx.getD c (-1) = (i : Int) ∧ s.cby.getD c (-1) = (j : Int)) ∧
    (¬ (c < demand.length ∧ demand.getD c 0 > 0) →
      (∀ i j, c ∉ s.cells i j) ∧ s.cbx.getD c (-1) = -1 ∧ s.cby.getD c (-1) = -1) := by
  intro s
  have hpos := ofRegions_nb_pos binSize regions
  have h := alloc_inv (DGrid.ofRegions binSize regions) demand hpos.1 hpos.2 ops
  have hd : s.demand = demand := (run_frame ops (HState.init (DGrid.ofRegions binSize regions) demand)).2.2.1
  have := allocInv_explicit s h c
  unfold HState.nbCells HState.cellDemand at this
  rw [hd] at this
  exact this

/-- **Capacity = free row area, for circuits.**  For a circuit whose rows have the C01 domain shape
(`RowsDom`: uniform positive row height, rows pairwise non-intersecting, non-empty x-ranges — the row part of
`C01.Dom`, verbatim) and a non-negative `sideMargin` (mantissa ≥ 0), any cells, any obstructions, any
`sizeFactor`: the regions `DensityGrid::fromIspdCircuit` hands to the constructor — the free segments of
`Circuit::computeRows` (C15) wider than twice the margin, shortened by the margin on both sides; with the
code's fallbacks when that leaves nothing — are a non-empty list of valid rectangles, pairwise
non-intersecting, all inside the area spanned by the grid limits.  Hence, without side conditions:
the total capacity is the sum of the areas of the clipped free segments; the capacity of every bin is the sum
over the segments of area(segment ∩ bin), which — the segments being disjoint — is the number of unit
squares of the bin that lie in a clipped free segment (`coveredArea`). -/
theorem circuit_grid_capacity_is_free_area (c : Circuit) (sfMant sfExp smMant smExp : Int)
    (hd : RowsDom c) (hm : 0 ≤ smMant) :
    let margin := floatMulTrunc smMant smExp (minCellHeight c)
    let R := ispdRegions c margin
    let g := DGrid.fromIspdCircuit c sfMant sfExp smMant smExp
    0 ≤ margin ∧
    (clippedRows c.computeRows margin ≠ [] → R = clippedRows c.computeRows margin) ∧
    (∀ q, q ∈ clippedRows c.computeRows margin ↔ ∃ s ∈ c.computeRows, 2 * margin < s.rect.width ∧
      q = ⟨s.rect.minX + margin, s.rect.maxX - margin, s.rect.minY, s.rect.maxY⟩) ∧
    R ≠ [] ∧ (∀ r ∈ R, RectValid r) ∧ R.Pairwise (fun a b => a.intersects b = false) ∧
    (∀ r ∈ R, InsideLimits g.limX g.limY r) ∧
    g.totalCapacity = (R.map Rect.area).sum ∧
    (∀ i j, i < g.nbX → j < g.nbY →
      g.binCapacity i j = (R.map fun r => overlap r (g.region i j)).sum ∧
      g.binCapacity i j = coveredArea R (g.region i j)) := by
  intro margin R g
  have hm' : 0 ≤ margin := floatMulTrunc_nonneg _ _ _ hm (Int.le_of_lt (minCellHeight_pos c))
  obtain ⟨hne, hv, hp⟩ := ispdRegions_ok c margin hd hm'
  obtain ⟨hin, hx0, hx1, _, hy0, hy1, _, htot⟩ := ofRegions_ok (floatMulTrunc sfMant sfExp (minCellHeight c)) R hv
  exact ⟨hm', ispdRegions_main c margin, mem_clippedRows _ margin, hne, hv, hp,
    fun r hr => insideLimits_of hx0 hx1 hy0 hy1 (hin r hr), htot, ofRegions_bin _ R hv hp⟩

/-- **Every schedule of a public pass preserves the allocation invariant.**  `passCalls p v choices pass` is the
list of private redistribution calls and level changes that `improve()` / `refine()` / `run()` /
`runCoarsening()` / `runRefinement()` make when started in view `v` with integer parameters `p` (and, for the
first loop of `runCoarsening`, float decisions `choices`): which bin groups are visited, in which order —
line / square / diagonal windows with the sizes, strides and overlaps of the parameters, neighbour pairs after
a refinement.  Whatever fills the float-dependent holes of the calls (`holes`: sort order and split of every
`rebisect`, assignment vector of every `reoptimize`, assignments of every transport row/column), after any
history `ops`, the state after the pass satisfies `AllocInv` — a direct corollary of `alloc_inv`, which
holds for every operation list.  Moreover the view after the pass is the one the schedule alone determines
(holes do not influence the control flow). -/
theorem schedule_ops_preserve_alloc (g : DGrid) (demand : List Int) (hx : 1 ≤ g.nbX) (hy : 1 ≤ g.nbY)
    (ops : List Op) (p : LegParams) (pass : Pass) (choices : List (Bool × Bool)) (holes : Nat → Hole) :
    let s := (HState.init g demand).run ops
    let s' := s.run (fill (passCalls p s.view choices pass) holes)
    AllocInv s' ∧ s'.view = s.view.run (passCalls p s.view choices pass) := by
  intro s s'
  refine ⟨?_, run_fill_view _ s holes⟩
  show AllocInv (((HState.init g demand).run ops).run _)
  rw [← run_append]
  exact alloc_inv g demand hx hy _

/-- The bin groups of the schedules are well-formed (`Call.WF`): every `reoptimize` of `improve()` — square,
line and diagonal windows, clipped at the border — and of `improveSquareNeighbours` names pairwise distinct
bins of the current `nbX × nbY` view, and every `rebisect` of `improveX/YNeighbours` two different bins of the
view.  So the admissibility test of the skeleton (`redistOk`: distinct bins inside the view) never fails
because of the schedule, for any parameters (accepted by the parameter check or not). -/
theorem schedule_calls_wellformed (p : LegParams) (v : View) (sameX sameY : Bool) :
    (∀ c ∈ Sched.improve p v, c.WF v.nbX v.nbY) ∧
    (∀ c ∈ Sched.improveXNeighbours v sameX, c.WF v.nbX v.nbY) ∧
    (∀ c ∈ Sched.improveYNeighbours v sameY, c.WF v.nbX v.nbY) ∧
    (∀ c ∈ Sched.improveSquareNeighbours v sameX sameY, c.WF v.nbX v.nbY) :=
  ⟨improve_wf p v, improveXNeighbours_wf v sameX, improveYNeighbours_wf v sameY,
   improveSquareNeighbours_wf v sameX sameY⟩

/-- a circuit of the domain of `circuit_grid_capacity_is_free_area`: two abutting rows of height 4, an
obstruction cutting the lower one; margin 1 (`sideMargin` 0.25 = 1·2⁻², cell height 4), bin size 8 -/
def demoCircuit : Circuit :=
  ⟨[⟨2, 4, 0, 0, .N, false, true, .ANY⟩, ⟨3, 4, 8, 0, .N, true, true, .ANY⟩], [],
   [⟨⟨0, 20, 0, 4⟩, .N⟩, ⟨⟨0, 20, 4, 8⟩, .FS⟩]⟩

example : RowsDom demoCircuit := by decide
example : ispdRegions demoCircuit (floatMulTrunc 1 (-2) (minCellHeight demoCircuit)) =
    [⟨1, 7, 0, 4⟩, ⟨12, 19, 0, 4⟩, ⟨1, 19, 4, 8⟩] := by decide
example : DGrid.fromIspdCircuit demoCircuit 2 0 1 (-2) = ⟨[1, 10, 19], [0, 8], [[60], [64]]⟩ := by decide
example : coveredArea [⟨1, 7, 0, 4⟩, ⟨12, 19, 0, 4⟩, ⟨1, 19, 4, 8⟩] ⟨10, 19, 0, 8⟩ = 64 := by decide

/-- the schedule of `improve()` on a 3 × 2 view: lines of 2 with overlap 1, one step, no square/diagonal pass -/
example : Sched.improveStep ⟨1, 2, 1, 1, 1, 1, 1, false⟩ 3 2 =
    [.reoptimize [(0, 0), (1, 0)], .reoptimize [(0, 1), (1, 1)], .reoptimize [(2, 0)], .reoptimize [(2, 1)],
     .reoptimize [(0, 0), (0, 1)], .reoptimize [(1, 0), (1, 1)], .reoptimize [(2, 0), (2, 1)],
     .reoptimize [(1, 0), (2, 0)], .reoptimize [(1, 1), (2, 1)],
     .reoptimize [(0, 1)], .reoptimize [(1, 1)], .reoptimize [(2, 1)]] := by decide

/-- the total of `capacity_conserved` on a concrete grid (its hypotheses for these limits and regions are checked
in an `example` of `Proofs/GridCap.lean`) -/
example : ((capacities [0, 5, 10] [0, 4] [⟨0, 10, 0, 2⟩, ⟨2, 7, 2, 4⟩]).map List.sum).sum = 30 := by decide

example : 1 ≤ (DGrid.ofRegions 4 [⟨0, 10, 0, 2⟩, ⟨2, 7, 2, 4⟩]).nbX ∧
    1 ≤ (DGrid.ofRegions 4 [⟨0, 10, 0, 2⟩, ⟨2, 7, 2, 4⟩]).nbY := by decide

/-- a concrete run: a refinement and a rebisect that really moves a cell -/
example :
    ((HState.init (DGrid.ofRegions 4 [⟨0, 10, 0, 2⟩, ⟨2, 7, 2, 4⟩]) [3, 0, 2]).run
      [.refineX, .rebisect 0 0 1 0 [2, 0] 1]).bins = [[[2]], [[0]]] := by decide

/-- an inadmissible skeleton argument (cell 2 dropped) leaves the state alone -/
example :
    ((HState.init (DGrid.ofRegions 4 [⟨0, 10, 0, 2⟩, ⟨2, 7, 2, 4⟩]) [3, 0, 2]).run
      [.refineX, .rebisect 0 0 1 0 [0] 1]).bins = [[[0, 2]], [[]]] := by decide

/-- The shared geometry layer under the density-grid model is *translated from the C++ source*: the definitions
of `Gen/GeomFns.lean`, regenerated on every run from the clang AST of the bodies of `Rectangle(int,int,int,int)`,
`Rectangle::width / height / area / intersects / intersection`, `isTurn`, `Circuit::isFixed / isObstruction /
placedWidth / placedHeight / placement / area` and of the loops of `Circuit::rowHeight()` and
`Circuit::computePlacementArea()`, are equal to the hand-written `Rect.*` / `Cell.*` / `Circuit.rowHeight` /
`Circuit.placementArea` that bin capacities (`intersects`, `intersection`, `area`), `DGrid.fromIspdCircuit` and the cell
demands are written in — `computePlacementArea` under the decidable hypothesis that the row coordinates are C++
`int`s (its INT_MAX / INT_MIN sentinels; `GeomTie.RowsInInt`, non-vacuity example in `Proofs/GeomTie.lean`).  A
semantic change of one of these bodies breaks this theorem. -/
theorem geometry_layer_translated :
    Gen.Geom.Rectangle_ctor = Rect.mk ∧
    Gen.Geom.Rectangle_width = Rect.width ∧
    Gen.Geom.Rectangle_height = Rect.height ∧
    Gen.Geom.Rectangle_area = Rect.area ∧
    Gen.Geom.Rectangle_intersects = Rect.intersects ∧
    Gen.Geom.Rectangle_intersection = Rect.intersection ∧
    Gen.Geom.isTurn = Orient.isTurn ∧
    Gen.Geom.Circuit_isFixed = Cell.fixed ∧
    Gen.Geom.Circuit_isObstruction = Cell.obstruction ∧
    Gen.Geom.Circuit_placedWidth = Cell.placedWidth ∧
    Gen.Geom.Circuit_placedHeight = Cell.placedHeight ∧
    Gen.Geom.Circuit_placement = Cell.placement ∧
    (∀ cl : Cell, Gen.Geom.Circuit_area cl = cl.w * cl.h) ∧
    Gen.Geom.Circuit_rowHeight = Circuit.rowHeight ∧
    (∀ c : Circuit, GeomTie.RowsInInt c → Gen.Geom.Circuit_computePlacementArea c = c.placementArea) :=
  ⟨GeomTie.gen_Rectangle_ctor_eq_model,
   GeomTie.gen_Rectangle_width_eq_model,
   GeomTie.gen_Rectangle_height_eq_model,
   GeomTie.gen_Rectangle_area_eq_model,
   GeomTie.gen_Rectangle_intersects_eq_model,
   GeomTie.gen_Rectangle_intersection_eq_model,
   GeomTie.gen_isTurn_eq_model,
   GeomTie.gen_Circuit_isFixed_eq_model,
   GeomTie.gen_Circuit_isObstruction_eq_model,
   GeomTie.gen_Circuit_placedWidth_eq_model,
   GeomTie.gen_Circuit_placedHeight_eq_model,
   GeomTie.gen_Circuit_placement_eq_model,
   (fun _ => rfl),
   GeomTie.gen_Circuit_rowHeight_eq_model,
   GeomTie.gen_Circuit_computePlacementArea_eq_model⟩

end ColoVerif.C16
