import ColoVerif.Gen.Api
import ColoVerif.Gen.Params
import ColoVerif.Gen.ApiExpansion
import ColoVerif.Proofs.BusyLemmas
import ColoVerif.Proofs.ApiExpansion
import ColoVerif.Model.LegacyBusy
/-
C19 — invalid inputs are refused with an error, not undefined behaviour.

About `Gen.Params` (check predicates, constructor event lists, default table), `Gen.Api`
(setter skeletons, placer entry points) and `Gen.ApiExpansion` (the rest of the public surface),
regenerated from the sources on every run; the driver `drv_C19` evaluates the same definitions on
the op lines of `harness/h_C19.cpp`.
-/
namespace ColoVerif.C19
open ColoVerif.ApiIR ColoVerif.Busy ColoVerif.Gen

/-- For every integer effort, every parameter constructor (the seven records; nested constructors
inlined) either throws before any array index / assertion that depends on the effort, or all of them
are in range: it ends `ok` or `threw`, never in an out-of-bounds read or an assertion failure. -/
theorem effort_checked_before_use :
    ∀ c ∈ Params.ctorIR, ∀ e : Int, runCtor e c.2 = .ok ∨ runCtor e c.2 = .threw := by
  intro c hc e
  have key : ∀ c ∈ Params.ctorIR, safeFrom none c.2 = true := by decide +kernel
  exact runCtor_safeFrom e c.2 none (key c hc) (by intro a b h; cases h)

/-- `ColoquinteParameters(effort)` refuses every effort outside 1..9 … -/
theorem effort_out_of_range_refused :
    ∀ c ∈ Params.ctorIR, c.1 = "ColoquinteParameters" → ∀ e : Int, (e < 1 ∨ e > 9) → runCtor e c.2 = .threw := by
  intro c hc hn e he
  have key : ∀ c ∈ Params.ctorIR, c.1 = "ColoquinteParameters" → checksFirst 1 9 c.2 = true := by decide +kernel
  exact runCtor_checksFirst e 1 9 he c.2 (key c hc hn)

/-- … and every record accepts every effort 1..9. -/
theorem effort_in_range_accepted :
    ∀ c ∈ Params.ctorIR, ∀ e ∈ [1, 2, 3, 4, 5, 6, 7, 8, 9], runCtor e c.2 = .ok := by decide +kernel

/-- all seven constructors were translated -/
theorem ctors_translated :
    Params.ctorIR.map (·.1) = ["PenaltyParameters", "ContinuousModelParameters", "RoughLegalizationParameters",
      "GlobalPlacerParameters", "LegalizationParameters", "DetailedPlacerParameters", "ColoquinteParameters"] := by decide +kernel

/-- The default parameters of every effort 1..9, as built by the compiled code (exact values read
back from the binary), pass `ColoquinteParameters::check()` (which runs all seven checks). -/
theorem defaults_pass_check :
    (Params.defaults.map (·.1) = [1, 2, 3, 4, 5, 6, 7, 8, 9]) ∧
    ∀ row ∈ Params.defaults, Params.ColoquinteParameters.check row.2 = true := by
  constructor
  · decide +kernel
  · decide +kernel

/- Every parameter field is policed by the check, or listed here.  A field the check does not look at can do harm
(`roughLegalization.sideMargin` before fix 07db192: a negative value put cells outside the rows, a huge one overflowed
an `int`), so the fields that `check()` does not constrain are part of the specification, and the translated check
must refuse an absurd value of every other field. -/

/-- The parameter fields no `check()` constrains — written by hand: two enums and a flag (every value of the C++ type is
meaningful), the seed, `coarseningLimit` (only scales a distance threshold in `DensityLegalizer::runCoarsening`: any value,
negative included, leaves the grid fully coarsened and then fully refined) and `orderingHeight` (known finding KF-C11-2). -/
def unpolicedFields : List String :=
  ["global.continuousModel.netModel", "global.roughLegalization.costModel",
   "global.roughLegalization.unidimensionalTransport", "global.roughLegalization.coarseningLimit",
   "legalization.orderingHeight", "seed"]

/-- the effort-3 defaults with field `i` replaced by `v` are refused by `ColoquinteParameters::check()` -/
def refusedWith (i : Nat) (v : Rat) : Bool :=
  match Params.defaults.find? (fun e => e.1 == 3) with
  | some e => !(Params.ColoquinteParameters.ofList (e.2.toList.set i v)).check
  | none => false

/-- One sweep over the translated fields, shared by the two theorems below (each field is looked up in
`unpolicedFields` and checked once for both; the last conjunct compares the names once more): a
listed field is refused at neither extreme, every other field at one of them; the unmodified defaults are accepted and
the listed names are names of fields. -/
theorem fields_classified :
    (∀ i ∈ List.range Params.fieldNames.length,
      if Params.fieldNames.getD i "" ∈ unpolicedFields
      then refusedWith i (-1000000000) = false ∧ refusedWith i 1000000000 = false
      else refusedWith i (-1000000000) = true ∨ refusedWith i 1000000000 = true) ∧
    refusedWith Params.fieldNames.length 0 = false ∧ unpolicedFields.all (· ∈ Params.fieldNames) = true := by
  decide +kernel

/-- **Every field of `ColoquinteParameters` is policed or listed**: for each of the translated fields, either it is one
of the six `unpolicedFields`, or the translated `check()` refuses the effort-3 defaults with that single field set to
−10⁹ or to 10⁹.  A field added without a check, or a check that is removed (as `sideMargin`'s was missing), breaks this. -/
theorem every_parameter_field_policed_or_listed :
    ∀ i ∈ List.range Params.fieldNames.length,
      (Params.fieldNames.getD i "" ∈ unpolicedFields) ∨ refusedWith i (-1000000000) = true ∨ refusedWith i 1000000000 = true := by
  intro i hi
  have h := fields_classified.1 i hi
  by_cases hm : Params.fieldNames.getD i "" ∈ unpolicedFields
  · exact Or.inl hm
  · rw [if_neg hm] at h
    exact Or.inr h

/-- … and the list is tight: none of the six listed fields is refused at either extreme (so the list does not hide a
policed field), and the unmodified defaults are accepted (so a refusal is due to the one field). -/
theorem unpoliced_fields_are_unpoliced :
    (∀ i ∈ List.range Params.fieldNames.length, Params.fieldNames.getD i "" ∈ unpolicedFields →
      refusedWith i (-1000000000) = false ∧ refusedWith i 1000000000 = false) ∧
    refusedWith Params.fieldNames.length 0 = false ∧ unpolicedFields.all (· ∈ Params.fieldNames) = true := by
  refine ⟨fun i hi hm => ?_, fields_classified.2⟩
  have h := fields_classified.1 i hi
  rwa [if_pos hm] at h

/-- Members that are reset at the start of every placement call and have no getter; writing them is
not an observable modification.  Part of the specification, written by hand. -/
def bookkeeping : List String := ["write:hasCellSizeUpdate_", "write:hasNetUpdate_"]

/-- In each placer entry point, with parameters that `check()` rejects, the call throws and
everything executed before is at most a reset of the bookkeeping flags: no observable member is
written, no algorithm is started, no callback can have run (`DetailedPlacer::place` starts with a call
of `DetailedPlacer::legalize`, which is followed into). -/
theorem rejected_before_work :
    ∀ f ∈ Api.placerEntries,
      (runEntry Api.placerEntries false f.body).1 = true ∧
      ∀ w ∈ (runEntry Api.placerEntries false f.body).2, w ∈ bookkeeping := by decide +kernel

/-- The public placement calls do nothing but take the in-use guard (of either kind: clearing or
re-entrant — which one is C10's matter) and call the corresponding placer entry point. -/
theorem entries_translated :
    Api.placerEntries.map (·.name) = ["GlobalPlacer::place", "DetailedPlacer::legalize", "DetailedPlacer::place"] ∧
    (∀ f ∈ Api.placementCalls, guardedCall f.body = true) ∧
    Api.placementCalls.map (·.body.drop 1) =
      [[.call "GlobalPlacer::place"], [.call "DetailedPlacer::legalize"], [.call "DetailedPlacer::place"]] := by decide +kernel

/-- setters whose (first) argument must have one element per cell — hand-written specification -/
def lengthChecked : List String :=
  ["setCellX", "setCellY", "setCellIsFixed", "setCellIsObstruction", "setCellOrientation", "setCellRowPolarity",
   "setCellWidth", "setCellHeight", "setSolution"]

theorem length_setters_translated : ∀ n ∈ "setNetWeights" :: lengthChecked, (lookup Api.setters n).isSome = true := by decide +kernel

theorem net_weights_length_checked :
    ∀ f ∈ Api.setters, f.name = "setNetWeights" → ∀ (env : Env) (st : St),
      (env.arg 0).len ≠ env.nbNets → exec noCall env f.body st = ⟨.thrown, st, []⟩ := by
  intro f hf hn env st hne
  have key : ∀ f ∈ Api.setters, f.name = "setNetWeights" → refuses f.body (.not (.eq (.size 0) .nbNets)) = true := by
    decide +kernel
  exact exec_refuses noCall env f.body st (key f hf hn) hne

/-- `addNet(cells, xOffsets, yOffsets)`: offsets of a different length than the cells, or a pin cell
outside the circuit, are refused with the circuit unchanged. -/
theorem nets_validated_addNet :
    ∀ f ∈ Api.setters, f.name = "addNet" → ∀ (env : Env) (st : St),
      ((env.arg 0).len ≠ (env.arg 1).len ∨ (env.arg 0).len ≠ (env.arg 2).len ∨
        ∃ c ∈ (env.arg 0).vals, c < 0 ∨ env.nbCells ≤ c) →
      exec noCall env f.body st = ⟨.thrown, st, []⟩ := by
  intro f hf hn env st hbad
  have key : ∀ f ∈ Api.setters, f.name = "addNet" →
      refuses f.body (.not (.eq (.size 0) (.size 1))) = true ∧ refuses f.body (.not (.eq (.size 0) (.size 2))) = true ∧
      refuses f.body (pinOutOfRange 0) = true := by decide +kernel
  obtain ⟨k1, k2, k3⟩ := key f hf hn
  rcases hbad with h | h | h
  · exact exec_refuses noCall env f.body st k1 h
  · exact exec_refuses noCall env f.body st k2 h
  · exact exec_refuses noCall env f.body st k3 h

/-- `setNets(limits, cells, xOffsets, yOffsets, weights)`: empty limits, limits not starting at 0 or
not sorted, a last limit different from the number of cells / x offsets / y offsets, a non-empty
weight vector whose length is not the number of nets, or a pin cell outside the circuit are refused
with the circuit unchanged.  (With these excluded, `netLimits_` is a non-decreasing sequence from 0
to the common length of the three pin vectors, so every net is a valid slice of them.) -/
theorem nets_validated_setNets :
    ∀ f ∈ Api.setters, f.name = "setNets" → ∀ (env : Env) (st : St),
      ((env.arg 0).len = 0 ∨ (env.arg 0).vals.headD 0 ≠ 0 ∨ sortedInts (env.arg 0).vals = false ∨
        (env.arg 0).vals.getLastD 0 ≠ (env.arg 1).len ∨ (env.arg 0).vals.getLastD 0 ≠ (env.arg 2).len ∨
        (env.arg 0).vals.getLastD 0 ≠ (env.arg 3).len ∨
        ((env.arg 0).len ≠ (env.arg 4).len + 1 ∧ (env.arg 4).len ≠ 0) ∨
        ∃ c ∈ (env.arg 1).vals, c < 0 ∨ env.nbCells ≤ c) →
      exec noCall env f.body st = ⟨.thrown, st, []⟩ := by
  intro f hf hn env st hbad
  have key : ∀ f ∈ Api.setters, f.name = "setNets" →
      refuses f.body (.empty 0) = true ∧ refuses f.body (.not (.eq (.front 0) (.lit 0))) = true ∧
      refuses f.body (.not (.sorted 0)) = true ∧ refuses f.body (.not (.eq (.back 0) (.size 1))) = true ∧
      refuses f.body (.not (.eq (.back 0) (.size 2))) = true ∧ refuses f.body (.not (.eq (.back 0) (.size 3))) = true ∧
      refuses f.body (.and (.not (.eq (.size 0) (.add (.size 4) (.lit 1)))) (.not (.empty 4))) = true ∧
      refuses f.body (pinOutOfRange 1) = true := by decide +kernel
  obtain ⟨k1, k2, k3, k4, k5, k6, k7, k8⟩ := key f hf hn
  rcases hbad with h | h | h | h | h | h | h | h
  · exact exec_refuses noCall env f.body st k1 h
  · exact exec_refuses noCall env f.body st k2 h
  · exact exec_refuses noCall env f.body st k3 (Bool.eq_false_iff.mp h)
  · exact exec_refuses noCall env f.body st k4 h
  · exact exec_refuses noCall env f.body st k5 h
  · exact exec_refuses noCall env f.body st k6 h
  · exact exec_refuses noCall env f.body st k7 h
  · exact exec_refuses noCall env f.body st k8 h

example : ∃ f ∈ Api.setters, f.name = "setNets" := by decide +kernel
example : ∃ f ∈ Api.setters, f.name ∈ lengthChecked := by decide +kernel
example : (⟨3, 0, [⟨2, [0, 5], 0⟩, ⟨2, [], 0⟩, ⟨2, [], 0⟩, ⟨0, [], 0⟩]⟩ : Env).arg 0 |>.vals |>.any (fun c => decide (c < 0 ∨ (3 : Int) ≤ c)) := by decide +kernel

/- The rest of the public surface: expansion API, Disruption methods, constructor.
`Gen.ApiExpansion` (regenerated from `src/coloquinte.cpp` on every run) holds, for each public non-const
method of `Circuit` that is not in `Gen.Api`, its validation prefix (the `throwIf`s reached before anything
else) and the members the remainder may write.  binary32 values are the integers `x · 2^149`. -/

/-- the binary32 value `m · 2^e` in the representation of the tables — hand-written -/
def f32 (m e : Int) : Int := m * 2 ^ (e + 149).toNat

/-- `0.999f` = 16760439 · 2⁻²⁴, the tolerance below the documented minimum 1 of an expansion factor -/
def factorBound : Int := f32 16760439 (-24)
/-- `1.0f` -/
def oneF : Int := f32 1 0

theorem expansion_translated :
    ApiExpansion.validated.map (·.name) =
      ["expandCellsToDensity", "expandCellsByFactor", "meanDisruption", "rmsDisruption", "maxDisruption"] ∧
    ApiExpansion.constValidated.map (·.name) = ["computeCellExpansion"] ∧
    ApiExpansion.constructors.map (·.name) = ["Circuit"] ∧
    ApiExpansion.floatScale = 149 ∧
    (∀ f ∈ ApiExpansion.validated ++ ApiExpansion.constValidated, checksThenStraight f.body = true) := by decide +kernel

theorem expandByFactor_shape : ∀ f ∈ ApiExpansion.validated, f.name = "expandCellsByFactor" →
    preConds f.body = [lenCondAt 0, Cond.anyElem 0 (.lt .elem (.lit factorBound))] ∧
    checksThenStraight f.body = true := by decide +kernel

/-- `expandCellsByFactor(expansionFactor, maxDensity, rowSideMargin)`: a factor vector whose length is not
the number of cells is refused before any member of the circuit is written. -/
theorem expansion_length_checked :
    ∀ f ∈ ApiExpansion.validated, f.name = "expandCellsByFactor" → ∀ (env : Env) (st : St),
      (env.arg 0).len ≠ env.nbCells → exec noCall env f.body st = ⟨.thrown, st, []⟩ := by
  intro f hf hn env st hne
  refine exec_refuses noCall env f.body st (a := lenCondAt 0) ?_ hne
  rw [refuses, (expandByFactor_shape f hf hn).1]
  rfl

/-- … and so is a vector with a factor below `0.999f`. -/
theorem expansion_factor_checked :
    ∀ f ∈ ApiExpansion.validated, f.name = "expandCellsByFactor" → ∀ (env : Env) (st : St),
      (∃ x ∈ (env.arg 0).vals, x < factorBound) → exec noCall env f.body st = ⟨.thrown, st, []⟩ := by
  intro f hf hn env st hbad
  refine exec_refuses noCall env f.body st (a := .anyElem 0 (.lt .elem (.lit factorBound))) ?_ hbad
  rw [refuses, (expandByFactor_shape f hf hn).1]
  decide

/-- These two are the only refusals of `expandCellsByFactor`: it throws iff the length is wrong or some
factor is below `0.999f` (factors in `[0.999f, 1)` are accepted although the documentation asks for at
least 1; `maxDensity` and `rowSideMargin` are not validated at all). -/
theorem expansion_refused_iff :
    ∀ f ∈ ApiExpansion.validated, f.name = "expandCellsByFactor" → ∀ (env : Env) (st : St),
      ((exec noCall env f.body st).out = .thrown ↔
        ((env.arg 0).len ≠ env.nbCells ∨ ∃ x ∈ (env.arg 0).vals, x < factorBound)) := by
  intro f hf hn env st
  obtain ⟨k1, k2⟩ := expandByFactor_shape f hf hn
  rw [exec_thrown_iff noCall env f.body st k2, k1]
  simp only [List.mem_cons, List.not_mem_nil, or_false, exists_eq_or_imp, exists_eq_left]
  exact or_congr (Cond.eval_iff env _ 0) (Cond.eval_iff env _ 0)

/-- `computeCellExpansion(congestionMap, fixedPenalty, penaltyFactor)` (const) refuses exactly
`fixedPenalty < 0` and `penaltyFactor < 1`, before anything else. -/
theorem cell_expansion_params_checked :
    ∀ f ∈ ApiExpansion.constValidated, f.name = "computeCellExpansion" → ∀ (env : Env) (st : St),
      (((env.arg 1).ival < 0 ∨ (env.arg 2).ival < oneF) → exec noCall env f.body st = ⟨.thrown, st, []⟩) ∧
      ((exec noCall env f.body st).out = .thrown ↔ ((env.arg 1).ival < 0 ∨ (env.arg 2).ival < oneF)) := by
  intro f hf hn env st
  have key : ∀ f ∈ ApiExpansion.constValidated, f.name = "computeCellExpansion" →
      preConds f.body = [Cond.or (.lt (.param 1) (.lit 0)) (.lt (.param 2) (.lit oneF))] ∧
      checksThenStraight f.body = true := by decide +kernel
  obtain ⟨k1, k2⟩ := key f hf hn
  have hthrown := exec_thrown_iff noCall env f.body st k2
  simp only [k1, List.mem_cons, List.not_mem_nil, or_false, exists_eq_left, Cond.eval_iff env _ 0] at hthrown
  refine ⟨fun h => exec_preConds noCall env f.body st ?_, hthrown⟩
  rw [k1]
  exact ⟨_, List.mem_cons_self, (Cond.eval_iff env _ 0).mpr h⟩

/-- `meanDisruption / rmsDisruption / maxDisruption (a, b, costModel)`: a solution whose length is not the
number of cells is refused first (the test is in the private `allDistances` they start with). -/
theorem disruption_lengths_checked :
    ∀ f ∈ ApiExpansion.validated, f.name ∈ ["meanDisruption", "rmsDisruption", "maxDisruption"] →
      ∀ (env : Env) (st : St), ((env.arg 0).len ≠ env.nbCells ∨ (env.arg 1).len ≠ env.nbCells) →
        exec noCall env f.body st = ⟨.thrown, st, []⟩ := by
  intro f hf hn env st hbad
  have key : ∀ f ∈ ApiExpansion.validated, f.name ∈ ["meanDisruption", "rmsDisruption", "maxDisruption"] →
      refuses f.body (lenCondAt 0) = true ∧ refuses f.body (lenCondAt 1) = true := by decide +kernel
  exact hbad.elim (exec_refuses noCall env f.body st (key f hf hn).1) (exec_refuses noCall env f.body st (key f hf hn).2)

/-- `expandCellsToDensity(targetDensity, rowSideMargin, maxExpandedWidth)` validates nothing: no argument
is ever refused (a target outside (0,1), a negative margin or a negative maximum width included); the only
member it may write is `cellWidth_`, and the same holds for `expandCellsByFactor`. -/
theorem density_expansion_unvalidated :
    (∀ f ∈ ApiExpansion.validated, f.name = "expandCellsToDensity" → preConds f.body = [] ∧
      ∀ (env : Env) (st : St), (exec noCall env f.body st).out = .normal) ∧
    (∀ f ∈ ApiExpansion.validated, ∀ m ∈ assigned f.body, m = "cellWidth_") := by
  constructor
  · intro f hf hn
    have key : ∀ f ∈ ApiExpansion.validated, f.name = "expandCellsToDensity" →
        preConds f.body = [] ∧ checksThenStraight f.body = true := by decide +kernel
    obtain ⟨k1, k2⟩ := key f hf hn
    refine ⟨k1, fun env st => ?_⟩
    rw [exec_checksThenStraight noCall env f.body st k2, k1]
    rfl
  · decide +kernel

/-- `Circuit(int nbCells)` with a negative count: the first statement is `cellWidth_.resize(nbCells)`,
where the count converted to `size_type` exceeds `max_size()` and `std::vector::resize` throws
`std::length_error` — before any member is written (the translator emits that library fact as the leading
`throwIf`; the harness observes the real exception class for negative counts down to `INT_MIN`). -/
theorem constructor_negative_count_refused :
    ApiExpansion.publicConstructors = [["int"]] ∧
    ∀ f ∈ ApiExpansion.constructors, ∀ (env : Env) (st : St), (env.arg 0).ival < 0 →
      exec noCall env f.body st = ⟨.thrown, st, []⟩ := by
  refine ⟨by decide +kernel, ?_⟩
  intro f hf env st hneg
  have key : ∀ f ∈ ApiExpansion.constructors, refuses f.body (.lt (.param 0) (.lit 0)) = true := by decide +kernel
  exact exec_refuses noCall env f.body st (key f hf) hneg

/-- (name, arity) of everything the tables cover -/
def coveredMutators : List (String × Nat) :=
  Api.setters.map (fun f => (f.name, f.params.length)) ++
  Api.placementCalls.map (fun f => (f.name, f.params.length)) ++
  ApiExpansion.effortWrappers.map (fun w => (w.1, 1)) ++
  ApiExpansion.validated.map (fun f => (f.name, f.params.length))

/-- The public non-const methods of `Circuit` found in the class definition are exactly the methods of the
tables (by name and arity): a new public mutator, or a new overload of an old one, breaks this theorem until
it is translated.  The `(int effort)` wrappers consist of calls of wrappers and placement calls only. -/
theorem every_public_mutator_covered :
    (∀ m ∈ ApiExpansion.publicMutators, m ∈ coveredMutators) ∧
    (∀ m ∈ coveredMutators, m ∈ ApiExpansion.publicMutators) ∧
    (∀ w ∈ ApiExpansion.effortWrappers, ∀ c ∈ w.2,
      c ∈ ApiExpansion.effortWrappers.map (fun w => (w.1, 1)) ∨
      c ∈ Api.placementCalls.map (fun f => (f.name, f.params.length))) := by decide +kernel

/-- vector parameters that must have one element per cell — hand-written specification -/
def perCellVectors : List (String × Nat) :=
  lengthChecked.map (fun n => (n, 0)) ++
  [("expandCellsByFactor", 0), ("meanDisruption", 0), ("meanDisruption", 1), ("rmsDisruption", 0),
   ("rmsDisruption", 1), ("maxDisruption", 0), ("maxDisruption", 1)]

/-- the other vector parameters of public methods — hand-written: rows (any number), pins of one net /
of all nets and net limits (`nets_validated_*`), one weight per net (`net_weights_length_checked`),
additional obstacles and congestion regions (any number) -/
def otherVectors : List (String × Nat) :=
  [("setRows", 0), ("addNet", 0), ("addNet", 1), ("addNet", 2), ("setNets", 0), ("setNets", 1), ("setNets", 2),
   ("setNets", 3), ("setNets", 4), ("setNetWeights", 0), ("computeRows", 0), ("computeCellExpansion", 0)]

/-- Every vector-typed parameter of a public method of `Circuit` is classified, and every per-cell one is
length-checked: a vector whose length differs from the number of cells is refused by the method with the
circuit unchanged — setters, expansion and Disruption methods alike. -/
theorem per_cell_vectors_refused :
    (∀ v ∈ ApiExpansion.vectorParams, (v.1, v.2.2) ∈ perCellVectors ∨ (v.1, v.2.2) ∈ otherVectors) ∧
    (∀ p ∈ perCellVectors, ∃ f ∈ Api.setters ++ ApiExpansion.validated, f.name = p.1) ∧
    ∀ p ∈ perCellVectors, ∀ f ∈ Api.setters ++ ApiExpansion.validated, f.name = p.1 → ∀ (env : Env) (st : St),
      (env.arg p.2).len ≠ env.nbCells → exec noCall env f.body st = ⟨.thrown, st, []⟩ := by
  -- one evaluation for the three table facts, so that every name is decoded once
  have key : (∀ v ∈ ApiExpansion.vectorParams, (v.1, v.2.2) ∈ perCellVectors ∨ (v.1, v.2.2) ∈ otherVectors) ∧
      (∀ p ∈ perCellVectors, ∃ f ∈ Api.setters ++ ApiExpansion.validated, f.name = p.1) ∧
      ∀ p ∈ perCellVectors, ∀ f ∈ Api.setters ++ ApiExpansion.validated, f.name = p.1 →
        refuses f.body (lenCondAt p.2) = true := by decide +kernel
  exact ⟨key.1, key.2.1, fun p hp f hf hn env st hne => exec_refuses noCall env f.body st (key.2.2 p hp f hf hn) hne⟩

/-- A vector whose length differs from the number of cells is refused by each of the `lengthChecked` setters, with
the circuit unchanged, busy or not. -/
theorem setters_length_checked :
    ∀ f ∈ Api.setters, f.name ∈ lengthChecked → ∀ (env : Env) (st : St),
      (env.arg 0).len ≠ env.nbCells → exec noCall env f.body st = ⟨.thrown, st, []⟩ :=
  fun f hf hn => per_cell_vectors_refused.2.2 (f.name, 0)
    (List.mem_append_left _ (List.mem_map.mpr ⟨f.name, hn, rfl⟩)) f (List.mem_append_left _ hf) rfl

example : ∃ f ∈ ApiExpansion.validated, f.name = "expandCellsByFactor" := by decide +kernel
example : ∃ f ∈ ApiExpansion.constValidated, f.name = "computeCellExpansion" := by decide +kernel
example : ∃ f ∈ ApiExpansion.constructors, f.name = "Circuit" := by decide +kernel
-- 0.9989f < 0.999f ≤ 1.0f in the representation of the tables
example : f32 16758761 (-24) < factorBound ∧ factorBound < oneF := by decide +kernel
-- a refused call of each kind: 3 cells; two factors / three factors one of which is 0.5f / fixedPenalty = -2⁻¹⁴⁹
example : ((⟨3, 0, [⟨2, [oneF, oneF], 0⟩]⟩ : Env).arg 0).len ≠ (⟨3, 0, [⟨2, [oneF, oneF], 0⟩]⟩ : Env).nbCells := by decide +kernel
example : ∃ x ∈ ((⟨3, 0, [⟨3, [oneF, f32 1 (-1), oneF], 0⟩]⟩ : Env).arg 0).vals, x < factorBound := by decide +kernel
example : ((⟨3, 0, [⟨1, [], 0⟩, ⟨0, [], -1⟩, ⟨0, [], oneF⟩]⟩ : Env).arg 1).ival < 0 := by decide +kernel

end ColoVerif.C19
