import ColoVerif.Model.NetAsm
import ColoVerif.Model.LegacyNetAsm
import ColoVerif.Proofs.NetAsmScale
import ColoVerif.Proofs.NetAsmLsq
import ColoVerif.Model.NetTopology
import ColoVerif.Proofs.NetTopology
import ColoVerif.Proofs.NetAsmModels
import ColoVerif.Proofs.NetAsmFinalize
import ColoVerif.Proofs.NetAsmHomog
import ColoVerif.Proofs.NetTopologyF32
/-
C17 — the continuous solver of global placement honours real-valued net weights.

All statements are about `NetAsm.assemble`, the model the driver `drv_C17` executes and the
harness compares with the triplets/rhs captured from the real `MatrixCreator` (hook H2), and
they go through `Gen.NetWeightType.store`, the storage conversion regenerated from the declared
element type of `NetModel::netWeight_` on every run: with `std::vector<int>` the proofs below
stop type-checking (`store_exact` is no longer `rfl`).

The circuit-level theorems (`topology_*`, `circuit_*`) are about `NetTopology.topology`, the model of
`NetModel::xTopology/yTopology` (which circuit nets are stored, with which pins and which weight) that the
driver executes on the circuits of the topology stream and the harness compares with the real `NetModel`'s
accessors.

Proved over `Rat` (exact arithmetic).  Not proved: float rounding inside the assembly and
convergence of Eigen's conjugate gradient.  The int → float conversions of `xTopology/yTopology`
*are* modelled (binary32 rounding, `Legalize.f32`).
-/
namespace ColoVerif.C17
open ColoVerif.NetAsm ColoVerif.NetTopology

/-- **Homogeneity of the assembly.**  Scaling all net weights (as passed to `NetModel::addNet`)
and all penalty strengths by `k` scales every matrix entry and every right-hand-side entry by `k`
and leaves the structure (unknowns, initial guess, non-zero flags) unchanged — for every net
list, offsets, placement, `ε`, penalty target/cutoff and each of the five assembly variants
(`createStar(topo)`, B2B, star, clique, light star). -/
theorem assembly_homogeneous (k : Rat) (m : Mode) (nbCells : Nat) (raws : List RawNet)
    (pl : List Rat) (ε : Rat) (pen : Option Penalty) :
    assemble m nbCells (raws.map (RawNet.scale k)) pl ε (pen.map (Penalty.scale k))
      = (assemble m nbCells raws pl ε pen).scale k :=
  assemble_scale k m nbCells raws pl ε pen

/-- Hence, for `k ≠ 0`, the scaled and the unscaled weights give linear systems `A x = b` with
the same solution set. -/
theorem solution_set_scale_invariant (k : Rat) (hk : k ≠ 0) (m : Mode) (nbCells : Nat)
    (raws : List RawNet) (pl : List Rat) (ε : Rat) (pen : Option Penalty) (x : Nat → Rat) :
    Solves (assemble m nbCells (raws.map (RawNet.scale k)) pl ε (pen.map (Penalty.scale k))) x
      ↔ Solves (assemble m nbCells raws pl ε pen) x := by
  rw [assembly_homogeneous]
  exact solves_scale k hk _ x

/-- The hypotheses of the least-squares theorems: stored cells are `-1` or valid, weights are
non-negative (stated on the nets with the weights the caller passed). -/
def WellFormed (nbCells : Nat) (raws : List RawNet) : Prop :=
  ∀ n ∈ buildWith (fun w => w) raws, NetOk nbCells n ∧ 0 ≤ n.weight

/-- **Two-pin nets and the initial star model are weighted least squares.**  The system assembled
by `NetModel::solveStar(params)` (two-pin nets: `addBipoint`; larger nets: a star with its own
unknown) is the normal-equation system of the documented quadratic `Q0` *with the real-valued
weights the caller passed*:  `Q(x + t) = Q(x) + 2⟨A x - b, t⟩ + ⟨A t, t⟩` for all `x, t`, i.e.
`A x - b = ½∇Q(x)` — the pull of a net on a cell is proportional to its weight. -/
theorem bipoint_star_is_least_squares (nbCells : Nat) (raws : List RawNet) (pl : List Rat) (ε : Rat)
    (h : WellFormed nbCells raws) :
    IsHalfGradient (assemble .star0 nbCells raws pl ε none)
      (fun x => Q0 x nbCells (buildWith (fun w => w) raws)) := by
  rw [assemble_eq]
  exact (assembleNets_star0_inv nbCells _ pl ε h).grad

/-- … with a positive semidefinite matrix, so every solution of `A x = b` is a global minimiser of
that quadratic: the initial placement is the weighted least-squares optimum. -/
theorem star_solution_minimizes (nbCells : Nat) (raws : List RawNet) (pl : List Rat) (ε : Rat)
    (h : WellFormed nbCells raws) (x : Nat → Rat)
    (hx : Solves (assemble .star0 nbCells raws pl ε none) x) (y : Nat → Rat) :
    Q0 x nbCells (buildWith (fun w => w) raws) ≤ Q0 y nbCells (buildWith (fun w => w) raws) := by
  rw [assemble_eq] at hx
  exact inv_solution_minimizes _ _ (assembleNets_star0_inv nbCells _ pl ε h) x hx y

/-- Hypothesis of the two-pin theorem: well-formed, and every stored net has two pins. -/
def TwoPin (nbCells : Nat) (raws : List RawNet) : Prop :=
  ∀ n ∈ buildWith (fun w => w) raws, NetOk nbCells n ∧ 0 ≤ n.weight ∧ n.pins.length ≤ 2

/-- **Two-pin nets in the re-weighted star and light-star models** (`NetModel::solve(pl, params)`):
the system is the normal-equation system of `Σ (W / max ε |p0(pl) - p1(pl)|) (p0 - p1)²` with the
real-valued weights `W`, its matrix is positive semidefinite, and every solution of `A x = b`
minimises that quadratic. -/
theorem two_pin_nets_are_least_squares (m : Mode) (hm : m = .star ∨ m = .lightStar) (nbCells : Nat)
    (raws : List RawNet) (pl : List Rat) (ε : Rat) (h : TwoPin nbCells raws) :
    IsHalfGradient (assemble m nbCells raws pl ε none)
        (fun x => QBip pl ε x (buildWith (fun w => w) raws))
      ∧ ∀ x, Solves (assemble m nbCells raws pl ε none) x →
          ∀ y, QBip pl ε x (buildWith (fun w => w) raws) ≤ QBip pl ε y (buildWith (fun w => w) raws) := by
  rw [assemble_eq]
  exact (assembleNets_twoPin_inv m hm nbCells _ pl ε h).lsq

/-- Pre-fix behaviour (F12, `std::vector<int> netWeight_`), kept in `Model/LegacyNetAsm.lean`:
a net of weight ½ assembles the zero matrix and zero right-hand side, whereas the real-valued
assembly gives the entry ½ and right-hand side 5. -/
theorem weights_truncated :
    (Legacy.assembleLegacy .star0 1 Legacy.halfNet [] 1 none).triplets = [(0, 0, 0)]
      ∧ (Legacy.assembleLegacy .star0 1 Legacy.halfNet [] 1 none).rhs = [0]
      ∧ (assembleWith (fun w => w) .star0 1 Legacy.halfNet [] 1 none).triplets = [(0, 0, 1 / 2)]
      ∧ (assembleWith (fun w => w) .star0 1 Legacy.halfNet [] 1 none).rhs = [5] :=
  Legacy.weights_truncated_witness

/-- … and the pre-fix assembly is not homogeneous. -/
theorem legacy_assembly_not_homogeneous :
    (Legacy.assembleLegacy .star0 1 (Legacy.halfNet.map (RawNet.scale 2)) [] 1 none).triplets
      ≠ ((Legacy.assembleLegacy .star0 1 Legacy.halfNet [] 1 none).scale 2).triplets :=
  Legacy.legacy_not_homogeneous

/-- **Every net kept by `xTopology`/`yTopology` carries the weight of the circuit net it came
from.**  `keptIdx c` is the explicit index map from `NetModel` nets to circuit nets: it has one
entry per stored net, is strictly increasing (order-preserving), enumerates exactly the
non-degenerate circuit nets (`IsKept`: a movable pin plus a second movable pin or a fixed pin — so
only empty nets, pads-only nets and dangling single pins are skipped), and the `k`-th stored net
has the weight `Circuit::netWeight` and the pins of circuit net `(keptIdx c)[k]` — for every
circuit, on both axes. -/
theorem topology_weights_faithful (a : Axis) (c : Circuit) :
    (topology a c).length = (keptIdx c).length
      ∧ List.Pairwise (fun i j => i < j) (keptIdx c)
      ∧ (∀ i : Nat, i ∈ keptIdx c ↔ ∃ n, c.nets[i]? = some n ∧ IsKept c n = true)
      ∧ ∀ k i : Nat, (keptIdx c)[k]? = some i →
          ∃ n, c.nets[i]? = some n ∧ (topology a c)[k]? = some (⟨netWeight n, storedPins a c n⟩ : NetAsm.Net) := by
  rw [topology_eq_circuitNets]
  exact ⟨by rw [circuitNets, List.length_map, keptIdx_length], keptIdx_pairwise c, mem_keptIdx c,
    keptIdx_get c _⟩

/-- **The pins of a stored net**: the pins of the circuit net on movable cells, in order, with the
offset to the cell centre (`offset - ½ placedWidth`), followed by the fixed pins folded into their
minimum and maximum position (`RangeOf`: both are positions of fixed pins of the net and bound all
of them), clamped to the placement area, one pin if the two coincide (`withFixed`). -/
theorem topology_pins_faithful (a : Axis) (c : Circuit) (n : ColoVerif.Net) :
    storedPins a c n
        = withFixed ((n.pins.filter (fun p => !(c.cell p.cell).fixed)).map (movablePin a c))
            (clampRange a c (walkPins a c n).range)
      ∧ RangeOf (fixedPositions a c n) (walkPins a c n).range := by
  refine ⟨?_, walkPins_rangeOf a c n⟩
  unfold storedPins
  rw [rawOf_pins]
  rfl

/-- **Least squares at the circuit level.**  The system that `solveStar(params)` assembles from
the `NetModel` returned by `xTopology(circuit)` / `yTopology(circuit)` is the normal-equation
system of `circuitQ`, the documented quadratic built from the circuit's *own* weights
(`Σ_{non-degenerate nets n} netWeight(n) · …`): `A x - b = ½∇Q(x)`. -/
theorem circuit_star_is_least_squares (a : Axis) (c : Circuit) (pl : List Rat) (ε : Rat)
    (h : CircuitOk c) :
    IsHalfGradient (assembleNets .star0 c.cells.length (topology a c) pl ε none) (circuitQ a c) := by
  rw [topology_eq_circuitNets]
  exact (assembleNets_star0_inv _ _ pl ε (circuitNets_wellFormed a c h)).grad

/-- … and every exact solution of that system minimises the circuit's weighted quadratic: the
initial placement of a circuit is the weighted least-squares optimum for the circuit's weights. -/
theorem circuit_star_solution_minimizes (a : Axis) (c : Circuit) (pl : List Rat) (ε : Rat)
    (h : CircuitOk c) (x : Nat → Rat)
    (hx : Solves (assembleNets .star0 c.cells.length (topology a c) pl ε none) x) (y : Nat → Rat) :
    circuitQ a c x ≤ circuitQ a c y := by
  rw [topology_eq_circuitNets] at hx
  exact inv_solution_minimizes _ _ (assembleNets_star0_inv _ _ pl ε (circuitNets_wellFormed a c h)) x hx y

/-- Cells of the stored nets are `-1` or valid (`NetModel::check`); no condition on the weights. -/
def CellsOk (nbCells : Nat) (raws : List RawNet) : Prop :=
  ∀ n ∈ buildWith (fun w => w) raws, NetOk nbCells n

/-- **Homogeneity of the finalized system.**  `MatrixCreator::finalize` prepends (newest first) the
regularisation entries `regEntries` — `(i, i, 1e-8f)` for the unknowns whose non-zero flag is still
false — to the assembled triplets and touches nothing else.  The flags do not depend on the weights,
so the finalized system for the weights `k·W` has the *same* regularisation entries, every other
entry and the right-hand side multiplied by `k`, and the same dimensions and initial guess — for
all inputs and all five variants. -/
theorem finalized_assembly_homogeneous (k : Rat) (m : Mode) (nbCells : Nat) (raws : List RawNet)
    (pl : List Rat) (ε : Rat) (pen : Option Penalty) :
    (finalize (assemble m nbCells (raws.map (RawNet.scale k)) pl ε (pen.map (Penalty.scale k)))).mat
        = regEntries (assemble m nbCells raws pl ε pen)
          ++ (assemble m nbCells raws pl ε pen).mat.map (fun t => (t.1, t.2.1, k * t.2.2))
      ∧ (finalize (assemble m nbCells raws pl ε pen)).mat
        = regEntries (assemble m nbCells raws pl ε pen) ++ (assemble m nbCells raws pl ε pen).mat
      ∧ (finalize (assemble m nbCells (raws.map (RawNet.scale k)) pl ε (pen.map (Penalty.scale k)))).rhs
        = (finalize (assemble m nbCells raws pl ε pen)).rhs.map (fun v => k * v)
      ∧ (finalize (assemble m nbCells (raws.map (RawNet.scale k)) pl ε (pen.map (Penalty.scale k)))).initial
        = (finalize (assemble m nbCells raws pl ε pen)).initial
      ∧ (finalize (assemble m nbCells (raws.map (RawNet.scale k)) pl ε (pen.map (Penalty.scale k)))).matSize
        = (finalize (assemble m nbCells raws pl ε pen)).matSize
      ∧ (finalize (assemble m nbCells (raws.map (RawNet.scale k)) pl ε (pen.map (Penalty.scale k)))).nbCells
        = (finalize (assemble m nbCells raws pl ε pen)).nbCells := by
  rw [assembly_homogeneous, finalize_eq, finalize_eq, regEntries_scale]
  exact ⟨rfl, rfl, rfl, rfl, rfl, rfl⟩

/-- **The regularisation entries are inert.**  Each of them sits on the diagonal of a row that no
pin has touched: the row has no assembled entry and a zero right-hand side, so it reads
`1e-8 · x_i = 0` whatever the weights are (valid cell indices). -/
theorem regularisation_rows_inert (m : Mode) (nbCells : Nat) (raws : List RawNet) (pl : List Rat) (ε : Rat)
    (pen : Option Penalty) (h : CellsOk nbCells raws) :
    ∀ e ∈ regEntries (assemble m nbCells raws pl ε pen),
      e = (e.1, e.1, tiny) ∧ e.1 < (assemble m nbCells raws pl ε pen).matSize
        ∧ (∀ t ∈ (assemble m nbCells raws pl ε pen).mat, t.1 ≠ e.1)
        ∧ (assemble m nbCells raws pl ε pen).rhs.getD e.1 0 = 0 := by
  rw [assemble_eq]
  have fin := assembleNets_fin m nbCells _ pl ε pen h
  intro t ht
  obtain ⟨a, b, c⟩ := mem_regEntries _ t ht
  exact ⟨a, b, fin.row_ne c, fin.zero _ c⟩

/-- **`finalize` is harmless under scaling**: for `k ≠ 0` the *finalized* systems — the objects
handed to Eigen and observed by hook H2 — assembled from the weights `W` and `k·W` (net weights and
penalty strengths) have the same solution set. -/
theorem finalize_scale_invariant (k : Rat) (hk : k ≠ 0) (m : Mode) (nbCells : Nat) (raws : List RawNet)
    (pl : List Rat) (ε : Rat) (pen : Option Penalty) (h : CellsOk nbCells raws) (x : Nat → Rat) :
    Solves (finalize (assemble m nbCells (raws.map (RawNet.scale k)) pl ε (pen.map (Penalty.scale k)))) x
      ↔ Solves (finalize (assemble m nbCells raws pl ε pen)) x := by
  rw [assembly_homogeneous, assemble_eq]
  exact solves_finalize_scale k hk _ (assembleNets_fin m nbCells _ pl ε pen h) x

/-- **All four re-weighted net models (B2B, star, clique, light star), the initial star model, and
the penalty.**  The system assembled by `solveStar(params)`, `solve(pl, params)` or
`solveWithPenalty(pl, target, strength, params)` is the normal-equation system of
`QModel + penQ`: the documented quadratic of the selected net model — a sum over the nets of
springs whose stiffness is the net's real-valued weight `W` (times the model's constant:
`2/(nb(nb−1))`, `1/(nb−1)`, `1/nb`) divided by `max ε |distance in pl|`, *frozen* at the placement
`pl` the model is built around — plus the penalty springs `strength_i / max(|pl_i − target_i|, cutoff)`.
`Q(x + t) = Q(x) + 2⟨A x − b, t⟩ + ⟨A t, t⟩`, i.e. `A x − b = ½∇Q(x)`: the pull of a net on a cell
is proportional to its weight, in every model. -/
theorem net_models_are_least_squares (m : Mode) (nbCells : Nat) (raws : List RawNet) (pl : List Rat)
    (ε : Rat) (pen : Option Penalty) (h : WellFormed nbCells raws) (hε : 0 ≤ ε) (hp : PenaltyOk pen) :
    IsHalfGradient (assemble m nbCells raws pl ε pen)
      (fun x => QModel m pl ε x nbCells (buildWith (fun w => w) raws) + penQ pl pen nbCells x) := by
  rw [assemble_eq]
  exact (assembleNets_inv m nbCells _ pl ε (fun _ _ _ _ => hε) pen hp h).grad

/-- … with a positive semidefinite matrix: every exact solution of `A x = b` is a global minimiser
of that quadratic. -/
theorem net_model_solution_minimizes (m : Mode) (nbCells : Nat) (raws : List RawNet) (pl : List Rat)
    (ε : Rat) (pen : Option Penalty) (h : WellFormed nbCells raws) (hε : 0 ≤ ε) (hp : PenaltyOk pen)
    (x : Nat → Rat) (hx : Solves (assemble m nbCells raws pl ε pen) x) (y : Nat → Rat) :
    QModel m pl ε x nbCells (buildWith (fun w => w) raws) + penQ pl pen nbCells x
      ≤ QModel m pl ε y nbCells (buildWith (fun w => w) raws) + penQ pl pen nbCells y := by
  rw [assemble_eq] at hx
  exact inv_solution_minimizes _ _ (assembleNets_inv m nbCells _ pl ε (fun _ _ _ _ => hε) pen hp h) x hx y

/-- **The finalized system** — the object handed to Eigen and observed by hook H2 — is the
normal-equation system of the same quadratic plus `regQ`, the regularisation `1e-8 · x_i²` of the
unknowns no pin has touched, and every exact solution of the finalized system minimises it. -/
theorem finalized_system_is_least_squares (m : Mode) (nbCells : Nat) (raws : List RawNet) (pl : List Rat)
    (ε : Rat) (pen : Option Penalty) (h : WellFormed nbCells raws) (hε : 0 ≤ ε) (hp : PenaltyOk pen) :
    IsHalfGradient (finalize (assemble m nbCells raws pl ε pen))
        (fun x => QModel m pl ε x nbCells (buildWith (fun w => w) raws) + penQ pl pen nbCells x
          + regQ (assemble m nbCells raws pl ε pen) x)
      ∧ ∀ x, Solves (finalize (assemble m nbCells raws pl ε pen)) x → ∀ y,
          QModel m pl ε x nbCells (buildWith (fun w => w) raws) + penQ pl pen nbCells x
              + regQ (assemble m nbCells raws pl ε pen) x
            ≤ QModel m pl ε y nbCells (buildWith (fun w => w) raws) + penQ pl pen nbCells y
              + regQ (assemble m nbCells raws pl ε pen) y := by
  rw [assemble_eq]
  exact (finalize_inv _ _ (assembleNets_inv m nbCells _ pl ε (fun _ _ _ _ => hε) pen hp h)).lsq

/-- **The quadratic is linear in the weights**: multiplying all net weights and penalty strengths by
`k` multiplies `QModel + penQ` by `k` (so each net's term, hence its pull, is proportional to its
own weight). -/
theorem model_quadratic_homogeneous (k : Rat) (m : Mode) (nbCells : Nat) (raws : List RawNet) (pl : List Rat)
    (ε : Rat) (pen : Option Penalty) (x : Nat → Rat) :
    QModel m pl ε x nbCells (buildWith (fun w => w) (raws.map (RawNet.scale k)))
        + penQ pl (pen.map (Penalty.scale k)) nbCells x
      = k * (QModel m pl ε x nbCells (buildWith (fun w => w) raws) + penQ pl pen nbCells x) := by
  rw [buildWith_scale k _ (fun _ => rfl), QModel_scale, penQ_scale]
  ring

/-- **What each model says about a two-pin net.**  In the star, light-star and clique models, and
in the B2B model when the two pins are at different positions in `pl`, a two-pin net of weight `W`
is the single spring `(W / max ε |p0(pl) − p1(pl)|) (p0 − p1)²`.  In the B2B model with
*coincident* pins the minimum and the maximum pin are the same pin and the other one is tied to it
twice: the net pulls with twice that stiffness (still proportional to `W`). -/
theorem two_pin_net_quadratic (pl : List Rat) (ε : Rat) (x : Nat → Rat) (sv : Nat) (w : Rat) (p0 p1 : NetAsm.Pin) :
    netQ .star pl ε x sv ⟨w, [p0, p1]⟩ = bipTerm pl ε x ⟨w, [p0, p1]⟩
      ∧ netQ .lightStar pl ε x sv ⟨w, [p0, p1]⟩ = bipTerm pl ε x ⟨w, [p0, p1]⟩
      ∧ netQ .clique pl ε x sv ⟨w, [p0, p1]⟩ = bipTerm pl ε x ⟨w, [p0, p1]⟩
      ∧ (pinPos pl p0 ≠ pinPos pl p1 → netQ .b2b pl ε x sv ⟨w, [p0, p1]⟩ = bipTerm pl ε x ⟨w, [p0, p1]⟩)
      ∧ (pinPos pl p0 = pinPos pl p1 → netQ .b2b pl ε x sv ⟨w, [p0, p1]⟩ = 2 * bipTerm pl ε x ⟨w, [p0, p1]⟩) :=
  ⟨star_two_pin pl ε x sv w p0 p1, lightStar_two_pin pl ε x sv w p0 p1, clique_two_pin pl ε x w p0 p1,
   b2b_two_pin_distinct pl ε x w p0 p1, b2b_two_pin_coincident pl ε x w p0 p1⟩

/-- **Two-pin nets at the circuit level.**  When every non-degenerate circuit net is stored with two
pins, the system that `solve(pl, params)` (star or light-star model) assembles from the `NetModel`
returned by `xTopology(circuit)` / `yTopology(circuit)` is the normal-equation system of
`Σ (W / max ε |p0(pl) − p1(pl)|) (p0 − p1)²` over the non-degenerate nets *with the circuit's own
weights* `W = Circuit::netWeight`, and every exact solution minimises it. -/
theorem circuit_two_pin_nets_are_least_squares (a : Axis) (c : Circuit) (m : Mode)
    (hm : m = .star ∨ m = .lightStar) (pl : List Rat) (ε : Rat) (h : CircuitOk c)
    (h2 : ∀ n ∈ circuitNets a c, n.pins.length ≤ 2) :
    IsHalfGradient (assembleNets m c.cells.length (topology a c) pl ε none)
        (fun x => QBip pl ε x (circuitNets a c))
      ∧ ∀ x, Solves (assembleNets m c.cells.length (topology a c) pl ε none) x →
          ∀ y, QBip pl ε x (circuitNets a c) ≤ QBip pl ε y (circuitNets a c) := by
  rw [topology_eq_circuitNets]
  exact (assembleNets_twoPin_inv m hm _ _ pl ε fun n hn =>
    ⟨(circuitNets_wellFormed a c h n hn).1, (circuitNets_wellFormed a c h n hn).2, h2 n hn⟩).lsq

/-- **Every net model at the circuit level**, with or without penalty: the system assembled from
`xTopology(circuit)` / `yTopology(circuit)` is the normal-equation system of the model's documented
quadratic over the non-degenerate circuit nets with the circuit's own weights, and exact solutions
minimise it. -/
theorem circuit_net_models_are_least_squares (a : Axis) (c : Circuit) (m : Mode) (pl : List Rat) (ε : Rat)
    (pen : Option Penalty) (h : CircuitOk c) (hε : 0 ≤ ε) (hp : PenaltyOk pen) :
    IsHalfGradient (assembleNets m c.cells.length (topology a c) pl ε pen)
        (fun x => QModel m pl ε x c.cells.length (circuitNets a c) + penQ pl pen c.cells.length x)
      ∧ ∀ x, Solves (assembleNets m c.cells.length (topology a c) pl ε pen) x →
          ∀ y, QModel m pl ε x c.cells.length (circuitNets a c) + penQ pl pen c.cells.length x
            ≤ QModel m pl ε y c.cells.length (circuitNets a c) + penQ pl pen c.cells.length y := by
  rw [topology_eq_circuitNets]
  exact (assembleNets_inv m _ _ pl ε (fun _ _ _ _ => hε) pen hp (circuitNets_wellFormed a c h)).lsq

/-- **Below 2^24 the conversions are exact.**  If every integer that `xTopology`/`yTopology` converts
to `float` for a pin (its offset, the placed size of its cell, twice the offset minus the size — the
numerator of the offset to the centre —, its position on a fixed cell) is at most 2^24 in magnitude,
the stored pins and the clamping bounds are the exact rational values; above, they are the binary32
roundings the model computes (and the topology stream checks on coordinates up to 2^26). -/
theorem topology_exact_below_2p24 (a : Axis) (c : Circuit) (p : ColoVerif.Pin)
    (ho : SmallInt (pinOffset a (c.cell p.cell) p)) (hs : SmallInt (placedSize a (c.cell p.cell)))
    (hd : SmallInt (2 * pinOffset a (c.cell p.cell) p - placedSize a (c.cell p.cell)))
    (hp : SmallInt (cellPos a (c.cell p.cell) + pinOffset a (c.cell p.cell) p)) :
    movablePin a c p = ((p.cell : Int),
        ((pinOffset a (c.cell p.cell) p : Int) : Rat) - (1 / 2 : Rat) * ((placedSize a (c.cell p.cell) : Int) : Rat))
      ∧ fixedPos a c p = ((cellPos a (c.cell p.cell) + pinOffset a (c.cell p.cell) p : Int) : Rat) :=
  ⟨movablePin_exact a c p ho hs hd, fixedPos_exact a c p hp⟩

/-- … and the rounding is real: the pin of a pad at `x = 2^24 + 1` is stored at `2^24`. -/
theorem topology_rounds_above_2p24 :
    fixedPos .x ⟨[⟨0, 0, 16777217, 0, .N, true, false, .ANY⟩], [], []⟩ ⟨0, 0, 0⟩ = 16777216 := by
  decide +kernel

/-- A three-pin net of weight ¾ plus a two-pin net of weight ½ on two cells. -/
def sampleRaws : List RawNet :=
  [⟨3 / 4, [((0 : Int), (1 : Rat)), ((1 : Int), (-2 : Rat)), ((-1 : Int), (7 : Rat))], none⟩,
   ⟨1 / 2, [((1 : Int), (0 : Rat))], some ((3 : Rat), (3 : Rat))⟩]

/-- `WellFormed` is satisfiable by a non-trivial instance (fractional weights, a star net). -/
example : WellFormed 2 sampleRaws := by
  unfold WellFormed NetOk
  decide +kernel

/-- `TwoPin` is satisfiable (a fractional-weight two-pin net between two cells and one to a fixed pin). -/
example : TwoPin 2 [⟨3 / 8, [((0 : Int), (1 : Rat)), ((1 : Int), (0 : Rat))], none⟩,
                    ⟨5 / 2, [((1 : Int), (0 : Rat))], some ((3 : Rat), (3 : Rat))⟩] := by
  unfold TwoPin NetOk
  decide +kernel

/-- The homogeneity statement is about non-trivial systems: the sample assembles 10 triplets with
an auxiliary star unknown, and weight ¾ really is in the matrix (entry ¾ / 3 = ¼). -/
example : (assemble .star0 2 sampleRaws [] 1 none).triplets
    = [(0, 2, -(1/4)), (2, 0, -(1/4)), (0, 0, 1/4), (2, 2, 1/4),
       (1, 2, -(1/4)), (2, 1, -(1/4)), (1, 1, 1/4), (2, 2, 1/4), (2, 2, 1/4), (1, 1, 1/2)] := by
  decide +kernel

/-- Two movable cells and a pad; nets: a two-pin net of weight 3/4, a *dangling* pin, a pads-only
net, then a net of weight 5/2 from cell 1 to the pad and a net of weight 1/8 between the cells. -/
def sampleCircuit : Circuit :=
  { cells := [⟨4, 2, 0, 0, .N, false, false, .ANY⟩, ⟨2, 2, 0, 0, .FN, false, false, .ANY⟩,
              ⟨0, 0, 7, 1, .N, true, false, .ANY⟩],
    rows := [⟨⟨0, 10, 0, 2⟩, .N⟩],
    nets := [⟨3, -2, [⟨0, 1, 0⟩, ⟨1, 0, 1⟩]⟩, ⟨7, 0, [⟨0, 0, 0⟩]⟩, ⟨9, 0, [⟨2, 0, 0⟩, ⟨2, 1, 1⟩]⟩,
             ⟨5, -1, [⟨1, 1, 1⟩, ⟨2, 0, 0⟩]⟩, ⟨1, -3, [⟨1, 2, 0⟩, ⟨0, 4, 2⟩]⟩] }

/-- `CircuitOk` is satisfiable by a circuit with degenerate nets interleaved. -/
example : CircuitOk sampleCircuit := by
  unfold CircuitOk
  decide +kernel

/-- On it the index map skips nets 1 and 2, and the stored nets carry the weights 3/4, 5/2, 1/8 of
circuit nets 0, 3, 4 (not those of nets 0, 1, 2), with centre offsets and the pad as a fixed pin. -/
example : keptIdx sampleCircuit = [0, 3, 4]
    ∧ topology .x sampleCircuit =
      [⟨3 / 4, [((0 : Int), (-1 : Rat)), ((1 : Int), (1 : Rat))]⟩,
       ⟨5 / 2, [((1 : Int), (0 : Rat)), ((-1 : Int), (7 : Rat))]⟩,
       ⟨1 / 8, [((1 : Int), (-1 : Rat)), ((0 : Int), (2 : Rat))]⟩] := by
  decide +kernel

/-- `CellsOk` follows from `WellFormed` (so the sample above satisfies it) … -/
example (nb : Nat) (raws : List RawNet) (h : WellFormed nb raws) : CellsOk nb raws := fun n hn => (h n hn).1

/-- … and `finalize` really adds something the scaling does not touch: with three cells of which
the last is on no net, the finalized sample has the extra entry `(2, 2, 1e-8f)`, the same for the
weights `W` and `7·W`. -/
example : regEntries (assemble .b2b 3 sampleRaws [0, 0, 0] 1 none) = [(2, 2, tiny)]
    ∧ regEntries (assemble .b2b 3 (sampleRaws.map (RawNet.scale 7)) [0, 0, 0] 1 none) = [(2, 2, tiny)] := by
  decide +kernel

/-- `PenaltyOk` is satisfiable by a non-trivial penalty (fractional strengths, one of them zero). -/
example : PenaltyOk (some ⟨[3, -1], [1 / 4, 0], 2⟩) := by
  intro p hp i
  cases hp
  match i with
  | 0 => decide +kernel
  | 1 => decide +kernel
  | (j + 2) => simp

/-- The B2B double connection is in the assembled matrix the driver prints: a two-pin net of weight
`3/4` whose pins coincide in `pl` (both at 5) assembles *two* blocks of stiffness `3/4 / ε`, a net
with distinct pins one block of stiffness `3/4 / |distance|`. -/
example : (assemble .b2b 2 [⟨3 / 4, [((0 : Int), (0 : Rat)), ((1 : Int), (0 : Rat))], none⟩] [5, 5] 1 none).triplets
      = [(1, 0, -(3/4)), (0, 1, -(3/4)), (1, 1, 3/4), (0, 0, 3/4),
         (1, 0, -(3/4)), (0, 1, -(3/4)), (1, 1, 3/4), (0, 0, 3/4)]
    ∧ (assemble .b2b 2 [⟨3 / 4, [((0 : Int), (0 : Rat)), ((1 : Int), (0 : Rat))], none⟩] [5, 8] 1 none).triplets
      = [(1, 0, -(1/4)), (0, 1, -(1/4)), (1, 1, 1/4), (0, 0, 1/4)] := by
  decide +kernel

/-- The two-pin hypothesis of the circuit-level theorem holds on the sample circuit (three kept
nets, all stored with two pins), on both axes. -/
example : (∀ n ∈ circuitNets .x sampleCircuit, n.pins.length ≤ 2)
    ∧ (∀ n ∈ circuitNets .y sampleCircuit, n.pins.length ≤ 2) := by
  decide +kernel

/-- `SmallInt` hypotheses of `topology_exact_below_2p24`: any pin of the sample circuit. -/
example : SmallInt (pinOffset .x (sampleCircuit.cell 1) ⟨1, 1, 1⟩) ∧ SmallInt (placedSize .x (sampleCircuit.cell 1))
    ∧ SmallInt (2 * pinOffset .x (sampleCircuit.cell 1) ⟨1, 1, 1⟩ - placedSize .x (sampleCircuit.cell 1)) := by
  unfold SmallInt
  decide

end ColoVerif.C17
