import ColoVerif.Proofs.SchedProofs
import ColoVerif.Gen.InitTable
import ColoVerif.Proofs.InitOrderProofs
/-
C08 — placement is deterministic and independent of thread scheduling (the protocol part).

`Gen.Async.facts` is regenerated on every run from the AST of `GlobalPlacer::runLB` and from the
symbol tables of the library; `Model/Sched.lean` derives from it which locations every step of the
two-task protocol reads and writes.  The theorems below are about that derived protocol:
they break when an argument of std::async is passed through `std::ref`/a pointer, when the callee
stops being `const`, when both tasks are bound to the same object and write it, when a mutable
static or `mutable` member appears in the library, or when the launching thread reads a result
before joining.
Not covered here (see PARTIAL in tools/props/C08.py): the real memory accesses inside
`solveWithPenalty` (Eigen, allocator) — ThreadSanitizer build in the thorough tier.
-/
namespace ColoVerif.C08
open ColoVerif.Sched ColoVerif.Gen.Async

/-- The extracted facts are the expected ones: both launches use `std::launch::async`; the bound
objects are the addresses of two different members; the callee is a `const` member function; every
further argument is passed by value; the launching thread joins both futures before the callback
and executes no statement of unknown effect before the later of the two joins (what it does after
both joins - the finiteness checks of the results - is sequential and stays in the protocol as
`other` steps); no mutable static-storage object and no `mutable` member exists in the library. -/
theorem async_facts :
    facts.callX.policyAsync = true ∧ facts.callY.policyAsync = true ∧
    facts.callX.boundIsAddressOfMember = true ∧ facts.callY.boundIsAddressOfMember = true ∧
    facts.callX.boundVar ≠ facts.callY.boundVar ∧
    facts.callX.calleeConst = true ∧ facts.callY.calleeConst = true ∧
    (∀ a ∈ facts.callX.args ++ facts.callY.args, a.mode = .byValue) ∧
    getsPrecedeCallback facts = true ∧
    facts.mutableStatics.isEmpty = true ∧ facts.mutableMembers.isEmpty = true := by
  decide

/-- No two steps that are unordered by happens-before (program order, launch → task, task → get)
access a common location with at least one write — given the extracted facts. -/
theorem no_conflicting_access :
    ∀ s ∈ allSteps facts, ∀ t ∈ allSteps facts, s ≠ t → hb facts s t = false → hb facts t s = false →
      conflict (access facts s) (access facts t) = false := by
  decide +kernel

/-- The happens-before relation used above is exactly the order the scheduler enforces: `s` happens
before `t` iff `s` precedes `t` in every complete execution. -/
theorem hb_matches_scheduler :
    ∀ s ∈ allSteps facts, ∀ t ∈ allSteps facts, s ≠ t →
      (hb facts s t = true ↔ ∀ c ∈ completeRuns facts, beforeIn c.tr s t = true) := by
  decide +kernel

/-- Schedule independence on symbolic values: every complete execution of the protocol found by the exhaustive walk
ends in the state of the sequential schedule, which is itself complete.  The first part is an instance of
`Sched.complete_runs_agree` (steps of threads that can both move commute; the extracted protocol passes the check
`Sched.diamondOn`, `Sched.facts_diamond`); only the second part is evaluated. -/
theorem complete_runs_canonical :
    (∀ c ∈ completeRuns facts, c.st = canonSymState facts) ∧
    ((runSched facts symF (canonSched facts) (symInit facts)).map (fun c => terminated facts c.p)) = some true := by
  have h2 : ((runSched facts symF (canonSched facts) (symInit facts)).map (fun c => terminated facts c.p)) = some true := by
    decide +kernel
  exact ⟨explored_runs_canon facts h2 _ facts_diamond.1 facts_diamond.2, h2⟩

/-- non-vacuity: the sequential schedule is a complete linearisation, for every `V`, `f`, `σ` (which schedules are
enabled does not depend on the values: `Sched.runSched_pcs`, from the symbolic run). -/
theorem canonical_schedule_complete {V : Type} [Inhabited V] (f : Step → Loc → List V → V) (σ : Loc → V) :
    ∃ c, runSched facts f (canonSched facts) (initCfg facts σ) = some c ∧ terminated facts c.p = true :=
  canonSched_complete facts complete_runs_canonical.2 f σ

/-- **Schedule independence of one lower-bound step.**  For every value domain `V`, every meaning
`f` of the steps' computations, every initial state `σ` and every linearisation `sched` consistent
with happens-before (`runSched` succeeds) that is complete (`terminated`): the pair of results and
the whole final state equal those of the sequential schedule.  By `Sched.complete_runs_agree`: all complete
linearisations agree, because threads that can both move never conflict (`Sched.facts_diamond`). -/
theorem lb_schedule_independent {V : Type} [Inhabited V] (f : Step → Loc → List V → V) (σ : Loc → V)
    (sched : List Tid) (c' : Cfg V)
    (h : runSched facts f sched (initCfg facts σ) = some c') (ht : terminated facts c'.p = true) :
    c'.st = canonState facts f σ :=
  complete_run_canon facts complete_runs_canonical.2 _ facts_diamond.1 facts_diamond.2 f σ sched c' h ht

/-- **Lifted over the number of lower-bound steps** (`Sched.lbSteps_canon`): whatever complete linearisation
each of the consecutive lower-bound steps follows, the state after the last one is the state the
sequential schedules produce. -/
theorem lb_steps_schedule_independent {V : Type} [Inhabited V] (f : Step → Loc → List V → V) :
    ∀ (scheds : List (List Tid)) (σ τ : Loc → V),
      lbSteps facts f scheds σ = some τ → τ = canonIter facts f scheds.length σ :=
  lbSteps_canon (lb_schedule_independent f)

/- Definite initialisation of scalar members (static table + straight-line order model).
`Gen.InitTable.table` is regenerated on every run from the clang AST of all translation units of
src/place_global, src/place_detailed and src/coloquinte.cpp (`tools/gen/InitTable.py`): every scalar data member
of every class defined there (and of `Circuit`), every constructor and member function as a list of events about
the members of the object it runs on, and every place that creates an object of a class some constructor of
which leaves a member unset, together with what happens to that object afterwards (`lifecycles`, e.g.
`GlobalPlacer pl(circuit, params); pl.run(); pl.exportPlacement(circuit);` in `GlobalPlacer::place`, where `run`
calls `runInitialLB`, assigns `penalty_` / `approximationDistance_` / `penaltyCutoffDistance_`, and only then
reaches `runLB`, `computeIterationPerCellPenalty` and the H5 log that read them).
`Model/InitOrder.lean` walks the events keeping the set of members written on every path (`alt`: intersection;
`opaque` loops: reads checked, writes dropped; `ret`/`stop`).  Not path-sensitive; values are not modelled. -/
section InitTable
open ColoVerif.InitOrder ColoVerif.Gen.InitTable

/-- The generated table is well-formed: ids in range, every class with a member that some constructor leaves
unset has one lifecycle per construction site found in the analysed files, every lifecycle starts with the
construction. -/
theorem init_table_wellformed : tableWf table = true := (tableOk_spec table_ok).1

/-- The column `ctorInit` of the table is what the walk computes from the constructors' event lists: a member
is marked constructor-initialised iff the class has a constructor and every constructor (other than copy / move)
writes it on every path before returning, without reading any member of the object too early. -/
theorem ctor_verdicts_recomputed :
    ∀ c ∈ table.classes, ∀ v ∈ c.members, v.ctorInit = ctorVerdict table c.ctors v.id := (tableOk_spec table_ok).2.1

/-- **Every listed scalar member is written before it is read.**  For every class of the table and every scalar
member `v` of it: either every constructor initialises `v` (`ctorVerdict`, recomputed from the constructors'
events), or the class is `weak` and then every place that creates an object of it is a listed lifecycle
(`init_table_wellformed`) and in every lifecycle the walk - construction first, then the statements that touch
the object in source order, member functions inlined, `if` as meet, loop bodies as `opaque` - finds no read of a
member that is not written on every path before it (no early read, no recursion, no unknown function). -/
theorem members_initialised_before_read :
    (∀ c ∈ table.classes, ∀ v ∈ c.members,
        ctorVerdict table c.ctors v.id = true ∨
        (weak c = true ∧ (table.lifecycles.filter (fun l => l.cls == c.name)).length = c.sites)) ∧
    (∀ l ∈ table.lifecycles, (walk table l.events).bad = [] ∧ (walk table l.events).stuck = false) :=
  (tableOk_spec table_ok).2.2

/-- non-vacuity: the table lists `GlobalPlacer` with the members that its constructor leaves unset, and the
lifecycle in `GlobalPlacer::place`. -/
example : (table.classes.any (fun c => c.name == "GlobalPlacer" && weak c) &&
           table.lifecycles.any (fun l => l.cls == "GlobalPlacer" && l.function == "GlobalPlacer::place")) = true := by
  decide +kernel

/- Negative witnesses: the walk is not trivially satisfied.
A hand-written table of the shape of seeded change C08-m2: member 0 (`approximationDistance_`) is left unset by
the constructor (function 0), `run` (1) calls `runInitialLB` (2) first and assigns the member afterwards;
in `m2Bad` `runInitialLB` reads it, in `m2Good` only `runLB` (3, called after the assignment, inside the loop) does. -/
def m2Members : List MemberRow := [⟨"GlobalPlacer", "approximationDistance_", "float", .floating, "", 0⟩,
                                   ⟨"GlobalPlacer", "step_", "int", .integer, "", 0⟩]
def m2Classes : List ClassRow := [⟨"GlobalPlacer", "", 0, [⟨0, false, "", ""⟩, ⟨1, false, "", ""⟩], [0], 0, 1⟩]
def m2Life : List Lifecycle := [⟨"GlobalPlacer", "GlobalPlacer::place", "", 0, "pl", .localVar, [.call 0, .call 1]⟩]
def m2Fns (initialLB : List Ev) : List Fn :=
  [⟨"GlobalPlacer::GlobalPlacer", "", 0, []⟩,
   ⟨"GlobalPlacer::run", "", 0, [.call 2, .write 0, .write 1, .read 1, .opaque [.read 1, .call 3, .read 0, .write 0]]⟩,
   ⟨"GlobalPlacer::runInitialLB", "", 0, initialLB⟩,
   ⟨"GlobalPlacer::runLB", "", 0, [.read 0]⟩]
def m2Good : Table := ⟨m2Members, m2Fns [.write 1, .read 1, .opaque [.read 1]], m2Classes, m2Life⟩
def m2Bad : Table := ⟨m2Members, m2Fns [.read 0, .write 1, .read 1, .opaque [.read 1]], m2Classes, m2Life⟩

theorem walk_accepts_write_then_read : tableOk m2Good = true := by decide +kernel

/-- the C08-m2 shape is rejected, and the walk names the member -/
theorem walk_rejects_read_before_write :
    tableOk m2Bad = false ∧ m2Bad.lifecycles.map (earlyReads m2Bad) = [["GlobalPlacer::approximationDistance_"]] := by
  decide +kernel

/-- a write under a condition or inside a loop does not count (`alt` with an empty branch, `opaque`), a write in
both branches does; a write after an early `return` does not count for the caller; recursion is refused. -/
theorem walk_conservative_cases :
    (run [] 100 [.alt [.write 0] [], .read 0] start).bad = [0] ∧
    (run [] 100 [.opaque [.write 0], .read 0] start).bad = [0] ∧
    (run [] 100 [.alt [.write 0] [.write 0, .write 1], .read 0] start).bad = [] ∧
    (run [] 100 [.alt [.write 0] [.stop], .read 0] start).bad = [] ∧
    (run [⟨"f", "", 0, [.alt [.ret] [], .write 0]⟩] 100 [.call 0, .read 0] start).bad = [0] ∧
    (run [⟨"f", "", 0, [.write 0, .alt [.ret] [], .write 1]⟩] 100 [.call 0, .read 0, .read 1] start).bad = [1] ∧
    (run [⟨"f", "", 0, [.call 0]⟩] 100 [.call 0] start).stuck = true := by
  decide +kernel

/- What the walk means for executions.
`Proofs/InitOrderProofs.lean` gives the events a trace semantics (`Exec`: any branch at every `alt`, any number of
possibly interrupted runs of every `opaque` block, calls expanded) and proves the walk sound for it
(`exec_sound`, by induction over executions, for every function table; `tableOk_exec`, `tableOk_ctor` for every table
that `tableOk` accepts).  Instantiated with the generated table: -/

/-- **In every execution of every lifecycle, every read of a scalar member is preceded by a write of it.** -/
theorem no_read_before_write_in_any_execution :
    ∀ l ∈ table.lifecycles, ∀ tr o, Exec table.fns l.events tr o → good [] tr := tableOk_exec table_ok

/-- A member marked `ctorInit` is written in every execution of every constructor of its class that returns, and
the constructor reads no member before writing it. -/
theorem ctor_initialised_in_every_execution :
    ∀ c ∈ table.classes, ∀ v ∈ c.members, v.ctorInit = true → ∀ f ∈ c.ctors,
      ∀ tr, Exec table.fns [.call f] tr .norm → v.id ∈ after [] tr ∧ good [] tr := tableOk_ctor table_ok

/-- non-vacuity of the semantics: the accepted hand-written table has an execution (constructor, `run` with
`runInitialLB` inlined, loop not entered), and in the rejected one the same path reads member 0 first. -/
example : Exec m2Good.fns [.call 0, .call 1] [.w 1, .r 1, .w 0, .w 1, .r 1] .norm :=
  .callDone (o1 := .norm) (t1 := []) (t2 := [.w 1, .r 1, .w 0, .w 1, .r 1]) rfl .nil (by decide)
    (.callDone (o1 := .norm) (t1 := [.w 1, .r 1, .w 0, .w 1, .r 1]) (t2 := []) rfl
      (.callDone (o1 := .norm) (t1 := [.w 1, .r 1]) (t2 := [.w 0, .w 1, .r 1]) rfl
        (.write (.read (.opaqueDone .nil))) (by decide)
        (.write (.write (.read (.opaqueDone .nil)))))
      (by decide) .nil)

example : ∃ tr o, Exec m2Bad.fns [.call 0, .call 1] tr o ∧ ¬ good [] tr :=
  ⟨[.r 0, .w 1, .r 1, .w 0, .w 1, .r 1], .norm,
   .callDone (o1 := .norm) (t1 := []) (t2 := [.r 0, .w 1, .r 1, .w 0, .w 1, .r 1]) rfl .nil (by decide)
    (.callDone (o1 := .norm) (t1 := [.r 0, .w 1, .r 1, .w 0, .w 1, .r 1]) (t2 := []) rfl
      (.callDone (o1 := .norm) (t1 := [.r 0, .w 1, .r 1]) (t2 := [.w 0, .w 1, .r 1]) rfl
        (.read (.write (.read (.opaqueDone .nil)))) (by decide)
        (.write (.write (.read (.opaqueDone .nil)))))
      (by decide) .nil),
   by simp [good]⟩

end InitTable

end ColoVerif.C08
