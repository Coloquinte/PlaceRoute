import ColoVerif.Proofs.Spread
import ColoVerif.Proofs.SpreadGrid
import ColoVerif.Proofs.SpreadExport
import ColoVerif.Proofs.GlobalLoop
import ColoVerif.Proofs.SpreadF
import ColoVerif.Proofs.GeomTie
import ColoVerif.Gen.Params
/-
C06 — global placement stays inside the placement area and exports the blend.

All theorems are about the definitions of `ColoVerif/Model/Spread.lean`, which `drv_C06`
executes against `HierarchicalDensityPlacement::spreadCoordX/Y`, `simpleCoordX/Y`,
`DensityGrid::fromIspdCircuit` and (end to end) `Circuit::placeGlobal`.

The spreading, grid and export theorems are over `Rat` (the C++ expressions evaluated exactly), except `spreadF_*` and
`ubF_*`, which are about `ColoVerif/Model/SpreadF.lean`: `spreadCells`/`spreadCoordX/Y` as compiled, every operation followed
by one round-to-nearest-even to binary32, including the clamp of fixes/applied/c06-spread-clamp.diff; `drv_C06` (op `spreadf`)
compares it with the real `spreadCoordX/Y` float for float, exactly.  With the clamp every binary32 coordinate is
in the closed bin for ALL inputs (`spreadF_inside_closed_bin`, lifted to every cell by `ubF_every_cell_inside` and
to the exposed centre by `ubF_exposed_centre`).  Before the fix (`Model/LegacySpreadF.lean`) a coordinate could
leave the bin, by more than one half for adversarial demand mixes (`legacy_spreadF_can_leave_bin`,
`legacy_spreadF_can_exceed_half`).  Not proved: finiteness of the conjugate-gradient iterates, absence of
exceptions; see `tools/props/C06.py`.

The theorems from `loop_terminates` on (but for the last, `geometry_layer_translated`) are about the control logic of `GlobalPlacer::run`
(`ColoVerif/Model/GlobalLoop.lean`):
the float solves and values enter as an oracle trace, everything else (initial solves, stop test,
penalty-update back-off, inner solves, the three geometric recurrences, final `runUB`, the
exception of `checkFinitePlacement`) is the model `GlobalLoop.run`, which `drv_C06` replays against
the callbacks of `Circuit::placeGlobal` and, with hook H5, against the logged per-iteration floats.
-/
namespace ColoVerif.C06
open ColoVerif ColoVerif.Spread

/-- `spreadCells`: with non-negative demands and `lo < hi`, the coordinate returned for a cell of
positive demand lies strictly between `lo` and `hi` (whatever the targets are). -/
theorem spread_inside (targets demands : List Rat) (lo hi : Rat)
    (hlen : demands.length = targets.length) (hnn : ∀ d ∈ demands, 0 ≤ d) (hlh : lo < hi)
    (i : Nat) (hi' : i < targets.length) (hpos : 0 < demands.getD i 0) :
    lo < (spreadCells targets demands lo hi).getD i 0 ∧
    (spreadCells targets demands lo hi).getD i 0 < hi :=
  spreadCells_inside targets demands lo hi hlen hnn hlh i hi' hpos

/-- non-vacuity of `spread_inside` -/
example : (0 : Rat) < (spreadCells [1, 0] [1, 3] 0 4).getD 0 0 ∧ (spreadCells [1, 0] [1, 3] 0 4).getD 0 0 < 4 :=
  spread_inside [1, 0] [1, 3] 0 4 rfl
    (by intro d hd; simp at hd; rcases hd with rfl | rfl <;> norm_num) (by norm_num) 0 (by simp) (by simp)

/-- The bins of the grid built by `DensityGrid::fromIspdCircuit` (margin ≥ 0; the free rows
`computeRows()` are well-formed rectangles inside the bounding box `box` of the circuit's rows,
whose coordinates are C++ ints): every bin limit, on both axes, lies inside `box`.  The
hierarchical views only select limits of this grid, so every bin interval of every view lies in
the rows' bounding box.  Covers the fallbacks taken when the margin removes every row. -/
theorem bins_inside_area (margin binSize : Int) (freeRows rows : List Rect) (box : Rect)
    (hm : 0 ≤ margin) (hne : rows ≠ [])
    (hbox : computePlacementArea rows = box) (hwf : box.minX ≤ box.maxX ∧ box.minY ≤ box.maxY)
    (hint : Rect.IsInt box) (hfree : ∀ r ∈ freeRows, Rect.Within box r) :
    Rect.Within box (mkGrid binSize (gridRegions margin freeRows rows)).area ∧
    (∀ l ∈ (mkGrid binSize (gridRegions margin freeRows rows)).limX, box.minX ≤ l ∧ l ≤ box.maxX) ∧
    (∀ l ∈ (mkGrid binSize (gridRegions margin freeRows rows)).limY, box.minY ≤ l ∧ l ≤ box.maxY) := by
  have hw := area_within _ box (gridRegions_cases margin freeRows rows hne).1 hint
    (gridRegions_within margin hm freeRows rows box hne hbox hwf hfree)
  exact ⟨hw, mem_lims_within binSize _ box hw⟩

/-- non-vacuity of `bins_inside_area`: one row `[0,20]×[0,4]`, margin 3, bins of size 5 -/
example : ∀ l ∈ (mkGrid 5 (gridRegions 3 [⟨0, 20, 0, 4⟩] [⟨0, 20, 0, 4⟩])).limX, (0 : Int) ≤ l ∧ l ≤ 20 :=
  (bins_inside_area 3 5 [⟨0, 20, 0, 4⟩] [⟨0, 20, 0, 4⟩] ⟨0, 20, 0, 4⟩ (by decide) (by simp) (by decide)
    (by decide) (by unfold Rect.IsInt intMax intMin; decide)
    (by intro r hr; simp at hr; subst hr; unfold Rect.Within; decide)).2.1

/-- Self-contained form over the shared circuit model: for a circuit with at least one row whose
rows are well-formed rectangles with C++ `int` coordinates, every bin limit of the grid built by
`DensityGrid::fromIspdCircuit` from `computeRows()` (any non-negative margin, any bin size)
lies inside the bounding box of the circuit's rows. -/
theorem bins_inside_rows_bbox (c : Circuit) (margin binSize : Int) (hm : 0 ≤ margin) (hne : c.rows ≠ [])
    (hwf : ∀ r ∈ c.rows, Rect.Within ⟨intMin, intMax, intMin, intMax⟩ r.rect) :
    (∀ l ∈ (mkGrid binSize (gridRegions margin (c.computeRows.map (·.rect)) (c.rows.map (·.rect)))).limX,
      (computePlacementArea (c.rows.map (·.rect))).minX ≤ l ∧ l ≤ (computePlacementArea (c.rows.map (·.rect))).maxX) ∧
    (∀ l ∈ (mkGrid binSize (gridRegions margin (c.computeRows.map (·.rect)) (c.rows.map (·.rect)))).limY,
      (computePlacementArea (c.rows.map (·.rect))).minY ≤ l ∧ l ≤ (computePlacementArea (c.rows.map (·.rect))).maxY) := by
  have hne' : c.rows.map (·.rect) ≠ [] := by simpa using hne
  have hwf' : ∀ r ∈ c.rows.map (·.rect), Rect.Within ⟨intMin, intMax, intMin, intMax⟩ r := List.forall_mem_map.mpr hwf
  have hbox0 := area_within _ ⟨intMin, intMax, intMin, intMax⟩ hne'
    (by unfold Rect.IsInt intMin intMax; decide) hwf'
  have hfree : ∀ r ∈ c.computeRows.map (·.rect), Rect.Within (computePlacementArea (c.rows.map (·.rect))) r :=
    List.forall_mem_map.mpr (computeRows_within c [] _ (List.forall_mem_map.mp (rows_within_bbox _ hne' hwf')))
  exact (bins_inside_area margin binSize _ _ _ hm hne' rfl ⟨hbox0.2.1, hbox0.2.2.2.2.1⟩ hbox0.isInt hfree).2

/-! The hypothesis `0 ≤ margin` of `bins_inside_area` is discharged by the parameter check: until fix 07db192
`RoughLegalizationParameters::check()` accepted any `sideMargin`, and a negative one made the clipped rows (hence
the bins, hence the upper-bound placements) extend beyond the rows (`negative_margin_leaves_rows`).  The check
conditions are regenerated from `src/parameters.cpp` on every run (`Gen/Params.lean`); removing the bound again breaks
`accepted_side_margin_in_range`. -/

/-- `int margin = sideMargin * minCellHeight;` in `DensityGrid::fromIspdCircuit`: the `double` parameter is converted to
`float` at the call, the `int` height to `float` for the product, the product is rounded and truncated.  `rnd` is any
rounding that maps non-negative values to non-negative values (every IEEE rounding mode does). -/
def marginOf (rnd : Rat → Rat) (sideMargin : Rat) (minCellHeight : Int) : Int :=
  truncRat (rnd (rnd sideMargin * rnd minCellHeight))

theorem truncRat_nonneg {q : Rat} (h : 0 ≤ q) : 0 ≤ truncRat q := by
  unfold truncRat
  exact Int.tdiv_nonneg (Rat.num_nonneg.mpr h) (Int.natCast_nonneg _)

/-- Every `RoughLegalizationParameters` record that passes the translated `check()` has its side margin in [0, 100]. -/
theorem accepted_side_margin_in_range (p : Gen.Params.RoughLegalizationParameters) (h : p.check = true) :
    0 ≤ p.sideMargin ∧ p.sideMargin ≤ 100 := by
  have hm := List.all_eq_true.mp h (decide (p.sideMargin < (0 : Rat)) || decide (p.sideMargin > (100 : Rat)),
    "Rough legalization side margin should be non-negative and small (a few standard cell heights)")
    (by simp only [Gen.Params.RoughLegalizationParameters.checkItems, List.mem_cons, true_or, or_true])
  simpa only [Bool.not_eq_true', Bool.or_eq_false_iff, decide_eq_false_iff_not, Rat.not_lt, gt_iff_lt] using hm

/-- `nbInitialSteps < maxNbSteps`, the hypothesis of `zero_wirelength_exits_first_step` that restricts *parameters*, is
what the translated `GlobalPlacerParameters::check()` enforces, together with at least one inner solve, a positive update
distance and a back-off of at least 1. -/
theorem accepted_global_step_counts (p : Gen.Params.GlobalPlacerParameters) (h : p.check = true) :
    0 ≤ p.nbInitialSteps ∧ p.nbInitialSteps < p.maxNbSteps ∧ 1 ≤ p.nbStepsBeforeRoughLegalization ∧
    0 < p.penaltyUpdateDistance ∧ 1 ≤ p.penaltyUpdateBackoff := by
  have key : ∀ it ∈ [(decide ((p.nbInitialSteps : Rat) < (0 : Rat)), "Invalid number of initial steps"),
      (decide ((p.nbInitialSteps : Rat) ≥ (p.maxNbSteps : Rat)), "Number of initial steps should be lower than max number"),
      (decide ((p.nbStepsBeforeRoughLegalization : Rat) < (1 : Rat)), "Number of steps per legalization should be positive"),
      (decide (p.penaltyUpdateDistance ≤ (0 : Rat)), "Invalid penalty update distance (should be positive)"),
      (decide (p.penaltyUpdateBackoff < (1 : Rat)), "Invalid penalty update backoff (should be at least 1)")],
      (!it.1) = true := by
    intro it hit
    refine List.all_eq_true.mp h it ?_
    simp only [List.mem_cons, List.not_mem_nil, or_false] at hit
    rcases hit with rfl | rfl | rfl | rfl | rfl <;>
      simp only [Gen.Params.GlobalPlacerParameters.checkItems, List.mem_append, List.mem_cons, true_or, or_true]
  simp only [List.forall_mem_cons, Bool.not_eq_true', decide_eq_false_iff_not, Rat.not_lt, Rat.not_le, ge_iff_le] at key
  obtain ⟨h1, h2, h3, h4, h5, -⟩ := key
  exact ⟨by exact_mod_cast h1, by exact_mod_cast h2, by exact_mod_cast h3, h4, h5⟩

/-- … hence the margin `fromIspdCircuit` computes from an accepted parameter set is non-negative, whatever the smallest
cell height (positive, or `INT_MAX` when no cell has a positive height). -/
theorem accepted_margin_nonneg (rnd : Rat → Rat) (hr : ∀ q, 0 ≤ q → 0 ≤ rnd q)
    (p : Gen.Params.RoughLegalizationParameters) (h : p.check = true) (minCellHeight : Int) (hH : 0 ≤ minCellHeight) :
    0 ≤ marginOf rnd p.sideMargin minCellHeight :=
  truncRat_nonneg (hr _ (Rat.mul_nonneg (hr _ (accepted_side_margin_in_range p h).1) (hr _ (by exact_mod_cast hH))))

/-- **For every parameter set the check accepts**, every bin limit of the grid of `DensityGrid::fromIspdCircuit` lies
inside the bounding box of the rows: `bins_inside_rows_bbox` with its margin hypothesis discharged. -/
theorem bins_inside_rows_bbox_accepted_params (c : Circuit) (rnd : Rat → Rat) (hr : ∀ q, 0 ≤ q → 0 ≤ rnd q)
    (p : Gen.Params.RoughLegalizationParameters) (h : p.check = true) (minCellHeight : Int) (hH : 0 ≤ minCellHeight)
    (binSize : Int) (hne : c.rows ≠ [])
    (hwf : ∀ r ∈ c.rows, Rect.Within ⟨intMin, intMax, intMin, intMax⟩ r.rect) :
    (∀ l ∈ (mkGrid binSize (gridRegions (marginOf rnd p.sideMargin minCellHeight) (c.computeRows.map (·.rect))
        (c.rows.map (·.rect)))).limX,
      (computePlacementArea (c.rows.map (·.rect))).minX ≤ l ∧ l ≤ (computePlacementArea (c.rows.map (·.rect))).maxX) ∧
    (∀ l ∈ (mkGrid binSize (gridRegions (marginOf rnd p.sideMargin minCellHeight) (c.computeRows.map (·.rect))
        (c.rows.map (·.rect)))).limY,
      (computePlacementArea (c.rows.map (·.rect))).minY ≤ l ∧ l ≤ (computePlacementArea (c.rows.map (·.rect))).maxY) :=
  bins_inside_rows_bbox c _ binSize (accepted_margin_nonneg rnd hr p h minCellHeight hH) hne hwf

/-- non-vacuity: the rough-legalization parameters of every effort 1..9 (the translated default table) pass the check,
so `accepted_*` speak about them. -/
example : ∀ e ∈ Gen.Params.defaults, e.2.global.roughLegalization.check = true := by decide +kernel

theorem minCellHeight_pos (heights : List Int) : 0 < minCellHeight heights := by
  unfold minCellHeight
  refine List.foldlRecOn (motive := (0 < ·)) _ _ (by decide) fun m hm h _ => ?_
  split <;> omega

/-- The same about the function the driver EXECUTES against `DensityGrid::fromIspdCircuit` (`gridFromRows`: margin and bin
size computed from the side margin, the size factor and the cell heights as the code does, over exact products): for every
accepted `RoughLegalizationParameters`, every circuit with rows, every list of cell heights and every size factor, all
bin limits lie inside the bounding box of the rows. -/
theorem grid_of_accepted_params_inside_rows (c : Circuit) (p : Gen.Params.RoughLegalizationParameters)
    (h : p.check = true) (heights : List Int) (sizeFactor : Rat) (hne : c.rows ≠ [])
    (hwf : ∀ r ∈ c.rows, Rect.Within ⟨intMin, intMax, intMin, intMax⟩ r.rect) :
    (∀ l ∈ (gridFromRows (c.computeRows.map (·.rect)) (c.rows.map (·.rect)) heights sizeFactor p.sideMargin).limX,
      (computePlacementArea (c.rows.map (·.rect))).minX ≤ l ∧ l ≤ (computePlacementArea (c.rows.map (·.rect))).maxX) ∧
    (∀ l ∈ (gridFromRows (c.computeRows.map (·.rect)) (c.rows.map (·.rect)) heights sizeFactor p.sideMargin).limY,
      (computePlacementArea (c.rows.map (·.rect))).minY ≤ l ∧ l ≤ (computePlacementArea (c.rows.map (·.rect))).maxY) :=
  bins_inside_rows_bbox_accepted_params c id (fun _ hq => hq) p h _ (minCellHeight_pos heights).le _ hne hwf

/-- Witness of the defect repaired by fix 07db192 (kernel-evaluated on the model the driver executes): with margin −3
— `sideMargin = -3`, accepted before the fix, on cells of height 1 — the grid built over the single row `[0,20]×[0,4]`
reaches from −3 to 23. -/
theorem negative_margin_leaves_rows :
    (mkGrid 5 (gridRegions (-3) [⟨0, 20, 0, 4⟩] [⟨0, 20, 0, 4⟩])).area.minX = -3 ∧
    (mkGrid 5 (gridRegions (-3) [⟨0, 20, 0, 4⟩] [⟨0, 20, 0, 4⟩])).area.maxX = 23 := by decide

/-- non-vacuity of `bins_inside_rows_bbox`: a circuit with one row and a fixed obstruction -/
example :
    let c : Circuit := ⟨[⟨4, 4, 8, 0, .N, true, true, .ANY⟩], [], [⟨⟨0, 20, 0, 4⟩, .N⟩]⟩
    ∀ l ∈ (mkGrid 5 (gridRegions 1 (c.computeRows.map (·.rect)) (c.rows.map (·.rect)))).limX,
      (computePlacementArea (c.rows.map (·.rect))).minX ≤ l ∧ l ≤ (computePlacementArea (c.rows.map (·.rect))).maxX :=
  (bins_inside_rows_bbox ⟨[⟨4, 4, 8, 0, .N, true, true, .ANY⟩], [], [⟨⟨0, 20, 0, 4⟩, .N⟩]⟩ 1 5 (by decide) (by simp)
    (by intro r hr; simp at hr; subst hr; unfold Rect.Within intMin intMax; decide)).1

/-- `spreadCoordX/Y`: if every bin of the loop has `lo < hi`, no cell is allocated to two bins
(nor twice to one) and cell indices are in range — the invariant `HierarchicalDensityPlacement::
check` asserts, C16 —, and demands are non-negative, then every positive-demand cell of a bin
gets a coordinate strictly inside that bin. -/
theorem spread_coord_inside (n : Nat) (aLo aHi : Int) (bins : List Bin) (target : List Rat) (demand : List Int)
    (hdem : ∀ c, 0 ≤ demand.getD c 0) (hlh : ∀ b ∈ bins, b.lo < b.hi)
    (hnd : (bins.flatMap fun b => b.cells).Nodup) (hr : ∀ b ∈ bins, ∀ c ∈ b.cells, c < n) :
    ∀ b ∈ bins, ∀ c ∈ b.cells, 0 < demand.getD c 0 →
      (b.lo : Rat) < (spreadCoord n aLo aHi bins target demand).getD c 0 ∧
      (spreadCoord n aLo aHi bins target demand).getD c 0 < (b.hi : Rat) :=
  (foldl_scatter_inside (step := binStep target demand) (fun _ _ => rfl)
    (fun b c v => 0 < demand.getD c 0 → (b.lo : Rat) < v ∧ v < (b.hi : Rat)) (initCoords_length n aLo aHi target)
    (fun b hb => binCoords_inside target demand hdem b (hlh b hb)) hnd hr).2.1

/-- A cell that is in no bin (zero demand: fixed cells, movable cells of zero area) keeps its
target clamped to the extent `[aLo, aHi]` of the placement area. -/
theorem spread_coord_unassigned (n : Nat) (aLo aHi : Int) (bins : List Bin) (target : List Rat) (demand : List Int)
    (hdem : ∀ c, 0 ≤ demand.getD c 0) (hlh : ∀ b ∈ bins, b.lo < b.hi)
    (hnd : (bins.flatMap fun b => b.cells).Nodup) (hr : ∀ b ∈ bins, ∀ c ∈ b.cells, c < n)
    (c : Nat) (hc : c < n) (hno : ∀ b ∈ bins, c ∉ b.cells) :
    (spreadCoord n aLo aHi bins target demand).getD c 0 = clampTo aLo aHi (target.getD c 0) :=
  ((foldl_scatter_inside (step := binStep target demand) (fun _ _ => rfl)
    (fun b c v => 0 < demand.getD c 0 → (b.lo : Rat) < v ∧ v < (b.hi : Rat)) (initCoords_length n aLo aHi target)
    (fun b hb => binCoords_inside target demand hdem b (hlh b hb)) hnd hr).2.2 c hno).trans
    (initCoords_getD n aLo aHi target c hc)

/-- Composition: an upper-bound placement (`spreadCoordX` or `spreadCoordY` of the legalizer)
computed over bins whose limits are limits of the grid of `fromIspdCircuit` keeps the centre of
every cell that is allocated to a bin and has positive demand strictly inside the rows'
bounding box (`lims`/`A`/`B` are `limX`/`box.minX`/`box.maxX` or the y counterparts, as
provided by `bins_inside_area`). -/
theorem ub_centre_inside (lims : List Int) (A B : Int) (hl : ∀ l ∈ lims, A ≤ l ∧ l ≤ B)
    (n : Nat) (aLo aHi : Int) (bins : List Bin) (target : List Rat) (demand : List Int)
    (hdem : ∀ c, 0 ≤ demand.getD c 0)
    (hb : ∀ b ∈ bins, b.lo ∈ lims ∧ b.hi ∈ lims ∧ b.lo < b.hi)
    (hnd : (bins.flatMap fun b => b.cells).Nodup) (hr : ∀ b ∈ bins, ∀ c ∈ b.cells, c < n) :
    ∀ b ∈ bins, ∀ c ∈ b.cells, 0 < demand.getD c 0 →
      (A : Rat) < (spreadCoord n aLo aHi bins target demand).getD c 0 ∧
      (spreadCoord n aLo aHi bins target demand).getD c 0 < (B : Rat) := by
  intro b hbm c hc hpos
  obtain ⟨h1, h2⟩ := spread_coord_inside n aLo aHi bins target demand hdem (fun b hb' => (hb b hb').2.2) hnd hr
    b hbm c hc hpos
  exact ⟨lt_of_le_of_lt (Int.cast_le.mpr (hl b.lo (hb b hbm).1).1) h1,
    lt_of_lt_of_le h2 (Int.cast_le.mpr (hl b.hi (hb b hbm).2.1).2)⟩

/-- non-vacuity of `ub_centre_inside`: two bins `[0,5]`, `[5,10]` with cells `{0,2}` and `{1}` -/
example : (0 : Rat) < (spreadCoord 3 0 10 [⟨0, 5, [0, 2]⟩, ⟨5, 10, [1]⟩] [7, 1, 3] [2, 4, 6]).getD 2 0 ∧
    (spreadCoord 3 0 10 [⟨0, 5, [0, 2]⟩, ⟨5, 10, [1]⟩] [7, 1, 3] [2, 4, 6]).getD 2 0 < 10 :=
  ub_centre_inside [0, 5, 10] 0 10 (by decide) 3 0 10 [⟨0, 5, [0, 2]⟩, ⟨5, 10, [1]⟩] [7, 1, 3] [2, 4, 6]
    (getD_nonneg _ (by decide))
    (by decide) (by decide) (by decide) ⟨0, 5, [0, 2]⟩ (by simp) 2 (by simp) (by decide)

/-- Every cell: with the invariant that bins hold only cells of positive demand (the
constructor of `HierarchicalDensityPlacement` and `updateCellDemand` guarantee it), *every*
cell index — in a bin or not, in particular movable cells of zero area — gets an upper-bound
coordinate inside `[A, B]`, provided the extent `[aLo, aHi]` of the placement area is made of
grid limits. -/
theorem ub_every_cell_inside (lims : List Int) (A B : Int) (hl : ∀ l ∈ lims, A ≤ l ∧ l ≤ B)
    (n : Nat) (aLo aHi : Int) (ha : aLo ∈ lims ∧ aHi ∈ lims ∧ aLo ≤ aHi)
    (bins : List Bin) (target : List Rat) (demand : List Int)
    (hdem : ∀ c, 0 ≤ demand.getD c 0)
    (hb : ∀ b ∈ bins, b.lo ∈ lims ∧ b.hi ∈ lims ∧ b.lo < b.hi)
    (hnd : (bins.flatMap fun b => b.cells).Nodup) (hr : ∀ b ∈ bins, ∀ c ∈ b.cells, c < n)
    (hposbin : ∀ b ∈ bins, ∀ c ∈ b.cells, 0 < demand.getD c 0) :
    ∀ c, c < n →
      (A : Rat) ≤ (spreadCoord n aLo aHi bins target demand).getD c 0 ∧
      (spreadCoord n aLo aHi bins target demand).getD c 0 ≤ (B : Rat) := by
  intro c hc
  have hlh : ∀ b ∈ bins, b.lo < b.hi := fun b hb' => (hb b hb').2.2
  by_cases hex : ∃ b ∈ bins, c ∈ b.cells
  · obtain ⟨b, hbm, hcm⟩ := hex
    obtain ⟨h1, h2⟩ := spread_coord_inside n aLo aHi bins target demand hdem hlh hnd hr b hbm c hcm (hposbin b hbm c hcm)
    exact lims_bounds hl (hb b hbm).1 (hb b hbm).2.1 h1.le h2.le
  · rw [spread_coord_unassigned n aLo aHi bins target demand hdem hlh hnd hr c hc fun b hbm hcm => hex ⟨b, hbm, hcm⟩]
    obtain ⟨c1, c2⟩ := clampTo_bounds aLo aHi ha.2.2 (target.getD c 0)
    exact lims_bounds hl ha.1 ha.2.1 c1 c2

/-- What a callback exposes of such a placement: the exported lower-left corner
`round(v − w/2)` puts the exposed centre `x + w/2` within one half of the float centre, hence
inside the bounding box enlarged by one half — the tolerance used by the direct oracle. -/
theorem ub_exposed_centre (v : Rat) (w A B : Int) (hA : (A : Rat) ≤ v) (hB : v ≤ (B : Rat)) :
    (A : Rat) - 1 / 2 ≤ (exportCoord v w : Rat) + (1 / 2) * (w : Rat) ∧
    (exportCoord v w : Rat) + (1 / 2) * (w : Rat) ≤ (B : Rat) + 1 / 2 :=
  exportCoord_centre_within_half v 0 w A B (by norm_num) (by rwa [sub_zero]) (by rwa [add_zero])

open ColoVerif.SpreadF in
/-- `spreadCells` in binary32, ALL inputs (any targets, any demands — negative, huge, inexact —, any running
share, whatever the roundings do): with `lo ≤ hi` the coordinate returned for a cell of positive demand lies in
the CLOSED bin `[lo, hi]`.  (The strict containment of `spread_inside` does not survive rounding: a coordinate
can sit on the edge.) -/
theorem spreadF_inside_closed_bin (targets demands : List Rat) (lo hi : Rat) (hlh : lo ≤ hi)
    (i : Nat) (hi' : i < targets.length) (hpos : 0 < demands.getD i 0) :
    lo ≤ (spreadCellsF targets demands lo hi).getD i 0 ∧ (spreadCellsF targets demands lo hi).getD i 0 ≤ hi :=
  spreadCellsF_inside targets demands lo hi hlh i hi' hpos

open ColoVerif.SpreadF in
/-- non-vacuity of `spreadF_inside_closed_bin`, on the input that broke the pre-fix code: the last cell is now
placed on the edge `4000000` (kernel-evaluated: `LegacySpreadF.witness_drift_fixed`) -/
example : (spreadCellsF [0, 1, 2, 3, 4, 5, 6, 7, 8, 9] [16776988, 1, 1, 1, 1, 1, 1, 2, 2, 2] 0 4000000).getD 9 0 ≤ 4000000 :=
  (spreadF_inside_closed_bin _ _ 0 4000000 (by norm_num) 9 (by simp) (by simp)).2

open ColoVerif.SpreadF in
/-- `spreadCoordX/Y` in binary32: if every bin of the loop has `lo ≤ hi`, no cell is allocated to two bins (nor
twice to one) and cell indices are in range — the invariant `HierarchicalDensityPlacement::check` asserts, C16 —,
then every positive-demand cell of a bin gets a coordinate in `[(float) lo, (float) hi]`.  No hypothesis on the
sign or size of the other demands. -/
theorem spreadF_coord_inside (n : Nat) (aLo aHi : Int) (bins : List Bin) (target : List Rat) (demand : List Int)
    (hlh : ∀ b ∈ bins, b.lo ≤ b.hi)
    (hnd : (bins.flatMap fun b => b.cells).Nodup) (hr : ∀ b ∈ bins, ∀ c ∈ b.cells, c < n) :
    ∀ b ∈ bins, ∀ c ∈ b.cells, 0 < demand.getD c 0 →
      fl (b.lo : Rat) ≤ (spreadCoordF n aLo aHi bins target demand).getD c 0 ∧
      (spreadCoordF n aLo aHi bins target demand).getD c 0 ≤ fl (b.hi : Rat) :=
  (foldl_scatter_inside (step := binStepF target demand) (fun _ _ => rfl)
    (fun b c v => 0 < demand.getD c 0 → fl (b.lo : Rat) ≤ v ∧ v ≤ fl (b.hi : Rat)) (initCoordsF_length n aLo aHi target)
    (fun b hb => binCoordsF_inside target demand b (hlh b hb)) hnd hr).2.1

open ColoVerif.SpreadF in
/-- A cell that is in no bin keeps its target clamped to `[(float) aLo, (float) aHi]` (comparisons only). -/
theorem spreadF_coord_unassigned (n : Nat) (aLo aHi : Int) (bins : List Bin) (target : List Rat) (demand : List Int)
    (hlh : ∀ b ∈ bins, b.lo ≤ b.hi)
    (hnd : (bins.flatMap fun b => b.cells).Nodup) (hr : ∀ b ∈ bins, ∀ c ∈ b.cells, c < n)
    (c : Nat) (hc : c < n) (hno : ∀ b ∈ bins, c ∉ b.cells) :
    (spreadCoordF n aLo aHi bins target demand).getD c 0 = clampF aLo aHi (target.getD c 0) :=
  ((foldl_scatter_inside (step := binStepF target demand) (fun _ _ => rfl)
    (fun b c v => 0 < demand.getD c 0 → fl (b.lo : Rat) ≤ v ∧ v ≤ fl (b.hi : Rat)) (initCoordsF_length n aLo aHi target)
    (fun b hb => binCoordsF_inside target demand b (hlh b hb)) hnd hr).2.2 c hno).trans
    (initCoordsF_getD n aLo aHi target c hc)

open ColoVerif.SpreadF in
/-- Every cell, binary32 (the float analogue of `ub_every_cell_inside`).  Hypotheses, exactly as in the `Rat`
version: from C16's invariant — no cell in two bins (`hnd`), indices in range (`hr`), bins hold only cells of
positive demand (`hposbin`), every bin limit and the extent `[aLo, aHi]` of the placement area are grid limits
(`hb`, `ha`) —; from `bins_inside_area` — grid limits lie in `[A, B]` (`hl`) —; and one more for binary32 — the
limits convert exactly to `float`, `|l| ≤ 2^24` (`hex`; C06's coordinates are below `2^22`).  Conclusion: every
cell index, in a bin or not, gets an upper-bound coordinate in `[A, B]`. -/
theorem ubF_every_cell_inside (lims : List Int) (A B : Int) (hl : ∀ l ∈ lims, A ≤ l ∧ l ≤ B)
    (hex : ∀ l ∈ lims, |l| ≤ 2 ^ 24)
    (n : Nat) (aLo aHi : Int) (ha : aLo ∈ lims ∧ aHi ∈ lims ∧ aLo ≤ aHi)
    (bins : List Bin) (target : List Rat) (demand : List Int)
    (hb : ∀ b ∈ bins, b.lo ∈ lims ∧ b.hi ∈ lims ∧ b.lo ≤ b.hi)
    (hnd : (bins.flatMap fun b => b.cells).Nodup) (hr : ∀ b ∈ bins, ∀ c ∈ b.cells, c < n)
    (hposbin : ∀ b ∈ bins, ∀ c ∈ b.cells, 0 < demand.getD c 0) :
    ∀ c, c < n →
      (A : Rat) ≤ (spreadCoordF n aLo aHi bins target demand).getD c 0 ∧
      (spreadCoordF n aLo aHi bins target demand).getD c 0 ≤ (B : Rat) := by
  intro c hc
  have hlh : ∀ b ∈ bins, b.lo ≤ b.hi := fun b hb' => (hb b hb').2.2
  by_cases hexi : ∃ b ∈ bins, c ∈ b.cells
  · obtain ⟨b, hbm, hcm⟩ := hexi
    obtain ⟨h1, h2⟩ := spreadF_coord_inside n aLo aHi bins target demand hlh hnd hr b hbm c hcm (hposbin b hbm c hcm)
    rw [fl_int _ (hex _ (hb b hbm).1)] at h1
    rw [fl_int _ (hex _ (hb b hbm).2.1)] at h2
    exact lims_bounds hl (hb b hbm).1 (hb b hbm).2.1 h1 h2
  · rw [spreadF_coord_unassigned n aLo aHi bins target demand hlh hnd hr c hc fun b hbm hcm => hexi ⟨b, hbm, hcm⟩]
    obtain ⟨c1, c2⟩ := clampF_bounds aLo aHi ha.2.2 (target.getD c 0)
    rw [fl_int _ (hex _ ha.1)] at c1
    rw [fl_int _ (hex _ ha.2.1)] at c2
    exact lims_bounds hl ha.1 ha.2.1 c1 c2

open ColoVerif.SpreadF in
/-- non-vacuity of `ubF_every_cell_inside`: two bins `[0,5]`, `[5,10]` with cells `{0,2}` and `{1}`, cell 3 in no bin -/
example : (0 : Rat) ≤ (spreadCoordF 4 0 10 [⟨0, 5, [0, 2]⟩, ⟨5, 10, [1]⟩] [7, 1, 3, 99] [2, 4, 6, 0]).getD 3 0 ∧
    (spreadCoordF 4 0 10 [⟨0, 5, [0, 2]⟩, ⟨5, 10, [1]⟩] [7, 1, 3, 99] [2, 4, 6, 0]).getD 3 0 ≤ ((10 : Int) : Rat) :=
  ubF_every_cell_inside [0, 5, 10] 0 10 (by decide) (by decide) 4 0 10 (by decide)
    [⟨0, 5, [0, 2]⟩, ⟨5, 10, [1]⟩] [7, 1, 3, 99] [2, 4, 6, 0] (by decide) (by decide) (by decide) (by decide) 3 (by decide)

/-- The "up to rounding" of the statement in its general form: for any `x` with `A − ε ≤ x ≤ B + ε`, `ε < 1/2`,
`A B` integers and an integer width `w`, the exported position `p = round(x − w/2)` (half away from zero) has its
centre `p + w/2` in `[A − 1/2, B + 1/2]` (`2p + w` is an integer strictly between `2A − 2` and `2B + 2`).  With
`ε = 0` this is `ub_exposed_centre`; it also shows that an excursion below one half would be invisible. -/
theorem exposed_centre_within_half (x ε : Rat) (w A B : Int) (hε : ε < 1 / 2)
    (hA : (A : Rat) - ε ≤ x) (hB : x ≤ (B : Rat) + ε) :
    (A : Rat) - 1 / 2 ≤ (exportCoord x w : Rat) + (1 / 2) * (w : Rat) ∧
    (exportCoord x w : Rat) + (1 / 2) * (w : Rat) ≤ (B : Rat) + 1 / 2 :=
  exportCoord_centre_within_half x ε w A B hε hA hB

/-- non-vacuity of `exposed_centre_within_half`: `x = 10.4` is outside `[0, 10]`, width 3: exported 9, centre 10.5 -/
example : (exportCoord (52 / 5) 3 : Rat) + (1 / 2) * ((3 : Int) : Rat) ≤ ((10 : Int) : Rat) + 1 / 2 :=
  (exposed_centre_within_half (52 / 5) (2 / 5) 3 0 10 (by norm_num) (by norm_num) (by norm_num)).2

open ColoVerif.SpreadF in
/-- What a callback exposes of a binary32 upper-bound placement (hypotheses of `ubF_every_cell_inside`): for
every cell and every integer placed width `w`, the exposed centre `round(v − w/2) + w/2` lies in the rows'
bounding box enlarged by one half — exactly the tolerance of the direct oracle (`exposed_centre_within_half`
with `ε = 0`). -/
theorem ubF_exposed_centre (lims : List Int) (A B : Int) (hl : ∀ l ∈ lims, A ≤ l ∧ l ≤ B)
    (hex : ∀ l ∈ lims, |l| ≤ 2 ^ 24)
    (n : Nat) (aLo aHi : Int) (ha : aLo ∈ lims ∧ aHi ∈ lims ∧ aLo ≤ aHi)
    (bins : List Bin) (target : List Rat) (demand : List Int)
    (hb : ∀ b ∈ bins, b.lo ∈ lims ∧ b.hi ∈ lims ∧ b.lo ≤ b.hi)
    (hnd : (bins.flatMap fun b => b.cells).Nodup) (hr : ∀ b ∈ bins, ∀ c ∈ b.cells, c < n)
    (hposbin : ∀ b ∈ bins, ∀ c ∈ b.cells, 0 < demand.getD c 0) (w : Int) :
    ∀ c, c < n →
      (A : Rat) - 1 / 2 ≤ (exportCoord ((spreadCoordF n aLo aHi bins target demand).getD c 0) w : Rat) + (1 / 2) * (w : Rat) ∧
      (exportCoord ((spreadCoordF n aLo aHi bins target demand).getD c 0) w : Rat) + (1 / 2) * (w : Rat) ≤ (B : Rat) + 1 / 2 := by
  intro c hc
  obtain ⟨h1, h2⟩ := ubF_every_cell_inside lims A B hl hex n aLo aHi ha bins target demand hb hnd hr hposbin c hc
  exact ub_exposed_centre _ w A B h1 h2

open ColoVerif.SpreadF in
/-- non-vacuity of `ubF_exposed_centre` (same data as above, cell 1 of width 3) -/
example : (exportCoord ((spreadCoordF 4 0 10 [⟨0, 5, [0, 2]⟩, ⟨5, 10, [1]⟩] [7, 1, 3, 99] [2, 4, 6, 0]).getD 1 0) 3 : Rat)
    + (1 / 2) * ((3 : Int) : Rat) ≤ ((10 : Int) : Rat) + 1 / 2 :=
  (ubF_exposed_centre [0, 5, 10] 0 10 (by decide) (by decide) 4 0 10 (by decide)
    [⟨0, 5, [0, 2]⟩, ⟨5, 10, [1]⟩] [7, 1, 3, 99] [2, 4, 6, 0] (by decide) (by decide) (by decide) (by decide) 3 1 (by decide)).2

open ColoVerif.LegacySpreadF in
/-- Before the clamp (`Model/LegacySpreadF.lean`) the binary32 coordinate of a positive-demand cell could lie strictly OUTSIDE the closed
bin, on both sides (kernel-evaluated): three cells of demands 2, 8222228, 1 in the bin `[0, 2]` — the last one
was placed at `2 + 2^-22`; two cells of demands 4, 2858381 in `[3946, 3970]` — the first one at `3946 − 2^-12`. -/
theorem legacy_spreadF_can_leave_bin :
    (2 : Rat) < (spreadCellsF [0, 1, 2] [2, 8222228, 1] 0 2).getD 2 0 ∧
    (spreadCellsF [0, 1] [4, 2858381] 3946 3970).getD 0 0 < (3946 : Rat) := by
  rw [witness_up, witness_low]
  constructor <;> norm_num

open ColoVerif.LegacySpreadF in
/-- …and by more than one half, so that the export rounding did NOT absorb it: ten cells of demands
16776988, 1×6, 2×3 (total just below 2^24, targets increasing) in the bin `[0, 4000000]`: every addition to the
running share rounds up, it ends at `1 + 3·2^-22`, the last cell was placed at `4000002.5` and the exported
centre of a zero-width cell there is `4000003 > 4000000 + 1/2`. -/
theorem legacy_spreadF_can_exceed_half :
    finalShareF [0, 1, 2, 3, 4, 5, 6, 7, 8, 9] [16776988, 1, 1, 1, 1, 1, 1, 2, 2, 2] 0 4000000 = 1 + 3 / 4194304 ∧
    (4000000 : Rat) + 1 / 2 <
      (exportCoord ((spreadCellsF [0, 1, 2, 3, 4, 5, 6, 7, 8, 9] [16776988, 1, 1, 1, 1, 1, 1, 2, 2, 2] 0 4000000).getD 9 0) 0 : Rat)
        + (1 / 2) * ((0 : Int) : Rat) := by
  rw [witness_drift.1, witness_drift.2]
  have : exportCoord (8000005 / 2) 0 = 4000003 := by decide +kernel
  rw [this]; norm_num

/-- `GlobalPlacer::exportPlacement(circuit)`: on each axis the returned coordinate of a movable
cell is `round((1−β)·lb + β·ub − size/2)` (the `β = 0` and `β = 1` short-cuts of
`blendPlacement` agree with the formula); fixed cells keep their coordinate. -/
theorem export_is_blend (fixed : List Bool) (old : List Int) (lb ub : List Rat) (size : List Int)
    (beta : Rat) (i : Nat) (hf : i < fixed.length) (ho : i < old.length) (hl : i < lb.length)
    (hu : i < ub.length) (hs : i < size.length) (hlu : lb.length = ub.length) :
    (exportFinal fixed old lb ub size beta).getD i 0 =
      if fixed.getD i true then old.getD i 0
      else roundHalfAway ((1 - beta) * lb.getD i 0 + beta * ub.getD i 0 - (1 / 2) * (size.getD i 0 : Rat)) := by
  unfold exportFinal
  rw [exportAxis_getD fixed old _ size i hf ho (by rw [blend_length lb ub beta hlu]; exact hl) hs,
    blend_getD lb ub beta i hl hu]
  rfl

/-- non-vacuity of `export_is_blend` -/
example : (exportFinal [false] [0] [3] [7] [2] (1 / 2)).getD 0 0 =
    roundHalfAway ((1 - 1 / 2) * 3 + 1 / 2 * 7 - 1 / 2 * ((2 : Int) : Rat)) :=
  export_is_blend [false] [0] [3] [7] [2] (1 / 2) 0 Nat.one_pos Nat.one_pos Nat.one_pos Nat.one_pos Nat.one_pos rfl

/-- The statement's "up to rounding", derived: callbacks expose `LB = round(lb − w/2)` and
`UB = round(ub − w/2)`; the returned `round((1−β)·lb + β·ub − w/2)` differs from the blend of
the exposed integers by at most `(|1−β| + |β| + 1)/2` — three roundings.  (Over `Rat`; the
harness adds the four single-precision roundings of `blendPlacement`.) -/
theorem export_blend_observable (lb ub beta : Rat) (w : Int) :
    ((roundHalfAway ((1 - beta) * lb + beta * ub - (1 / 2) * (w : Rat)) : Int) : Rat)
      - ((1 - beta) * (exportCoord lb w : Rat) + beta * (exportCoord ub w : Rat)) ≤ blendBound beta ∧
    -(blendBound beta) ≤ ((roundHalfAway ((1 - beta) * lb + beta * ub - (1 / 2) * (w : Rat)) : Int) : Rat)
      - ((1 - beta) * (exportCoord lb w : Rat) + beta * (exportCoord ub w : Rat)) := by
  have h := abs_le.mp (export_blend_err lb ub beta w)
  exact ⟨h.2, h.1⟩

open ColoVerif.GlobalLoop in
/-- The loop terminates within the step limit, whatever the float code returns and whatever the
roundings are: at most `maxNbSteps - nbInitialSteps` iterations, and correspondingly bounded numbers
of callbacks (UpperBound: one per iteration plus the final one; LowerBound: the initial solves plus
`nbStepsBeforeRoughLegalization` per iteration; PenaltyUpdate: at most one per iteration). -/
theorem loop_terminates (R : Rounding) (p : Params) (o : Oracle) :
    (run R p o).iterations ≤ p.maxNbSteps - p.nbInitialSteps ∧
    (run R p o).updates ≤ (run R p o).iterations ∧
    (run R p o).events.count .ub ≤ (p.maxNbSteps - p.nbInitialSteps) + 1 ∧
    (run R p o).events.count .lb ≤ (p.nbInitialSteps + 1) + (p.maxNbSteps - p.nbInitialSteps) * p.nbInner ∧
    (run R p o).events.count .pu ≤ p.maxNbSteps - p.nbInitialSteps ∧
    (run R p o).events.length ≤
      (p.nbInitialSteps + 1) + (p.maxNbSteps - p.nbInitialSteps) * p.nbInner + 2 * (p.maxNbSteps - p.nbInitialSteps) + 1 := by
  have h := runWith_bounds (stopTest R p o) R p o
  simp [LoopBounds, initSt, List.count_replicate] at h
  have hl := length_eq_counts (run R p o).events
  unfold run at hl ⊢
  exact ⟨h.1, h.2.1, h.2.2.1, h.2.2.2.1, h.2.2.2.2, by omega⟩

open ColoVerif.GlobalLoop in
/-- The repaired defect (commit 0d89981): when the initial solves succeed and the first upper bound
has no wirelength (`ub ≤ 0`), the loop is left at its first iteration by the `noWirelength` clause,
whatever `lb`, `dist` and the tolerances are.  The update block is never executed: the loop
variables keep their initial values, and the callbacks are the initial LowerBounds, the iteration's
UpperBound and the final UpperBound. -/
theorem zero_wirelength_exits_first_step (R : Rounding) (p : Params) (o : Oracle)
    (hinit : ∀ i, i ≤ p.nbInitialSteps → o.initOk i = true) (hsteps : p.nbInitialSteps < p.maxNbSteps)
    (hub : o.ub 0 ≤ 0) :
    (run R p o).exit = .stop .noWirelength ∧ (run R p o).iterations = 1 ∧ (run R p o).updates = 0 ∧
    (run R p o).events = List.replicate (p.nbInitialSteps + 1) .lb ++ [.ub, .ub] ∧
    (run R p o).trail = [initVars R p o] := by
  obtain ⟨f, hf⟩ : ∃ f, p.maxNbSteps - p.nbInitialSteps = f + 1 := ⟨p.maxNbSteps - p.nbInitialSteps - 1, by omega⟩
  have e : run R p o = finish (initSt R p o) [.ub] (.stop .noWirelength) 1 0 := by
    unfold run
    rw [runWith_ok _ R p o hinit, hf]
    exact loopWith_succ_stop _ R p o f 0 _ .noWirelength (by simp [stopTest, hub])
  rw [e]
  simp [finish, initSt]

open ColoVerif.GlobalLoop in
/-- The loop variables follow the recurrences: when the initial solves succeed, the trail of
`(penalty_, penaltyCutoffDistance_, approximationDistance_)` recorded by the loop is, entry `k`, the
initial values updated `k` times (`varsAfter`, with the roundings `R` of the C++ arithmetic), for
`k = 0 … updates`. -/
theorem recurrences_rounded (R : Rounding) (p : Params) (o : Oracle)
    (hinit : ∀ i, i ≤ p.nbInitialSteps → o.initOk i = true) :
    (run R p o).trail = (List.range ((run R p o).updates + 1)).map (varsAfter R p o) :=
  runWith_trail (stopTest R p o) R p o hinit

open ColoVerif.GlobalLoop in
/-- …and in exact arithmetic the recurrences are the closed forms `penalty · f^k`,
`avgLen · cutoff · g^k`, `avgLen · approx · h^k`. -/
theorem recurrences_closed_form (p : Params) (o : Oracle)
    (hinit : ∀ i, i ≤ p.nbInitialSteps → o.initOk i = true) :
    (run Rounding.exact p o).trail = (List.range ((run Rounding.exact p o).updates + 1)).map
      (fun k => ⟨penaltyAfter p k, cutoffAfter p o.avgLen k, approxAfter p o.avgLen k⟩) := by
  rw [recurrences_rounded Rounding.exact p o hinit]
  exact List.map_congr_left (fun k _ => varsAfter_exact p o k)

open ColoVerif.GlobalLoop in
/-- Soundness of the KF-C06-1 classifier `driftOutOfBox` as an explanation: if it is
false for every `k` up to the number of completed updates, then (exact arithmetic, positive average
cell length) the loop variables were inside the numeric box at every point of the run: approximation
distance in `[0.1, 1e3]` and cutoff distance `≥ 0.1` average cell lengths, penalty below `2^128`,
penalty-to-cutoff ratio strictly between `2^-24` and `2^64`.  A failure on such a run is therefore not
explained by the recurrences. -/
theorem drift_box_sound (p : Params) (o : Oracle)
    (hinit : ∀ i, i ≤ p.nbInitialSteps → o.initOk i = true) (havg : 0 < o.avgLen)
    (h : ∀ k, k ≤ (run Rounding.exact p o).updates → driftOutOfBox p k = false) :
    ∀ v ∈ (run Rounding.exact p o).trail, InBox o.avgLen v := by
  intro v hv
  rw [recurrences_closed_form p o hinit] at hv
  obtain ⟨k, hk, rfl⟩ := List.mem_map.mp hv
  exact inBox_of_not_drift p o.avgLen havg k (h k (by have := List.mem_range.mp hk; omega))

open ColoVerif.GlobalLoop in
/-- The pre-fix stop test (`Model/LegacyGlobalLoop.lean`) on a circuit without wirelength
(`ub = lb = 0` throughout), with the distance test not firing and every solve succeeding: `0/0` is
not below the gap tolerance, the loop runs to the step limit and applies the recurrences
`maxNbSteps - nbInitialSteps` times — the defect that made the float penalty overflow. -/
theorem legacy_zero_wirelength_runs_all_steps (R : Rounding) (p : Params) (o : Oracle) (hR : R.f 0 = 0)
    (hinit : ∀ i, i ≤ p.nbInitialSteps → o.initOk i = true) (hok : ∀ j i, o.lbOk j i = true)
    (hlb0 : o.lb0 = 0) (hub : ∀ j, o.ub j = 0) (hlb : ∀ j, o.lb j = 0)
    (hd : ∀ j, ¬ o.dist j < distTol R p o) :
    (legacyRun R p o).exit = .stepLimit ∧ (legacyRun R p o).updates = p.maxNbSteps - p.nbInitialSteps ∧
    (legacyRun R p o).trail = (List.range (p.maxNbSteps - p.nbInitialSteps + 1)).map (varsAfter R p o) := by
  have e : legacyRun R p o = _ := runWith_ok (legacyStopTest R p o) R p o hinit
  have h := legacy_loop_all R p o hR hub hlb hd hok (p.maxNbSteps - p.nbInitialSteps) 0 (initSt R p o) hlb0
  have ht : (legacyRun R p o).trail = (List.range ((legacyRun R p o).updates + 1)).map (varsAfter R p o) :=
    runWith_trail (legacyStopTest R p o) R p o hinit
  rw [← e, Nat.zero_add] at h
  rw [h.2] at ht
  exact ⟨h.1, h.2, ht⟩

namespace LoopExamples
open ColoVerif.GlobalLoop

/-- effort-like parameters: 2 initial steps, 12 steps, update factor 2 (for small numbers) -/
def p0 : Params := ⟨2, 12, 1, 1 / 20, 2, 1, 2, 1 / 50, 2, 5, 1, 1, 9 / 10⟩
/-- a circuit without wirelength: every value is 0; average cell length 3, mean distance 10 (above the tolerance `2 · 3`) -/
def oZero : Oracle := ⟨3, fun _ => true, 0, fun _ => 0, fun _ => 10, fun _ _ => true, fun _ => 0⟩
/-- a run whose gap closes at the fourth iteration -/
def oGap : Oracle := ⟨3, fun _ => true, 10, fun j => 100 - 20 * j, fun j => 30 - j, fun _ _ => true, fun j => 30 + 10 * j⟩

/-- non-vacuity of `zero_wirelength_exits_first_step`, and the contrast with the legacy loop on the
same oracle: the current loop stops at once and leaves the penalty at 1/50, the legacy loop runs
all 10 iterations and multiplies it by 2^10 -/
example : (run Rounding.exact p0 oZero).exit = .stop .noWirelength ∧ (run Rounding.exact p0 oZero).updates = 0 :=
  have h := zero_wirelength_exits_first_step Rounding.exact p0 oZero (fun _ _ => rfl) (by decide) (by decide +kernel)
  ⟨h.1, h.2.2.1⟩

example : (legacyRun Rounding.exact p0 oZero).exit = .stepLimit ∧ (legacyRun Rounding.exact p0 oZero).updates = 10 :=
  have h := legacy_zero_wirelength_runs_all_steps Rounding.exact p0 oZero rfl (fun _ _ => rfl) (fun _ _ => rfl) rfl
    (fun _ => rfl) (fun _ => rfl) (fun _ => by show ¬ ((10 : Rat) < distTol Rounding.exact p0 oZero); decide +kernel)
  ⟨h.1, h.2.1⟩

example : ((legacyRun Rounding.exact p0 oZero).trail.map (·.penalty)).getLast? = some (1024 / 50) := by decide +kernel

/-- non-vacuity of `loop_terminates` / `recurrences_closed_form` / `drift_box_sound` on a run with
several iterations: 4 iterations, 3 updates, stopped by the gap test, inside the box -/
example : (run Rounding.exact p0 oGap).exit = .stop .gap ∧ (run Rounding.exact p0 oGap).updates = 3 ∧
    (run Rounding.exact p0 oGap).events = [.lb, .lb, .lb, .ub, .lb, .ub, .lb, .ub, .lb, .ub, .ub] := by decide +kernel

example : ∀ v ∈ (run Rounding.exact p0 oGap).trail, InBox 3 v :=
  drift_box_sound p0 oGap (fun _ _ => rfl) (by decide +kernel) (by
    have e : (run Rounding.exact p0 oGap).updates = 3 := by decide +kernel
    rw [e]
    intro k hk
    have : k = 0 ∨ k = 1 ∨ k = 2 ∨ k = 3 := by omega
    rcases this with rfl | rfl | rfl | rfl <;> decide +kernel)

/-- the classifier does fire: with the same parameters the approximation distance `0.9^k` falls below 0.1 at
`k = 22` — and the IEEE roundings differ from exact arithmetic already at the first update -/
example : driftOutOfBox p0 22 = true ∧ driftOutOfBox p0 21 = false := by decide +kernel

example : (varsAfter Rounding.ieee p0 oGap 1).approx ≠ (varsAfter Rounding.exact p0 oGap 1).approx := by decide +kernel

end LoopExamples

/-- The geometry layer under the placement-area and bin-region statements (`bins_inside_area`,
`bins_inside_rows_bbox`, `ub_*`) is *translated from the C++ source*: the definitions of `Gen/GeomFns.lean`,
regenerated on every run from the clang AST of `Rectangle(int,int,int,int)`, `Rectangle::width / height / area /
intersects / intersection`, `Circuit::isFixed / isObstruction / placement` and of the loop of
`Circuit::computePlacementArea()`, equal the hand-written `Rect.*` / `Cell.*` / `Circuit.placementArea` the C06
models are written in (`computePlacementArea` under the decidable hypothesis that the row coordinates are C++
`int`s, `GeomTie.RowsInInt`).  A semantic change of one of these bodies breaks this theorem. -/
theorem geometry_layer_translated :
    Gen.Geom.Rectangle_ctor = Rect.mk ∧
    Gen.Geom.Rectangle_width = Rect.width ∧
    Gen.Geom.Rectangle_height = Rect.height ∧
    Gen.Geom.Rectangle_area = Rect.area ∧
    Gen.Geom.Rectangle_intersects = Rect.intersects ∧
    Gen.Geom.Rectangle_intersection = Rect.intersection ∧
    Gen.Geom.Circuit_isFixed = Cell.fixed ∧
    Gen.Geom.Circuit_isObstruction = Cell.obstruction ∧
    Gen.Geom.Circuit_placement = Cell.placement ∧
    (∀ c : Circuit, GeomTie.RowsInInt c → Gen.Geom.Circuit_computePlacementArea c = c.placementArea) :=
  ⟨GeomTie.gen_Rectangle_ctor_eq_model,
   GeomTie.gen_Rectangle_width_eq_model,
   GeomTie.gen_Rectangle_height_eq_model,
   GeomTie.gen_Rectangle_area_eq_model,
   GeomTie.gen_Rectangle_intersects_eq_model,
   GeomTie.gen_Rectangle_intersection_eq_model,
   GeomTie.gen_Circuit_isFixed_eq_model,
   GeomTie.gen_Circuit_isObstruction_eq_model,
   GeomTie.gen_Circuit_placement_eq_model,
   GeomTie.gen_Circuit_computePlacementArea_eq_model⟩

end ColoVerif.C06
