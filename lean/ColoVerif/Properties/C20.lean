import ColoVerif.Model.Ispd
import ColoVerif.Model.LegacyIspd
import ColoVerif.Model.BindingRules
import ColoVerif.Gen.Bindings
import ColoVerif.Proofs.Ispd
import ColoVerif.Model.IspdText
import ColoVerif.Model.LegacyIspdText
import ColoVerif.Proofs.IspdText
import ColoVerif.Proofs.IspdTextAux
import ColoVerif.Proofs.AsciiToList
/-
C20 — file export and Python layer are faithful to the circuit.

* `Ispd.write` is `Circuit::exportIspd` (src/export.cpp), `Ispd.read` is `Circuit.read_ispd`
  (pycoloquinte/coloquinte.py); both are tied to the code by the two halves of `harness/h_C20.cpp`.
* `Ispd.Text.writeText` is the exact *text* of the four data files (and `auxText` of the `.aux` file) that
  export.cpp emits, `Ispd.Text.readText` is coloquinte.py's line-by-line tokenisation and parsing, `Ispd.Text.readIspd`
  adds `_read_aux`/`_open_file` on a file system, `writePlacementText`/`loadPlacement` are `write_placement`/
  `load_placement`; tied by whole-file text comparison and by the reader run on exported, record-mutated and
  text-mutated files (harness/h_C20.cpp + harness/c20_reader.py).
* `Gen.Bindings` is regenerated from pycoloquinte/module.cpp and src/coloquinte.hpp on every run.
-/
namespace ColoVerif.C20
open ColoVerif ColoVerif.Ispd

/-- Exact form of the round trip: on the format's domain the reader succeeds and returns the
circuit itself, up to the three things the format does not carry (obstruction flags, row
polarities — recomputed from the heights —, net weights). -/
theorem roundtrip_exact (c : Circuit) (h : inDomain c = true) :
    ∃ rh, c.rowHeight = some rh ∧ rh ≠ 0 ∧ read (write c) = .ok (expected c rh) := by
  simp only [inDomain, Bool.and_eq_true] at h
  obtain ⟨⟨⟨hc, hr⟩, hn⟩, hh⟩ := h
  cases hrh : c.rowHeight with
  | none => simp [hrh] at hh
  | some rh =>
    simp only [hrh, bne_iff_ne, ne_eq] at hh
    exact ⟨rh, rfl, hh, read_write c rh hc hr hn hrh hh⟩

/-- **Round trip.**  For every circuit in the format's domain (`inDomain`: the eight proper
orientations for cells and rows, no empty net, pins on existing cells with
`|2·offset − size| < 2·10^5` — implied by sizes and offsets below 10^5 —, at least one row, uniform
non-zero row height), reading back what was exported succeeds and reproduces cell sizes, fixed
flags, positions, orientations, net connectivity, pin offsets, row rectangles and row orientations. -/
theorem roundtrip (c : Circuit) (h : inDomain c = true) :
    ∃ c', read (write c) = .ok c' ∧ Agree c c' := by
  obtain ⟨rh, _, _, hr⟩ := roundtrip_exact c h
  exact ⟨_, hr, agree_expected c rh⟩

/-- … hence the same wirelength (`Circuit.hpwl` is `Circuit::hpwl`). -/
theorem roundtrip_hpwl (c : Circuit) (h : inDomain c = true) :
    ∃ c', read (write c) = .ok c' ∧ c'.hpwl = c.hpwl := by
  obtain ⟨c', hr, ha⟩ := roundtrip c h
  exact ⟨c', hr, hpwl_agree ha⟩

/-- The wirelength depends only on the fields that `Agree` lists (so "hence" above is literal). -/
theorem agree_hpwl (c c' : Circuit) (a : Agree c c') : c'.hpwl = c.hpwl := hpwl_agree a

/-- The magnitude condition of `inDomain` covers the advertised case: a pin that lies inside its
(unrotated) cell, the cell being smaller than 10^5 in both directions.  (Sizes below 10^5 alone
are *not* enough for a pin far outside its cell: `offset − size/2` may then need seven digits.) -/
theorem pin_inside_small_cell_ok (c : Circuit) (p : Pin) (hc : p.cell < c.cells.length)
    (hw : (c.cell p.cell).w < 100000) (hh : (c.cell p.cell).h < 100000)
    (hx : 0 ≤ p.xo ∧ p.xo ≤ (c.cell p.cell).w) (hy : 0 ≤ p.yo ∧ p.yo ≤ (c.cell p.cell).h) :
    pinOk c p = true := by
  simp only [pinOk, Bool.and_eq_true, decide_eq_true_eq]
  refine ⟨⟨hc, ?_⟩, ?_⟩ <;> omega

/-- non-vacuity: circuits with turned / flipped cells, alternating rows and nets are in the domain -/
example : inDomain Legacy.witnessPins = true := by decide
example : inDomain Legacy.witnessRows = true := by decide
example : inDomain ⟨[⟨3, 5, -7, 2, .FE, true, false, .NW⟩, ⟨99999, 1, 0, 0, .W, false, true, .ANY⟩],
    [⟨1, 0, [⟨0, -2, 7⟩, ⟨1, 99999, 0⟩, ⟨1, 0, -3⟩]⟩], [⟨⟨-5, 20, 0, 3⟩, .FS⟩, ⟨⟨0, 9, 3, 6⟩, .S⟩]⟩ = true := by decide

/-- The magnitude bound of the domain is needed: with an offset of 100001 on a cell of width 1 the
value 100000.5 is printed with six digits as `100000`, and the reader's `round(0.5 + 100000)` gives
100000 (ties to even). -/
theorem precision_bound_needed :
    (read (write ⟨[⟨1, 1, 0, 0, .N, false, true, .ANY⟩], [⟨1, 0, [⟨0, 100001, 0⟩]⟩], [⟨⟨0, 10, 0, 1⟩, .N⟩]⟩)).toOption.map
      (fun c' => c'.nets.map (fun n => n.pins.map (·.xo))) = some [[100000]] := by
  decide +kernel

open ColoVerif.Ispd.Text in
/-- Full statement: the text-level reader on the exported text is the record-level reader on the exported
records, for every circuit.  What is missing in `text_refines_records_partial`: pin offsets whose printed form
needs rounding to six digits or scientific notation (`fmtG6` beyond `|2·offset − size| < 2·10^5`), where
`float()` of the printed text is tied to `fmt6` only by the `big` correspondence stream. -/
def text_refines_records_full_statement : Prop :=
  ∀ c : Circuit, readText (writeText c) = read (write c)

open ColoVerif.Ispd.Text in
/-- **Text level refines record level.**  For every circuit whose pin offsets print with at most six
significant digits (no other hypothesis: any orientation, any rows, pins on missing cells, empty nets …),
coloquinte.py's tokenisation and number parsing, run on the exact text export.cpp writes, gives what
`Ispd.read` gives on the records `Ispd.write` — the same circuit or the same Python exception. -/
theorem text_refines_records_partial (c : Circuit) (h : printable c = true) :
    readText (writeText c) = read (write c) := readText_write c h

open ColoVerif.Ispd.Text in
/-- **Round trip at text level.**  On the format's domain, reading the exported *text* back succeeds and
reproduces cell sizes, fixed flags, positions, orientations, connectivity, pin offsets, row rectangles and
row orientations. -/
theorem roundtrip_text (c : Circuit) (h : inDomain c = true) :
    ∃ c', readText (writeText c) = .ok c' ∧ Agree c c' := by
  rw [readText_write c (printable_of_inDomain c h)]
  exact roundtrip c h

open ColoVerif.Ispd.Text in
/-- … and the same wirelength. -/
theorem roundtrip_text_hpwl (c : Circuit) (h : inDomain c = true) :
    ∃ c', readText (writeText c) = .ok c' ∧ c'.hpwl = c.hpwl := by
  obtain ⟨c', hr, ha⟩ := roundtrip_text c h
  exact ⟨c', hr, hpwl_agree ha⟩

open ColoVerif.Ispd.Text in
/-- **Round trip through the files.**  `read_ispd("<pre>.aux")` — and `read_ispd("<pre>")`, which appends
`.aux` — on the five files that `exportIspd("<pre>")` leaves behind selects the four data files through the
`.aux` file and reproduces the circuit, for every prefix — absolute, relative with a directory part, or bare —
whose base name has no white space and whose directory part does not end in a doubled `/`. -/
theorem roundtrip_files (pre : Line) (c : Circuit) (hp : goodPrefix pre = true) (h : inDomain c = true) :
    (∃ c', readIspd (exportFS pre c) .exists_ (pre ++ ".aux".toList) = .ok c' ∧ Agree c c') ∧
    (∃ c', readIspd (exportFS pre c) .missing pre = .ok c' ∧ Agree c c') := by
  rw [readIspd_exportFS pre c hp, readIspd_exportFS_missing pre c hp]
  exact ⟨roundtrip_text c h, roundtrip_text c h⟩

open ColoVerif.Ispd.Text in
/-- F18 (before the fix): `exportIspd("out/d")` wrote `out/d.nodes …` into `out/d.aux`, and the reader joins
these names to the directory of the `.aux` file once more (`out/out/d.nodes`):
`RuntimeError("Could not find file …")`.  With the fixed writer the same prefix reads back. -/
theorem relative_prefix_with_directory_lost :
    readIspd (Legacy.exportFS "out/d".toList Ispd.Legacy.witnessRows) .exists_ "out/d.aux".toList = .error .runtime ∧
    (readIspd (exportFS "out/d".toList Ispd.Legacy.witnessRows) .exists_ "out/d.aux".toList).toOption.isSome = true ∧
    inDomain Ispd.Legacy.witnessRows = true := by
  have hd : inDomain Ispd.Legacy.witnessRows = true := by decide +kernel
  obtain ⟨c', h, _⟩ := (roundtrip_files "out/d".toList _ (by decide +kernel) hd).1
  have he : "out/d.aux".toList = "out/d".toList ++ ".aux".toList := by decide +kernel
  exact ⟨by decide +kernel, by rw [he, h]; rfl, hd⟩

open ColoVerif.Ispd.Text in
/-- **Number formatting.**  What `operator<<` prints for an `int` is read back by `int()`; what it prints at
the default precision for the half-integer `k/2` is read back exactly by `float()` as long as
`|k| < 2·10^5` (six significant digits). -/
theorem number_format_exact :
    (∀ i : Int, pyInt (showInt i) = .ok i) ∧
    (∀ k : Int, k.natAbs < 200000 → pyFloat (fmtG6 k) = .ok ((k : Rat) / 2)) := by
  refine ⟨pyInt_showInt, fun k hk => ?_⟩
  rw [pyFloat_fmtG6 k hk, fmt6, if_pos hk]

open ColoVerif.Ispd.Text in
/-- **`load_placement(write_placement(c))`.**  With pairwise distinct cell names that are single tokens not
starting with `#`, and proper orientations, loading the placement file written from `c` into any circuit `c0`
with the same number of cells succeeds and gives every cell the position and orientation it has in `c`;
sizes, flags, nets and rows of `c0` are untouched (`/FIXED` markers are written for fixed cells and ignored
on reading). -/
theorem load_write_placement (nm : List String) (c c0 : Circuit) (hnd : nm.Nodup)
    (hok : ∀ s ∈ nm, nameOk s.toList) (hlen : nm.length = c.cells.length) (hlen0 : c0.cells.length = c.cells.length)
    (hc : c.cells.all (fun cl => isProper cl.orient) = true) :
    ∃ c', loadPlacement nm (writePlacementText (nm.map String.toList) c) c0 = .ok c' ∧
      c'.cells.map (fun cl => (cl.x, cl.y, cl.orient)) = c.cells.map (fun cl => (cl.x, cl.y, cl.orient)) ∧
      c'.cells.map (fun cl => (cl.w, cl.h, cl.fixed, cl.obstruction, cl.pol)) =
        c0.cells.map (fun cl => (cl.w, cl.h, cl.fixed, cl.obstruction, cl.pol)) ∧
      c'.nets = c0.nets ∧ c'.rows = c0.rows := by
  refine ⟨_, loadPlacement_writePlacement nm c c0 hnd hok hlen hlen0 hc, ?_, ?_, rfl, rfl⟩
  · exact (setPlacement_maps c0.cells c.cells hlen0).1
  · exact (setPlacement_maps c0.cells c.cells hlen0).2

/-- non-vacuity: the text-level hypotheses hold for the names export.cpp gives (`o0`, `o1`), for an absolute
prefix, a bare one and relative ones with directory parts -/
example : Ispd.Text.printable Legacy.witnessPins = true ∧ Ispd.Text.goodPrefix "/tmp/x/d".toList = true ∧
    Ispd.Text.goodPrefix "d".toList = true ∧ Ispd.Text.goodPrefix "out/d".toList = true ∧
    Ispd.Text.goodPrefix "a/b c/d".toList = true ∧ Ispd.Text.goodPrefix "/d".toList = true ∧
    Ispd.Text.goodPrefix "out//d".toList = false ∧ Ispd.Text.goodPrefix "out/d e".toList = false := by decide
example : [cellName 0, cellName 1].Nodup ∧ ∀ s ∈ [cellName 0, cellName 1], Ispd.Text.nameOk s.toList := by
  refine ⟨by decide, ?_⟩
  intro s hs
  simp only [List.mem_cons, List.not_mem_nil, or_false] at hs
  rcases hs with rfl | rfl
  · exact ⟨Ispd.Text.free_of_all (by decide), 'o', ['0'], by decide, by decide⟩
  · exact ⟨Ispd.Text.free_of_all (by decide), 'o', ['1'], by decide, by decide⟩
example : Ispd.Text.loadPlacement [cellName 0, cellName 1]
      (Ispd.Text.writePlacementText [Ispd.Text.cellTok 0, Ispd.Text.cellTok 1] Legacy.witnessPins)
      { Legacy.witnessPins with cells := Legacy.witnessPins.cells.map fun cl => { cl with x := 9, orient := .FW } }
    = .ok Legacy.witnessPins := by decide +kernel

open ColoVerif.Gen ColoVerif.BindingRules in
/-- **Bindings.**  Every Python-visible enum value is bound to the enumerator of the same name of
its own enum; every attribute to the member of its own class whose camelCase is the snake_case
name; every property to getter `name` (or `computeName`) and setter `setName`; every method to the
method `name` (`__str__`/`__repr__` to `toString`); type names are identical (except
`NetModel` = `NetModelOption`). -/
theorem bindings_faithful :
    Bindings.enumValues.all enumValueOk = true ∧
    Bindings.enums.all typeNameOk = true ∧
    Bindings.classes.all typeNameOk = true ∧
    Bindings.attributes.all attributeOk = true ∧
    Bindings.roProperties.all roPropertyOk = true ∧
    Bindings.rwProperties.all rwPropertyOk = true ∧
    Bindings.methods.all methodOk = true ∧
    Bindings.lambdas.all lambdaOk = true := by
  -- evaluated with `toListA` in place of `String.toList`: the names are not decoded
  unfold attributeOk roPropertyOk rwPropertyOk methodOk lambdaOk camel pascal
  rw [toList_eq_toListA]
  decide +kernel

open ColoVerif.Gen ColoVerif.BindingRules in
/-- module.cpp cannot be compiled here (no pybind11), so the name lookup the compiler would do is
replayed on the typed AST of src/coloquinte.hpp: every bound C++ entity is a declared enumerator /
public data member / public method of the named scope. -/
theorem bindings_declared :
    Bindings.enumValues.all (fun (_, _, s, c) => declaredIn Bindings.declared "enumerator" s c) = true ∧
    Bindings.attributes.all (fun (_, _, c, m) => declaredIn Bindings.declared "field" c m) = true ∧
    Bindings.roProperties.all (fun (_, _, c, g) => declaredIn Bindings.declared "method" c g) = true ∧
    Bindings.rwProperties.all (fun (_, _, c, g, d, s) =>
      declaredIn Bindings.declared "method" c g && declaredIn Bindings.declared "method" d s) = true ∧
    Bindings.methods.all (fun (_, _, c, f) => declaredIn Bindings.declared "method" c f) = true ∧
    Bindings.lambdas.all (fun (_, _, c, f) => declaredIn Bindings.declared "method" c f) = true := by
  decide +kernel

/-- F16: `Siteorient : 1` — the FS row of an N/FS pair comes back as N. -/
theorem rows_orientation_lost :
    (read (Legacy.writeF16 Legacy.witnessRows)).toOption.map (fun c' => c'.rows.map (·.orient)) = some [.N, .N] ∧
    Legacy.witnessRows.rows.map (·.orient) = [.N, .FS] := by
  decide +kernel

/-- F17: oriented offsets were exported; a pin at (1,0) of a 4x2 cell oriented S is read back at
(3,2) and the wirelength of the re-read circuit differs. -/
theorem rotated_pin_offset_wrong :
    (read (Legacy.writeF17 Legacy.witnessPins)).toOption.map
        (fun c' => (c'.nets.map (fun n => n.pins.map (fun p => (p.xo, p.yo))), c'.hpwl)) = some ([[(3, 2), (0, 0)]], 1) ∧
    Legacy.witnessPins.hpwl = 5 := by
  decide +kernel

open ColoVerif.BindingRules in
/-- F15: `.value("NW", CellRowPolarity::ANY)` and `.value("SE", CellRowPolarity::ANY)` break the rule. -/
theorem legacy_polarity_bindings_wrong :
    enumValueOk ("CellRowPolarity", "NW", "CellRowPolarity", "ANY") = false ∧
    enumValueOk ("CellRowPolarity", "SE", "CellRowPolarity", "ANY") = false := by
  decide

end ColoVerif.C20
