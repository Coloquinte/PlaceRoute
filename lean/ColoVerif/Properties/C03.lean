import ColoVerif.Proofs.ExportFrame
import ColoVerif.Gen.WriteSets
/-
C03 — placement only moves movable cells; everything else is untouched.

`Export.Frame orientFree c c'` (Model/Export.lean) says: `c'` has the same nets (pins, offsets,
weights), the same rows, the same number of cells, and every cell of `c'` has the width, height,
fixed flag, obstruction flag and polarity of the corresponding cell of `c`; a fixed cell is
identical; when `orientFree = false` every orientation is unchanged as well.  So only
`x`, `y` (and `orient` when `orientFree`) of non-fixed cells may differ.

The export functions are the definitions the driver `drv_C03` executes against the real
`GlobalPlacer::exportPlacement`, `Legalizer::exportPlacement`, `DetailedPlacement::exportPlacement`
(harness/h_C03.cpp); `Gen.WriteSets` is regenerated from /repo/src on every run.
-/
namespace ColoVerif.C03
open ColoVerif.Export ColoVerif.Gen.WriteSets

/-- `GlobalPlacer::exportPlacement(circuit, xplace, yplace)`, for ANY vectors: only x / y of
non-fixed cells can change (orientations included in the frame). -/
theorem export_frame_global (c : Circuit) (xs ys : List Rat) : Frame false c (exportGlobal c xs ys) :=
  exportGlobal_frame c xs ys

/-- `Legalizer::exportPlacement`, for ANY result vectors and any `nbCells()`, whether it returns
or throws half-way ("Circuit does not match legalizer for export"): only x / y / orientation of
non-fixed cells can change. -/
theorem export_frame_legal (c : Circuit) (L : LegVectors) : Frame true c (exportLegal c L).2 :=
  exportLegal_frame c L

/-- `DetailedPlacement::exportPlacement`, for ANY `cellIndex_` (negative entries, repeated or
out-of-range cells) and position/orientation vectors. -/
theorem export_frame_detailed (c : Circuit) (D : DetVectors) : Frame true c (exportDetailed c D) :=
  exportDetailed_frame c D

/-- Global placement leaves every orientation (fixed or not) unchanged. -/
theorem global_keeps_orientation (c : Circuit) (xs ys : List Rat) (i : Nat) :
    ((exportGlobal c xs ys).cell i).orient = (c.cell i).orient :=
  ((exportGlobal_frame c xs ys).2.2.2 i).2.2.2.2.2.2 rfl

/-- Any stage or composition of stages — any sequence of exports (one per callback, one at the
end), cut short anywhere by an exception — respects the frame, whatever the outcome. -/
theorem stages_frame (ws : List Write) (o : Outcome) (c : Circuit) : Frame true c (runStage ws o c).2 :=
  runWrites_frame ws c

/-- … and a sequence of global-placement exports keeps all orientations. -/
theorem global_stage_frame (ws : List Write) (h : ∀ w ∈ ws, w.isGlobal = true) (o : Outcome) (c : Circuit) :
    Frame false c (runStage ws o c).2 :=
  runWrites_frame_global ws h c

/-- `GlobalPlacer::exportPlacement(circuit)` — the final export of global placement: the blend
(binary32 arithmetic, `exportBlending` of any value) of ANY lower-bound / upper-bound vectors. -/
theorem export_frame_global_blend (c : Circuit) (G : GlobalVectors) : Frame false c (exportGlobalBlend c G) :=
  exportGlobalBlend_frame c G

/-- `GlobalPlacer::place` as a whole, with or without a callback: any number of placements exposed
through `GlobalPlacer::callback` (each one an export when a callback is installed, nothing
otherwise), then the blended export — and any prefix of that sequence, which is what an exception
(thrown by the callback at any index, or by the placer) leaves behind.  Positions of movable cells
only; every orientation is kept. -/
theorem global_place_frame (hasCallback : Bool) (exposed : List (List Rat × List Rat)) (G : GlobalVectors) (c : Circuit) :
    Frame false c (placeGlobalBody hasCallback exposed G c) ∧
    ∀ k, Frame false c (runWrites ((placeGlobalWrites hasCallback exposed G).take k) c) := by
  refine ⟨?_, fun k => ?_⟩
  · rw [placeGlobalBody_eq_writes]
    exact runWrites_frame_global _ (placeGlobalWrites_isGlobal _ _ _) c
  · exact runWrites_frame_global _ (fun w hw => placeGlobalWrites_isGlobal _ _ _ w (List.mem_of_mem_take hw)) c

/-- `DetailedPlacer::place` as a whole (legalizer export, one export per callback, final export) and
every prefix of it. -/
theorem detailed_place_frame (hasCallback : Bool) (L : LegVectors) (exposed : List DetVectors) (D : DetVectors) (c : Circuit) :
    Frame true c (placeDetailedBody hasCallback L exposed D c) ∧
    ∀ k, Frame true c (runWrites ((placeDetailedWrites hasCallback L exposed D).take k) c) := by
  refine ⟨?_, fun k => runWrites_frame _ c⟩
  rw [placeDetailedBody_eq_writes]
  exact runWrites_frame _ c

/-- The wrappers `Circuit::placeGlobal / legalize / placeDetailed` (src/coloquinte.cpp): the
`InUseGuard` holds `isInUse_` set for the duration of the body and undoes it when the call ends, by
return or by exception.  For both guard shapes the translator accepts (set/clear, `restores = false`;
save/set/restore, `restores = true`), whatever the body (any sequence of exports, any outcome): the
outcome is the body's, the circuit satisfies the frame, and `isInUse_` after the call equals its
value before the call — always for the restore shape, and for the set/clear shape whenever the call was
entered with the flag clear (otherwise that shape leaves it clear).  C10 `busy_released` is the same fact
on the translated API. -/
theorem guarded_call_frame (restores : Bool) (ws : List Write) (o : Outcome) (s : Guarded) :
    (withInUseGuard restores (runStage ws o) s).1 = o ∧
    Frame true s.c (withInUseGuard restores (runStage ws o) s).2.c ∧
    (s.inUse = false → (withInUseGuard restores (runStage ws o) s).2.inUse = s.inUse) ∧
    (restores = true → (withInUseGuard restores (runStage ws o) s).2.inUse = s.inUse) ∧
    (restores = false → (withInUseGuard restores (runStage ws o) s).2.inUse = false) := by
  refine ⟨rfl, runWrites_frame ws s.c, fun h => ?_, fun h => ?_, fun h => ?_⟩
  · cases restores
    · exact h.symm
    · rfl
  · subst h; rfl
  · subst h; rfl

/-- non-vacuity: a nested call (entered with the flag set) under the restore shape keeps the flag, under
the set/clear shape it would drop it; a top-level call ends with the flag clear under both. -/
example :
    (withInUseGuard true (runStage [] .threw) ⟨true, default⟩).2.inUse = true ∧
    (withInUseGuard false (runStage [] .threw) ⟨true, default⟩).2.inUse = false ∧
    (withInUseGuard true (runStage [] .returned) ⟨false, default⟩).2.inUse = false ∧
    (withInUseGuard false (runStage [] .returned) ⟨false, default⟩).2.inUse = false := by
  decide

/-- non-vacuity of the callback path: with a callback the exposed placement is exported (the movable
cell moves to round(5 − 0.5·2), round(6 − 0.5·4) before the final export overwrites it), without
one it is not; `blendPlacement` with weight 1/2 of 3 and 4 is 3.5. -/
example : (globalCallback true ⟨[⟨2, 4, 0, 0, .N, false, false, .ANY⟩], [], []⟩ [5] [6]).cells.map (fun cl => (cl.x, cl.y)) = [(4, 4)] ∧
    (globalCallback false ⟨[⟨2, 4, 0, 0, .N, false, false, .ANY⟩], [], []⟩ [5] [6]).cells.map (fun cl => (cl.x, cl.y)) = [(0, 0)] := by
  decide +kernel

example : blendPlacement (1 / 2) [3] [4] = [7 / 2] ∧ blendPlacement 0 [3] [4] = [3] ∧ blendPlacement 1 [3] [4] = [4] ∧
    blendEntry (1 / 10) 1 3 = 6 / 5 + 1 / 20971520 := by
  decide +kernel

/-- non-vacuity: the hypothesis of `global_stage_frame` is satisfiable, and the frame is not the
identity — a movable cell really moves (and turns) while the fixed cell stays. -/
example : ∀ w ∈ [Write.global [5, 5] [6, 6]], w.isGlobal = true := by simp [Write.isGlobal]

example :
    (runWrites [Write.legal ⟨1, [4], [5], [.FS], [true]⟩]
        ⟨[⟨2, 4, 7, 7, .E, true, true, .ANY⟩, ⟨2, 4, 0, 0, .N, false, false, .ANY⟩], [], []⟩).cells.map
      (fun cl => (cl.x, cl.y, cl.orient)) = [(7, 7, .E), (4, 5, .FS)] := by decide

def _root_.ColoVerif.Gen.WriteSets.Target.allowed : Target → Bool
  | .cellX_ | .cellY_ | .cellOrientation_ | .hasCellSizeUpdate_ | .hasNetUpdate_ | .isInUse_ => true
  | _ => false

def _root_.ColoVerif.Gen.WriteSets.Target.isInUse : Target → Bool
  | .isInUse_ => true
  | _ => false

def _root_.ColoVerif.Gen.WriteSets.Kind.isScoped : Kind → Bool
  | .scoped | .scopedRestore => true
  | _ => false

/-- the guard shape found at a site: does its destructor put the saved value back? -/
def _root_.ColoVerif.Gen.WriteSets.Kind.restores : Kind → Bool
  | .scopedRestore => true
  | _ => false

def _root_.ColoVerif.Gen.WriteSets.Target.isCellVector : Target → Bool
  | .cellX_ | .cellY_ | .cellOrientation_ => true
  | _ => false

def _root_.ColoVerif.Gen.WriteSets.Target.isOrientation : Target → Bool
  | .cellOrientation_ => true
  | _ => false

def _root_.ColoVerif.Gen.WriteSets.Guard.protects : Guard → Bool
  | .skipContinue | .ifNotFixed => true
  | .none => false

def _root_.ColoVerif.Gen.WriteSets.Kind.isElement : Kind → Bool
  | .element => true
  | _ => false

/-- Over the table regenerated from the source — every assignment to / mutation of a `Circuit` member
and every non-const `Circuit` method call inside the *analysed functions*: all of src/place_global and
src/place_detailed plus every overload of the placement entry points `Circuit::place`, `placeGlobal`,
`legalize`, `placeDetailed` (src/coloquinte.hpp, src/coloquinte.cpp):
* every write targets one of `cellX_, cellY_, cellOrientation_, hasCellSizeUpdate_, hasNetUpdate_, isInUse_`;
* nothing on the global-placement path (src/place_global and the overloads of `Circuit::placeGlobal`)
  targets `cellOrientation_`, and that path hands its circuit only to functions on the same path;
* every write to a cell vector is an element write inside a loop that skips fixed cells
  (`if (fixed(i)) continue;` before it, or inside `if (!fixed(i))`), indexed by the tested variable;
* a non-const `Circuit &` (or `*this`) is only ever handed to functions that are themselves analysed;
* the table is not empty (it contains cell-vector writes);
* `isInUse_` is written only through a scoped flag guard (an automatic `InUseGuard` object of the
  function body: set by its constructor, cleared — or put back to the saved value — by its destructor on
  return and on exception; the translator checks the class has exactly one of these two shapes and
  rejects anything else), and nothing else is written that way;
* the three wrappers (and whatever overloads exist) were found and analysed (the translator fails otherwise);
* nowhere in /repo/src is there a `const_cast`, `reinterpret_cast`, C-style pointer/reference cast or a
  `mutable` field of `Circuit`, so the const `Circuit` methods the analysed functions reach
  (`reachedConstMethods`) and every function given a `const Circuit &` cannot write a member.
Together: on any path of a placement call inside the library, every write to a `Circuit` member is a
row of `writeSites`.  (The user's callback is user code.) -/
theorem writes_table_closed :
    (∀ s ∈ writeSites, s.target.allowed = true) ∧
    (∀ s ∈ writeSites, s.inPlaceGlobal = true → s.target.isOrientation = false) ∧
    (∀ h ∈ handOvers, h.inPlaceGlobal = true → h.calleeInPlaceGlobal = true) ∧
    (∀ s ∈ writeSites, s.target.isCellVector = true → s.guard.protects = true ∧ s.kind.isElement = true) ∧
    (∀ h ∈ handOvers, h.calleeAnalysed = true) ∧
    (writeSites.any (fun s => s.target.isCellVector)) = true ∧
    (∀ s ∈ writeSites, s.target.isInUse = true ↔ s.kind.isScoped = true) ∧
    (writeSites.any (fun s => s.target.isInUse)) = true ∧
    3 ≤ entryPoints.length ∧
    constEscapes.length = 0 := by
  decide +kernel

/-- `guarded_call_frame` for the guard shape actually found in the tree, site by site: at every `isInUse_`
site of the regenerated table, a call entered with the flag clear — or any call, when the site's guard is
of the restore shape — leaves `isInUse_` as it found it, and the frame holds. -/
theorem guarded_call_frame_on_tree (site : WriteSite) (_ : site ∈ writeSites) (_ : site.target.isInUse = true)
    (ws : List Write) (o : Outcome) (s : Guarded) (h : s.inUse = false ∨ site.kind.restores = true) :
    (withInUseGuard site.kind.restores (runStage ws o) s).2.inUse = s.inUse ∧
    Frame true s.c (withInUseGuard site.kind.restores (runStage ws o) s).2.c := by
  obtain ⟨_, hf, h1, h2, _⟩ := guarded_call_frame site.kind.restores ws o s
  exact ⟨h.elim h1 h2, hf⟩

/-- non-vacuity: the table has such a site -/
example : ∃ site ∈ writeSites, site.target.isInUse = true := by decide

end ColoVerif.C03
