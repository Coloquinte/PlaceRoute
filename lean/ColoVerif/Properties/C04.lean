import ColoVerif.Model.Circuit
import ColoVerif.Gen.OrientTables
import ColoVerif.Model.OrientRule
import ColoVerif.Model.LegacyOrientRule
import ColoVerif.Properties.C01
import ColoVerif.Proofs.OrientLegalize
import ColoVerif.Proofs.OrientDetailed
import ColoVerif.Proofs.OrientTable
/-
C04 — row polarity and orientation constraints: the table-level theorems, then the two algorithm clauses
`legalize_orient` / `detailed_orient` over the executable models of legalization (`Model/Legalize.lean`, tied to
the C++ by the C01 stream) and of detailed placement (`Model/DetPlace.lean`, tied by the C02 primitives stream and
history replay).

`ColoVerif.Gen.*` is regenerated from /repo's C++ on every run (tools/gen/OrientTables.py),
so every theorem below is re-checked against what the source says: a changed table entry
breaks `gen_tables_eq_model` (and usually one of the structural facts as well).

The table theorems are finite statements over `Orient` (10 values) × `Polarity` (5 values): each is
closed by evaluating every entry (`forall_table`), or follows from one that is.
-/
namespace ColoVerif.C04
open ColoVerif

/-- `o` is one of the eight real orientations. -/
def IsEight (o : Orient) : Prop := o ∈ Orient.eight

instance (o : Orient) : Decidable (IsEight o) := by unfold IsEight; infer_instance

/-- the orientations a *row* may have in the placement domain (C01): unturned -/
def rowOrients : List Orient := [.N, .S, .FN, .FS]

/-- The numeric values of the enumerators are the ones the shared `Orient.code` /
`Polarity.code` (used by every harness stream) assume. -/
theorem gen_enum_codes :
    (∀ p ∈ Gen.orientCodes, p.1.code = p.2) ∧ (∀ p ∈ Gen.polarityCodes, p.1.code = p.2) ∧
    Gen.orientCodes.map (·.1) = Orient.all ∧ Gen.polarityCodes.map (·.1) = Polarity.all := by
  decide

/-- The definitions generated from the C++ equal the hand-written shared model
(`Orient.isTurn`, `Orient.opposite`, `cellOrientationInRow`, `Circuit.xFlipped/yFlipped`)
on their whole (finite) domains. -/
theorem gen_tables_eq_model :
    (∀ o : Orient, Gen.isTurn o = o.isTurn) ∧
    (∀ o : Orient, Gen.oppositeRowOrientation o = o.opposite) ∧
    (∀ (p : Polarity) (o : Orient), Gen.cellOrientationInRow p o = cellOrientationInRow p o) ∧
    (∀ o : Orient, Gen.xFlipped o = Circuit.xFlipped o) ∧
    (∀ o : Orient, Gen.yFlipped o = Circuit.yFlipped o) :=
  ⟨forall_orient (by decide +kernel), forall_orient (by decide +kernel), gen_cellOrientationInRow_eq,
    forall_orient (by decide +kernel), forall_orient (by decide +kernel)⟩

/-- The generated pin-offset / placed-size functions equal the shared `Circuit` model for every
cell and pin (all orientations, all integers). -/
theorem gen_pin_offsets_eq_model (cl : Cell) (p : Pin) :
    Gen.placedWidth cl.orient cl.w cl.h = cl.placedWidth ∧
    Gen.placedHeight cl.orient cl.w cl.h = cl.placedHeight ∧
    Gen.pinXOffset cl.orient cl.w cl.h p.xo p.yo = Circuit.pinXOffset cl p ∧
    Gen.pinYOffset cl.orient cl.w cl.h p.xo p.yo = Circuit.pinYOffset cl p := by
  obtain ⟨ht, _, _, hx, hy⟩ := gen_tables_eq_model
  unfold Gen.pinXOffset Gen.pinYOffset Gen.placedWidth Gen.placedHeight
  rw [ht, hx, hy]
  exact ⟨rfl, rfl, rfl, rfl⟩

/-- The `abort()` at the end of the C++ `cellOrientationInRow` is unreachable for enumerator
arguments (the generated partial function is defined everywhere). -/
theorem cellOrientationInRow_never_aborts :
    ∀ (p : Polarity) (o : Orient), (Gen.cellOrientationInRow? p o).isSome = true :=
  forall_table (by decide +kernel)

/-- For a declared polarity the table answers with one of the eight orientations or
`INVALID`, never the "keep" marker `UNKNOWN` (for a row orientation among the eight);
for `ANY` it answers `UNKNOWN` whatever the row. -/
theorem orientInRow_total :
    (∀ (p : Polarity) (o : Orient), p ≠ .ANY → IsEight o →
        IsEight (Gen.cellOrientationInRow p o) ∨ Gen.cellOrientationInRow p o = .INVALID) ∧
    (∀ (p : Polarity) (o : Orient), p ≠ .ANY → Gen.cellOrientationInRow p o ≠ .UNKNOWN ∨ o = .UNKNOWN) ∧
    (∀ o : Orient, Gen.cellOrientationInRow .ANY o = .UNKNOWN) := by
  refine ⟨fun p o hp ho => ?_, fun p o hp => Decidable.or_iff_not_imp_right.2 (orientInRow_known p o hp),
    fun _ => rfl⟩
  by_cases hi : Gen.cellOrientationInRow p o = .INVALID
  · exact .inr hi
  · exact .inl (orientInRow_eight p o hp (eight_ne_unknown ho) hi)

/-- `oppositeRowOrientation` is an involution on the eight orientations, maps them to the
eight, has no fixed point among them, and sends `INVALID`/`UNKNOWN` to `INVALID`. -/
theorem opposite_involutive :
    (∀ o : Orient, IsEight o → Gen.oppositeRowOrientation (Gen.oppositeRowOrientation o) = o) ∧
    (∀ o : Orient, IsEight o → IsEight (Gen.oppositeRowOrientation o)) ∧
    (∀ o : Orient, IsEight o → Gen.oppositeRowOrientation o ≠ o) ∧
    (∀ o : Orient, ¬ IsEight o → Gen.oppositeRowOrientation o = .INVALID) := by
  unfold IsEight
  exact ⟨by decide, by decide, by decide, forall_orient (by decide)⟩

/-- The prescribed orientation never changes the footprint class of the cell relative to the
row: it is turned exactly when the row is turned.  In particular, on the placement domain
(unturned rows N/S/FN/FS) a polarised cell is never turned, so its placed size is its
declared size whatever row it lands on. -/
theorem orientInRow_preserves_turn :
    ∀ (p : Polarity) (o : Orient), IsEight o → IsEight (Gen.cellOrientationInRow p o) →
      Gen.isTurn (Gen.cellOrientationInRow p o) = Gen.isTurn o :=
  forall_table (by decide +kernel)

/-- SAME and OPPOSITE cells can enter every row with a real orientation: they are never
`INVALID` (so only NW / SE cells have forbidden rows). -/
theorem same_opposite_never_invalid :
    ∀ o : Orient, IsEight o →
      IsEight (Gen.cellOrientationInRow .SAME o) ∧ IsEight (Gen.cellOrientationInRow .OPPOSITE o) := by
  unfold IsEight; decide

/-- NW and SE partition the eight row orientations: each row admits exactly one of the two,
and an admitted cell takes the row's own orientation. -/
theorem nw_se_partition :
    ∀ o : Orient, IsEight o →
      ((Gen.cellOrientationInRow .NW o = o ∧ Gen.cellOrientationInRow .SE o = .INVALID) ∨
       (Gen.cellOrientationInRow .NW o = .INVALID ∧ Gen.cellOrientationInRow .SE o = o)) := by
  unfold IsEight; decide

/-- On the placement domain: which unturned rows admit which polarity (the exact "forbidden
row" relation the fixed detailed placement must respect). -/
theorem forbidden_rows_unturned :
    (rowOrients.filter fun o => Gen.cellOrientationInRow .NW o == .INVALID) = [.S, .FS] ∧
    (rowOrients.filter fun o => Gen.cellOrientationInRow .SE o == .INVALID) = [.N, .FN] := by
  decide

/-- The prescribed orientation depends only on (polarity, row orientation): re-placing a cell
on a row of the same orientation gives back the same orientation (idempotence used by C11 and
by the "orientation-preserving move" classifier of C05), and a SAME cell re-oriented for the
row orientation it already has is unchanged. -/
theorem orientInRow_idempotent :
    ∀ (p : Polarity) (o : Orient), IsEight o → IsEight (Gen.cellOrientationInRow p o) → p ≠ .OPPOSITE →
      Gen.cellOrientationInRow p (Gen.cellOrientationInRow p o) = Gen.cellOrientationInRow p o :=
  forall_table (by decide +kernel)

/-- OPPOSITE twice is the row orientation again. -/
theorem opposite_twice_same :
    ∀ o : Orient, IsEight o →
      Gen.cellOrientationInRow .OPPOSITE (Gen.cellOrientationInRow .OPPOSITE o) = Gen.cellOrientationInRow .SAME o := by
  unfold IsEight; decide

/-- `oppositeRowOrientation` mirrors about the x axis: it toggles the y-flip of pin offsets and
keeps the x-flip and the turn (so a cell placed OPPOSITE in a flipped row has its pins where a
SAME cell has them in an unflipped row). -/
theorem opposite_is_x_axis_mirror :
    ∀ o : Orient, IsEight o →
      Gen.isTurn (Gen.oppositeRowOrientation o) = Gen.isTurn o ∧
      Gen.yFlipped (Gen.oppositeRowOrientation o) = (!Gen.yFlipped o) ∧
      Gen.xFlipped (Gen.oppositeRowOrientation o) = Gen.xFlipped o := by
  unfold IsEight; decide

/-- The eight orientations are exactly the eight combinations of (turn, xFlipped, yFlipped):
the triple determines the orientation. -/
theorem orientation_determined_by_flags :
    ∀ a b : Orient, IsEight a → IsEight b →
      Gen.isTurn a = Gen.isTurn b → Gen.xFlipped a = Gen.xFlipped b → Gen.yFlipped a = Gen.yFlipped b → a = b := by
  have h : ∀ a ∈ Orient.eight, ∀ b ∈ Orient.eight,
      Gen.isTurn a = Gen.isTurn b → Gen.xFlipped a = Gen.xFlipped b → Gen.yFlipped a = Gen.yFlipped b → a = b := by
    decide +kernel
  exact fun a b ha hb => h a ha b hb

section Rule
open OrientRule

/-- On an allowed row (any of the eight row orientations) a cell with a declared polarity
receives exactly the orientation its polarity prescribes, which is one of the eight (never
`INVALID`, never `UNKNOWN`); a cell without polarity keeps the orientation it had. -/
theorem assigned_orientation_correct :
    ∀ (pol : Polarity) (row cur : Orient), IsEight row → rowAllowed pol row = true →
      (pol ≠ .ANY → assignedOrientation pol row cur = Gen.cellOrientationInRow pol row ∧
                     IsEight (assignedOrientation pol row cur)) ∧
      (pol = .ANY → assignedOrientation pol row cur = cur) := by
  intro pol row cur hr ha
  refine ⟨fun hp => ?_, fun hp => by rw [hp, assignedOrientation_any]⟩
  rw [assignedOrientation_of_polarity cur hp hr]
  exact ⟨rfl, orientInRow_eight pol row hp (eight_ne_unknown hr) ((rowAllowed_iff pol row).mp ha)⟩

/-- The guard is exact: for a cell that currently has a real orientation, the orientation rule
produces `INVALID` if and only if the row is not allowed — refusing precisely the rows with
`cellOrientationInRow = INVALID` is necessary and sufficient (this is the condition added by
`fix: c04-invalid-rows`). -/
theorem assigned_invalid_iff_not_allowed :
    ∀ (pol : Polarity) (row cur : Orient), IsEight row → IsEight cur →
      (assignedOrientation pol row cur = .INVALID ↔ rowAllowed pol row = false) := by
  intro pol row cur hr hc
  rw [← Bool.not_eq_true, rowAllowed_iff, Decidable.not_not]
  by_cases hp : pol = .ANY
  · subst hp
    rw [assignedOrientation_any, orientInRow_total.2.2]
    exact iff_of_false (eight_ne_invalid hc) (by decide)
  · rw [assignedOrientation_of_polarity cur hp hr]

/-- Only NW / SE cells have forbidden rows; on the placement domain (rows N/S/FN/FS) every cell
has at least one allowed kind of row, and rows of alternating N/FS orientation admit NW on the N
rows and SE on the FS rows only. -/
theorem allowed_rows :
    (∀ row : Orient, IsEight row → rowAllowed .ANY row = true ∧ rowAllowed .SAME row = true ∧ rowAllowed .OPPOSITE row = true) ∧
    rowOrients.map (rowAllowed .NW) = [true, false, true, false] ∧
    rowOrients.map (rowAllowed .SE) = [false, true, false, true] := by
  unfold IsEight
  decide

/-- Pre-fix witness (F4): with the guard detailed placement used before `fix: c04-invalid-rows`
(every row accepted) an NW cell with orientation N moved to an FS row — the 2-row / 1-cell
circuit of corpus/C04 — ends with `CellOrientation::INVALID`; the fixed guard refuses that row. -/
theorem detailed_orient_fails_unfixed :
    legacyRowAllowed .NW .FS = true ∧ assignedOrientation .NW .FS .N = .INVALID ∧ rowAllowed .NW .FS = false := by
  decide

end Rule

/-! Legalization.  Model `Legalize` (the definitions `drv_C01` executes; `tetrisPerSegmentOrientation = true`, i.e. the
tree with `fix: c04-tetris-row-orientation`).  The model's `cellOrientationInRow` is the generated
table (`gen_tables_eq_model`). -/

section LegalizeOrient
open Legalize

/-- `r` is the free row segment (`computeRows`: the rows minus the fixed obstructions) under the
bottom edge of `cl`: it starts at the cell's y and contains the cell's x-range -/
def UnderBottom (c : Circuit) (cl : Cell) (r : Row) : Prop :=
  r ∈ c.computeRows ∧ r.rect.minY = cl.y ∧ r.rect.minX ≤ cl.x ∧ cl.x + cl.placedWidth ≤ r.rect.maxX

/-- **C04, legalization clause (full).**  For every circuit of the C01 domain, every rounding of the
ordering key and all parameters: whenever legalization returns normally,

* every movable cell of the result that declares a polarity sits on the bottom edge of exactly one
  free row segment `r` (`UnderBottom`, unique); that segment is not forbidden for its polarity
  (`cellOrientationInRow pol r.orient ≠ INVALID`), the cell's orientation is not INVALID, and it is
  exactly `cellOrientationInRow pol r.orient` as soon as the row has an orientation (for a row whose
  orientation is the marker UNKNOWN a SAME cell is left as it was — that is what `getOrientation`
  does; rows N/S/FN/FS: `legalize_orient_oriented_rows`);
* every movable cell without polarity (ANY) has the orientation it had in the input (cell by cell,
  in the order of the circuit).

Proof (Proofs/LegalizeLegal{Abacus,Tetris,Base}.lean, Proofs/OrientLegalize.lean): Abacus — `writeRows`
gives a cell the orientation of the segment that lists it, a cell is listed only in the `bestRow` of `placeCell`, which `evaluatePlacement`
accepted (INVALID refused), and `check()` certifies the cell is inside that segment; Tetris —
`attemptPlacement` only returns positions inside a segment with a valid orientation, and because
the segments are sorted by (minY, minX) and disjoint the `while` loop of `placeCell` stops at
exactly that segment; sub-segments of `remainingRows` have the orientation of the `computeRows`
segment they are cut from; export writes the status of the m-th movable cell to the m-th movable cell. -/
theorem legalize_orient (rnd : Rat → Rat) (p : Params) (c c' : Circuit) (hd : C01.Dom c)
    (h : legalizeWith rnd p c = .ok c') :
    (∀ cl ∈ c'.cells, cl.fixed = false → cl.pol ≠ Polarity.ANY →
      ∃ r, UnderBottom c' cl r ∧ (∀ r', UnderBottom c' cl r' → r' = r) ∧
        cellOrientationInRow cl.pol r.orient ≠ Orient.INVALID ∧ cl.orient ≠ Orient.INVALID ∧
        (r.orient ≠ Orient.UNKNOWN → cl.orient = cellOrientationInRow cl.pol r.orient)) ∧
    Pointwise (fun a b => a.fixed = false → a.pol = Polarity.ANY → b.orient = a.orient) c.cells c'.cells := by
  obtain ⟨_, hrows, hpw⟩ := legalize_facts rnd p c c' hd h
  constructor
  · intro cl hcl hfx hpol
    obtain ⟨a, _, hfr, hab⟩ := pointwise_mem_right hpw cl hcl
    obtain ⟨r, hr, g, hu, hinv, hni, heq, _⟩ := hab.seg hd.1 (dom_rowsOK c hd) (hfr.2.2.1.trans hfx)
    rw [← hrows] at hr hu
    exact ⟨r, ⟨hr, g⟩, fun r' m => hu r' m.1 m.2, hinv, hni,
      fun hro => heq (table_known cl.pol r.orient hpol hro)⟩
  · refine hpw.imp fun a b hab hfx hany => ?_
    obtain ⟨_, _, _, _, _, _, _, hk⟩ := hab.2.seg hd.1 (dom_rowsOK c hd) hfx
    exact hk (by rw [← hab.1.2.2.2.2.1, hany]; rfl)

/-- the same for `Circuit::legalize` as compiled (binary32 ordering key) -/
theorem legalize_orient_compiled (p : Params) (c c' : Circuit) (hd : C01.Dom c) (h : legalize p c = .ok c') :
    (∀ cl ∈ c'.cells, cl.fixed = false → cl.pol ≠ Polarity.ANY →
      ∃ r, UnderBottom c' cl r ∧ (∀ r', UnderBottom c' cl r' → r' = r) ∧
        cellOrientationInRow cl.pol r.orient ≠ Orient.INVALID ∧ cl.orient ≠ Orient.INVALID ∧
        (r.orient ≠ Orient.UNKNOWN → cl.orient = cellOrientationInRow cl.pol r.orient)) ∧
    Pointwise (fun a b => a.fixed = false → a.pol = Polarity.ANY → b.orient = a.orient) c.cells c'.cells :=
  legalize_orient f32 p c c' hd h

/-- **The property's quantifier (rows with an orientation, e.g. N/S/FN/FS).**  If no row of the
circuit has the marker UNKNOWN as orientation, every polarised movable cell of the result has
exactly `cellOrientationInRow pol (orientation of the segment under its bottom edge)` — in terms of
the table generated from the C++ — and that is one of the eight real orientations. -/
theorem legalize_orient_oriented_rows (rnd : Rat → Rat) (p : Params) (c c' : Circuit) (hd : C01.Dom c)
    (hro : ∀ r ∈ c.rows, r.orient ≠ Orient.UNKNOWN) (h : legalizeWith rnd p c = .ok c') :
    ∀ cl ∈ c'.cells, cl.fixed = false → cl.pol ≠ Polarity.ANY →
      ∃ r, UnderBottom c' cl r ∧ cl.orient = Gen.cellOrientationInRow cl.pol r.orient ∧ IsEight cl.orient := by
  intro cl hcl hfx hpol
  obtain ⟨r, hu, _, hinv, _, heq⟩ := (legalize_orient rnd p c c' hd h).1 cl hcl hfx hpol
  have hr : r.orient ≠ Orient.UNKNOWN := by
    have hrows : c'.rows = c.rows := ((C01.legalize_error_or_all rnd p c).2.2 c' h).1
    obtain ⟨r0, hr0, hs⟩ := List.mem_flatMap.mp hu.1
    obtain ⟨iv, _, rfl⟩ := (Row.mem_freespace r0 _ r).mp hs
    exact hro r0 (hrows ▸ hr0)
  have e := heq hr
  rw [← gen_tables_eq_model.2.2.1] at e hinv
  exact ⟨r, hu, e, e ▸ orientInRow_eight cl.pol r.orient hpol hr hinv⟩

/-- non-vacuity: two rows (N below FS), the lower one split by a fixed obstruction; an NW cell whose
target is on the FS row, an SE cell whose target is on the N row, an OPPOSITE cell, a cell without
polarity oriented S, and a two-row SAME cell.  Legalization returns; NW ends on the N row as N, SE on
the FS row as FS, OPPOSITE on the N row as FS, the ANY cell (moved) is still S. -/
def legCircuit : Circuit :=
  { cells := [⟨2, 2, 0, 2, .N, false, false, .NW⟩, ⟨2, 2, 0, 0, .N, false, false, .SE⟩,
              ⟨2, 2, 4, 0, .N, false, false, .OPPOSITE⟩, ⟨2, 2, 6, 2, .S, false, false, .ANY⟩,
              ⟨3, 4, 7, 0, .N, false, false, .SAME⟩, ⟨1, 2, 3, 0, .N, true, true, .ANY⟩],
    nets := [],
    rows := [⟨⟨0, 12, 0, 2⟩, .N⟩, ⟨⟨0, 12, 2, 4⟩, .FS⟩] }

example : C01.Dom legCircuit ∧ (∀ r ∈ legCircuit.rows, r.orient ≠ Orient.UNKNOWN) := by decide
example : ((legalize LegacyLegalize.defaultParams legCircuit).toOption.map
    fun c' => c'.cells.map fun cl => (cl.x, cl.y, cl.orient)) =
    some [(0, 0, .N), (0, 2, .FS), (4, 0, .FS), (5, 2, .S), (7, 0, .N), (3, 0, .N)] := by decide +kernel

/-- rows and cell of corpus/C04 witness w1 -/
def w1Rows : List Row := [⟨⟨0, 5, 0, 2⟩, .N⟩, ⟨⟨5, 20, 0, 2⟩, .S⟩, ⟨⟨0, 20, 2, 4⟩, .N⟩]
def w1Cell : LCell := ⟨3, 4, .SAME, 10, 0, .N⟩

/-- **Pre-fix witness (Tetris, corpus/C04 w1).**  Before `fix: c04-tetris-row-orientation`
`TetrisLegalizer::placeCell` took the orientation of the *first* segment at the chosen y
(`closestRow(y)`, the `else` branches `attemptFirstSeg` / `startRow` kept in the model): on the rows
`[0,5)` N, `[5,20)` S, `[0,20)` N above, the two-row SAME cell with target (10, 0) is offered x = 10
— inside the S segment — and receives N, not `cellOrientationInRow SAME S = S`; the fixed code finds
segment 1 and assigns S. -/
theorem tetris_orient_fails_unfixed :
    attemptFirstSeg (Tetris.init w1Rows) w1Cell 0 = some 10 ∧
    getOrientation (Tetris.init w1Rows).rows w1Cell (startRow (Tetris.init w1Rows).rows 0) = Orient.N ∧
    orientRow (Tetris.init w1Rows).rows 10 0 = 1 ∧
    (tetrisPlace (Tetris.init w1Rows) w1Cell).2 = ⟨10, 0, cellOrientationInRow .SAME .S, true⟩ ∧
    cellOrientationInRow .SAME .S ≠ Orient.N := by
  decide +kernel

end LegalizeOrient

/-! Detailed placement.  Model `DetPlace` (the definitions `drv_C02` executes and the history replay of hook H3 re-runs), with
`isRowAllowed` of `fix: c04-invalid-rows`.  `Inv` (C02) is every test of `DetailedPlacement::check()`
— including the orientation test — plus orientation ≠ INVALID; `C02.inv_run` proves it for every
state reached by any sequence of swap / insert / shift / reorder moves. -/

section DetailedOrient
open DetPlace DetPlace.State

/-- what C04 demands of a state of detailed placement: every optimised (not ignored) cell is linked
in a valid row segment whose y is the cell's y (the row its bottom edge sits on), that segment is
allowed for its polarity, its orientation is not INVALID, and if it declares a polarity it has
exactly the orientation the table prescribes for that segment (as soon as the segment has an
orientation) -/
def DetOrientOK (s : State) : Prop :=
  ∀ c : Int, s.validCell c → s.isIgnored c = false →
    s.row c ≠ -1 ∧ s.validRow (s.row c) ∧ s.y c = s.rowY (s.row c) ∧
    s.isRowAllowed c (s.row c) = true ∧ s.orient c ≠ Orient.INVALID ∧
    (s.pol c ≠ Polarity.ANY → s.rowOrient (s.row c) ≠ Orient.UNKNOWN →
      s.orient c = cellOrientationInRow (s.pol c) (s.rowOrient (s.row c)))

/-- **Orientation is part of the invariant.**  In any state satisfying `Inv` — also the transient
ones inside a move, where some cells are unplaced — every *placed* cell is an optimised cell at the
y of its segment, the segment is allowed for its polarity (never a forbidden row), the orientation is
not INVALID and is the prescribed one for a declared polarity. -/
theorem detailed_orient_placed {s : State} (h : Inv s) {c : Int} (hc : s.validCell c) (hp : s.row c ≠ -1) :
    s.validRow (s.row c) ∧ s.isIgnored c = false ∧ s.y c = s.rowY (s.row c) ∧
    s.isRowAllowed c (s.row c) = true ∧ s.orient c ≠ Orient.INVALID ∧
    (s.pol c ≠ Polarity.ANY → s.rowOrient (s.row c) ≠ Orient.UNKNOWN →
      s.orient c = cellOrientationInRow (s.pol c) (s.rowOrient (s.row c))) :=
  inv_orient h hc hp

/-- **C04, detailed-placement clause (full over the model).**  From any state that satisfies `Inv`
and has every optimised cell placed (what the constructor `fromIspdCircuit` returns: it ends with
`check()`; the driver evaluates the decidable `Inv` on every instance), for every history of moves
with arbitrary arguments that the code performs without throwing: the final state — what
`placeDetailed` exports on return — and the state after every prefix of the history — in particular
every state exposed to a `PlacementStep::Detailed` callback — satisfy `DetOrientOK`. -/
theorem detailed_orient {s t : State} {ops : List Op} (hi : Inv s) (hp : s.allPlaced = true)
    (e : s.run ops = .ok t) :
    DetOrientOK t ∧ ∀ ops1 ops2, ops = ops1 ++ ops2 → ∃ u, s.run ops1 = .ok u ∧ DetOrientOK u := by
  have key : ∀ (u : State) (l : List Op), s.run l = .ok u → DetOrientOK u := by
    intro u l el c hc hig
    have hiu := run_inv hi el
    have hpu := Lg.run_allPlaced ((Lg.allPlaced_iff s).1 hp) el c hc (by simpa [isIgnored] using hig)
    obtain ⟨a1, _, a3, a4, a5, a6⟩ := inv_orient hiu hc hpu
    exact ⟨hpu, a1, a3, a4, a5, a6⟩
  refine ⟨key t ops e, ?_⟩
  intro ops1 ops2 hops
  subst hops
  obtain ⟨u, e1, _⟩ := run_prefix ops1 ops2 e
  exact ⟨u, e1, key u ops1 e1⟩

/-- **Cells without polarity, ignored cells.**  Along every history polarities never change, a cell
without polarity (ANY) keeps the orientation it had (`place` writes `cellOrientation_` only when the
table answers something else than the keep marker UNKNOWN), and a cell detailed placement does not
optimise (fixed, multi-row, macro: width −1) keeps orientation and position. -/
theorem detailed_orient_kept {s t : State} {ops : List Op} (e : s.run ops = .ok t) :
    t.pol = s.pol ∧ (∀ d, s.pol d = Polarity.ANY → t.orient d = s.orient d) ∧
    (∀ d, s.isIgnored d = true → t.orient d = s.orient d ∧ t.x d = s.x d ∧ t.y d = s.y d) := by
  have k := run_static e
  refine ⟨k.pol, fun _ => k.any, fun d hd => ?_⟩
  have := k.ignored d (by simpa [isIgnored] using hd)
  exact ⟨this.2.2, this.1, this.2.1⟩

/-- … and primitive by primitive: `unplace`, `place`, and each optimiser move (`swap`, `insert`,
`shift`, `RowReordering::writeback`) leave the orientation of every cell without polarity as it was -/
theorem detailed_any_kept_by_primitives :
    (∀ (s : State) (c d : Int), s.pol d = Polarity.ANY → (s.unplace c).orient d = s.orient d) ∧
    (∀ (s t : State) (c r p x d : Int), s.place c r p x = .ok t → s.pol d = Polarity.ANY → t.orient d = s.orient d) ∧
    (∀ (s t : State) (op : Op) (d : Int), s.step op = .ok t → s.pol d = Polarity.ANY → t.orient d = s.orient d) :=
  ⟨fun s c _ h => (Lg.unplace_keep s c).any h, fun _ _ _ _ _ _ _ e h => (Lg.place_keep e).any h,
   fun _ _ _ _ e h => (static_respects.step e).any h⟩

/-- **The detailed-placement clause in circuit terms.**  Let `s` be the state `fromIspdCircuit`
builds from circuit `c` and `t` any state a history of moves reaches from it (same hypotheses as
`detailed_orient`).  The circuit exposed at `t` (`exportPlacement t c`, what a callback and the
caller of `placeDetailed` see) differs from `c`, for its `i`-th cell `cl` if movable, as follows:
polarity kept; without polarity the orientation is the one of `c`; a cell that is not one row high
(not optimised) keeps its orientation; a one-row-high cell is linked in the valid segment
`t.row i` of the row segments — unchanged: the sorted free segments of the circuit's rows minus
fixed obstructions and multi-row cells —, its y is that segment's y, the segment is not forbidden
for its polarity, its orientation is not INVALID and — with a polarity, on a segment that has an
orientation — it is exactly `cellOrientationInRow pol (segment orientation)`. -/
theorem detailed_orient_exported (c : Circuit) (s t : State) (ops : List Op)
    (e0 : fromIspdCircuit c = .ok s) (hi : Inv s) (hp : s.allPlaced = true) (e : s.run ops = .ok t) :
    (∃ h, c.rowHeight = some h ∧ t.rows = DetPlace.sortRows (c.computeRows
      ((c.cells.filter fun cl => !cl.fixed && cl.placedHeight ≠ h).map Cell.placement))) ∧
    ∀ (i : Nat) (cl : Cell), c.cells[i]? = some cl → cl.fixed = false →
      ∃ cl', (exportPlacement t c).cells[i]? = some cl' ∧ cl'.pol = cl.pol ∧
        (cl.pol = Polarity.ANY → cl'.orient = cl.orient) ∧
        (c.rowHeight ≠ some cl.placedHeight → cl'.orient = cl.orient) ∧
        (c.rowHeight = some cl.placedHeight → cl.placedWidth ≠ -1 →
          t.validRow (t.row (Int.ofNat i)) ∧ cl'.y = t.rowY (t.row (Int.ofNat i)) ∧
          cellOrientationInRow cl.pol (t.rowOrient (t.row (Int.ofNat i))) ≠ Orient.INVALID ∧
          cl'.orient ≠ Orient.INVALID ∧
          (cl.pol ≠ Polarity.ANY → t.rowOrient (t.row (Int.ofNat i)) ≠ Orient.UNKNOWN →
            cl'.orient = cellOrientationInRow cl.pol (t.rowOrient (t.row (Int.ofNat i))))) := by
  obtain ⟨h, hrh, hrows, hf⟩ := run_fields e0 e
  refine ⟨⟨h, hrh, hrows⟩, fun i cl hcl hfx => ?_⟩
  obtain ⟨hvc, hpol, hw, hany, hign⟩ := hf i cl hcl
  have hex := (export_get t c i).trans (congrArg _ hcl)
  rw [Option.map_some, newCell, if_neg (by simp [hfx])] at hex
  refine ⟨_, hex, rfl, hany, fun hne => hign (ispdWidth_multi fun he => hne (by rw [hrh, he])), fun heq hwne => ?_⟩
  have hh : cl.placedHeight = h := by rw [hrh] at heq; exact (Option.some.inj heq).symm
  rw [ispdWidth_opt hfx hh] at hw
  obtain ⟨_, a1, a2, a3, a4, a5⟩ := (detailed_orient hi hp e).1 _ hvc (by unfold isIgnored; rw [hw]; simpa using hwne)
  unfold isRowAllowed at a3
  rw [hpol] at a3 a5
  exact ⟨a1, a2, by simpa using a3, a4, a5⟩

/-- non-vacuity: two rows (N below FS); an NW cell and a cell without polarity oriented S on the N
row, a SAME cell on the FS row, an ignored two-row cell.  The constructor's state satisfies `Inv`
with every optimised cell placed; a history of all four kinds of moves runs and ends with the SAME
cell on the N row re-oriented N, the ANY cell on the FS row still S, the NW cell on the N row;
inserting the NW cell into the FS row is refused (the C++ `insert` throws: `canInsert` is false). -/
def detTiny : Circuit :=
  { cells := [⟨2, 2, 0, 0, .N, false, false, .NW⟩, ⟨3, 2, 4, 0, .S, false, false, .ANY⟩,
              ⟨2, 2, 1, 2, .FS, false, false, .SAME⟩, ⟨2, 4, 8, 0, .N, false, false, .ANY⟩],
    nets := [],
    rows := [⟨⟨0, 10, 0, 2⟩, .N⟩, ⟨⟨0, 10, 2, 4⟩, .FS⟩] }

def detOps : List Op :=
  [.swap 0 1, .insert 2 0 0, .shift [(2, 6)], .reorder [1, 0] [⟨0, -1, [(0, 0), (1, 2)]⟩], .insert 1 1 (-1)]

example : (match fromIspdCircuit detTiny with
           | .ok s => decide (Inv s) && s.allPlaced && s.isIgnored 3 &&
                      (match s.run detOps with
                       | .ok t => ([0, 1, 2] : List Int).map (fun i => (t.row i, t.orient i)) == [(0, .N), (1, .S), (0, .N)]
                       | .error _ => false) &&
                      (match s.step (.insert 0 1 (-1)) with | .error .runtime => true | _ => false)
           | .error _ => false) = true := by decide +kernel

end DetailedOrient

end ColoVerif.C04
