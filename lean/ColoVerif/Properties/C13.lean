import ColoVerif.Proofs.TranspCert
import ColoVerif.Proofs.Transp
import ColoVerif.Proofs.TranspSsp2Nonneg
import ColoVerif.Proofs.TranspSsp2Solve
import ColoVerif.Proofs.TranspFloatGap
import ColoVerif.Proofs.TranspFloatC07
/-
C13 — the transportation solver returns a feasible minimum-cost plan; `toAssignment` gives each
source the sink receiving most of it.

All statements are about `ColoVerif.Transp` (Model/Transp.lean, Model/TranspCert.lean), the
definitions `drv_C13` executes against the C++ (`harness/h_C13.cpp`), and hold for inputs of any size.

The fixed-point scaling of the `float` constructor is modelled operation by operation with explicit binary64
rounding in Model/TranspFloat.lean: it always produces costs within the bound the solver needs
(`costsFromFloats_bound`); `float_optimality_gap` says what optimality in the scaled integer costs means
for the original real-valued costs.
-/
namespace ColoVerif.C13
open ColoVerif.Transp

/-- **Optimality from a certificate (any size).**  If `checkCert` accepts the plan `x` with the
potentials `u` (sources), `v` (sinks), then `x` is feasible and no feasible plan is cheaper
(weak duality + complementary slackness; costs are the problem's integer costs). -/
theorem cert_optimal (p : Problem) (x : Mat) (u v : List Int) (h : checkCert p x u v = true) :
    Feasible p x ∧ ∀ y, Feasible p y → costOf p x ≤ costOf p y := by
  simp only [checkCert, Bool.and_eq_true] at h
  obtain ⟨⟨hp, hd⟩, hs⟩ := h
  have hx := (primalOk_iff p x).mp hp
  refine ⟨hx, fun y hy => ?_⟩
  rw [slack_tight p x u v hx hs]
  exact weak_duality p y u v hy hd

/-- what the driver prints as `cert ok`: the computed potentials are accepted, hence optimal -/
theorem certifies_optimal (p : Problem) (x : Mat) (h : certifies p x = true) :
    Feasible p x ∧ ∀ y, Feasible p y → costOf p x ≤ costOf p y := by
  simp only [certifies, Bool.and_eq_true] at h
  exact cert_optimal p x _ _ h.2

/-- non-vacuity of `cert_optimal`: a 2 sinks × 2 sources plan with its certificate -/
example : checkCert (Problem.make [2, 2] [2, 1] [[0, 3], [1, 1]]) [[2, 0], [0, 1]] [0, 1] [0, 0] = true := by
  decide

/-- **`toAssignment` = argmax with the code's tie-breaking (first maximum).**  For a plan without
negative entries in column `src`, the assigned sink is a valid index, receives at least as much of
`src` as every sink, and strictly more than every earlier sink. -/
theorem toAssignment_argmax (p : Problem) (src : Nat) (hs : src < p.nbSources) (hn : 0 < p.nbSinks)
    (h0 : ∀ i, i < p.nbSinks → 0 ≤ p.allocation i src) :
    p.toAssignment.length = p.nbSources ∧
    p.toAssignment.getD src 0 < p.nbSinks ∧
    (∀ i, i < p.nbSinks → p.allocation i src ≤ p.allocation (p.toAssignment.getD src 0) src) ∧
    (∀ i, i < p.toAssignment.getD src 0 → p.allocation i src < p.allocation (p.toAssignment.getD src 0) src) := by
  have e := toAssignmentOf_getD p.allocations p.nbSinks p.nbSources src hs
  have s := argmaxFrom_spec p.allocations src p.nbSinks hn h0
  refine ⟨by simp [Problem.toAssignment, Problem.toAssignmentOf], ?_⟩
  unfold Problem.toAssignment Problem.allocation
  rw [e]
  exact s

example : (Problem.mk [3, 3] [2, 2] [[0, 0], [0, 0]] [[1, 2], [1, 0]]).toAssignment = [0, 0] := by decide

/-- **`increaseCapacity` covers the demand.**  Afterwards total capacity ≥ total demand, no capacity
decreased, nothing else changed; when capacity was short the problem becomes exactly balanced. -/
theorem increaseCapacity_covers (p : Problem) (hn : 0 < p.nbSinks) :
    p.increaseCapacity.totalDemand ≤ p.increaseCapacity.totalCapacity ∧
    (∀ i, p.capacity i ≤ p.increaseCapacity.capacity i) ∧
    p.increaseCapacity.nbSinks = p.nbSinks ∧
    p.increaseCapacity.demands = p.demands ∧ p.increaseCapacity.costs = p.costs ∧
    p.increaseCapacity.allocations = p.allocations ∧
    (p.totalCapacity < p.totalDemand → p.increaseCapacity.totalCapacity = p.totalDemand) :=
  increaseCapacity_spec p hn

example : (Problem.make [1, 1, 1] [4, 4] [[0, 0], [0, 0], [0, 0]]).increaseCapacity.capacities = [3, 3, 2] := by
  decide

/-!
`WellFormed p` is the precondition of C13: `check()` passes (positive demands and capacities, consistent
sizes), total demand ≤ total capacity, and `3·|cost| < INT_MAX` for every stored (fixed-point) cost.
The last clause is what keeps every `sendingCost_ + cost` the solver forms below the `INT_MAX` sentinel
used by `bestSink`/`updateTree` (and, in the C++, what keeps `int` arithmetic from overflowing);
`costsFromIntegers` scales float costs to `|cost| ≤ INT_MAX/(4·nbSinks)`.  The driver evaluates
`costBoundOk` on every solved instance (`bound ok`).  It cannot be dropped: `ssp_cost_bound_needed`. -/

/-- the precondition of the universal theorems, in the executable form the driver evaluates -/
def WellFormed (p : Problem) : Prop :=
  p.check = true ∧ p.totalDemand ≤ p.totalCapacity ∧ costBoundOk p = true

/-- **Feasibility of every returned plan (non-negative capacities and demands, any size, any costs).**
Whenever the model of `solve()` returns a result at all — i.e. no `assert` of the code failed, no `top()` of
an empty queue / index out of range / cycle in `sinkParent_` occurred and no loop ran out of fuel — the problem data is
unchanged and the plan is feasible: *every source is fully allocated*, *no sink exceeds its capacity*
and *no allocation is negative*.
(Flow conservation: column sums = amount sent so far, row sum + `remainingCapa_` = capacity,
`remainingCapa_ ≥ 0`, both walks along `sinkParent_` end at the same root.  Non-negativity: a
successful walk visits pairwise distinct sinks, so the second walk finds each sink's row and queues
as the first walk saw them; after `emplace` the top of a queue is the old top or the new source; the
amount moved is at most the allocation of every old top and at most the free capacity at the root.) -/
theorem ssp_feasible (p q : Problem) (hc : ∀ i, 0 ≤ p.capacity i) (hd : ∀ j, 0 ≤ p.demand j)
    (h : solve p = .ok q) :
    q.capacities = p.capacities ∧ q.demands = p.demands ∧ q.costs = p.costs ∧
    Feasible p q.allocations := by
  obtain ⟨s, hs, rfl⟩ := solve_eq_ok h
  exact ⟨rfl, rfl, rfl, run_feasible p s hc hd hs⟩

/-- **Termination / no failure (all well-formed inputs, any size).**  The model of `solve()` returns a
plan: no `assert` fails (`maxSent > 0`, `remainingCapa_[snk1] == 0`, `!queues_[sink][dst].empty()`,
`sent > 0`), `top()` is never taken on an empty queue, every index is in range, `sinkParent_` is acyclic
(each walk ends within `nbSinks` steps at a sink with free capacity), and no fuelled loop runs out:
`updateTree` makes at most `nbSinks·2³¹` rounds (`#open + Σ labels` decreases, labels stay in
`[0, INT_MAX]`), `sendSource(src)` at most `demand(src)` rounds, `updateSinkQueues` at most `size` pops. -/
theorem ssp_terminates (p : Problem) (h : WellFormed p) : ∃ q, solve p = .ok q := by
  obtain ⟨q, hq, _⟩ := solve_total p h.1 h.2.1 ((costBoundOk_iff p).mp h.2.2)
  exact ⟨q, hq⟩

/-- **C13 for the solver, universally (all well-formed inputs, any size).**  `solve()` returns a plan
with the problem data unchanged in which every source is fully allocated, no sink exceeds its capacity,
no allocation is negative, *and whose total cost is minimal among all feasible plans*.  The proof
maintains the successive-shortest-path invariant (`Good` in `Proofs/TranspSsp2Inv.lean`): the lazy
priority queues of every full sink are min-heaps holding every source present in the sink with its
moving cost and a live top (libstdc++ `make_heap/push_heap/pop_heap` proved to keep the heap property and
the contents); `sendingCost_` is a dual potential — non-negative, zero on sinks with free capacity, every
source sits only in sinks that are cheapest for it w.r.t. `cost + sendingCost_` —; tree edges are tight
and `sinkParent_` is acyclic; an augmentation along the tree keeps all reduced costs non-negative, the
lazily skipped `updateTree` is justified because an edge cost that did not go up is still tight, and
`updateTree` (label-correcting search) recomputes a potential that dominates the old one.  At the end
the potentials form a certificate accepted by the verified checker `checkCert`; optimality is then
`cert_optimal` (weak duality). -/
theorem ssp_optimal (p : Problem) (h : WellFormed p) :
    ∃ q, solve p = .ok q ∧ q.capacities = p.capacities ∧ q.demands = p.demands ∧ q.costs = p.costs ∧
      Feasible p q.allocations ∧ (∃ u v, checkCert p q.allocations u v = true) ∧
      ∀ y, Feasible p y → costOf p q.allocations ≤ costOf p y := by
  obtain ⟨q, hq, h1, h2, h3, hf, u, v, hcert⟩ := solve_total p h.1 h.2.1 ((costBoundOk_iff p).mp h.2.2)
  exact ⟨q, hq, h1, h2, h3, hf, ⟨u, v, hcert⟩, (cert_optimal p q.allocations u v hcert).2⟩

/-- **The derived assignment on the solver's plan.**  For every plan returned by `solve` the
non-negativity premise of `toAssignment_argmax` holds, so `toAssignment()` gives each source a valid
sink that receives at least as much of it as every sink, and strictly more than every earlier sink. -/
theorem ssp_assignment (p q : Problem) (hc : ∀ i, 0 ≤ p.capacity i) (hd : ∀ j, 0 ≤ p.demand j)
    (h : solve p = .ok q) (src : Nat) (hs : src < q.nbSources) (hn : 0 < q.nbSinks) :
    q.toAssignment.length = q.nbSources ∧
    q.toAssignment.getD src 0 < q.nbSinks ∧
    (∀ i, i < q.nbSinks → q.allocation i src ≤ q.allocation (q.toAssignment.getD src 0) src) ∧
    (∀ i, i < q.toAssignment.getD src 0 → q.allocation i src < q.allocation (q.toAssignment.getD src 0) src) := by
  obtain ⟨s, hrun, rfl⟩ := solve_eq_ok h
  exact toAssignment_argmax _ src hs hn fun i hi => (run_feasible p s hc hd hrun).nonneg i src hi hs

/-- non-vacuity of `WellFormed` (3 sinks × 3 sources, one source split between two sinks; the driver's
answer is `alloc 2 1 0 | 0 1 0 | 0 0 2`), hence of `solve p = .ok q` in `ssp_feasible` -/
example : WellFormed witnessPb := witness_hyps
example : ∃ q, solve witnessPb = .ok q := ssp_terminates _ witness_hyps

/-- **The bound on the costs cannot be dropped.**  With costs beyond `INT_MAX/3` (whose sums the C++
`int` arithmetic could not even form) the `INT_MAX` sentinel of `bestSink` is passed: on this
well-formed-but-for-the-bound 2 × 1 problem the model returns the plan `[[1],[0]]` although `[[0],[1]]`
is feasible and strictly cheaper.  (Evaluated by kernel reduction.) -/
theorem ssp_cost_bound_needed :
    ∃ p q y, p.check = true ∧ p.totalDemand ≤ p.totalCapacity ∧ solve p = .ok q ∧
      Feasible p y ∧ costOf p y < costOf p q.allocations :=
  ⟨bigCostPb, _, [[0], [1]], bigCost_hyps.1, bigCost_hyps.2, bigCost_solve,
    (primalOk_iff _ _).mp bigCost_better.1, bigCost_better.2⟩

/-- **Per-instance route to optimality (any costs).**  If on an instance the driver's verdict is
`cert ok` (`certifies` holds for the plan returned by the model, which the correspondence shows to be the
C++ plan entry by entry) then that plan is feasible and of minimum cost among all feasible plans.
Subsumed by `ssp_optimal` on well-formed inputs; it is the only statement for instances that
violate the bound on the costs. -/
theorem ssp_optimal_of_cert (p q : Problem) (h : solve p = .ok q) (hcert : certifies q q.allocations = true) :
    Feasible p q.allocations ∧ ∀ y, Feasible p y → costOf p q.allocations ≤ costOf p y := by
  obtain ⟨s, _, rfl⟩ := solve_eq_ok h
  have hq := certifies_optimal _ _ hcert
  -- feasibility and cost do not read the allocations stored in the problem
  exact ⟨⟨hq.1.nonneg, hq.1.demand, hq.1.capacity⟩, fun y hy => hq.2 y ⟨hy.nonneg, hy.demand, hy.capacity⟩⟩

/-- non-vacuity of `ssp_optimal_of_cert` (2 sinks × 1 source, evaluated by the kernel) -/
example : ∃ p q, solve p = .ok q ∧ certifies q q.allocations = true :=
  ⟨smallPb, _, small_solve, small_cert⟩

/-!
`TransportationProblem(capacities, demands, const std::vector<std::vector<float>>& costs)` scales the costs
to fixed point (`costsFromIntegers`); `costsFromFloats` (Model/TranspFloat.lean) is that scaling over exact
rationals with every binary64 rounding explicit, and is what `drv_C13` executes against the C++ entry by
entry.  Its domain `floatCostsOk` (decidable; the driver prints `fdomain ok`): at most `2^31` sinks, every cost
`≤ FLT_MAX` and `≥ −nbSinks·maxVal` with `maxVal = max(1e-8f, largest cost)` — in particular every finite
non-negative matrix (`float_nonneg_in_domain`).  NaN / ±inf are outside (no rational counterpart). -/

/-- every finite non-negative cost matrix (values need not even be `float`s) is in the domain -/
theorem float_nonneg_in_domain (fc : List (List Rat)) (hn : fc.length ≤ 2147483648)
    (h : ∀ r, r ∈ fc → ∀ c, c ∈ r → 0 ≤ c ∧ c ≤ fcFltMax) : floatCostsOk fc = true :=
  (floatCostsOk_iff fc).mpr (floatCostsOk_of_nonneg fc hn h)

/-- **The fixed-point scaling respects the solver's cost bound, for all float inputs of the domain.**
Every stored cost satisfies `|cost| ≤ 2^29` (so the conversion `double → int` is defined and
`3·|cost| < INT_MAX`), i.e. `costBoundOk`, the hypothesis of `ssp_optimal`, holds for the problem built by the
float constructor.  (All three binary64 divisions of `conversionFactor_` stay in the normal range, the first and
the last with relative error `2^-53`, the division by 4 exact; `n·maxVal·factor ≤ INT_MAX·(1+2^-53)²/4 < 2^29`;
rounding is monotone and exact on `±2^29`.) -/
theorem costsFromFloats_bound (caps dems : List Int) (fc : List (List Rat)) (h : floatCostsOk fc = true) :
    costBoundOk (Problem.makeFloat caps dems fc) = true ∧
    ∀ i j, -536870912 ≤ (Problem.makeFloat caps dems fc).cost i j ∧
      (Problem.makeFloat caps dems fc).cost i j ≤ 536870912 := by
  have hf := (floatCostsOk_iff fc).mp h
  exact ⟨(costBoundOk_iff _).mpr (costsFromFloats_costBound caps dems fc hf), costsFromFloats_range fc hf⟩

/-- non-vacuity: a 2 × 2 matrix with a zero, a tie-free non-dyadic spread and a negative entry -/
example : floatCostsOk [[0, 1 / 3], [-(1 / 2), 1000000]] = true := by decide +kernel

/-- **C13 for the float constructor, universally.**  For every cost matrix of the domain, if `check()`
passes and the demand does not exceed the capacity, `solve()` on the problem built by the float constructor
returns a feasible plan of minimum total cost w.r.t. the stored (scaled integer) costs. -/
theorem ssp_optimal_float (caps dems : List Int) (fc : List (List Rat)) (hf : floatCostsOk fc = true)
    (hc : (Problem.makeFloat caps dems fc).check = true) (hd : dems.sum ≤ caps.sum) :
    ∃ q, solve (Problem.makeFloat caps dems fc) = .ok q ∧ q.capacities = caps ∧ q.demands = dems ∧
      q.costs = costsFromFloats fc ∧ Feasible (Problem.makeFloat caps dems fc) q.allocations ∧
      ∀ y, Feasible (Problem.makeFloat caps dems fc) y →
        costOf (Problem.makeFloat caps dems fc) q.allocations ≤ costOf (Problem.makeFloat caps dems fc) y := by
  obtain ⟨q, hq, h1, h2, h3, h4, _, h6⟩ :=
    ssp_optimal (Problem.makeFloat caps dems fc) ⟨hc, hd, (costsFromFloats_bound caps dems fc hf).1⟩
  exact ⟨q, hq, h1, h2, h3, h4, h6⟩

/-- non-vacuity of `ssp_optimal_float`'s hypotheses (2 sinks × 2 sources) -/
example : floatCostsOk [[0, 1 / 3], [1 / 2, 1 / 4]] = true ∧
    (Problem.makeFloat [2, 2] [1, 2] [[0, 1 / 3], [1 / 2, 1 / 4]]).check = true := by decide +kernel

/-- **The call sequence of `DensityLegalizer::reoptimize`** (`TransportationProblem solver(capacities, demands,
costs /* float */); solver.increaseCapacity(); solver.solve();`): for every cost matrix of the domain on which
the constructor's `check()` passes and there is a sink, `increaseCapacity()` makes the capacity cover the
demand, leaves the scaled costs alone, and `solve()` then returns a feasible plan of minimum cost w.r.t. them
— no further hypothesis. -/
theorem ssp_optimal_float_inc (caps dems : List Int) (fc : List (List Rat)) (hf : floatCostsOk fc = true)
    (hc : (Problem.makeFloat caps dems fc).check = true) (hn : 0 < caps.length) :
    (Problem.makeFloat caps dems fc).increaseCapacity.costs = costsFromFloats fc ∧
    ∃ q, solve (Problem.makeFloat caps dems fc).increaseCapacity = .ok q ∧
      Feasible (Problem.makeFloat caps dems fc).increaseCapacity q.allocations ∧
      ∀ y, Feasible (Problem.makeFloat caps dems fc).increaseCapacity y →
        costOf (Problem.makeFloat caps dems fc).increaseCapacity q.allocations
          ≤ costOf (Problem.makeFloat caps dems fc).increaseCapacity y := by
  obtain ⟨hchk, hcov, hcb⟩ := increaseCapacity_wf _ hc hn
    ((costBoundOk_iff _).mp (costsFromFloats_bound caps dems fc hf).1)
  obtain ⟨q, hq, _, _, _, hfe, _, hopt⟩ := ssp_optimal _ ⟨hchk, hcov, (costBoundOk_iff _).mpr hcb⟩
  exact ⟨(increaseCapacity_covers (Problem.makeFloat caps dems fc) hn).2.2.2.2.1, q, hq, hfe, hopt⟩

/-- **Optimality in the scaled costs vs. the original real-valued costs.**  The plan returned by `solve()`
is optimal for the stored integers `round(c·factor)`, not for the `c` themselves; each stored cost is within
`δ = 1/2 + 2^-24` of `c·factor` (`1/2` from `std::round`, `2^-24` from the binary64 product of a value below
`2^29`) and a feasible plan moves exactly `D = Σ demands` units.  Hence, in the exact real-valued objective
`realCostOf = Σ c[i][j]·x[i][j]`, the returned plan is within `2·δ·D/factor` of *every* feasible plan, and,
since `factor ≥ INT_MAX/(4·n·maxVal)·(1−2^-53)²`, within `2·D·(3/4)·(4·n·maxVal/INT_MAX)` — the tolerance the
direct oracle of `harness/h_C13.cpp` applies against the long-double brute-force optimum.  The gap is a
granularity effect only: it is at most `6·n/INT_MAX` of the trivial cost scale `D·maxVal`; plans whose real
costs differ by less may be ranked either way. -/
theorem float_optimality_gap (caps dems : List Int) (fc : List (List Rat)) (hf : floatCostsOk fc = true)
    (hn1 : 1 ≤ fc.length) (hc : (Problem.makeFloat caps dems fc).check = true) (hd : dems.sum ≤ caps.sum) :
    ∃ q, solve (Problem.makeFloat caps dems fc) = .ok q ∧
      ∀ y, Feasible (Problem.makeFloat caps dems fc) y →
        realCostOf fc caps.length dems.length q.allocations
          ≤ realCostOf fc caps.length dems.length y
            + 2 * fcDelta * ((dems.sum : Int) : Rat) / fcFactor (fcMaxVal fc) fc.length ∧
        realCostOf fc caps.length dems.length q.allocations
          ≤ realCostOf fc caps.length dems.length y
            + 2 * ((dems.sum : Int) : Rat) * (3 / 4) * (4 * (fc.length : Rat) * fcMaxVal fc / 2147483647) := by
  obtain ⟨q, hq, _, _, _, hfe, hopt⟩ := ssp_optimal_float caps dems fc hf hc hd
  have hF := (floatCostsOk_iff fc).mp hf
  exact ⟨q, hq, fun y hy => ⟨float_gap caps dems fc hF hn1 _ y hfe hy (hopt y hy),
    float_gap_ideal caps dems fc hF hn1 _ y hfe hy (hopt y hy)⟩⟩

/-- **Exact optimality in the real-valued costs does not hold** (so `float_optimality_gap` is the right shape of
statement): 3 sinks × 1 source with costs `3, 2, 2^40`.  `maxVal = 2^40` makes the factor `≈ 1/6144`, the costs
`3` and `2` are both stored as `0`, and `solve()` (evaluated by the kernel) puts the source into sink 0 at real
cost `3` although sink 1 costs `2`.  The difference `1` is within the gap bound `2·D·δ/factor ≈ 6144`. -/
theorem float_exact_optimality_fails :
    ∃ (fc : List (List Rat)) (q : Problem) (y : Mat), floatCostsOk fc = true ∧
      (Problem.makeFloat [1, 1, 1] [1] fc).check = true ∧ solve (Problem.makeFloat [1, 1, 1] [1] fc) = .ok q ∧
      primalOk (Problem.makeFloat [1, 1, 1] [1] fc) y = true ∧
      realCostOf fc 3 1 y < realCostOf fc 3 1 q.allocations :=
  ⟨[[3], [2], [1099511627776]],
   { Problem.makeFloat [1, 1, 1] [1] [[3], [2], [1099511627776]] with allocations := [[1], [0], [0]] },
   [[0], [1], [0]], by decide +kernel⟩

/-- **The lower bound on the costs cannot be dropped.**  `maxVal` ignores negative costs, so a finite
negative cost of large magnitude is scaled beyond the solver's bound: for the 1 × 2 matrix `[[1, −2]]`
(`maxVal = 1`, factor `INT_MAX/4`) the stored cost of `−2` is `−1073741824`, `3·|cost| > INT_MAX`.
(The conversion to `int` is still defined there; it becomes undefined from `−4·nbSinks·maxVal` on.) -/
theorem float_precondition_needed :
    ∃ fc : List (List Rat), (∀ r, r ∈ fc → ∀ c, c ∈ r → -fcFltMax ≤ c ∧ c ≤ fcFltMax) ∧
      floatCostsOk fc = false ∧ costBoundOk (Problem.makeFloat [2] [1, 1] fc) = false :=
  ⟨[[1, -2]], by decide +kernel, by decide +kernel, by decide +kernel⟩

/-- **One scaling for C07 and C13.**  C07's fault-checked model of the same function (`costsFromIntegersC`,
which reports an out-of-range `double → int` conversion as a fault and is tied to the C++ by `drv_C07`) returns
exactly `costsFromFloats` whenever it reports no fault. -/
theorem float_model_agrees_with_checked_model (fc : List (List Rat)) (m : Mat)
    (h : costsFromIntegersC fc = .ok m) : m = costsFromFloats fc :=
  costsFromIntegersC_eq_ok fc m h

end ColoVerif.C13
