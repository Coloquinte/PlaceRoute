import ColoVerif.Model.Transp1d
/-
Local optimality certificate for the positions returned by `Transportation1dSolver::run`
on the sorted, zero-free instance handed to the solver (C14, slack case).

`ivCertOk sv p be` is a decidable O(n·m) check on the solver instance `sv`, the positions `p` and
sink prices `be` (see its docstring).  `Proofs/Transp1dOptLocal.lean` proves that it implies the
global dual certificate `GlobCert` (`ivCert_glob`), and `Proofs/Transp1dOptMain.lean` transfers
that to `certOk` on the original problem.  `locCertOk` is the weaker neighbour-overlap check, kept
with its counterexample (`localCert_not_glob`) and its soundness for strictly increasing sink
positions (`localCert_glob_strict`).  Core Lean only (the driver evaluates `ivCertOk`).
-/
namespace ColoVerif.Transp1d

/-- `cost(i, j)` on the solver's instance, total (`getD`) -/
def cs (sv : Solver) (i j : Nat) : Int := iabs (sv.u.getD i 0 - sv.v.getD j 0)

/-- start of source `i` on the cumulative-demand axis -/
def loP (sv : Solver) (p : List Int) (i : Nat) : Int := sv.S.getD i 0 + p.getD i 0
/-- end of source `i` on the cumulative-demand axis -/
def hiP (sv : Solver) (p : List Int) (i : Nat) : Int := sv.S.getD (i + 1) 0 + p.getD i 0
/-- length of the overlap of source `i` with sink `j` -/
def ovP (sv : Solver) (p : List Int) (i j : Nat) : Int :=
  max 0 (min (hiP sv p i) (sv.D.getD (j + 1) 0) - max (loP sv p i) (sv.D.getD j 0))

/-- amount received by sink `j` from the sources `0..n-1` -/
def fillP (sv : Solver) (p : List Int) (j : Nat) : Nat → Int
  | 0 => 0
  | n + 1 => fillP sv p j n + ovP sv p n j

/-- the local certificate (see the header) -/
def locCertOk (sv : Solver) (p : List Int) (be : List Int) : Bool :=
  allBelow sv.v.length (fun j => decide (0 ≤ be.getD j 0)) &&
  allBelow sv.v.length (fun j => decide (0 < be.getD j 0 →
    fillP sv p j sv.u.length = sv.D.getD (j + 1) 0 - sv.D.getD j 0)) &&
  allBelow sv.u.length (fun i => allBelow (sv.v.length - 1) fun j =>
    decide (0 < ovP sv p i j → cs sv i j + be.getD j 0 ≤ cs sv i (j + 1) + be.getD (j + 1) 0) &&
    decide (0 < ovP sv p i (j + 1) → cs sv i (j + 1) + be.getD (j + 1) 0 ≤ cs sv i j + be.getD j 0))

/-- the interval-guarded local certificate: prices are non-negative, a sink with a positive price
is completely covered, and for every source `i` the priced cost `c i j + be j` does not decrease
from sink `j` to `j+1` once the end of sink `j` lies right of the start of the source, and does not
decrease from `j+1` to `j` once the start of sink `j+1` lies left of the end of the source.
(`locCertOk`, which guards by the overlap with the neighbouring sink only, is NOT sufficient when
neighbouring sinks share a position: `localCert_not_glob`.) -/
def ivCertOk (sv : Solver) (p : List Int) (be : List Int) : Bool :=
  allBelow sv.v.length (fun j => decide (0 ≤ be.getD j 0)) &&
  allBelow sv.v.length (fun j => decide (0 < be.getD j 0 →
    fillP sv p j sv.u.length = sv.D.getD (j + 1) 0 - sv.D.getD j 0)) &&
  allBelow sv.u.length (fun i => allBelow (sv.v.length - 1) fun j =>
    decide (loP sv p i < sv.D.getD (j + 1) 0 →
      cs sv i j + be.getD j 0 ≤ cs sv i (j + 1) + be.getD (j + 1) 0) &&
    decide (sv.D.getD (j + 1) 0 < hiP sv p i →
      cs sv i (j + 1) + be.getD (j + 1) 0 ≤ cs sv i j + be.getD j 0))

end ColoVerif.Transp1d
