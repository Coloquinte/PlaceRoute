import ColoVerif.Model.Transp1d
/-
The self-checks of the one-dimensional transportation solver
(src/place_global/transportation_1d.cpp): `Transportation1d::check`, `checkSorted`,
`checkNonZeroCapacities`, `checkSolutionValid`, `Transportation1dSolver::check`,
`Transportation1dSolver::checkSolutionOptimal`, and `Transportation1d::solve()` WITH the calls of
these checks where the C++ makes them (`solveFull`).

Conventions (on top of those of `Model/Transp1d.lean`)
* every `throw std::runtime_error(msg)` is `CkErr.thrown site`, one `Site` per message, so the model
  predicts not only whether but also where the C++ throws; errors of the base model (out-of-range
  `operator[]`, fuel) are `CkErr.model e`.
* a `for` loop whose body is only `if (bad) throw` is `List.any` / a structural loop with
  bounds-checked reads (`cmpLoop`) when it indexes a second vector.
* `gainRight` / `gainLeft` are `std::vector<long long>` initialised with the sentinel
  `std::numeric_limits<long long>::min()`: here `List (Option Int)`, `none` = sentinel;
  `std::max(sentinel, g) = g` (`omax`).  Since the repair of F11 (`if (nxt + 1 < nbSinks())`,
  `if (nxt >= 1)`) the entries of the last / first sink are not read.  A sentinel that would enter
  arithmetic anyway (`gain += LLONG_MIN`: signed overflow, i.e. undefined behaviour, as soon as the
  running gain is negative) is reported as `CkErr.sentinel`; `Proofs/Transp1dChecksOpt.lean` shows
  that this never happens inside `solve()`.
* the scans of `checkSolutionOptimal` reassign their loop variable (`snk = nxt - 1; break;`): the
  outer loops run on fuel `nbSinks + 1` (the variable moves by at least one per iteration; running
  out of fuel is `Err.outOfFuel` and proved impossible), the inner loops are structural.
Core Lean only (the driver executes these definitions).
-/
namespace ColoVerif.Transp1d

/-- the `throw std::runtime_error` sites, by message -/
inductive Site where
  /-- "Inconsistant source positions" (dead: `nbSources()` is `u.size()`) -/
  | srcPosSize
  /-- "Inconsistant sink positions" (dead: `nbSinks()` is `v.size()`) -/
  | snkPosSize
  /-- "Inconsistant supplies" -/
  | supSize
  /-- "Inconsistant demands" -/
  | demSize
  /-- "Supplies must be non-negative" -/
  | supNeg
  /-- "Demands must be non-negative" -/
  | demNeg
  /-- "The supply should be no larger than the demand" -/
  | supGtDem
  /-- "Inconsistant total supplies" -/
  | totSupSize
  /-- "Inconsistant total demands" -/
  | totDemSize
  /-- "Too many positions computed" -/
  | tooManyPos
  /-- "Source positions should be sorted" -/
  | srcUnsorted
  /-- "Sink positions should be sorted" -/
  | snkUnsorted
  /-- "Supplies must be non-zero" -/
  | supZero
  /-- "Demands must be non-zero" -/
  | demZero
  /-- "Allocation should be positive" -/
  | allocNonPos
  /-- "Supply is not met" -/
  | supNotMet
  /-- "Demand is not met" -/
  | demExceeded
  /-- "Found an improving right move" -/
  | improvingRight
  /-- "Found an improving left move" -/
  | improvingLeft
deriving Repr, DecidableEq, Inhabited

inductive CkErr where
  /-- `throw std::runtime_error` at the given site -/
  | thrown (s : Site)
  /-- an error of the base model: out-of-range `operator[]`, out of fuel -/
  | model (e : Err)
  /-- the `LLONG_MIN` sentinel of `gainRight`/`gainLeft` enters `gain += …` -/
  | sentinel
deriving Repr, DecidableEq, Inhabited

abbrev K := Except CkErr

def liftK {α : Type} (x : M α) : K α :=
  match x with
  | .ok a => .ok a
  | .error e => .error (.model e)

def throwAt {α : Type} (s : Site) : K α := .error (.thrown s)

/-! ### Transportation1d::check, checkSorted, checkNonZeroCapacities -/

/-- `Transportation1d::check()`, test by test in the order of the C++ -/
def checkInput (pb : Problem) : K Unit :=
  if pb.u.length ≠ pb.nbSources then throwAt .srcPosSize
  else if pb.v.length ≠ pb.nbSinks then throwAt .snkPosSize
  else if pb.s.length ≠ pb.nbSources then throwAt .supSize
  else if pb.d.length ≠ pb.nbSinks then throwAt .demSize
  else if pb.s.any (fun c => decide (c < 0)) then throwAt .supNeg
  else if pb.d.any (fun c => decide (c < 0)) then throwAt .demNeg
  else do
    let ts ← liftK (totalSupply pb)
    let td ← liftK (totalDemand pb)
    if td < ts then throwAt .supGtDem else pure ()

/-- `for (i = 0; i + 1 < n; ++i) if (l[i + 1] < l[i])` finds something -/
def hasDescent : List Int → Bool
  | a :: b :: r => decide (b < a) || hasDescent (b :: r)
  | _ => false

/-- `for (long long c : l) if (c == 0)` finds something -/
def hasZero (l : List Int) : Bool := l.any (fun c => decide (c = 0))

def Solver.toProblem (sv : Solver) : Problem := ⟨sv.u, sv.v, sv.s, sv.d⟩

/-- `Transportation1dSolver::check()` with `p.size() = pLen`: the base check, the sizes of the
prefix sums, `checkSorted()`, `checkNonZeroCapacities()` -/
def solverCheck (sv : Solver) (pLen : Nat) : K Unit := do
  checkInput sv.toProblem
  if sv.S.length ≠ sv.nbSources + 1 then throwAt .totSupSize
  else if sv.D.length ≠ sv.nbSinks + 1 then throwAt .totDemSize
  else if sv.nbSources < pLen then throwAt .tooManyPos
  else if hasDescent sv.u then throwAt .srcUnsorted
  else if hasDescent sv.v then throwAt .snkUnsorted
  else if hasZero sv.s then throwAt .supZero
  else if hasZero sv.d then throwAt .demZero
  else pure ()

/-! ### Transportation1d::checkSolutionValid -/

/-- `l[k] += a` -/
def addAt (l : List Int) (k : Nat) (a : Int) : M (List Int) := do
  let x ← get l k
  setAt l k (x + a)

/-- the loop over `alloc` of `checkSolutionValid`: `usedSupply[i] += a; usedDemand[j] += a;
if (a <= 0) throw` -/
def validLoop : Plan → List Int → List Int → K (List Int × List Int)
  | [], us, ud => pure (us, ud)
  | (i, j, a) :: es, us, ud => do
    let us' ← liftK (addAt us i a)
    let ud' ← liftK (addAt ud j a)
    if a ≤ 0 then throwAt .allocNonPos else validLoop es us' ud'

/-- `for (i = 0; i < n; ++i) if (bad(xs[i], ys[i])) throw`; `cnt = n - i` -/
def cmpLoop (bad : Int → Int → Bool) (site : Site) (xs ys : List Int) : Nat → Nat → K Unit
  | 0, _ => pure ()
  | cnt + 1, i => do
    let a ← liftK (get xs i)
    let b ← liftK (get ys i)
    if bad a b then throwAt site else cmpLoop bad site xs ys cnt (i + 1)

/-- `Transportation1d::checkSolutionValid(alloc)` -/
def checkSolutionValid (pb : Problem) (sol : Plan) : K Unit := do
  let r ← validLoop sol (List.replicate pb.nbSources 0) (List.replicate pb.nbSinks 0)
  cmpLoop (fun a b => decide (a ≠ b)) .supNotMet r.1 pb.s pb.nbSources 0
  cmpLoop (fun a b => decide (b < a)) .demExceeded r.2 pb.d pb.nbSinks 0

/-! ### Transportation1dSolver::checkSolutionOptimal -/

/-- `for (auto [i, j, a] : alloc) usedCap[j] += a` -/
def usedCapLoop : Plan → List Int → M (List Int)
  | [], uc => pure uc
  | (_, j, a) :: es, uc => do
    let uc' ← addAt uc j a
    usedCapLoop es uc'

/-- `std::max(old, g)` where `old` may be the sentinel `LLONG_MIN` -/
def omax (old : Option Int) (g : Int) : Int :=
  match old with
  | none => g
  | some x => max x g

/-- `if (j + 1 < nbSinks()) gainRight[j] = max(gainRight[j], cost(i, j) - cost(i, j + 1))` -/
def gainRightLoop (sv : Solver) : Plan → List (Option Int) → M (List (Option Int))
  | [], gr => pure gr
  | (i, j, _) :: es, gr =>
    if j + 1 < sv.nbSinks then do
      let c0 ← cost sv i j
      let c1 ← cost sv i (j + 1)
      let old ← get gr j
      let gr' ← setAt gr j (some (omax old (c0 - c1)))
      gainRightLoop sv es gr'
    else gainRightLoop sv es gr

/-- `if (j - 1 >= 0) gainLeft[j] = max(gainLeft[j], cost(i, j) - cost(i, j - 1))` -/
def gainLeftLoop (sv : Solver) : Plan → List (Option Int) → M (List (Option Int))
  | [], gl => pure gl
  | (i, j, _) :: es, gl =>
    if 1 ≤ j then do
      let c0 ← cost sv i j
      let c1 ← cost sv i (j - 1)
      let old ← get gl j
      let gl' ← setAt gl j (some (omax old (c0 - c1)))
      gainLeftLoop sv es gl'
    else gainLeftLoop sv es gl

/-- read an entry of `gainRight`/`gainLeft` into the running gain -/
def readGain (g : List (Option Int)) (k : Nat) : K Int :=
  match get g k with
  | .ok (some x) => .ok x
  | .ok none => .error .sentinel
  | .error e => .error (.model e)

/-- `for (nxt = …; nxt < nbSinks(); ++nxt)` of the right scan; `cnt = nbSinks() - nxt`.
`some nxt`: left by `break` at the first sink with spare capacity; `none`: ran to the end. -/
def rightInner (sv : Solver) (uc : List Int) (gr : List (Option Int)) :
    Nat → Nat → Int → K (Option Nat)
  | 0, _, _ => pure none
  | cnt + 1, nxt, gain => do
    let un ← liftK (get uc nxt)
    let dn ← liftK (get sv.d nxt)
    if un < dn then
      if 0 < gain then throwAt .improvingRight else pure (some nxt)
    else if nxt + 1 < sv.nbSinks then do
      let g ← readGain gr nxt
      rightInner sv uc gr cnt (nxt + 1) (gain + g)
    else rightInner sv uc gr cnt (nxt + 1) gain

/-- the value of `snk` at the next test of the outer loop of the right scan
(`snk = nxt - 1; break;` then `++snk`, or just `++snk`) -/
def nextRight (r : Option Nat) (snk : Nat) : Nat :=
  match r with
  | some nxt => nxt
  | none => snk + 1

/-- `for (snk = 0; snk + 1 < nbSinks(); ++snk)` -/
def rightOuter (sv : Solver) (uc : List Int) (gr : List (Option Int)) : Nat → Nat → K Unit
  | 0, _ => .error (.model .outOfFuel)
  | fuel + 1, snk =>
    if snk + 1 < sv.nbSinks then do
      let us ← liftK (get uc snk)
      if us = 0 then rightOuter sv uc gr fuel (snk + 1)
      else do
        let g ← readGain gr snk
        let r ← rightInner sv uc gr (sv.nbSinks - (snk + 1)) (snk + 1) g
        rightOuter sv uc gr fuel (nextRight r snk)
    else pure ()

/-- `for (nxt = snk - 1; nxt >= 0; --nxt)` of the left scan; the first argument is `nxt + 1` -/
def leftInner (sv : Solver) (uc : List Int) (gl : List (Option Int)) : Nat → Int → K (Option Nat)
  | 0, _ => pure none
  | nxt + 1, gain => do
    let un ← liftK (get uc nxt)
    let dn ← liftK (get sv.d nxt)
    if un < dn then
      if 0 < gain then throwAt .improvingLeft else pure (some nxt)
    else if 1 ≤ nxt then do
      let g ← readGain gl nxt
      leftInner sv uc gl nxt (gain + g)
    else leftInner sv uc gl nxt gain

/-- the value of `snk` at the next test of the outer loop of the left scan
(`snk = nxt + 1; break;` then `--snk`, or just `--snk`) -/
def nextLeft (r : Option Nat) (snk : Nat) : Nat :=
  match r with
  | some nxt => nxt
  | none => snk - 1

/-- `for (snk = nbSinks() - 1; snk >= 1; --snk)` -/
def leftOuter (sv : Solver) (uc : List Int) (gl : List (Option Int)) : Nat → Nat → K Unit
  | 0, _ => .error (.model .outOfFuel)
  | fuel + 1, snk =>
    if 1 ≤ snk then do
      let us ← liftK (get uc snk)
      if us = 0 then leftOuter sv uc gl fuel (snk - 1)
      else do
        let g ← readGain gl snk
        let r ← leftInner sv uc gl snk g
        leftOuter sv uc gl fuel (nextLeft r snk)
    else pure ()

/-- `Transportation1dSolver::checkSolutionOptimal(alloc)` -/
def checkSolutionOptimal (sv : Solver) (sol : Plan) : K Unit := do
  let uc ← liftK (usedCapLoop sol (List.replicate sv.nbSinks 0))
  let gr ← liftK (gainRightLoop sv sol (List.replicate sv.nbSinks none))
  let gl ← liftK (gainLeftLoop sv sol (List.replicate sv.nbSinks none))
  rightOuter sv uc gr (sv.nbSinks + 1) 0
  leftOuter sv uc gl (sv.nbSinks + 1) (sv.nbSinks - 1)

/-! ### Transportation1d::solve with its self-checks -/

/-- `Transportation1d::solve()`:
`check(); sorter; convert; solver.check(); solver.run(); computeSolution();
solver.checkSolutionValid(sol); solver.checkSolutionOptimal(sol); convertSolutionBack(sol)` -/
def solveFull (pb : Problem) : K Plan := do
  checkInput pb
  let so ← liftK (mkSorter pb)
  let sv ← liftK (convert so pb)
  solverCheck sv 0
  let p ← liftK (run sv)
  let sol ← liftK (computeSolution sv p)
  checkSolutionValid sv.toProblem sol
  checkSolutionOptimal sv sol
  liftK (convertSolutionBack so sol)

end ColoVerif.Transp1d
