import ColoVerif.Proofs.GridAlloc
import ColoVerif.Proofs.GridCap
/-
The capacity lemmas of `GridHier` restated on `HState`: after `coarsenX/Y` the capacity of a bin is the sum of
its children's in the previous view (`coarsenX_capacity`, `coarsenY_capacity`); the capacities of any view add
up to the whole grid's (`view_total`).  At the end, what `C16.alloc_inv_cellwise` needs: grids built by
`DGrid.ofRegions` have at least one bin per axis, and `AllocInv` read cell by cell (`allocInv_explicit`).
-/
namespace ColoVerif.Grid

theorem coarsenX_capacity (s : HState) (n : Nat) (hok : HierOk s.hx n) (hl : s.levelX + 1 < s.hx.nbLevels)
    (p j : Nat) (hp : p < s.coarsenX.nbX) :
    s.coarsenX.binCapacity p j =
      (((List.range s.nbX).filter fun x => s.parentX x == p).map fun x => s.binCapacity x j).sum := by
  unfold HState.coarsenX at hp ⊢
  rw [if_pos hl] at hp ⊢
  exact children_gen (additive_x s.grid _ _) s.hx n hok s.levelX p hl hp

theorem coarsenY_capacity (s : HState) (n : Nat) (hok : HierOk s.hy n) (hl : s.levelY + 1 < s.hy.nbLevels)
    (i p : Nat) (hp : p < s.coarsenY.nbY) :
    s.coarsenY.binCapacity i p =
      (((List.range s.nbY).filter fun y => s.parentY y == p).map fun y => s.binCapacity i y).sum := by
  unfold HState.coarsenY at hp ⊢
  rw [if_pos hl] at hp ⊢
  exact children_gen (additive_y s.grid _ _) s.hy n hok s.levelY p hl hp

theorem view_total (s : HState) (nX nY : Nat) (hx : HierOk s.hx nX) (hy : HierOk s.hy nY)
    (hlx : s.levelX < s.hx.nbLevels) (hly : s.levelY < s.hy.nbLevels) :
    ((List.range s.nbX).map fun x => ((List.range s.nbY).map fun y => s.binCapacity x y).sum).sum =
      s.grid.groupCapacity 0 nX 0 nY := by
  unfold HState.binCapacity HState.nbY
  rw [List.map_congr_left fun x _ => level_total_gen (additive_y s.grid _ _) s.hy nY hy s.levelY hly]
  exact level_total_gen (additive_x s.grid 0 nY) s.hx nX hx s.levelX hlx

theorem updateCellToBin_gd (s : HState) : s.updateCellToBin.grid = s.grid ∧ s.updateCellToBin.demand = s.demand :=
  ⟨(updateCellToBin_frame s).2.2.2, (updateCellToBin_frame s).2.2.1⟩

theorem ofRegions_nb_pos (binSize : Int) (regions : List Rect) :
    1 ≤ (DGrid.ofRegions binSize regions).nbX ∧ 1 ≤ (DGrid.ofRegions binSize regions).nbY := by
  unfold DGrid.ofRegions DGrid.nbX DGrid.nbY computeSubdivisions
  simp only [List.length_map, List.length_range, Nat.add_sub_cancel]
  exact ⟨nbBinsFor_pos _ _, nbBinsFor_pos _ _⟩

theorem allocInv_explicit (s : HState) (h : AllocInv s) (c : Nat) :
    ((c < s.nbCells ∧ s.cellDemand c > 0) →
      ∃ i j, i < s.nbX ∧ j < s.nbY ∧ (s.cells i j).count c = 1 ∧
        (∀ i' j', c ∈ s.cells i' j' → i' = i ∧ j' = j) ∧
        s.cbx.getD c (-1) = (i : Int) ∧ s.cby.getD c (-1) = (j : Int)) ∧
    (¬ (c < s.nbCells ∧ s.cellDemand c > 0) →
      (∀ i j, c ∉ s.cells i j) ∧ s.cbx.getD c (-1) = -1 ∧ s.cby.getD c (-1) = -1) := by
  constructor
  · intro hc
    obtain ⟨i, j, hm⟩ := (h.covers c).mp hc
    have hr := h.in_range hm
    have ha := h.agree i j c hm
    refine ⟨i, j, hr.1, hr.2, List.count_eq_one_of_mem (h.nodup i j) hm, ?_, ha.1, ha.2⟩
    intro i' j' hm'
    exact h.disjoint _ _ _ _ c hm' hm
  · intro hc
    have hn : ∀ i j, c ∉ s.cells i j := fun i j hm => hc ((h.covers c).mpr ⟨i, j, hm⟩)
    exact ⟨hn, h.none c hn⟩

end ColoVerif.Grid
