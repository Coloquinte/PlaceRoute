import ColoVerif.Proofs.DetReorderChoice
import ColoVerif.Proofs.DetOptHpwlHist
import ColoVerif.Proofs.DetReorderReg
/-!
`RowReordering` at the level of one window (`runReorderingOnCells`).  On the coordinate vectors, for any
position-only objective (`State.reorderWindow V`), the pass is the keep-best decision of Model/DetOpt.lean over the
leaves the enumeration evaluated, all of them faithful (`reorderWindow_decision`), hence never worse
(`reorderWindow_not_worse`).  On the two incremental net models (`Placer.reorderWindow`) it runs in lock step with
the former for the real objective `circuitValue c` (`reorderWindow_placer`).
-/
namespace ColoVerif.DetPlace
open State

def RowReord.mapStore {σ τ : Type} (f : σ → τ) (rr : RowReord σ) : RowReord τ :=
  ⟨rr.regions, rr.cells, rr.order, rr.positions, rr.bestVal, rr.bestOrder, rr.bestPositions, rr.improvement,
   f rr.store, rr.leaves, rr.fuelOut, rr.assertFail⟩

theorem core_mapStore {σ τ : Type} (f : σ → τ) (rr : RowReord σ) : (rr.mapStore f).core = rr.core := rfl

theorem start_fresh {σ : Type} (s : State) (st : σ) (G : List RRegion) (segs : List (List Int)) (af : Bool) :
    Fresh (RowReord.start s st G segs af) :=
  ⟨rfl, rfl, List.length_map _, List.length_map _, fun i l h => by
    simp only [RowReord.start, List.getElem?_map, Option.map_eq_some_iff] at h
    exact h.elim fun _ k => k.2.symm⟩

theorem addCells_start {σ : Type} {s : State} {w : List Int} {st : σ} {rr : RowReord σ}
    (e : addCells s (RowReord.new st) w = .ok rr) :
    ∃ r, regScan s w w [] [] false = .ok r ∧ rr = RowReord.start s st r.1 r.2.1 r.2.2 := by
  rw [addCells_eq] at e
  exact (map_eq_ok e).imp fun _ h => ⟨h.1, h.2.symm⟩

theorem addCells_fresh {σ : Type} {s : State} {w : List Int} {st : σ} {rr : RowReord σ}
    (e : addCells s (RowReord.new st) w = .ok rr) : Fresh rr ∧ rr.fuelOut = false ∧ rr.store = st := by
  obtain ⟨r, _, rfl⟩ := addCells_start e
  exact ⟨start_fresh .., rfl, rfl⟩

theorem addCells_mapStore {σ τ : Type} {s : State} {w : List Int} {st : σ} {rr : RowReord σ}
    (e : addCells s (RowReord.new st) w = .ok rr) (st2 : τ) :
    addCells s (RowReord.new st2) w = .ok (rr.mapStore fun _ => st2) := by
  obtain ⟨r, er, rfl⟩ := addCells_start e
  rw [addCells_eq, er]
  rfl

theorem unplaceAll_live {s t : State} : ∀ {cs : List Int}, s.unplaceAll cs = .ok t →
    cs.Nodup ∧ ∀ c ∈ cs, s.validCell c ∧ s.row c ≠ -1
  | [], _ => ⟨List.nodup_nil, by simp⟩
  | c :: cs, e => by
    unfold unplaceAll at e
    split at e
    · rename_i hg
      simp only [Bool.and_eq_true] at hg
      obtain ⟨ih1, ih2⟩ := unplaceAll_live (s := s.unplace c) e
      have hrow : ∀ d ∈ cs, d ≠ c ∧ s.row d ≠ -1 := by
        intro d hd
        have := (ih2 d hd).2
        rw [unplace_row] at this
        by_cases hdc : d = c
        · simp [hdc] at this
        · simp only [hdc, if_false] at this; exact ⟨hdc, this⟩
      refine ⟨List.nodup_cons.2 ⟨fun hc => (hrow c hc).1 rfl, ih1⟩, ?_⟩
      intro d hd
      rcases List.mem_cons.1 hd with rfl | hd
      · exact ⟨((liveCell_iff _ _).1 hg.1).1, (isPlaced_iff _ _).1 hg.2⟩
      · exact ⟨(ih2 d hd).1, (hrow d hd).2⟩
    · cases e

theorem reorderWriteback_live {s t : State} {cells : List Int} {regions : List Region}
    (e : s.reorderWriteback cells regions = .ok t) : cells.Nodup ∧ ∀ c ∈ cells, s.validCell c := by
  obtain ⟨u, eu, -, -⟩ := reorderWriteback_ok e
  obtain ⟨h1, h2⟩ := unplaceAll_live eu
  exact ⟨h1, fun c hc => (h2 c hc).1⟩

/-- a leaf of `RowReordering` whose recorded value is the objective with every registered cell at the
leaf's position on its region's row — i.e. (`reorderWriteback_value`) the objective of the placement its
write-back produces -/
def FaithfulLeaf (V : Value) (s : State) (l : Leaf) : Prop := l.value = s.leafValue V l.regions

/-- the leaves the enumeration of a window evaluates, in evaluation order -/
def windowLeaves (V : Value) (s : State) (rr0 : RowReord PS) : List Leaf := (rr0.run (pureStore V) s).leaves.reverse

/-- When the registered cells are distinct and non-negative, `reorderWindow` is `reorderDecision`
(Model/DetOpt.lean) over the list of leaves the enumeration evaluated, and each of them carries the objective of
its own write-back. -/
theorem reorderWindow_decision (V : Value) (s : State) (w : List Int) (rr0 : RowReord PS)
    (e0 : addCells s (RowReord.new (s.x, s.y)) w = .ok rr0) (hn : rr0.cells.Nodup) (hnn : ∀ c ∈ rr0.cells, 0 ≤ c) :
    s.reorderWindow V w = s.reorderDecision V (sortDesc rr0.cells) (windowLeaves V s rr0) ∧
    (∀ leaf ∈ windowLeaves V s rr0, FaithfulLeaf V s leaf) ∧
    (rr0.run (pureStore V) s).fuelOut = false ∧ (rr0.run (pureStore V) s).assertFail = rr0.assertFail := by
  obtain ⟨hf, hfo, hst⟩ := addCells_fresh e0
  obtain ⟨h1, h2, h3, h4, hb, _⟩ := run_spec V s rr0 hf hn hnn hst
  refine ⟨?_, fun leaf hl => hb.faithful leaf (List.mem_reverse.1 hl), h1.trans hfo, h2⟩
  unfold State.reorderWindow State.reorderDecision windowLeaves
  rw [e0]
  simp only []
  have hkb := hb.kb
  show (if (rr0.run (pureStore V) s).improvement = true then _ else _) = _
  rw [show s.value V = V s.x s.y from rfl, hkb]
  cases hi : (rr0.run (pureStore V) s).improvement with
  | false => simp
  | true => simp [h3]

/-- Whatever the window: if the pass returns normally, the placement is untouched (state
equality) or the objective strictly decreased.  No hypothesis on the leaves: a write-back that succeeds
forces the registered cells to be distinct valid cells, which makes every evaluated leaf faithful. -/
theorem reorderWindow_not_worse (V : Value) (s t : State) (w : List Int) (e : s.reorderWindow V w = .ok t) :
    t = s ∨ (t.value V < s.value V ∧ ∃ cells regions, s.step (.reorder cells regions) = .ok t) := by
  unfold State.reorderWindow at e
  split at e
  · cases e
  · rename_i rr0 e0
    split at e
    · rename_i himp
      right
      obtain ⟨hn', hv⟩ := reorderWriteback_live e
      have hperm := sortDesc_perm rr0.cells
      obtain ⟨hf, _, hst⟩ := addCells_fresh e0
      rw [run_cells] at hn' hv
      have hn : rr0.cells.Nodup := hperm.nodup hn'
      have hnn : ∀ c ∈ rr0.cells, 0 ≤ c := fun c hc => (hv c (hperm.mem_iff.2 hc)).1
      obtain ⟨_, _, _, _, hb, _⟩ := run_spec V s rr0 hf hn hnn hst
      have hkb := hb.kb
      rw [himp] at hkb
      simp only [if_true] at hkb
      have spec := keepBest_spec (V s.x s.y) (rr0.run (pureStore V) s).leaves.reverse none (V s.x s.y) (Int.le_refl _)
        (by intro l hl; cases hl)
      rw [hkb] at spec
      have hlt := (spec.2 _ rfl).2
      -- the best leaf is one of the evaluated ones
      have hmem := (keepBest_mem _ _ none _ (congrArg (·.2) hkb)).resolve_left (fun e => nomatch e)
      have hfaith := hb.faithful _ (List.mem_reverse.1 hmem)
      refine ⟨?_, _, _, e⟩
      rw [reorderWriteback_value V e]
      show s.leafValue V (rr0.run (pureStore V) s).bestRegions < V s.x s.y
      have : (rr0.run (pureStore V) s).bestVal = s.leafValue V (rr0.run (pureStore V) s).bestRegions := hfaith
      rw [← this]
      exact hlt
    · injection e with e
      exact Or.inl e.symm

/-- the two net models are those built for `c`, holding the two coordinate vectors as cell positions -/
def SyncR (c : Circuit) : PS → IncrNet.Model × IncrNet.Model → Prop := fun f m =>
  Sync1 (IncrNet.xTopologyAll c) c.cells.length m.1 f.1 ∧ Sync1 (IncrNet.yTopologyAll c) c.cells.length m.2 f.2

theorem storeSim (c : Circuit) :
    StoreSim (pureStore (circuitValue c)) modelStore (SyncR c) (fun k => 0 ≤ k ∧ k < (c.cells.length : Int)) :=
  ⟨fun _ _ k v h hk => ⟨h.1.update k v hk.1 hk.2, h.2⟩, fun _ _ k v h hk => ⟨h.1, h.2.update k v hk.1 hk.2⟩,
   fun a b h => by
    show circuitValue c a.1 a.2 = b.1.value + b.2.value
    unfold circuitValue; rw [h.1.value, h.2.value]⟩

theorem run_sim {σ1 σ2 : Type} {S1 : Store σ1} {S2 : Store σ2} {R : σ1 → σ2 → Prop} {ok : Int → Prop}
    (hS : StoreSim S1 S2 R ok) (s : State) {a : RowReord σ1} {b : RowReord σ2} (h : Sim R ok a.cells a b)
    (hok : ∀ c ∈ a.cells, ok c) : Sim R ok (sortDesc a.cells) (a.run S1 s) (b.run S2 s) := by
  unfold RowReord.run
  rw [← (core_fields h.core).2.1]
  apply runRegionChoice_sim hS s (fun c hc => hok c ((sortDesc_perm a.cells).mem_iff.1 hc))
  · exact Nat.le_of_eq (sortDesc_perm a.cells).length_eq.symm
  · exact h.step (fun u => { u with bestVal := S1.value a.store, cells := sortDesc u.cells }) rfl
      (by rw [hS.value _ _ h.store, (core_fields h.core).2.1]; rfl) h.store h.okOrder rfl

/-- the same window registered with the coordinate vectors: the enumeration on them runs in lock step with
the enumeration on the two models -/
theorem window_lockstep (c : Circuit) (p : Placer) (hs : Sync c p) (w : List Int)
    (rrm0 : RowReord (IncrNet.Model × IncrNet.Model)) (em : addCells p.pl (RowReord.new (p.xt, p.yt)) w = .ok rrm0)
    (hvalid : ∀ k ∈ rrm0.cells, p.pl.validCell k) :
    ∃ rrp0 : RowReord PS, addCells p.pl (RowReord.new (p.pl.x, p.pl.y)) w = .ok rrp0 ∧ rrp0.core = rrm0.core ∧
      rrp0.store = (p.pl.x, p.pl.y) ∧ Fresh rrp0 ∧
      Sim (SyncR c) (fun k => 0 ≤ k ∧ k < (c.cells.length : Int)) (sortDesc rrp0.cells)
        (rrp0.run (pureStore (circuitValue c)) p.pl) (rrm0.run modelStore p.pl) := by
  have ep := addCells_mapStore em (p.pl.x, p.pl.y)
  have hstm := (addCells_fresh em).2.2
  refine ⟨_, ep, core_mapStore _ rrm0, rfl, (addCells_fresh ep).1, run_sim (storeSim c) p.pl ⟨rfl, ?_, ?_, rfl⟩ fun k hk => hs.valid (hvalid k hk)⟩
  · show SyncR c (p.pl.x, p.pl.y) rrm0.store
    rw [hstm]; exact ⟨hs.x, hs.y⟩
  · intro l hl d hd
    obtain ⟨n, hn⟩ := List.getElem?_of_mem hl
    rw [(addCells_fresh em).1.empty n l hn] at hd
    cases hd

/-- `writeback()` from models that differ from those of `p` on the registered cells only: the placement gets the
write-back of the best leaf when there was one and is untouched otherwise; the object is in sync again, is what
replaying the logged write-back gives, and without a better leaf is `p` itself -/
theorem writeback_spec {c : Circuit} {p q : Placer} (hs : Sync c p) {rr : RowReord (IncrNet.Model × IncrNet.Model)}
    (hX : SyncX c ({ p with xt := rr.store.1, yt := rr.store.2 } : Placer) (· ∈ rr.cells))
    (hv : ∀ k ∈ rr.cells, p.pl.validCell k) (e : p.writeback rr = .ok q) :
    Sync c q ∧ (if rr.improvement then p.pl.reorderWriteback rr.cells rr.bestRegions else .ok p.pl) = .ok q.pl ∧
    p.run (if rr.improvement then [Op.reorder rr.cells rr.bestRegions] else []) = .ok q ∧
    (rr.improvement = false → q = p) := by
  unfold Placer.writeback at e
  by_cases himp : rr.improvement = true
  · rw [if_pos himp] at e ⊢
    obtain ⟨e1, hsq⟩ := writeback_eq hs hX rfl e
    exact ⟨hsq, (reorderWriteback_sync hs e1).2, by simp only [if_pos himp, Placer.run, Placer.step, e1],
      fun h => absurd (himp.symm.trans h) nofun⟩
  · rw [if_neg himp, restore_eq hs hX rfl hv] at e
    cases e
    exact ⟨hs, if_neg himp, by rw [if_neg himp]; rfl, fun _ => rfl⟩

/-- `runReorderingOnCells` on the real object.  `p` is in sync (the object reached by any history from
its construction on `c`: `reached_sync`); the registered cells are distinct valid cells.  Then the pass on the
two incremental net models returns what the pass on the coordinate vectors returns for the real objective
`circuitValue c`; the object is in sync again; the logged write-back replays to it; and when no leaf was
better the object is *equal* to the one before the pass. -/
theorem reorderWindow_placer (c : Circuit) (p q : Placer) (w : List Int) (ops : List Op) (info : WindowInfo)
    (hs : Sync c p) (e : p.reorderWindow w = .ok (q, ops, info))
    (hreg : info.cells.Nodup ∧ ∀ k ∈ info.cells, p.pl.validCell k) :
    p.pl.reorderWindow (circuitValue c) w = .ok q.pl ∧ Sync c q ∧ p.run ops = .ok q ∧
    (info.improvement = false → q = p ∧ ops = []) ∧ info.fuelOut = false ∧ info.valueAfter = q.value ∧
    ∃ rr0 : RowReord PS, addCells p.pl (RowReord.new (p.pl.x, p.pl.y)) w = .ok rr0 ∧
      info.nbLeaves = (windowLeaves (circuitValue c) p.pl rr0).length ∧
      info.bestVal = (rr0.run (pureStore (circuitValue c)) p.pl).bestVal ∧
      info.improvement = (rr0.run (pureStore (circuitValue c)) p.pl).improvement ∧
      ∀ leaf ∈ windowLeaves (circuitValue c) p.pl rr0, FaithfulLeaf (circuitValue c) p.pl leaf := by
  unfold Placer.reorderWindow at e
  split at e
  · cases e
  · rename_i rrm0 em
    split at e
    · cases e
    · rename_i q' eq'
      cases e
      -- the registered cells are those of the report, up to the sort
      have hreg : (rrm0.run modelStore p.pl).cells.Nodup ∧ ∀ k ∈ (rrm0.run modelStore p.pl).cells, p.pl.validCell k :=
        hreg
      have hperm := sortDesc_perm rrm0.cells
      have hcells : (rrm0.run modelStore p.pl).cells = sortDesc rrm0.cells := run_cells modelStore p.pl rrm0
      have hvalid : ∀ k ∈ rrm0.cells, p.pl.validCell k := fun k hk => hreg.2 k (hcells ▸ hperm.mem_iff.2 hk)
      obtain ⟨rrp0, ep, hcore0, hstp, hf, hsim⟩ := window_lockstep c p hs w rrm0 em hvalid
      have hcells0 : rrp0.cells = rrm0.cells := (core_fields hcore0).2.1
      have hn : rrp0.cells.Nodup := by rw [hcells0]; exact hperm.nodup (hcells ▸ hreg.1)
      have hnn : ∀ k ∈ rrp0.cells, 0 ≤ k := fun k hk => (hs.valid (hvalid k (hcells0 ▸ hk))).1
      obtain ⟨g1, g2, -, -, g5, g6, g7, g8, g10, g11, -⟩ := core_fields hsim.core
      obtain ⟨-, -, -, -, -, hframe⟩ := run_spec (circuitValue c) p.pl rrp0 hf hn hnn hstp
      obtain ⟨-, hfaith, hfuel, -⟩ := reorderWindow_decision (circuitValue c) p.pl w rrp0 ep hn hnn
      -- the models the enumeration leaves differ from those of `p` on the registered cells only
      obtain ⟨hsq, epl, erun, hsame⟩ := writeback_spec hs
        ⟨_, _, ⟨hsim.store.1, hsim.store.2, hs.nc⟩, fun d hd => hframe d fun hd' =>
          hd (by rw [hcells]; exact hperm.mem_iff.2 (hcells0 ▸ hd'))⟩ hreg.2 eq'
      refine ⟨?_, hsq, erun, fun (h : (rrm0.run modelStore p.pl).improvement = false) =>
        ⟨hsame h, if_neg (by rw [h]; exact Bool.false_ne_true)⟩, g11.symm.trans hfuel, rfl, rrp0, ep, ?_, g5.symm,
        g8.symm, hfaith⟩
      · unfold State.reorderWindow RowReord.bestRegions
        rw [ep]
        simp only []
        rw [g8, g2, g1, g6, g7]
        exact epl
      · show (rrm0.run modelStore p.pl).leaves.length = _
        unfold windowLeaves
        rw [List.length_reverse, g10]

end ColoVerif.DetPlace
