import ColoVerif.Proofs.TranspSsp2Nonneg
/-
The lazy priority-queue invariant of the solver (`QInv`, `QRow`): for a full sink `i` and every other sink
`d`, `queues_[i][d]` is a min-heap whose elements are `(movingCost(src, i, d), src)`, containing every source
with a non-zero allocation in `i`, and whose top (if any) has a non-zero allocation.  Maintained by
`initQueues`, `updateDestQueues` (push) and `updateSinkQueues` (pop while the top is stale).  It reads the
allocations only through which entries of the row are non-zero (`QInv.congr`).
-/
namespace ColoVerif.Transp

/-- invariant without the "top is live" clause (what holds between `emplace` and `pop`) -/
structure QPre (p : Problem) (alloc : Mat) (i d : Nat) (H : Heap) : Prop where
  heap : IsHeap H
  cost : ∀ e, e ∈ H.toList → e.elt < p.nbSources ∧ e.cost = p.movingCost e.elt i d
  mem : ∀ j, j < p.nbSources → get2 alloc i j ≠ 0 → ∃ e, e ∈ H.toList ∧ e.elt = j

structure QInv (p : Problem) (alloc : Mat) (i d : Nat) (H : Heap) : Prop extends QPre p alloc i d H where
  top : 0 < H.size → get2 alloc i (hget H 0).elt ≠ 0

def QRow (p : Problem) (alloc : Mat) (qs : Queues) (i : Nat) : Prop :=
  (qs.getD i #[]).size = p.nbSinks ∧ ∀ d, d < p.nbSinks → d ≠ i → QInv p alloc i d (qget qs i d)

lemma hget_mem (H : Heap) (k : Nat) (h : k < H.size) : hget H k ∈ H.toList := by
  unfold hget
  rw [Array.getD_eq_getD_getElem?]
  simp [h]

lemma QPre.congr {p : Problem} {alloc alloc' : Mat} {i d : Nat} {H : Heap} (h : QPre p alloc i d H)
    (e : ∀ j, get2 alloc' i j ≠ 0 → get2 alloc i j ≠ 0) : QPre p alloc' i d H :=
  ⟨h.heap, h.cost, fun j hj hne => h.mem j hj (e j hne)⟩

lemma QInv.congr {p : Problem} {alloc alloc' : Mat} {i d : Nat} {H : Heap} (h : QInv p alloc i d H)
    (e : ∀ j, get2 alloc' i j ≠ 0 ↔ get2 alloc i j ≠ 0) : QInv p alloc' i d H :=
  ⟨h.toQPre.congr fun j => (e j).mp, fun h0 => (e _).mpr (h.top h0)⟩

lemma QRow.congr {p : Problem} {alloc alloc' : Mat} {qs qs' : Queues} {i : Nat} (h : QRow p alloc qs i)
    (ea : alloc'.getD i [] = alloc.getD i []) (eq : qs'.getD i #[] = qs.getD i #[]) : QRow p alloc' qs' i := by
  obtain ⟨h1, h2⟩ := h
  refine ⟨by rw [eq]; exact h1, fun d hd hne => ?_⟩
  rw [qget_row qs' qs i d eq]
  exact (h2 d hd hne).congr fun j => by rw [get2_row _ _ _ _ ea]

lemma QPre.nonempty {p : Problem} {alloc : Mat} {i d : Nat} {H : Heap} (h : QPre p alloc i d H)
    (j : Nat) (hj : j < p.nbSources) (hne : get2 alloc i j ≠ 0) : 0 < H.size := by
  obtain ⟨e, he, _⟩ := h.mem j hj hne
  have : 0 < H.toList.length := List.length_pos_of_mem he
  simpa using this

lemma popZeros_spec (p : Problem) (alloc : Mat) (i d : Nat) : ∀ (fuel : Nat) (H : Heap),
    H.size < fuel → QPre p alloc i d H → QInv p alloc i d (popZeros alloc i fuel H) := by
  intro fuel
  induction fuel with
  | zero => intro H hf; omega
  | succ fuel ih =>
    intro H hf hq
    unfold popZeros
    split
    · rename_i hs
      have : H.size = 0 := by simpa using hs
      exact ⟨hq, fun h => by omega⟩
    · rename_i hs
      have hpos : 0 < H.size := by
        have : ¬ H.size = 0 := by simpa using hs
        omega
      split
      · rename_i hnz
        exact ⟨hq, fun _ => by simpa using hnz⟩
      · rename_i hz
        have hz' : get2 alloc i (hget H 0).elt = 0 := by simpa using hz
        have hperm := heapPop_perm H hpos
        refine ih (heapPop H) (by rw [heapPop_size]; omega) ⟨heapPop_isHeap H hq.heap, ?_, ?_⟩
        · intro e he
          exact hq.cost e (hperm.subset (List.mem_cons_of_mem _ he))
        · intro j hj hne
          obtain ⟨e, he, hej⟩ := hq.mem j hj hne
          have := hperm.symm.subset he
          rcases List.mem_cons.mp this with h0 | h1
          · subst h0; rw [hej] at hz'; exact absurd hz' hne
          · exact ⟨e, h1, hej⟩

lemma updateDestQueues_eq (p : Problem) (alloc : Mat) (qs : Queues) (sink src : Nat)
    (hne : ∀ d, d < p.nbSinks → d ≠ sink → (qget qs sink d).size ≠ 0) :
    updateDestQueues p alloc qs sink src = .ok
      (if get2 alloc sink src != 0 then qs
       else qmapRow p.nbSinks sink (fun d h => heapPush h ⟨p.movingCost src sink d, src⟩) qs) := by
  unfold updateDestQueues
  split
  · rfl
  · rw [foldlM_qset sink (fun d h => heapPush h ⟨p.movingCost src sink d, src⟩), if_pos hne]

lemma qinv_makeHeap (p : Problem) (alloc : Mat) (i d : Nat) (srcs : List Nat)
    (hs : ∀ j, j ∈ srcs ↔ j < p.nbSources ∧ get2 alloc i j ≠ 0) :
    QInv p alloc i d (makeHeap (srcs.map (fun src => CostElt.mk (p.movingCost src i d) src)).toArray) := by
  have hmem : ∀ e, e ∈ (makeHeap (srcs.map (fun src => CostElt.mk (p.movingCost src i d) src)).toArray).toList ↔
      ∃ src, (src < p.nbSources ∧ get2 alloc i src ≠ 0) ∧ ⟨p.movingCost src i d, src⟩ = e := fun e => by
    simp only [(makeHeap_perm _).mem_iff, List.mem_map, hs]
  refine ⟨⟨makeHeap_isHeap _, fun e he => ?_, fun j hj hnz => ?_⟩, fun h0 => ?_⟩
  · obtain ⟨src, h1, rfl⟩ := (hmem e).mp he
    exact ⟨h1.1, rfl⟩
  · exact ⟨⟨p.movingCost j i d, j⟩, (hmem _).mpr ⟨j, ⟨hj, hnz⟩, rfl⟩, rfl⟩
  · obtain ⟨src, h1, h3⟩ := (hmem _).mp (hget_mem _ 0 h0)
    rw [← h3]; exact h1.2

lemma initQueues_row (p : Problem) (alloc : Mat) (qs : Queues) (root : Nat) (hr : root < qs.size) :
    QRow p alloc (qs.setIfInBounds root (initQueues p alloc root)) root := by
  have hrow : (qs.setIfInBounds root (initQueues p alloc root)).getD root #[] = initQueues p alloc root := by
    rw [getD_setIfInBounds, if_pos ⟨rfl, hr⟩]
  refine ⟨by rw [hrow]; simp [initQueues], fun d hd hne => ?_⟩
  have hq : qget (qs.setIfInBounds root (initQueues p alloc root)) root d =
      makeHeap (((List.range p.nbSources).filter (fun src => get2 alloc root src != 0)).map
        (fun src => CostElt.mk (p.movingCost src root d) src)).toArray := by
    unfold qget
    rw [hrow]
    have hne' : ¬ root = d := fun e => hne e.symm
    simp [initQueues, Array.getD_eq_getD_getElem?, hd, hne']
  rw [hq]
  exact qinv_makeHeap p alloc root d _ fun j => by simp

lemma QInv.push {p : Problem} {alloc alloc' : Mat} {i d src : Nat} {H : Heap} (h : QInv p alloc i d H)
    (hs : src < p.nbSources) (hsrc : get2 alloc' i src ≠ 0)
    (hrest : ∀ j, j ≠ src → get2 alloc' i j = get2 alloc i j) :
    QInv p alloc' i d (heapPush H ⟨p.movingCost src i d, src⟩) := by
  have hperm := heapPush_perm H ⟨p.movingCost src i d, src⟩
  have hnz : ∀ j, get2 alloc i j ≠ 0 → get2 alloc' i j ≠ 0 := fun j hj =>
    if ej : j = src then ej ▸ hsrc else (hrest j ej).symm ▸ hj
  refine ⟨⟨heapPush_isHeap _ _ h.heap, fun e he => ?_, fun j hj hj0 => ?_⟩, fun _ => ?_⟩
  · rcases List.mem_cons.mp (hperm.subset he) with h0 | h0
    · subst h0; exact ⟨hs, rfl⟩
    · exact h.cost e h0
  · by_cases ej : j = src
    · exact ⟨_, hperm.symm.subset List.mem_cons_self, ej.symm⟩
    · obtain ⟨e, he, hej⟩ := h.mem j hj (hrest j ej ▸ hj0)
      exact ⟨e, hperm.symm.subset (List.mem_cons_of_mem _ he), hej⟩
  · rcases heapPush_top H ⟨p.movingCost src i d, src⟩ with ⟨h0, e⟩ | e
    · rw [e]; exact hnz _ (h.top h0)
    · rw [e]; exact hsrc

/-- push stage: `updateDestQueues(snk1, sentSrc); allocations_[snk1][sentSrc] += m` -/
lemma pushStage (p : Problem) (m : Int) (alloc : Mat) (qs : Queues) (snk1 sentSrc : Nat)
    (hs : sentSrc < p.nbSources) (hlen : (alloc.getD snk1 []).length = p.nbSources)
    (hqs : snk1 < qs.size) (hrow : QRow p alloc qs snk1) (hnn : ∀ j, 0 ≤ get2 alloc snk1 j) (hm : 0 < m)
    (hne : ∀ d, d < p.nbSinks → d ≠ snk1 → 0 < (qget qs snk1 d).size) :
    ∃ qs1, updateDestQueues p alloc qs snk1 sentSrc = .ok qs1 ∧ qs1.size = qs.size ∧
      QRow p (add2 alloc snk1 sentSrc m) qs1 snk1 ∧
      ∀ d, d < p.nbSinks → d ≠ snk1 →
        0 < (qget qs1 snk1 d).size ∧
        (hget (qget qs1 snk1 d) 0).cost ≤ (hget (qget qs snk1 d) 0).cost := by
  have ha1 := get2_add2_row alloc snk1 sentSrc m (hlen ▸ hs)
  have hsrc : get2 (add2 alloc snk1 sentSrc m) snk1 sentSrc ≠ 0 := by
    rw [ha1, if_pos rfl]; have := hnn sentSrc; omega
  have hrest : ∀ j, j ≠ sentSrc → get2 (add2 alloc snk1 sentSrc m) snk1 j = get2 alloc snk1 j := fun j ej => by
    rw [ha1, if_neg ej, Int.add_zero]
  refine ⟨_, updateDestQueues_eq p alloc qs snk1 sentSrc (fun d hd hd' => Nat.ne_of_gt (hne d hd hd')), ?_⟩
  obtain ⟨hrs, hq⟩ := hrow
  by_cases hz : get2 alloc snk1 sentSrc = 0
  · have hc : (get2 alloc snk1 sentSrc != 0) = false := by simp [hz]
    simp only [hc, Bool.false_eq_true, if_false]
    obtain ⟨g1, g2, _, g4⟩ := qmapRow_spec snk1 (fun d h => heapPush h ⟨p.movingCost sentSrc snk1 d, sentSrc⟩) p.nbSinks qs
    refine ⟨g1, ⟨by rw [g2, hrs], fun d hd hd' => ?_⟩, fun d hd hd' => ?_⟩
    · rw [g4 d, if_pos ⟨hd, hd', hqs, hrs ▸ hd⟩]
      exact (hq d hd hd').push hs hsrc hrest
    · rw [g4 d, if_pos ⟨hd, hd', hqs, hrs ▸ hd⟩]
      exact ⟨by rw [heapPush_size]; omega, isHeap_top_le _ (heapPush_isHeap _ _ (hq d hd hd').heap) _
        ((heapPush_perm _ _).symm.subset (List.mem_cons_of_mem _ (hget_mem _ 0 (hne d hd hd'))))⟩
  · have hc : (get2 alloc snk1 sentSrc != 0) = true := by simp [hz]
    simp only [hc, if_true]
    refine ⟨trivial, ⟨hrs, fun d hd hd' => (hq d hd hd').congr fun j => ?_⟩,
      fun d hd hd' => ⟨hne d hd hd', le_refl _⟩⟩
    by_cases ej : j = sentSrc
    · rw [ej]; exact iff_of_true hsrc hz
    · rw [hrest j ej]

/-- pop stage: `allocations_[snk1][newSrc] -= m; updateSinkQueues(snk1, newSrc)` -/
lemma popStage (p : Problem) (m : Int) (a1 : Mat) (qs1 : Queues) (snk1 newSrc : Nat)
    (hl : newSrc < (a1.getD snk1 []).length)
    (hqs : snk1 < qs1.size) (hrow : QRow p a1 qs1 snk1) (hnz : get2 a1 snk1 newSrc ≠ 0) :
    (updateSinkQueues p (add2 a1 snk1 newSrc (-m)) qs1 snk1 newSrc).size = qs1.size ∧
    QRow p (add2 a1 snk1 newSrc (-m)) (updateSinkQueues p (add2 a1 snk1 newSrc (-m)) qs1 snk1 newSrc) snk1 := by
  have hrest : ∀ j, j ≠ newSrc → get2 (add2 a1 snk1 newSrc (-m)) snk1 j = get2 a1 snk1 j := fun j ej => by
    rw [get2_add2_row a1 snk1 newSrc (-m) hl, if_neg ej, Int.add_zero]
  obtain ⟨hrs, hq⟩ := hrow
  rw [updateSinkQueues_eq]
  by_cases hz : get2 (add2 a1 snk1 newSrc (-m)) snk1 newSrc = 0
  · have hc : (get2 (add2 a1 snk1 newSrc (-m)) snk1 newSrc != 0) = false := by simp [hz]
    simp only [hc, Bool.false_eq_true, if_false]
    obtain ⟨g1, g2, _, g4⟩ := qmapRow_spec snk1
      (fun _ h => popZeros (add2 a1 snk1 newSrc (-m)) snk1 (h.size + 1) h) p.nbSinks qs1
    refine ⟨g1, by rw [g2, hrs], fun d hd hd' => ?_⟩
    rw [g4 d, if_pos ⟨hd, hd', hqs, by rw [hrs]; exact hd⟩]
    refine popZeros_spec p _ snk1 d _ _ (by omega) ((hq d hd hd').toQPre.congr fun j hj => ?_)
    by_cases ej : j = newSrc
    · rw [ej]; exact hnz
    · rwa [hrest j ej] at hj
  · have hc : (get2 (add2 a1 snk1 newSrc (-m)) snk1 newSrc != 0) = true := by simp [hz]
    simp only [hc, if_true]
    refine ⟨trivial, hrs, fun d hd hd' => (hq d hd hd').congr fun j => ?_⟩
    by_cases ej : j = newSrc
    · rw [ej]; exact iff_of_true hz hnz
    · rw [hrest j ej]

end ColoVerif.Transp
