import ColoVerif.Model.Checked
import ColoVerif.Proofs.CheckedSimp
/-
The checked arithmetic of C07 (core Lean only): a check succeeds on a value that fits, interval
arithmetic by which the fit follows from the ranges of the operands, and the simp set `checked`
by which a checked twin is run on values that fit.
-/
namespace ColoVerif.Checked

/-- 2^22: the C07 magnitude -/
notation "M22" => (4194304 : Int)

theorem chk32_ok {s : String} {v : Int} (h : fitsInt32 v) : chk32 s v = .ok v := by
  simp [chk32, h]

theorem chk64_ok {s : String} {v : Int} (h : fitsInt64 v) : chk64 s v = .ok v := by
  simp [chk64, h]

theorem chk32_ok' {s : String} {v : Int} (h1 : -2147483648 ≤ v) (h2 : v ≤ 2147483647) :
    chk32 s v = .ok v := chk32_ok ⟨h1, h2⟩

theorem chk64_ok' {s : String} {v : Int} (h1 : -9223372036854775808 ≤ v) (h2 : v ≤ 9223372036854775807) :
    chk64 s v = .ok v := chk64_ok ⟨h1, h2⟩

theorem addI32_ok {s : String} {a b : Int} (h : -2147483648 ≤ a + b ∧ a + b ≤ 2147483647) :
    addI32 s a b = .ok (a + b) := chk32_ok h

theorem subI32_ok {s : String} {a b : Int} (h : -2147483648 ≤ a - b ∧ a - b ≤ 2147483647) :
    subI32 s a b = .ok (a - b) := chk32_ok h

theorem addI64_ok {s : String} {a b : Int}
    (h : -9223372036854775808 ≤ a + b ∧ a + b ≤ 9223372036854775807) :
    addI64 s a b = .ok (a + b) := chk64_ok h

theorem mulI64_ok {s : String} {a b : Int}
    (h : -9223372036854775808 ≤ a * b ∧ a * b ≤ 9223372036854775807) :
    mulI64 s a b = .ok (a * b) := chk64_ok h

theorem assertC_true (asr : Bool) (s : String) {c : Bool} (h : c = true) : assertC asr s c = .ok () := by
  simp [assertC, h]

theorem assertC_off (s : String) (c : Bool) : assertC false s c = .ok () := by
  simp [assertC]

/-! Interval arithmetic over variables.  A range is a conjunction `lo ≤ v ∧ v ≤ hi`; when the ends
are literals, the side conditions of `chk32_between`/`chk64_between` are closed and are decided by
evaluation, so that a checked operation on ranged operands needs no arithmetic reasoning. -/

theorem add_between {a b la ha lb hb : Int} (h1 : la ≤ a ∧ a ≤ ha) (h2 : lb ≤ b ∧ b ≤ hb) :
    la + lb ≤ a + b ∧ a + b ≤ ha + hb :=
  ⟨Int.add_le_add h1.1 h2.1, Int.add_le_add h1.2 h2.2⟩

theorem sub_between {a b la ha lb hb : Int} (h1 : la ≤ a ∧ a ≤ ha) (h2 : lb ≤ b ∧ b ≤ hb) :
    la - hb ≤ a - b ∧ a - b ≤ ha - lb :=
  ⟨Int.sub_le_sub h1.1 h2.2, Int.sub_le_sub h1.2 h2.1⟩

theorem neg_between {a la ha : Int} (h : la ≤ a ∧ a ≤ ha) : -ha ≤ -a ∧ -a ≤ -la :=
  ⟨Int.neg_le_neg h.2, Int.neg_le_neg h.1⟩

theorem natAbs_between {a A : Int} (h : -A ≤ a ∧ a ≤ A) : (0 : Int) ≤ a.natAbs ∧ (a.natAbs : Int) ≤ A := by
  omega

theorem mul_between {a c A C : Int} (ha : -A ≤ a ∧ a ≤ A) (hc : 0 ≤ c ∧ c ≤ C) :
    -(A * C) ≤ a * c ∧ a * c ≤ A * C := by
  have hA : 0 ≤ A := by omega
  have h2 : A * c ≤ A * C := Int.mul_le_mul_of_nonneg_left hc.2 hA
  constructor
  · have h1 : -A * c ≤ a * c := Int.mul_le_mul_of_nonneg_right ha.1 hc.1
    rw [Int.neg_mul] at h1
    exact Int.le_trans (Int.neg_le_neg h2) h1
  · exact Int.le_trans (Int.mul_le_mul_of_nonneg_right ha.2 hc.1) h2

theorem mul_between_nonneg {a c A C : Int} (ha : 0 ≤ a ∧ a ≤ A) (hc : 0 ≤ c ∧ c ≤ C) :
    0 ≤ a * c ∧ a * c ≤ A * C :=
  ⟨Int.mul_nonneg ha.1 hc.1, Int.le_trans (Int.mul_le_mul_of_nonneg_right ha.2 hc.1)
    (Int.mul_le_mul_of_nonneg_left hc.2 (Int.le_trans ha.1 ha.2))⟩

theorem between_mono {v lo hi lo' hi' : Int} (h : lo ≤ v ∧ v ≤ hi) (hl : lo' ≤ lo := by decide)
    (hh : hi ≤ hi' := by decide) : lo' ≤ v ∧ v ≤ hi' :=
  ⟨Int.le_trans hl h.1, Int.le_trans h.2 hh⟩

theorem chk32_between {s : String} {v lo hi : Int} (h : lo ≤ v ∧ v ≤ hi)
    (hl : -2147483648 ≤ lo := by decide) (hh : hi ≤ 2147483647 := by decide) : chk32 s v = .ok v :=
  chk32_ok (between_mono h hl hh)

theorem chk64_between {s : String} {v lo hi : Int} (h : lo ≤ v ∧ v ≤ hi)
    (hl : -9223372036854775808 ≤ lo := by decide) (hh : hi ≤ 9223372036854775807 := by decide) :
    chk64 s v = .ok v :=
  chk64_ok (between_mono h hl hh)

theorem addI32_between {site : String} {a b lo hi : Int} (h : lo ≤ a + b ∧ a + b ≤ hi)
    (hl : -2147483648 ≤ lo := by decide) (hh : hi ≤ 2147483647 := by decide) :
    addI32 site a b = .ok (a + b) := chk32_between h hl hh

theorem extentI32_ok {lo hi M : Int} (h : -M ≤ lo ∧ lo ≤ hi ∧ hi ≤ M) (hM : 2 * M ≤ 2147483647) :
    (∀ s, chk32 s (hi - lo) = .ok (hi - lo)) ∧ 0 ≤ hi - lo ∧ hi - lo ≤ 2 * M :=
  ⟨fun _ => chk32_ok' (by omega) (by omega), by omega, by omega⟩

theorem succI32_ok (site : String) (k : Nat) (hk : k + 1 ≤ 2147483647) :
    addI32 site (k : Int) 1 = .ok (((k + 1 : Nat) : Int)) :=
  addI32_ok ⟨Int.le_trans (by decide) (Int.natCast_nonneg (k + 1)), Int.ofNat_le.2 hk⟩

theorem levelDownC_ok (site : String) (lvl : Nat) (hl : 1 ≤ lvl) (hn : lvl ≤ 2147483647) :
    subI32 site (lvl : Int) 1 = .ok (((lvl - 1 : Nat) : Int)) := by
  rw [Int.natCast_sub hl]
  exact subI32_ok ⟨Int.le_trans (by decide) (Int.sub_nonneg_of_le (Int.ofNat_le.2 hl)),
    Int.le_trans (Int.sub_le_self _ Int.one_nonneg) (Int.ofNat_le.2 hn)⟩

theorem subI64_ok' {s : String} {a b : Int}
    (h : -9223372036854775808 ≤ a - b ∧ a - b ≤ 9223372036854775807) :
    subI64 s a b = .ok (a - b) := chk64_ok h

theorem tdiv_bounds {a n e : Int} (ha : 0 ≤ a) (hn : 0 < n) (hae : a ≤ e * n) :
    0 ≤ Int.tdiv a n ∧ Int.tdiv a n ≤ e := by
  rw [Int.tdiv_eq_ediv_of_nonneg ha]
  exact ⟨Int.ediv_nonneg ha (by omega), Int.ediv_le_of_le_mul hn hae⟩

/-! Running a checked twin.  `simp only [fC, f, checked]` unfolds every typed primitive to the range check
on its mathematical value, rewrites a check that is known to succeed to `.ok` of the value, and lets the
sequencing (`andThen`, `>>=`, a `match` on the result) go on with that value.  That a check succeeds is
handed in as an explicit term `chk32_between <range of the operands>` where the ranges have literal ends, or
is left to `(disch := omega)`, through `chk32_ok'` / `chk64_ok'`, where the bounds relate variables. -/

@[checked] theorem andThen_ok {α β : Type} (a : α) (f : α → Except Fault β) : andThen (.ok a) f = f a := rfl

@[checked] theorem ok_bind {ε α β : Type} (a : α) (f : α → Except ε β) : (Except.ok a >>= f) = f a := rfl

@[checked] theorem pure_eq_ok {ε α : Type} (a : α) : (pure a : Except ε α) = .ok a := rfl

attribute [checked] addI32 subI32 mulI32 negI32 absI32 addI64 subI64 mulI64 narrowI32 chk32_ok' chk64_ok' assertC_off

@[checked] theorem assertC_of {p : Prop} [Decidable p] (asr : Bool) (s : String) (h : p) :
    assertC asr s (decide p) = .ok () := assertC_true asr s (decide_eq_true h)

@[checked] theorem indexC_nat (site : String) (lim : List Int) (k : Nat) (hk : k < lim.length) :
    indexC site lim (k : Int) = .ok (lim.getD k 0) := by
  simp [indexC, hk]

@[checked] theorem divI64_ok' {s : String} {a b : Int} (hb : ¬ b = 0)
    (h : -9223372036854775808 ≤ Int.tdiv a b ∧ Int.tdiv a b ≤ 9223372036854775807) :
    divI64 s a b = .ok (Int.tdiv a b) := by
  unfold divI64
  rw [if_neg hb]
  exact chk64_ok h

end ColoVerif.Checked
