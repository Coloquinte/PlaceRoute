/-
The model's `std::sort` / `std::stable_sort` calls are insertion sorts `l.foldr ins []`, each over its own
comparison: whatever the comparison, the result is a permutation of the input (so membership, length and
absence of duplicates are read off `List.Perm`), and it is sorted by every transitive relation the comparison
decides.  An `ins` written with `if` has the shape the lemmas ask for by `ite_eq_or_eq`.
-/
namespace ColoVerif

theorem ite_eq_or_eq {α : Type} (c : Prop) [Decidable c] (x y : α) : ite c x y = x ∨ ite c x y = y :=
  (Decidable.em c).elim (fun hc => Or.inl (if_pos hc)) (fun hc => Or.inr (if_neg hc))

section
variable {α : Type} (ins : α → List α → List α) (h0 : ∀ a, ins a [] = [a])
  (h : ∀ a b bs, ins a (b :: bs) = b :: ins a bs ∨ ins a (b :: bs) = a :: b :: bs)
include h0 h

theorem insert_perm (a : α) (l : List α) : (ins a l).Perm (a :: l) := by
  induction l with
  | nil => rw [h0]
  | cons b bs ih =>
    rcases h a b bs with e | e
    · rw [e]; exact (ih.cons b).trans (List.Perm.swap a b bs)
    · rw [e]

theorem foldr_insert_perm (l : List α) : (l.foldr ins []).Perm l := by
  induction l with
  | nil => exact List.Perm.refl _
  | cons a l ih => exact (insert_perm ins h0 h a _).trans (ih.cons a)

end

/-- an insertion that passes `b` only when `R b a` and stops before `b` only when `R a b` keeps a list sorted by
a transitive `R` sorted -/
theorem insert_pairwise {α : Type} (ins : α → List α → List α) (R : α → α → Prop)
    (tr : ∀ a b c, R a b → R b c → R a c) (h0 : ∀ a, ins a [] = [a])
    (h : ∀ a b bs, (ins a (b :: bs) = b :: ins a bs ∧ R b a) ∨ (ins a (b :: bs) = a :: b :: bs ∧ R a b))
    (a : α) (l : List α) (hl : l.Pairwise R) : (ins a l).Pairwise R := by
  induction l with
  | nil => rw [h0]; exact List.pairwise_singleton R a
  | cons b bs ih =>
    obtain ⟨hb, hbs⟩ := List.pairwise_cons.mp hl
    rcases h a b bs with ⟨e, r⟩ | ⟨e, r⟩
    · rw [e]
      refine List.pairwise_cons.mpr ⟨fun y hy => ?_, ih hbs⟩
      rcases List.mem_cons.mp ((insert_perm ins h0 (fun a b bs => (h a b bs).imp And.left And.left)
        a bs).mem_iff.mp hy) with rfl | hy
      · exact r
      · exact hb y hy
    · rw [e]
      exact List.pairwise_cons.mpr ⟨fun y hy => (List.mem_cons.mp hy).elim (fun e => e ▸ r)
        fun hy => tr _ _ _ r (hb y hy), hl⟩

theorem foldr_insert_pairwise {α : Type} (ins : α → List α → List α) (R : α → α → Prop)
    (tr : ∀ a b c, R a b → R b c → R a c) (h0 : ∀ a, ins a [] = [a])
    (h : ∀ a b bs, (ins a (b :: bs) = b :: ins a bs ∧ R b a) ∨ (ins a (b :: bs) = a :: b :: bs ∧ R a b))
    (l : List α) : (l.foldr ins []).Pairwise R := by
  induction l with
  | nil => exact List.Pairwise.nil
  | cons a l ih => exact insert_pairwise ins R tr h0 h a _ ih

end ColoVerif
