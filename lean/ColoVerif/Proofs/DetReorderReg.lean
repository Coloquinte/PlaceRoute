import ColoVerif.Model.DetReorderPass
import ColoVerif.Proofs.DetPlaceLegal
import ColoVerif.Proofs.InsertionSort
/-!
Which cells `RowReordering::addCells` registers, and which windows / rows `runReordering` hands to it.  `addCells` is
a scan of the window that does not look at the object (`regScan`) followed by `RowReord.start` on what the scan
returns (`addCells_eq`).  A maximal run of window cells is reached from its start through window cells only, in
strictly increasing x, and two runs do not meet (`reg_path_seg`, `RegSeg.start_unique`).  `rowCells(rows)` of
distinct valid rows are distinct valid placed cells of those rows, and every window is a sublist of them
(`rowCellsSorted_ok`, `reorderWindows_ok`).
-/
namespace ColoVerif.DetPlace
open State

/-- `l` is the list of cells met from `c` by following `next` up to (excluding) the first `stop` -/
def RegPath (s : State) (stop : Int) : Int → List Int → Prop
  | c, [] => c = stop
  | c, d :: l => d = c ∧ c ≠ stop ∧ c ≠ -1 ∧ RegPath s stop (s.next c) l

/-- `runEnd` walks a path of window cells up to the first cell outside the window; the path is shorter than the fuel,
so the same fuel lets `cellsUntil` walk it again -/
theorem reg_runEnd_path (s : State) {w : List Int} (hw : ∀ c ∈ w, c ≠ -1) : ∀ (fuel : Nat) (c cn : Int),
    runEnd s w fuel c = .ok cn → cn ∉ w ∧ ∃ l, RegPath s cn c l ∧ (∀ d ∈ l, d ∈ w) ∧ l.length < fuel
  | 0, _, _, e => by simp [runEnd] at e
  | fuel + 1, c, cn, e => by
    unfold runEnd at e
    split at e
    · rename_i hc
      have hc : c ∈ w := by simpa using hc
      obtain ⟨hcn, l, p, hl, hf⟩ := reg_runEnd_path s hw fuel _ _ e
      exact ⟨hcn, c :: l, ⟨rfl, fun e => hcn (e ▸ hc), hw c hc, p⟩, List.forall_mem_cons.2 ⟨hc, hl⟩, Nat.succ_lt_succ hf⟩
    · rename_i hc
      cases e
      exact ⟨by simpa using hc, [], rfl, nofun, Nat.succ_pos _⟩

theorem reg_cellsUntil_ok (s : State) (stop : Int) : ∀ (fuel : Nat) (c : Int) (l : List Int),
    RegPath s stop c l → l.length < fuel → s.cellsUntil stop fuel c = .ok l
  | 0, _, _, _, h => absurd h (Nat.not_lt_zero _)
  | fuel + 1, c, [], p, _ => by unfold State.cellsUntil; exact if_pos p
  | fuel + 1, c, d :: l, ⟨e, h1, h2, p⟩, h => by
    unfold State.cellsUntil
    rw [if_neg h1, if_neg h2, reg_cellsUntil_ok s stop fuel _ l p (Nat.lt_of_succ_lt_succ h), e]

theorem reg_path_end_site {s : State} (h : Inv s) {q stop : Int} : ∀ (l : List Int) (c : Int),
    RegPath s stop c l → Site s q c → Site s q stop
  | [], _, e, hq => e ▸ hq
  | _ :: l, _, ⟨_, _, hc, p⟩, hq => reg_path_end_site h l _ p (h.site_next hq hc)

/-- `d` is reached from `c` through window cells only (`c` and `d` included) -/
inductive RegSeg (s : State) (w : List Int) (c : Int) : Int → Prop
  | refl : c ∈ w → RegSeg s w c c
  | tail {d : Int} : RegSeg s w c d → s.next d ∈ w → RegSeg s w c (s.next d)

theorem RegSeg.mem {s : State} {w : List Int} {c d : Int} (r : RegSeg s w c d) : d ∈ w := by
  cases r with
  | refl h => exact h
  | tail _ h => exact h

theorem RegSeg.inv {s : State} {w : List Int} {c d : Int} (r : RegSeg s w c d) :
    (d = c ∧ c ∈ w) ∨ ∃ e, RegSeg s w c e ∧ s.next e ∈ w ∧ d = s.next e := by
  cases r with
  | refl h => exact Or.inl ⟨rfl, h⟩
  | tail r h => exact Or.inr ⟨_, r, h, rfl⟩

theorem RegSeg.cons {s : State} {w : List Int} {c d : Int} (hc : c ∈ w) (r : RegSeg s w (s.next c) d) :
    RegSeg s w c d := by
  induction r with
  | refl h => exact RegSeg.tail (RegSeg.refl hc) h
  | tail _ h ih => exact RegSeg.tail ih h

/-- the facts of `LinkOk`/`CellOk` used on window cells -/
structure RegWin (s : State) (w : List Int) : Prop where
  valid : ∀ c ∈ w, s.validCell c ∧ s.row c ≠ -1
  next_ok : ∀ c ∈ w, s.next c ∈ w → s.x c < s.x (s.next c) ∧ s.pred (s.next c) = c
  site : ∀ c ∈ w, s.siteNext (s.row c) (s.pred c) = c

theorem regWin_of_inv {s : State} (h : Inv s) {w : List Int} (hw : ∀ c ∈ w, s.validCell c ∧ s.row c ≠ -1) :
    RegWin s w := by
  refine ⟨hw, fun c hc hn => ?_, fun c hc => h.siteNext_pred (hw c hc).1 (hw c hc).2⟩
  obtain ⟨vc, pc⟩ := hw c hc
  have L := (h.link vc).ofNext pc (validCell_ne (hw _ hn).1)
  have := h.placed_width vc pc
  exact ⟨by omega, L.2.2.2⟩

/-- a run start determines its segment -/
theorem RegSeg.start_unique {s : State} {w : List Int} (W : RegWin s w) {c c' d : Int}
    (hc : s.pred c ∉ w) (hc' : s.pred c' ∉ w) (r : RegSeg s w c d) (r' : RegSeg s w c' d) : c = c' := by
  induction r generalizing c' with
  | refl h =>
    rcases r'.inv with ⟨e, _⟩ | ⟨e, re, hn, e2⟩
    · exact e
    · exfalso
      have := (W.next_ok e re.mem hn).2
      rw [← e2] at this
      rw [this] at hc
      exact hc re.mem
  | tail r hn ih =>
    rename_i d
    rcases r'.inv with ⟨e, _⟩ | ⟨e, re, hn', e2⟩
    · exfalso
      have := (W.next_ok d r.mem hn).2
      rw [e] at this
      rw [this] at hc'
      exact hc' r.mem
    · have h1 := (W.next_ok d r.mem hn).2
      have h2 := (W.next_ok e re.mem hn').2
      rw [← e2, h1] at h2
      rw [← h2] at re
      exact ih hc' re

theorem reg_path_seg {s : State} {w : List Int} (W : RegWin s w) (stop : Int) : ∀ (l : List Int) (c : Int),
    RegPath s stop c l → (∀ d ∈ l, d ∈ w) →
    (∀ d ∈ l, RegSeg s w c d ∧ s.x c ≤ s.x d) ∧ l.Pairwise (fun a b => s.x a < s.x b)
  | [], _, _, _ => ⟨fun _ hd => (by cases hd), List.Pairwise.nil⟩
  | a :: l, c, p, hm => by
    obtain ⟨e, _, _, p'⟩ := p
    subst e
    have ha : a ∈ w := hm a List.mem_cons_self
    obtain ⟨ih1, ih2⟩ := reg_path_seg W stop l (s.next a) p' (fun d hd => hm d (List.mem_cons_of_mem _ hd))
    have hlt : ∀ d ∈ l, RegSeg s w a d ∧ s.x a < s.x d := by
      intro d hd
      obtain ⟨sg, xo⟩ := ih1 d hd
      have hn : s.next a ∈ w := by
        cases l with
        | nil => cases hd
        | cons b l => rw [← p'.1]; exact hm b (List.mem_cons_of_mem _ List.mem_cons_self)
      have := (W.next_ok a ha hn).1
      exact ⟨RegSeg.cons ha sg, by omega⟩
    refine ⟨?_, List.pairwise_cons.mpr ⟨fun d hd => (hlt d hd).2, ih2⟩⟩
    intro d hd
    rcases List.mem_cons.mp hd with h | h
    · rw [h]; exact ⟨RegSeg.refl ha, Int.le_refl _⟩
    · exact ⟨(hlt d h).1, Int.le_of_lt (hlt d h).2⟩

/-- the loop invariant of `addCells`: the registered cells are distinct, and each is reached through
window cells from a run start that has already been visited -/
def RegInv (s : State) (w todo : List Int) (cells : List Int) : Prop :=
  cells.Nodup ∧ ∀ d ∈ cells, ∃ c, c ∈ w ∧ c ∉ todo ∧ s.pred c ∉ w ∧ RegSeg s w c d

/-- the `RowReordering` object `addCells` hands to `run`: the regions `G`, one segment of cells per region (`bestOrder_`),
an empty `order_` / `positions_` entry per region, nothing evaluated yet -/
def RowReord.start {σ : Type} (s : State) (st : σ) (G : List RRegion) (segs : List (List Int)) (af : Bool) : RowReord σ :=
  { regions := G, cells := segs.flatten, order := G.map fun _ => [], positions := G.map fun _ => [], bestVal := llongMax,
    bestOrder := segs, bestPositions := segs.map (·.map s.x), improvement := false, store := st, leaves := [],
    fuelOut := false, assertFail := af }

/-- `addCellsLoop` without the object: the regions registered so far, their segments, the `assert` flag -/
def regScan (s : State) (w : List Int) : List Int → List RRegion → List (List Int) → Bool →
    Except Err (List RRegion × List (List Int) × Bool)
  | [], G, segs, af => .ok (G, segs, af)
  | c :: rest, G, segs, af =>
    if w.contains (s.pred c) then regScan s w rest G segs af
    else match runEnd s w (s.nCells + 1) c with
      | .error e => .error e
      | .ok cn =>
        match s.cellsBetween (s.row c) (s.pred c) cn with
        | .error e => .error e
        | .ok cs =>
          regScan s w rest (G ++ [⟨s.row c, s.boundaryAfterIn (s.row c) (s.pred c), s.boundaryBeforeIn (s.row c) cn, s.pred c, cn⟩])
            (segs ++ [cs])
            (af || !(decide (s.pred c ≠ cn ∨ s.pred c = -1)) || !(decide (s.pred c = -1 ∨ s.row (s.pred c) = s.row c))
                || !(decide (cn = -1 ∨ s.row cn = s.row c)))

theorem addCellsLoop_eq {σ : Type} (s : State) (w : List Int) (st : σ) : ∀ (todo : List Int) (G : List RRegion)
    (segs : List (List Int)) (af : Bool),
    addCellsLoop s w todo (RowReord.start s st G segs af) =
      (regScan s w todo G segs af).map fun r => RowReord.start s st r.1 r.2.1 r.2.2
  | [], _, _, _ => rfl
  | c :: rest, G, segs, af => by
    unfold addCellsLoop regScan
    split
    · exact addCellsLoop_eq s w st rest G segs af
    · cases runEnd s w (s.nCells + 1) c with
      | error e => rfl
      | ok cn =>
        simp only [addRow]
        cases s.cellsBetween (s.row c) (s.pred c) cn with
        | error e => rfl
        | ok cs =>
          simp only []
          rw [← addCellsLoop_eq s w st rest]
          simp only [RowReord.start, List.map_append, List.flatten_append, List.map_cons, List.map_nil, List.flatten_cons,
            List.flatten_nil, List.append_nil]

theorem addCells_eq {σ : Type} (s : State) (w : List Int) (st : σ) :
    addCells s (RowReord.new st) w = (regScan s w w [] [] false).map fun r => RowReord.start s st r.1 r.2.1 r.2.2 :=
  addCellsLoop_eq s w st w [] [] false

theorem reg_map_pair_snd (f : Int → Int) : ∀ l : List Int, (l.map fun c => (f c, c)).map (·.2) = l
  | [] => rfl
  | a :: l => by
    simp only [List.map_cons, reg_map_pair_snd f l]

theorem rowCellsSorted_perm (s : State) (rows : List Int) :
    (s.rowCellsSorted rows).Perm (rows.flatMap s.rowCells) := by
  unfold State.rowCellsSorted
  have := (foldr_insert_perm State.insertPair (fun _ => rfl) (fun _ _ _ => ite_eq_or_eq ..)
    ((rows.flatMap s.rowCells).map fun c => (s.x c, c))).map (·.2)
  rwa [reg_map_pair_snd] at this

theorem reg_rowCells_nodup {s : State} (h : Inv s) {r : Int} (hr : s.validRow r) : (s.rowCells r).Nodup := by
  obtain ⟨sp, pw⟩ := rowCells_spec h hr
  refine pw.imp_of_mem ?_
  intro a b ha _ hab e
  obtain ⟨va, ra⟩ := (sp a).1 ha
  have := h.placed_width va (ra ▸ validRow_ne hr)
  rw [e] at hab this
  omega

theorem reg_flatMap_rowCells {s : State} (h : Inv s) : ∀ (rows : List Int), rows.Nodup → (∀ r ∈ rows, s.validRow r) →
    (rows.flatMap s.rowCells).Nodup
  | [], _, _ => List.nodup_nil
  | r :: rs, hn, hr => by
    obtain ⟨hrr, hnr⟩ := List.nodup_cons.mp hn
    rw [List.flatMap_cons]
    refine List.nodup_append.mpr ⟨reg_rowCells_nodup h (hr r List.mem_cons_self),
      reg_flatMap_rowCells h rs hnr (fun q hq => hr q (List.mem_cons_of_mem _ hq)), ?_⟩
    intro a ha b hb eab
    subst eab
    obtain ⟨q, hq, haq⟩ := List.mem_flatMap.mp hb
    have e1 := (((rowCells_spec h (hr r List.mem_cons_self)).1 a).1 ha).2
    have e2 := (((rowCells_spec h (hr q (List.mem_cons_of_mem _ hq))).1 a).1 haq).2
    rw [← e1, e2] at hrr
    exact hrr hq

theorem rowCellsSorted_ok (s : State) (h : Inv s) (rows : List Int) (hn : rows.Nodup) (hr : ∀ r ∈ rows, s.validRow r) :
    (s.rowCellsSorted rows).Nodup ∧
    ∀ c ∈ s.rowCellsSorted rows, s.validCell c ∧ s.row c ≠ -1 ∧ s.row c ∈ rows := by
  have P := rowCellsSorted_perm s rows
  refine ⟨P.nodup_iff.mpr (reg_flatMap_rowCells h rows hn hr), fun c hc => ?_⟩
  obtain ⟨q, hq, hcq⟩ := List.mem_flatMap.mp (P.mem_iff.mp hc)
  obtain ⟨vc, rc⟩ := ((rowCells_spec h (hr q hq)).1 c).1 hcq
  exact ⟨vc, rc ▸ validRow_ne (hr q hq), rc ▸ hq⟩

theorem reg_windowsFrom_sublist (cells : List Int) (m step : Nat) : ∀ (fuel start : Nat),
    ∀ w ∈ windowsFrom cells m step fuel start, w.Sublist cells
  | 0, _, w, hw => by simp [windowsFrom] at hw
  | fuel + 1, start, w, hw => by
    unfold windowsFrom at hw
    split at hw
    · rcases List.mem_cons.mp hw with e | hw'
      · rw [e]
        exact (List.take_sublist _ _).trans (List.drop_sublist _ _)
      · exact reg_windowsFrom_sublist cells m step fuel _ w hw'
    · cases hw

theorem reorderWindows_sublist (cells : List Int) (m : Int) : ∀ w ∈ reorderWindows cells m, w.Sublist cells :=
  reg_windowsFrom_sublist cells _ _ _ _

theorem reorderWindows_ok (s : State) (h : Inv s) (rows : List Int) (hn : rows.Nodup) (hr : ∀ r ∈ rows, s.validRow r)
    (m : Int) : ∀ w ∈ reorderWindows (s.rowCellsSorted rows) m,
    w.Nodup ∧ ∀ c ∈ w, s.validCell c ∧ s.row c ≠ -1 ∧ s.row c ∈ rows := by
  intro w hw
  have sub := reorderWindows_sublist _ m w hw
  obtain ⟨nd, mem⟩ := rowCellsSorted_ok s h rows hn hr
  exact ⟨nd.sublist sub, fun c hc => mem c (sub.subset hc)⟩

end ColoVerif.DetPlace
