import ColoVerif.Proofs.LegalizeTrivialLoop
import ColoVerif.Proofs.LegalizeIdemCircuit
import ColoVerif.Proofs.ListFacts
/-
Trivial success (C01), from the loop of the Abacus pass (invariant `TSInv`) to `Legalizer::run` and
`Circuit::legalize`.  After the loop `abacusRun_of_inv` gives the normal return, and every cell is listed in a
segment, hence reported placed.  All cells being one row high, `run` is the Abacus pass on the segments themselves
with all cells in `computeCellOrder` (`run_rowhigh`); both sorts are permutations, which keeps the width sums.
-/
namespace ColoVerif.Legalize
open ColoVerif ColoVerif.RowLeg

/-- `.ok` includes that the pass's own `check()` succeeds. -/
theorem abacusRun_trivial (R : List Row) (H W : Int) (cells : List LCell) (ok : TrivOK (sortRows R) H W cells) :
    ∃ ps, abacusRun R cells = .ok ps ∧ ps.length = cells.length ∧ ∀ p ∈ ps, p.placed = true := by
  have inv := abacusLoop_invariant cells (TSInv (sortRows R) cells)
    (fun i a hi h => tsInv_step _ H W cells ok i a h hi) cells.length 0 _ (Nat.zero_add _) (tsInv_init R cells)
  rw [List.drop_zero] at inv
  obtain ⟨P, hrun, hlen, spec⟩ := abacusRun_of_inv ok.heights rfl inv.toAbInv
  refine ⟨P, hrun, hlen, fun p hp => ?_⟩
  obtain ⟨j, hj, (hget : posAt P j = p)⟩ := ListFacts.exists_getD_of_mem default hp
  obtain ⟨k, hk, hjk⟩ := inv.cover j (hlen ▸ hj)
  obtain ⟨t, htc⟩ := List.mem_iff_getElem?.mp hjk
  obtain ⟨x, _, hpx⟩ := spec k hk t j htc
  rw [← hget, hpx]

theorem sum_pos_nil : ∀ (cells : List LCell), (∀ c ∈ cells, 0 < c.w) → (cells.map (·.w)).sum ≤ 0 → cells = []
  | [], _, _ => rfl
  | c :: cs, hw, hs => by
    have h1 := hw c List.mem_cons_self
    have h2 := sum_w_nonneg cs fun d hd => hw d (List.mem_cons_of_mem _ hd)
    rw [List.map_cons, List.sum_cons] at hs
    omega

theorem run_trivial (rnd : Rat → Rat) (p : Params) (R : List Row) (H W : Int) (cells : List LCell)
    (hgood : ∀ r ∈ R, GoodSeg H r)
    (hcell : ∀ c ∈ cells, c.h = H ∧ 0 < c.w ∧ c.w ≤ W ∧ c.pol = Polarity.ANY ∧ c.torient ≠ Orient.INVALID)
    (htotal : (cells.map (·.w)).sum ≤ (R.map fun r => r.rect.width).sum - (R.length : Int) * W) :
    ∃ b2, run rnd p (Base.mk' R cells) = .ok b2 := by
  have hord := computeCellOrder_perm rnd p.ow p.oy p.oh cells
  have hperm2 : (sortRows (sortRows R)).Perm R := (sortRows_perm _).trans (sortRows_perm R)
  have hcperm : ((computeCellOrder rnd p.ow p.oy p.oh cells).map (cellAt cells)).Perm cells := by
    have := hord.map (cellAt cells)
    rw [map_cellAt_range] at this
    exact this
  have hok : TrivOK (sortRows (sortRows R)) H W ((computeCellOrder rnd p.ow p.oy p.oh cells).map (cellAt cells)) := by
    refine ⟨fun r hr => (hgood r (hperm2.mem_iff.mp hr)).2.2, fun c hc => hcell c (hcperm.mem_iff.mp hc), ?_⟩
    unfold doneW
    rw [List.take_length, ListFacts.perm_sum_int (hcperm.map (·.w)),
      ListFacts.perm_sum_int (hperm2.map fun r => r.rect.width), hperm2.length_eq]
    exact htotal
  obtain ⟨ps, hrun, hlen, hpl⟩ := abacusRun_trivial (sortRows R) H W _ hok
  -- without a segment the bound leaves no cell
  rw [run_rowhigh rnd p hgood (fun c hc => (hcell c hc).1) (by
      rintro rfl
      exact sum_pos_nil cells (fun c hc => (hcell c hc).2.1) (by simpa using htotal)), hrun]
  refine ⟨_, if_pos (List.all_eq_true.mpr fun q hq => ?_)⟩
  obtain ⟨m, hm, (hget : posAt _ m = q)⟩ := ListFacts.exists_getD_of_mem default hq
  have hm' : m < cells.length := by rw [importPos_len] at hm; simpa using hm
  have := importPos_inv (fun _ v => v.placed = true) (computeCellOrder rnd p.ow p.oy p.oh cells) ps (cells.map initPos)
    (by rw [hlen]; simp) hpl (fun o ho => hpl _ (List.of_mem_zip ho).2) m (by simpa using hm')
    (Or.inr (hord.mem_iff.mpr (List.mem_range.mpr hm')))
  rw [hget] at this
  exact this

theorem legalizeWith_trivial (rnd : Rat → Rat) (p : Params) (c : Circuit) (hp : p.check = true) (hd : DomC c)
    (hu : ∀ cl ∈ c.cells, cl.fixed = false →
      cl.pol = Polarity.ANY ∧ cl.orient ≠ Orient.INVALID ∧ Circuit.rowHeight c = some cl.placedHeight)
    (W : Int) (hW : ∀ cl ∈ c.cells, cl.fixed = false → cl.placedWidth ≤ W)
    (hsum : ((c.cells.filter fun cl => !cl.fixed).map Cell.placedWidth).sum
      ≤ (c.computeRows.map fun r => r.rect.width).sum - (c.computeRows.length : Int) * W) :
    ∃ c', legalizeWith rnd p c = .ok c' := by
  obtain ⟨⟨H, _, hH, hcl⟩, _, hx, _⟩ := hd
  have hgood := computeRows_good c H hH hx
  have hcell : ∀ lc ∈ movable c, lc.h = H ∧ 0 < lc.w ∧ lc.w ≤ W ∧ lc.pol = Polarity.ANY ∧ lc.torient ≠ Orient.INVALID := by
    intro lc hlc
    obtain ⟨cl, ⟨hmem, hf'⟩, rfl⟩ := mem_movable.mp hlc
    obtain ⟨u1, u2, u3⟩ := hu cl hmem hf'
    rw [hH] at u3
    exact ⟨(Option.some.inj u3).symm, (hcl cl hmem hf').1, hW cl hmem hf', u1, u2⟩
  have htotal : ((movable c).map (·.w)).sum
      ≤ (c.computeRows.map fun r => r.rect.width).sum - (c.computeRows.length : Int) * W := by
    have : (movable c).map (·.w) = (c.cells.filter fun cl => !cl.fixed).map Cell.placedWidth := by
      unfold movable
      rw [List.map_map]
      rfl
    rw [this]
    exact hsum
  obtain ⟨b2, hb2⟩ := run_trivial rnd p c.computeRows H W (movable c) hgood hcell htotal
  exact ⟨_, legalizeWith_of_run hp hb2⟩

end ColoVerif.Legalize
