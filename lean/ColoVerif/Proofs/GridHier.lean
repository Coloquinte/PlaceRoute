import ColoVerif.Proofs.GridDefs
import ColoVerif.Proofs.ListFacts
/-
The hierarchy built by `setupHierarchy` (`setupHierarchyHelper` of src/place_global/density_grid.cpp) is well
formed (`hierarchy_wf_lem`).  One `refine` adds a limit to limits that can be refined, and increasing limits from
`0` to `n` are at most `n + 1`, so the fuel `n` of `chain` reaches the level that cannot be refined, which is
`0, 1, …, n`; any list of levels that are each `Good` and linked by `RefStep` is a `HierOk` (`hierOk_of_levels`).
Group capacity is `Additive`; from that alone every level sums to the whole grid (`level_total_gen`) and, a bin
lying inside its parent, a coarse bin holds the sum of its children (`children_gen`).  Core Lean only.
-/
namespace ColoVerif.Grid
open ColoVerif.ListFacts

theorem ParOk.mono_succ {par : List Nat} {m : Nat} (h : ParOk par m) (i : Nat) (hi : i + 1 < par.length) :
    par.getD i 0 ≤ par.getD (i + 1) 0 := by
  rcases h.step i hi with e | e
  · exact Nat.le_of_eq e.symm
  · exact e ▸ Nat.le_succ _

theorem ParOk.mono {par : List Nat} {m : Nat} (h : ParOk par m) (i j : Nat) (hij : i ≤ j) (hj : j < par.length) :
    par.getD i 0 ≤ par.getD j 0 := by
  induction j with
  | zero => exact Nat.le_zero.1 hij ▸ Nat.le_refl _
  | succ k ih =>
    rcases Nat.eq_or_lt_of_le hij with rfl | hlt
    · exact Nat.le_refl _
    · exact Nat.le_trans (ih (Nat.le_of_lt_succ hlt) (Nat.lt_of_succ_lt hj)) (h.mono_succ k hj)

theorem ParOk.lt {par : List Nat} {m : Nat} (h : ParOk par m) (i : Nat) (hi : i < par.length) :
    par.getD i 0 < m :=
  h.last ▸ Nat.lt_succ_of_le (h.mono i (par.length - 1) (Nat.le_sub_one_of_lt hi) (Nat.sub_lt h.pos Nat.one_pos))

theorem HierOk.nbBins_top {h : Hier} {n : Nat} (hok : HierOk h n) : h.nbBins (h.nbLevels - 1) = 1 := by
  unfold Hier.nbBins; rw [hok.top]; rfl

theorem HierOk.nbBins_eq {h : Hier} {n : Nat} (hok : HierOk h n) (lvl : Nat) (hl : lvl < h.nbLevels) :
    h.nbBins lvl = (h.par lvl).length := by
  have := hok.sizes lvl hl
  unfold Hier.nbBins
  omega

/-- a strictly increasing list, one consecutive pair at a time (the recursive shape of `refineLimitsTail`) -/
theorem pairwise_lt_cons_cons {a b : Nat} {l : List Nat} :
    (a :: b :: l).Pairwise (· < ·) ↔ a < b ∧ (b :: l).Pairwise (· < ·) := by
  refine ⟨fun h => ⟨List.rel_of_pairwise_cons h List.mem_cons_self, h.of_cons⟩, fun ⟨hab, h⟩ =>
    List.pairwise_cons.2 ⟨fun x hx => ?_, h⟩⟩
  rcases List.mem_cons.1 hx with rfl | hx
  · exact hab
  · exact Nat.lt_trans hab (List.rel_of_pairwise_cons h hx)

@[simp] theorem refineLimitsTail_single (b : Nat) : refineLimitsTail [b] = [] := rfl
@[simp] theorem refineLimitsTail_nil : refineLimitsTail [] = [] := rfl
theorem refineLimitsTail_cons (b e : Nat) (rest : List Nat) :
    refineLimitsTail (b :: e :: rest) =
      if e - b ≥ 2 then (e + b) / 2 :: e :: refineLimitsTail (e :: rest)
      else e :: refineLimitsTail (e :: rest) := rfl
@[simp] theorem refineParents_single (i b : Nat) : refineParents i [b] = [] := rfl
@[simp] theorem refineParents_nil (i : Nat) : refineParents i [] = [] := rfl
theorem refineParents_cons (i b e : Nat) (rest : List Nat) :
    refineParents i (b :: e :: rest) =
      if e - b ≥ 2 then i :: i :: refineParents (i + 1) (e :: rest)
      else i :: refineParents (i + 1) (e :: rest) := rfl

theorem canRefine_cons (b e : Nat) (rest : List Nat) :
    canRefine (b :: e :: rest) = (decide (e - b > 1) || canRefine (e :: rest)) := rfl
@[simp] theorem canRefine_single (b : Nat) : canRefine [b] = false := rfl

theorem refineLimitsTail_length : ∀ (rest : List Nat) (b : Nat),
    rest.length + (canRefine (b :: rest)).toNat ≤ (refineLimitsTail (b :: rest)).length := by
  intro rest
  induction rest with
  | nil => intro b; exact Nat.le_refl 0
  | cons e rest ih =>
    intro b
    have := ih e
    rw [refineLimitsTail_cons, canRefine_cons]
    split
    · have := (decide (e - b > 1) || canRefine (e :: rest)).toNat_le
      simp only [List.length_cons]
      omega
    · rw [decide_eq_false (by omega), Bool.false_or, List.length_cons, List.length_cons]
      omega

theorem length_le_getLast : ∀ (rest : List Nat) (b n : Nat), (b :: rest).Pairwise (· < ·) → (b :: rest).getLast? = some n →
    b + rest.length ≤ n := by
  intro rest
  induction rest with
  | nil => intro b n _ h; exact Nat.le_of_eq (Option.some.inj h)
  | cons e rest ih =>
    intro b n h hl
    obtain ⟨hbe, h⟩ := pairwise_lt_cons_cons.1 h
    have := ih e n h hl
    rw [List.length_cons]
    omega

theorem eq_range'_of_not_canRefine : ∀ (rest : List Nat) (b : Nat), (b :: rest).Pairwise (· < ·) →
    canRefine (b :: rest) = false → b :: rest = List.range' b (rest.length + 1) := by
  intro rest
  induction rest with
  | nil => intro b _ _; simp
  | cons e rest ih =>
    intro b h hc
    rw [pairwise_lt_cons_cons] at h
    rw [canRefine_cons] at hc
    simp only [Bool.or_eq_false_iff, decide_eq_false_iff_not] at hc
    have he : e = b + 1 := by omega
    have := ih e h.2 hc.2
    rw [List.range'_succ, ← he, List.length_cons, ← this]

/-- What the recursion of `refine` has built from old bin `i` on: parents `P` and limits `F`, bin `x` being
`[F[x], F[x+1])`.  `c` reads the old limits of the whole level, into which the parents are indices. -/
structure RefInv (c : Nat → Nat) (i : Nat) (P F : List Nat) : Prop where
  incr : F.Pairwise (· < ·)
  sizes : P.length + 1 = F.length
  head : 0 < P.length → P.getD 0 0 = i
  nested : ∀ x, x < P.length → c (P.getD x 0) ≤ F.getD x 0 ∧ F.getD (x + 1) 0 ≤ c (P.getD x 0 + 1)
  step : ∀ x, x + 1 < P.length → P.getD (x + 1) 0 = P.getD x 0 ∨ P.getD (x + 1) 0 = P.getD x 0 + 1

/-- a new first bin `[a, e)` inside old bin `i`, in front of bins that start in old bin `i` or `i + 1` -/
theorem RefInv.cons {c : Nat → Nat} {i j a e : Nat} {P F : List Nat} (h : RefInv c j P (e :: F))
    (hj : j = i ∨ j = i + 1) (hae : a < e) (hca : c i ≤ a) (hec : e ≤ c (i + 1)) :
    RefInv c i (i :: P) (a :: e :: F) where
  incr := pairwise_lt_cons_cons.2 ⟨hae, h.incr⟩
  sizes := congrArg (· + 1) h.sizes
  head _ := rfl
  nested
    | 0, _ => ⟨hca, hec⟩
    | x + 1, hx => h.nested x (Nat.lt_of_succ_lt_succ hx)
  step
    | 0, hx => (h.head (Nat.lt_of_succ_lt_succ hx)).symm ▸ hj
    | x + 1, hx => h.step x (Nat.lt_of_succ_lt_succ hx)

/-- One pass of `refine`.  The recursion runs over a tail `b :: rest` of the old limits that starts at old bin
`i`; a bin that is cut gives two bins of parent `i`, one that is not gives one. -/
theorem refine_spec (c : Nat → Nat) : ∀ (rest : List Nat) (b i : Nat), (b :: rest).Pairwise (· < ·) →
    (∀ k, (b :: rest).getD k 0 = c (i + k)) →
    RefInv c i (refineParents i (b :: rest)) (b :: refineLimitsTail (b :: rest)) ∧
    (b :: refineLimitsTail (b :: rest)).getLast? = (b :: rest).getLast? ∧
    (refineParents i (b :: rest)).getLast? = (List.range' i rest.length).getLast? := by
  intro rest
  induction rest with
  | nil =>
    exact fun b i _ _ => ⟨⟨List.pairwise_singleton _ _, rfl, fun h => absurd h (Nat.lt_irrefl 0),
      fun x hx => absurd hx (Nat.not_lt_zero x), fun x hx => absurd hx (Nat.not_lt_zero _)⟩, rfl, rfl⟩
  | cons e rest ih =>
    intro b i h hc
    obtain ⟨hbe, h⟩ := pairwise_lt_cons_cons.1 h
    obtain ⟨ihI, ihL, ihT⟩ := ih e (i + 1) h fun k => by
      rw [show i + 1 + k = i + (k + 1) by omega, ← hc (k + 1), List.getD_cons_succ]
    have hT : (i :: refineParents (i + 1) (e :: rest)).getLast? =
        (List.range' i (e :: rest).length).getLast? := by
      rw [List.length_cons, List.range'_succ, List.getLast?_cons, List.getLast?_cons, ihT]
    obtain rfl : b = c i := hc 0
    obtain rfl : e = c (i + 1) := hc 1
    rw [refineParents_cons, refineLimitsTail_cons]
    split
    · have hm : c i < (c (i + 1) + c i) / 2 ∧ (c (i + 1) + c i) / 2 < c (i + 1) := by omega
      exact ⟨(ihI.cons (Or.inr rfl) hm.2 (Nat.le_of_lt hm.1) (Nat.le_refl _)).cons (Or.inl rfl) hm.1
          (Nat.le_refl _) (Nat.le_of_lt hm.2),
        by simpa only [List.getLast?_cons_cons] using ihL, (List.getLast?_cons_cons ..).trans hT⟩
    · exact ⟨ihI.cons (Or.inr rfl) hbe (Nat.le_refl _) (Nat.le_refl _),
        by simpa only [List.getLast?_cons_cons] using ihL, hT⟩

/-- what one `refine` call establishes between the old (coarse) limits, the new limits and the parents -/
structure RefStep (coarse fine par : List Nat) : Prop where
  sizes : par.length + 1 = fine.length
  parOk : ParOk par (coarse.length - 1)
  nested : ∀ x, x < par.length →
    coarse.getD (par.getD x 0) 0 ≤ fine.getD x 0 ∧ fine.getD (x + 1) 0 ≤ coarse.getD (par.getD x 0 + 1) 0
  boundary : ∀ x, x + 1 < par.length → par.getD (x + 1) 0 ≠ par.getD x 0 →
    fine.getD (x + 1) 0 = coarse.getD (par.getD x 0 + 1) 0

/-- `q` = (limits, parents) of one level over `n` fine bins -/
structure Good (n : Nat) (q : List Nat × List Nat) : Prop where
  head : q.1.head? = some 0
  last : q.1.getLast? = some n
  incr : q.1.Pairwise (· < ·)
  sizes : q.2.length + 1 = q.1.length

theorem good_shape {n : Nat} (hn : 1 ≤ n) {q : List Nat × List Nat} (h : Good n q) :
    ∃ e rest, q.1 = 0 :: e :: rest := by
  obtain ⟨l, p⟩ := q
  have h1 := h.head
  have h2 := h.last
  simp only at h1 h2
  cases l with
  | nil => simp at h1
  | cons b rest =>
    simp at h1
    subst h1
    cases rest with
    | nil => simp at h2; omega
    | cons e rest => exact ⟨e, rest, rfl⟩

theorem good_refine {n : Nat} (hn : 1 ≤ n) {q : List Nat × List Nat} (h : Good n q) :
    Good n (refineLimits q.1, refineParents 0 q.1) := by
  obtain ⟨e, rest, hq⟩ := good_shape hn h
  have h2 := h.last
  have h3 := h.incr
  rw [hq] at h2 h3 ⊢
  obtain ⟨I, hL, _⟩ := refine_spec (fun k => (0 :: e :: rest).getD k 0) _ 0 0 h3 (fun k => by rw [Nat.zero_add])
  exact ⟨rfl, hL.trans h2, I.incr, I.sizes⟩

theorem refStep {n : Nat} (hn : 1 ≤ n) {q : List Nat × List Nat} (h : Good n q) :
    RefStep q.1 (refineLimits q.1) (refineParents 0 q.1) := by
  obtain ⟨e, rest, hq⟩ := good_shape hn h
  have h3 := h.incr
  rw [hq] at h3 ⊢
  have hpos : 0 < (refineParents 0 (0 :: e :: rest)).length := by
    rw [refineParents_cons]; split <;> exact Nat.succ_pos _
  obtain ⟨I, _, hT⟩ := refine_spec (fun k => (0 :: e :: rest).getD k 0) _ 0 0 h3 (fun k => by rw [Nat.zero_add])
  -- where the parent changes, the two bins meet at the limit between the two parents: both are nested
  refine ⟨I.sizes, ⟨hpos, I.head hpos, ?_, I.step⟩, I.nested, fun x hx hne =>
    Nat.le_antisymm (I.nested x (Nat.lt_of_succ_lt hx)).2 ((I.step x hx).resolve_left hne ▸ (I.nested (x + 1) hx).1)⟩
  rw [List.length_cons, List.getLast?_range', if_neg (Nat.succ_ne_zero _)] at hT
  rw [getLast?_getD hT]; simp

theorem chain_zero (l p : List Nat) : chain 0 l p = [(l, p)] := rfl
theorem chain_succ (f : Nat) (l p : List Nat) :
    chain (f + 1) l p =
      if canRefine l then (l, p) :: chain f (refineLimits l) (refineParents 0 l) else [(l, p)] := rfl

theorem chain_head (f : Nat) (l p : List Nat) (d : List Nat × List Nat) : (chain f l p).getD 0 d = (l, p) := by
  cases f with
  | zero => simp [chain_zero]
  | succ f => rw [chain_succ]; split <;> simp

theorem chain_length_pos (f : Nat) (l p : List Nat) : 0 < (chain f l p).length := by
  cases f with
  | zero => simp [chain_zero]
  | succ f => rw [chain_succ]; split <;> simp

/-- the chain ends at a level that cannot be refined, unless every unit of fuel has added a limit -/
theorem chain_last : ∀ (f : Nat) (l p : List Nat), ∃ q, (chain f l p).getLast? = some q ∧
    (canRefine q.1 = false ∨ f + l.length ≤ q.1.length)
  | 0, l, p => ⟨(l, p), rfl, Or.inr (Nat.le_of_eq (Nat.zero_add _))⟩
  | f + 1, l, p => by
    rw [chain_succ]
    split
    · next hc =>
      obtain ⟨q, h1, h2⟩ := chain_last f (refineLimits l) (refineParents 0 l)
      refine ⟨q, by rw [List.getLast?_cons, h1]; rfl, h2.imp_right fun h => ?_⟩
      cases l with
      | nil => cases hc
      | cons b rest =>
        have := refineLimitsTail_length rest b
        rw [hc] at this
        simp only [refineLimits, List.length_cons, Bool.toNat_true] at h this ⊢
        omega
    · next hc => exact ⟨_, rfl, Or.inl (by simpa using hc)⟩

/-- every level of the chain is good, and each is one `refine` of the level before it -/
theorem chain_spec {n : Nat} (hn : 1 ≤ n) (d : List Nat × List Nat) : ∀ (f : Nat) (l p : List Nat), Good n (l, p) →
    (∀ q ∈ chain f l p, Good n q) ∧
    ∀ k, k + 1 < (chain f l p).length → RefStep ((chain f l p).getD k d).1 ((chain f l p).getD (k + 1) d).1
      ((chain f l p).getD (k + 1) d).2 := by
  intro f
  induction f with
  | zero =>
    exact fun l p h => ⟨fun q hq => List.mem_singleton.1 hq ▸ h,
      fun k hk => absurd (Nat.lt_of_succ_lt_succ hk) (Nat.not_lt_zero k)⟩
  | succ f ih =>
    intro l p h
    obtain ⟨ihM, ihA⟩ := ih _ (refineParents 0 l) (good_refine hn h)
    rw [chain_succ]
    split
    · refine ⟨fun q hq => ?_, fun k hk => ?_⟩
      · rcases List.mem_cons.1 hq with rfl | hq
        · exact h
        · exact ihM q hq
      · cases k with
        | zero =>
          rw [List.getD_cons_succ, List.getD_cons_zero, chain_head]
          exact refStep hn h
        | succ k => exact ihA k (Nat.lt_of_succ_lt_succ hk)
    · exact ⟨fun q hq => List.mem_singleton.1 hq ▸ h,
        fun k hk => absurd (Nat.lt_of_succ_lt_succ hk) (Nat.not_lt_zero k)⟩

theorem good_finest {n : Nat} (hn : 1 ≤ n) {q : List Nat × List Nat} (h : Good n q) (hc : canRefine q.1 = false) :
    q.1 = List.range (n + 1) := by
  obtain ⟨e, rest, hq⟩ := good_shape hn h
  have h2 := h.last
  have h3 := h.incr
  rw [hq] at h2 h3 hc ⊢
  have := eq_range'_of_not_canRefine _ 0 h3 hc
  rw [this, List.getLast?_range'] at h2
  simp at h2
  rw [this, List.range_eq_range', ← h2]
  rfl

theorem good_start (n : Nat) (hn : 1 ≤ n) : Good n ([0, n], [0]) :=
  ⟨rfl, rfl, by simp; omega, rfl⟩

theorem firstChild_iff (par : List Nat) (i : Nat) :
    HState.firstChild par i = true ↔ (i = 0 ∨ par.getD i 0 ≠ par.getD (i - 1) 0) := by
  unfold HState.firstChild
  by_cases h0 : i = 0
  · simp [h0]
  · simp [h0]

theorem hierOk_of_levels {n : Nat} (L : List (List Nat × List Nat)) (hpos : 0 < L.length)
    (hgood : ∀ lvl, lvl < L.length → Good n (L.getD lvl ([], [])))
    (hstep : ∀ lvl, lvl + 1 < L.length →
      RefStep (L.getD (lvl + 1) ([], [])).1 (L.getD lvl ([], [])).1 (L.getD lvl ([], [])).2)
    (htop : (L.getD (L.length - 1) ([], [])).1 = [0, n]) (hfin : (L.getD 0 ([], [])).1 = List.range (n + 1)) :
    HierOk ⟨L.map Prod.fst, L.map Prod.snd⟩ n := by
  generalize hh : Hier.mk (L.map Prod.fst) (L.map Prod.snd) = h
  have hN : h.nbLevels = L.length := by subst hh; exact List.length_map _
  have hlim : ∀ lvl, h.lim lvl = (L.getD lvl ([], [])).1 := fun lvl => by
    subst hh; exact getD_map Prod.fst L lvl rfl
  have hpar : ∀ lvl, h.par lvl = (L.getD lvl ([], [])).2 := fun lvl => by
    subst hh; exact getD_map Prod.snd L lvl rfl
  have hgood : ∀ lvl, lvl < h.nbLevels → Good n (h.lim lvl, h.par lvl) := fun lvl hl => by
    rw [hlim, hpar]; exact hgood lvl (hN ▸ hl)
  have hstep : ∀ lvl, lvl + 1 < h.nbLevels → RefStep (h.lim (lvl + 1)) (h.lim lvl) (h.par lvl) := fun lvl hl => by
    rw [hlim, hlim, hpar]; exact hstep lvl (hN ▸ hl)
  have hbins : ∀ lvl, lvl + 1 < h.nbLevels → h.nbBins lvl = (h.par lvl).length := fun lvl hl => by
    rw [Hier.nbBins, ← (hstep lvl hl).sizes, Nat.add_sub_cancel]
  refine
    { len := by subst hh; simp
      pos := Nat.lt_of_lt_of_eq hpos hN.symm
      head := fun lvl h => (hgood lvl h).head
      last := fun lvl h => (hgood lvl h).last
      incr := fun lvl h => (hgood lvl h).incr
      sizes := fun lvl h => (hgood lvl h).sizes
      top := by rw [hlim, hN]; exact htop
      finest := (hlim 0).trans hfin
      parOk := fun lvl h => (hstep lvl h).parOk
      nested := fun lvl x hl hx => (hstep lvl hl).nested x (hbins lvl hl ▸ hx)
      firstStart := ?_
      lastEnd := ?_ }
  · intro lvl x hl hx hfc
    have hs := hstep lvl hl
    rw [hbins lvl hl] at hx
    show (h.lim lvl).getD x 0 = (h.lim (lvl + 1)).getD ((h.par lvl).getD x 0) 0
    cases x with
    | zero =>
      rw [hs.parOk.first, head?_getD (hgood lvl (Nat.lt_of_succ_lt hl)).head, head?_getD (hgood (lvl + 1) hl).head]
    | succ x =>
      -- a first child other than bin 0 has a parent different from its left neighbour's
      have hne : (h.par lvl).getD (x + 1) 0 ≠ (h.par lvl).getD x 0 :=
        ((firstChild_iff _ (x + 1)).1 hfc).resolve_left (Nat.succ_ne_zero x)
      rw [hs.boundary x hx hne, (hs.parOk.step x hx).resolve_left hne]
  · intro lvl x hl hx hor
    have hs := hstep lvl hl
    have hm := hbins lvl hl
    show (h.lim lvl).getD (x + 1) 0 = (h.lim (lvl + 1)).getD ((h.par lvl).getD x 0 + 1) 0
    rcases Nat.eq_or_lt_of_le (Nat.succ_le_of_lt hx) with hx1 | hx1
    · -- the last bin of a level ends at `n`, and so does the last bin of the coarser level
      have h3 := hs.parOk.last
      have hx1 : x + 1 = h.nbBins lvl := hx1
      rw [← hm, ← hx1, Nat.add_sub_cancel] at h3
      rw [h3, getLast?_getD (hgood (lvl + 1) hl).last, hx1]
      exact getLast?_getD (hgood lvl (Nat.lt_of_succ_lt hl)).last
    · rcases hor with h | h
      · exact absurd (h ▸ hx1) (Nat.lt_irrefl _)
      · exact hs.boundary x (hm ▸ hx1) h

/-- the levels of `setupHierarchy` are the chain read from its end -/
theorem hierarchy_wf_lem (n : Nat) (hn : 1 ≤ n) : HierOk (setupHierarchy n) n := by
  obtain ⟨hmem, hadj⟩ := chain_spec hn ([], []) n _ [0] (good_start n hn)
  have hpos := chain_length_pos n [0, n] [0]
  refine hierOk_of_levels (chain n [0, n] [0]).reverse (Nat.lt_of_lt_of_eq hpos List.length_reverse.symm) (fun lvl hl => ?_)
    (fun lvl hl => ?_) ?_ ?_
  · rw [List.length_reverse] at hl
    rw [getD_reverse _ _ hl]
    exact hmem _ (getD_mem _ _ _ (by omega))
  · rw [List.length_reverse] at hl
    rw [getD_reverse _ _ hl, getD_reverse _ _ (Nat.lt_of_succ_lt hl),
      show (chain n [0, n] [0]).length - 1 - lvl = (chain n [0, n] [0]).length - 1 - (lvl + 1) + 1 by omega]
    exact hadj _ (by omega)
  · rw [List.length_reverse, getD_reverse _ _ (Nat.sub_lt hpos Nat.one_pos), Nat.sub_self, chain_head]
  · obtain ⟨q, hq1, hq2⟩ := chain_last n [0, n] [0]
    have hq := hmem q (List.mem_of_getLast? hq1)
    rw [List.getLast?_eq_getElem?] at hq1
    rw [getD_reverse _ _ hpos, Nat.sub_zero, List.getD_eq_getElem?_getD, hq1]
    refine good_finest hn hq (hq2.resolve_right fun hlen => ?_)
    -- a level has at most `n + 1` limits, and the fuel `n` would have made it `n + 2`
    obtain ⟨e, rest, hs⟩ := good_shape hn hq
    have := length_le_getLast _ 0 n (hs ▸ hq.incr) (hs ▸ hq.last)
    rw [hs] at hlen
    simp only [List.length_cons] at hlen this
    omega

example : HierOk (setupHierarchy 5) 5 := hierarchy_wf_lem 5 (by decide)
example : (setupHierarchy 5).limits = [[0, 1, 2, 3, 4, 5], [0, 1, 2, 3, 5], [0, 2, 5], [0, 5]] := by decide
example : (setupHierarchy 5).parents = [[0, 1, 2, 3, 3], [0, 0, 1, 1], [0, 0], [0]] := by decide

theorem groupCapacity_split_x (g : DGrid) (x0 x1 x2 y0 y1 : Nat) (h01 : x0 ≤ x1) (h12 : x1 ≤ x2) :
    g.groupCapacity x0 x2 y0 y1 = g.groupCapacity x0 x1 y0 y1 + g.groupCapacity x1 x2 y0 y1 := by
  unfold DGrid.groupCapacity
  exact sum_range_split (fun i => ((List.range (y1 - y0)).map fun dj => g.binCapacity i (y0 + dj)).sum)
    x0 x1 x2 h01 h12

theorem groupCapacity_split_y (g : DGrid) (x0 x1 y0 y1 y2 : Nat) (h01 : y0 ≤ y1) (h12 : y1 ≤ y2) :
    g.groupCapacity x0 x1 y0 y2 = g.groupCapacity x0 x1 y0 y1 + g.groupCapacity x0 x1 y1 y2 := by
  unfold DGrid.groupCapacity
  rw [← sum_map_add]
  congr 1
  apply List.map_congr_left
  intro di _
  exact sum_range_split (fun j => g.binCapacity (x0 + di) j) y0 y1 y2 h01 h12

def Additive (G : Nat → Nat → Int) : Prop := ∀ a b c, a ≤ b → b ≤ c → G a c = G a b + G b c

theorem additive_x (g : DGrid) (y0 y1 : Nat) : Additive fun a b => g.groupCapacity a b y0 y1 :=
  fun a b c h1 h2 => groupCapacity_split_x g a b c y0 y1 h1 h2

theorem additive_y (g : DGrid) (x0 x1 : Nat) : Additive fun a b => g.groupCapacity x0 x1 a b :=
  fun a b c h1 h2 => groupCapacity_split_y g x0 x1 a b c h1 h2

theorem level_total_gen {G : Nat → Nat → Int} (hG : Additive G) (h : Hier) (n : Nat) (hok : HierOk h n)
    (lvl : Nat) (hl : lvl < h.nbLevels) :
    ((List.range (h.nbBins lvl)).map fun x => G ((h.lim lvl).getD x 0) ((h.lim lvl).getD (x + 1) 0)).sum =
      G 0 n := by
  have h1 := hok.head lvl hl
  have h2 := hok.last lvl hl
  have h3 := (hok.incr lvl hl).imp (fun {a b} (hab : a < b) => Nat.le_of_lt hab)
  rw [Hier.nbBins, range_sum_eq_pairSum]
  generalize h.lim lvl = l at h1 h2 h3
  cases l with
  | nil => cases h1
  | cons b rest =>
    cases h1
    rw [pairSum_telescope Nat.le_refl hG rest 0 h3, ← List.getLastD_cons (a := 0), List.getLastD_eq_getLast?, h2]
    rfl

theorem Additive.self {G : Nat → Nat → Int} (hG : Additive G) (a : Nat) : G a a = 0 := by
  have := hG a a a (Nat.le_refl a) (Nat.le_refl a)
  omega

/-- `x` cut off at both ends of `[a, b]` -/
def clamp (a b x : Nat) : Nat := max a (min x b)

theorem clamp_of_le {a b x : Nat} (h : x ≤ a) : clamp a b x = a :=
  Nat.max_eq_left (Nat.le_trans (Nat.min_le_left x b) h)

theorem clamp_of_ge {a b x : Nat} (hab : a ≤ b) (h : b ≤ x) : clamp a b x = b :=
  (congrArg (max a) (Nat.min_eq_right h)).trans (Nat.max_eq_right hab)

theorem clamp_of_mem {a b x : Nat} (h1 : a ≤ x) (h2 : x ≤ b) : clamp a b x = x :=
  (congrArg (max a) (Nat.min_eq_left h2)).trans (Nat.max_eq_right h1)

theorem clamp_mono (a b : Nat) {x y : Nat} (h : x ≤ y) : clamp a b x ≤ clamp a b y :=
  Nat.max_le.2 ⟨Nat.le_max_left .., Nat.le_trans
    (Nat.le_min.2 ⟨Nat.le_trans (Nat.min_le_left ..) h, Nat.min_le_right ..⟩) (Nat.le_max_right ..)⟩

theorem Additive.clamp {G : Nat → Nat → Int} (hG : Additive G) (a b : Nat) :
    Additive fun x y => G (clamp a b x) (clamp a b y) :=
  fun _ _ _ h1 h2 => hG _ _ _ (clamp_mono a b h1) (clamp_mono a b h2)

/-- The children tile their parent, from nesting alone: under the capacity cut off at the interval of `p` the whole
fine level telescopes to that interval (`level_total_gen`), the bins of `p` count in full and all others vanish. -/
theorem children_gen {G : Nat → Nat → Int} (hG : Additive G) (h : Hier) (n : Nat) (hok : HierOk h n)
    (lvl p : Nat) (hl : lvl + 1 < h.nbLevels) (hp : p < h.nbBins (lvl + 1)) :
    G ((h.lim (lvl + 1)).getD p 0) ((h.lim (lvl + 1)).getD (p + 1) 0) =
      (((List.range (h.nbBins lvl)).filter fun x => h.parent lvl x == p).map fun x =>
        G ((h.lim lvl).getD x 0) ((h.lim lvl).getD (x + 1) 0)).sum := by
  have hl0 : lvl < h.nbLevels := Nat.lt_of_succ_lt hl
  have hC : ∀ a b, a ≤ b → b ≤ h.nbBins (lvl + 1) → (h.lim (lvl + 1)).getD a 0 ≤ (h.lim (lvl + 1)).getD b 0 := by
    intro a b hab hb
    rcases Nat.eq_or_lt_of_le hab with rfl | hlt
    · exact Nat.le_refl _
    · exact Nat.le_of_lt (pairwise_getD_of_lt (hok.incr (lvl + 1) hl) 0 hlt
        (Nat.lt_of_le_of_lt hb (Nat.sub_lt (Nat.zero_lt_of_lt (Nat.add_lt_of_lt_sub hp)) Nat.one_pos)))
  have hpp := hC p (p + 1) (Nat.le_succ p) hp
  have tele := level_total_gen (hG.clamp ((h.lim (lvl + 1)).getD p 0) ((h.lim (lvl + 1)).getD (p + 1) 0)) h n hok lvl hl0
  have hn := hC (p + 1) _ hp (Nat.le_refl _)
  rw [show (h.lim (lvl + 1)).getD (h.nbBins (lvl + 1)) 0 = n from getLast?_getD (hok.last (lvl + 1) hl)] at hn
  rw [clamp_of_le (Nat.zero_le _), clamp_of_ge hpp hn] at tele
  rw [← tele, ← sum_map_filter_zero _ (fun x => h.parent lvl x == p)]
  · congr 1
    apply List.map_congr_left
    intro x hx
    obtain ⟨hx, hpx⟩ := List.mem_filter.1 hx
    obtain ⟨h1, h2⟩ := hok.nested lvl x hl (List.mem_range.1 hx)
    have hF := Nat.le_of_lt (pairwise_getD (hok.incr lvl hl0) 0 (Nat.add_lt_of_lt_sub (List.mem_range.1 hx)))
    rw [show h.parent lvl x = p from eq_of_beq hpx] at h1 h2
    rw [clamp_of_mem h1 (Nat.le_trans hF h2), clamp_of_mem (Nat.le_trans h1 hF) h2]
  · intro x hx hpx
    obtain ⟨h1, h2⟩ := hok.nested lvl x hl (List.mem_range.1 hx)
    have hF := Nat.le_of_lt (pairwise_getD (hok.incr lvl hl0) 0 (Nat.add_lt_of_lt_sub (List.mem_range.1 hx)))
    rcases Nat.lt_or_gt_of_ne (ne_of_beq_false hpx) with hlt | hgt
    · -- a bin of an earlier parent ends before `p` starts
      have := Nat.le_trans h2 (hC _ p hlt (Nat.le_of_lt hp))
      rw [clamp_of_le this, clamp_of_le (Nat.le_trans hF this)]
      exact hG.self _
    · -- a bin of a later parent starts after `p` ends
      have := Nat.le_trans (hC (p + 1) _ hgt (Nat.le_of_lt
        ((hok.parOk lvl hl).lt x (hok.nbBins_eq lvl hl0 ▸ List.mem_range.1 hx)))) h1
      rw [clamp_of_ge hpp this, clamp_of_ge hpp (Nat.le_trans this hF)]
      exact hG.self _

theorem setup_level_total_x (g : DGrid) (n : Nat) (hn : 1 ≤ n) (lvl : Nat)
    (hl : lvl < (setupHierarchy n).nbLevels) (y0 y1 : Nat) :
    ((List.range ((setupHierarchy n).nbBins lvl)).map fun x =>
        g.groupCapacity (((setupHierarchy n).lim lvl).getD x 0) (((setupHierarchy n).lim lvl).getD (x + 1) 0)
          y0 y1).sum = g.groupCapacity 0 n y0 y1 :=
  level_total_gen (additive_x g y0 y1) _ n (hierarchy_wf_lem n hn) lvl hl

example (g : DGrid) (y0 y1 : Nat) :
    g.groupCapacity 2 5 y0 y1 = g.groupCapacity 2 3 y0 y1 + g.groupCapacity 3 5 y0 y1 := by
  have := children_gen (additive_x g y0 y1) (setupHierarchy 5) 5 (hierarchy_wf_lem 5 (by decide)) 1 1
    (by decide) (by decide)
  rw [show ((List.range ((setupHierarchy 5).nbBins 1)).filter fun x => (setupHierarchy 5).parent 1 x == 1) = [2, 3]
    from by decide] at this
  exact this.trans (congrArg _ (Int.add_zero _))

end ColoVerif.Grid
