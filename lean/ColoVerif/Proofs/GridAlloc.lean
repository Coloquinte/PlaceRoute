import ColoVerif.Proofs.GridAllocTab
/-
`redistribute` keeps the allocation invariant (`allocInv_redistribute`).  The `setBinCells` loop is a fold of
writes with distinct keys both on the table (keys: the bins, distinct by `redistOk`) and on the `cellBin`
vectors (keys: the cells of the new contents, distinct because they are a permutation of what the bins held),
so `foldl_writes` describes both results.  `apply_skeleton`: whatever `redistribute` preserves is preserved by
the five operations of `Op.Skeleton`, all built from it.  `Inv` holds after the constructor (`inv_init`) and is
kept by every `Op` (`inv_apply`), hence by every operation list (`inv_run`).
-/
namespace ColoVerif.Grid

/-- the `setBinCells` loop of `redistribute` -/
def redistFold (s : HState) (zs : List ((Nat × Nat) × List Nat)) : HState :=
  zs.foldl (fun st pc => st.setBinCells pc.1.1 pc.1.2 pc.2) s

theorem applyW_append (cb : List Int) (a b : List (Nat × Int)) : applyW (applyW cb a) b = applyW cb (a ++ b) := by
  simp [applyW, List.foldl_append]

theorem redistFold_eq (zs : List ((Nat × Nat) × List Nat)) : ∀ s : HState, redistFold s zs =
    { s with
      bins := zs.foldl (fun b pc => writeBins b pc.1 pc.2) s.bins
      cbx := applyW s.cbx (zs.flatMap fun pc => pc.2.map fun c => (c, (pc.1.1 : Int)))
      cby := applyW s.cby (zs.flatMap fun pc => pc.2.map fun c => (c, (pc.1.2 : Int))) } := by
  induction zs with
  | nil => intro s; rfl
  | cons z rest ih =>
    intro s
    have := ih (s.setBinCells z.1.1 z.1.2 z.2)
    simp only [redistFold, List.foldl_cons, List.flatMap_cons, ← applyW_append] at this ⊢
    -- the two sides agree once `setBinCells` is unfolded
    exact this

theorem foldl_writeBins_shape (zs : List ((Nat × Nat) × List Nat)) : ∀ b : Bins,
    (zs.foldl (fun b pc => writeBins b pc.1 pc.2) b).length = b.length ∧
    ∀ i, ((zs.foldl (fun b pc => writeBins b pc.1 pc.2) b).getD i []).length = (b.getD i []).length := by
  induction zs with
  | nil => intro b; exact ⟨rfl, fun _ => rfl⟩
  | cons z rest ih =>
    intro b
    obtain ⟨h1, h2⟩ := ih (writeBins b z.1 z.2)
    simp only [List.foldl_cons]
    exact ⟨by rw [h1, writeBins_length], fun i => by rw [h2 i, writeBins_col_length]⟩

theorem mem_gather (s : HState) (G : List (Nat × Nat)) (c : Nat) :
    c ∈ s.gather G ↔ ∃ p, p ∈ G ∧ c ∈ s.cells p.1 p.2 :=
  List.mem_flatMap

theorem AllocInv.gather_nodup {s : HState} (h : AllocInv s) (G : List (Nat × Nat)) (hnd : G.Nodup) :
    (s.gather G).Nodup :=
  nodup_flatMap_of_inj hnd (fun _ _ => h.nodup _ _) fun _ _ _ _ c hc hc' =>
    Prod.ext (h.disjoint _ _ _ _ c hc hc').1 (h.disjoint _ _ _ _ c hc hc').2

theorem allocInv_redistFold (s : HState) (h : AllocInv s) (zs : List ((Nat × Nat) × List Nat))
    (hnd : (zs.map Prod.fst).Nodup) (hin : ∀ w ∈ zs, w.1.1 < s.nbX ∧ w.1.2 < s.nbY)
    (hperm : (zs.flatMap Prod.snd).Perm (s.gather (zs.map Prod.fst))) :
    AllocInv (redistFold s zs) := by
  have hflatNodup : (zs.flatMap Prod.snd).Nodup := (hperm.nodup_iff).mpr (h.gather_nodup _ hnd)
  -- the moved cells are those of the bins of `zs`
  have hmv : ∀ c, c ∈ zs.flatMap Prod.snd ↔ ∃ p, p ∈ zs.map Prod.fst ∧ c ∈ s.cells p.1 p.2 := fun c =>
    hperm.mem_iff.trans (mem_gather s _ c)
  have hactive : ∀ w ∈ zs, ∀ c ∈ w.2, c < s.nbCells := by
    intro w hw c hc
    obtain ⟨p, _, hcp⟩ := (hmv c).1 (List.mem_flatMap.mpr ⟨w, hw, hc⟩)
    exact ((h.covers c).mpr ⟨_, _, hcp⟩).1
  obtain ⟨hshape1, hshape2⟩ := foldl_writeBins_shape zs s.bins
  obtain ⟨hB1, hB2⟩ := foldl_writes (σ := Bins) (κ := Nat × Nat) (ν := List Nat) writeBins
    (fun b p => cellsAt b p.1 p.2) (fun b p => p.1 < b.length ∧ p.2 < (b.getD p.1 []).length)
    (fun st k v k' hk => cellsAt_writeBins st k k' v hk.1 hk.2)
    (fun st k v k' hk => by rw [writeBins_length, writeBins_col_length]; exact hk)
    zs s.bins hnd (fun w hw => by rw [h.shapeX, h.shapeY _ (hin w hw).1]; exact hin w hw)
  obtain ⟨hxl, hxa, hxn⟩ := redist_cb s.cbx (fun p => p.1) zs hflatNodup (by rw [h.cbLen.1]; exact hactive)
  obtain ⟨hyl, hya, hyn⟩ := redist_cb s.cby (fun p => p.2) zs hflatNodup (by rw [h.cbLen.2]; exact hactive)
  rw [redistFold_eq]
  generalize zs.foldl (fun b pc => writeBins b pc.1 pc.2) s.bins = B at hshape1 hshape2 hB1 hB2
  generalize applyW s.cbx _ = X at hxl hxa hxn
  generalize applyW s.cby _ = Y at hyl hya hyn
  -- a bin that is not written holds none of the moved cells
  have hkeep : ∀ p : Nat × Nat, p ∉ zs.map Prod.fst → ∀ c, c ∈ s.cells p.1 p.2 → c ∉ zs.flatMap Prod.snd := by
    intro p hG c hc hm
    obtain ⟨q, hq, hcq⟩ := (hmv c).1 hm
    have := h.disjoint _ _ _ _ c hc hcq
    exact hG ((Prod.ext this.1 this.2 : p = q) ▸ hq)
  have hnodup : ∀ p : Nat × Nat, (cellsAt B p.1 p.2).Nodup := fun p => by
    by_cases hG : p ∈ zs.map Prod.fst
    · obtain ⟨w, hw, rfl⟩ := List.mem_map.mp hG
      exact hB1 w hw ▸ (List.nodup_flatMap.mp hflatNodup).1 w hw
    · exact hB2 p hG ▸ h.nodup p.1 p.2
  have hagree : ∀ (p : Nat × Nat) (c : Nat), c ∈ cellsAt B p.1 p.2 →
      X.getD c (-1) = (p.1 : Int) ∧ Y.getD c (-1) = (p.2 : Int) := fun p c hc => by
    by_cases hG : p ∈ zs.map Prod.fst
    · obtain ⟨w, hw, rfl⟩ := List.mem_map.mp hG
      rw [hB1 w hw] at hc
      exact ⟨hxa w hw c hc, hya w hw c hc⟩
    · rw [hB2 p hG] at hc
      rw [hxn c (hkeep p hG c hc), hyn c (hkeep p hG c hc)]
      exact h.agree _ _ c hc
  have hsame : ∀ c, c ∉ zs.flatMap Prod.snd → ∀ p : Nat × Nat, c ∈ cellsAt B p.1 p.2 ↔ c ∈ s.cells p.1 p.2 := by
    intro c hc p
    by_cases hG : p ∈ zs.map Prod.fst
    · obtain ⟨w, hw, rfl⟩ := List.mem_map.mp hG
      rw [hB1 w hw]
      exact ⟨fun hcm => (hc (List.mem_flatMap.mpr ⟨w, hw, hcm⟩)).elim, fun hcm => (hc ((hmv c).2 ⟨_, hG, hcm⟩)).elim⟩
    · rw [hB2 p hG]; rfl
  exact {
    shapeX := hshape1.trans h.shapeX
    shapeY := fun i hi => (hshape2 i).trans (h.shapeY i hi)
    lvlX := h.lvlX
    lvlY := h.lvlY
    nodup := fun i j => hnodup (i, j)
    -- the vectors say where a cell lies, so it lies in one bin only
    disjoint := fun i j i' j' c hc hc' =>
      ⟨Int.ofNat.inj ((hagree (i, j) c hc).1.symm.trans (hagree (i', j') c hc').1),
        Int.ofNat.inj ((hagree (i, j) c hc).2.symm.trans (hagree (i', j') c hc').2)⟩
    covers := by
      intro c
      refine (h.covers c).trans ?_
      by_cases hm : c ∈ zs.flatMap Prod.snd
      · obtain ⟨w, hw, hcw⟩ := List.mem_flatMap.mp hm
        obtain ⟨p, _, hcp⟩ := (hmv c).1 hm
        exact ⟨fun _ => ⟨_, _, (hB1 w hw).symm ▸ hcw⟩, fun _ => ⟨_, _, hcp⟩⟩
      · exact exists_congr fun i => exists_congr fun j => (hsame c hm (i, j)).symm
    cbLen := ⟨hxl.trans h.cbLen.1, hyl.trans h.cbLen.2⟩
    agree := fun i j => hagree (i, j)
    none := by
      intro c hc
      show X.getD c (-1) = -1 ∧ Y.getD c (-1) = -1
      have hm : c ∉ zs.flatMap Prod.snd := fun hm => by
        obtain ⟨w, hw, hcw⟩ := List.mem_flatMap.mp hm
        exact hc _ _ ((hB1 w hw).symm ▸ hcw)
      rw [hxn c hm, hyn c hm]
      exact h.none c fun i j ho => hc i j ((hsame c hm (i, j)).2 ho) }

theorem allocInv_redistribute (s : HState) (h : AllocInv s) (G : List (Nat × Nat)) (contents : List (List Nat)) :
    AllocInv (s.redistribute G contents) := by
  unfold HState.redistribute
  split
  · rename_i hk
    simp only [HState.redistOk, Bool.and_eq_true, decide_eq_true_eq, List.all_eq_true, List.isPerm_iff] at hk
    obtain ⟨⟨⟨h1, h2⟩, h3⟩, h4⟩ := hk
    have hkeys : (G.zip contents).map Prod.fst = G := List.map_fst_zip (Nat.le_of_eq h3.symm)
    have hflat : (G.zip contents).flatMap Prod.snd = contents.flatten := by
      rw [List.flatMap_def, List.map_snd_zip (Nat.le_of_eq h3)]
    refine allocInv_redistFold s h _ (hkeys.symm ▸ h1) (fun w hw => h2 w.1 (hkeys ▸ List.mem_map_of_mem hw)) ?_
    rw [hkeys, hflat]; exact h4
  · exact h

theorem redistribute_eq (s : HState) (G : List (Nat × Nat)) (contents : List (List Nat)) :
    ∃ B X Y, s.redistribute G contents = { s with bins := B, cbx := X, cby := Y } := by
  unfold HState.redistribute
  split
  · exact ⟨_, _, _, redistFold_eq (G.zip contents) s⟩
  · exact ⟨_, _, _, rfl⟩

/-- the operations that only move cells among the bins of the view -/
def Op.Skeleton : Op → Prop
  | .refineX | .refineY | .coarsenX | .coarsenY => False
  | _ => True

theorem apply_skeleton {Q : HState → Prop} (hQ : ∀ s G c, Q s → Q (s.redistribute G c)) (s : HState) (h : Q s)
    (op : Op) (hop : op.Skeleton) : Q (s.apply op) := by
  have hbis : ∀ x1 y1 x2 y2 o k, Q (s.rebisectSk x1 y1 x2 y2 o k) := fun x1 y1 x2 y2 o k => by
    unfold HState.rebisectSk; split
    · exact h
    · exact hQ s _ _ h
  cases op with
  | refineX | refineY | coarsenX | coarsenY => exact hop.elim
  | rebisect x1 y1 x2 y2 o k => exact hbis ..
  | reoptimize c o k a =>
    show Q (s.reoptimizeSk c o k a)
    unfold HState.reoptimizeSk
    split
    · exact hbis ..
    · dsimp only; split
      · exact h
      · exact hQ s _ _ h
  | xTransport a => exact List.foldlRecOn _ _ h fun st hst j _ => hQ st _ _ hst
  | yTransport a => exact List.foldlRecOn _ _ h fun st hst j _ => hQ st _ _ hst
  | redistribute G c => exact hQ s G c h

theorem apply_skeleton_writes {Q : HState → Prop} (s : HState)
    (hQ : ∀ B X Y, Q { s with bins := B, cbx := X, cby := Y }) (op : Op) (hop : op.Skeleton) : Q (s.apply op) := by
  obtain ⟨B, X, Y, e⟩ := apply_skeleton (Q := fun t => ∃ B X Y, t = { s with bins := B, cbx := X, cby := Y })
    (fun t G c ⟨_, _, _, e⟩ => e ▸ redistribute_eq _ G c) s ⟨_, _, _, rfl⟩ op hop
  exact e ▸ hQ B X Y

/-- `HierOk` is carried along although no operation changes the hierarchies: `refineX/Y` and `coarsenX/Y`
need it to keep `AllocInv`. -/
structure Inv (nX nY : Nat) (s : HState) : Prop where
  alloc : AllocInv s
  hxOk : HierOk s.hx nX
  hyOk : HierOk s.hy nY

/-- what no operation touches: the hierarchies, the demands, the grid -/
def SameFrame (s t : HState) : Prop := t.hx = s.hx ∧ t.hy = s.hy ∧ t.demand = s.demand ∧ t.grid = s.grid

theorem SameFrame.trans {s t u : HState} (h1 : SameFrame s t) (h2 : SameFrame t u) : SameFrame s u :=
  ⟨h2.1.trans h1.1, h2.2.1.trans h1.2.1, h2.2.2.1.trans h1.2.2.1, h2.2.2.2.trans h1.2.2.2⟩

theorem updateCellToBin_frame (s : HState) : SameFrame s s.updateCellToBin := by
  unfold HState.updateCellToBin; exact ⟨rfl, rfl, rfl, rfl⟩

theorem updateCellToBin_static (s : HState) :
    s.updateCellToBin.hx = s.hx ∧ s.updateCellToBin.hy = s.hy :=
  ⟨(updateCellToBin_frame s).1, (updateCellToBin_frame s).2.1⟩

theorem apply_frame (s : HState) (op : Op) : SameFrame s (s.apply op) := by
  cases op with
  | refineX =>
    show SameFrame s s.refineX; unfold HState.refineX; split
    · exact ⟨rfl, rfl, rfl, rfl⟩
    · exact updateCellToBin_frame _
  | refineY =>
    show SameFrame s s.refineY; unfold HState.refineY; split
    · exact ⟨rfl, rfl, rfl, rfl⟩
    · exact updateCellToBin_frame _
  | coarsenX =>
    show SameFrame s s.coarsenX; unfold HState.coarsenX; split
    · exact updateCellToBin_frame _
    · exact ⟨rfl, rfl, rfl, rfl⟩
  | coarsenY =>
    show SameFrame s s.coarsenY; unfold HState.coarsenY; split
    · exact updateCellToBin_frame _
    · exact ⟨rfl, rfl, rfl, rfl⟩
  | _ =>
    exact apply_skeleton_writes (Q := SameFrame s) s (fun _ _ _ => ⟨rfl, rfl, rfl, rfl⟩) _ trivial

theorem inv_apply {nX nY : Nat} (s : HState) (h : Inv nX nY s) (op : Op) : Inv nX nY (s.apply op) := by
  obtain ⟨e1, e2, _, _⟩ := apply_frame s op
  refine ⟨?_, e1.symm ▸ h.hxOk, e2.symm ▸ h.hyOk⟩
  cases op with
  | refineX => exact allocInv_refineX s nX h.hxOk h.alloc
  | refineY => exact allocInv_refineY s nY h.hyOk h.alloc
  | coarsenX => exact allocInv_coarsenX s nX h.hxOk h.alloc
  | coarsenY => exact allocInv_coarsenY s nY h.hyOk h.alloc
  | _ => exact apply_skeleton (fun t G c ht => allocInv_redistribute t ht G c) s h.alloc _ trivial

theorem run_frame (ops : List Op) (s : HState) : SameFrame s (s.run ops) :=
  List.foldlRecOn (motive := SameFrame s) ops HState.apply ⟨rfl, rfl, rfl, rfl⟩
    fun t ht op _ => ht.trans (apply_frame t op)

theorem inv_init (g : DGrid) (demand : List Int) (hx : 1 ≤ g.nbX) (hy : 1 ≤ g.nbY) :
    Inv g.nbX g.nbY (HState.init g demand) := by
  have h1 := hierarchy_wf_lem g.nbX hx
  have h2 := hierarchy_wf_lem g.nbY hy
  exact ⟨allocInv_init g demand h1 h2, h1, h2⟩

theorem inv_run {nX nY : Nat} (ops : List Op) : ∀ s, Inv nX nY s → Inv nX nY (s.run ops) :=
  fun _ h => List.foldlRecOn ops HState.apply h fun t ht op _ => inv_apply t ht op

end ColoVerif.Grid
