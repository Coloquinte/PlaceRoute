import ColoVerif.Proofs.CheckedArith
import ColoVerif.Model.TetrisChecked
import ColoVerif.Proofs.LegalizeLegalTetris
/-
No-fault lemmas for the checked Tetris legalizer (C07): on the domain
(rows within ±2^22, free positions within ±2^22, cell widths in [0, 2^22], heights ≤ 2^22,
targets within ±2^29) every checked function returns `.ok` of the unbounded model's value,
and the invariants are preserved.
-/
namespace ColoVerif.Legalize
open ColoVerif.Checked

/-- bound on the targets: what `placeGlobal` can hand over (fix c07-global-out-of-range-placement
bounds the positions by 2^28 before blending) -/
local notation "T29" => (536870912 : Int)

def RowOkT (r : Row) : Prop :=
  -M22 ≤ r.rect.minX ∧ r.rect.minX ≤ r.rect.maxX ∧ r.rect.maxX ≤ M22 ∧ -M22 ≤ r.rect.minY ∧ r.rect.minY ≤ M22

/-- the range of the rows for the checked arithmetic; not `RowsOK` (LegalizeLegalRows), the geometry of the rows -/
def RowsOk (rows : List Row) : Prop := ∀ r ∈ rows, RowOkT r
def FreeOk (free : List Int) : Prop := ∀ f ∈ free, -M22 ≤ f ∧ f ≤ M22

def CellOkT (c : LCell) : Prop :=
  0 ≤ c.w ∧ c.w ≤ M22 ∧ c.h ≤ M22 ∧ -T29 ≤ c.tx ∧ c.tx ≤ T29 ∧ -T29 ≤ c.ty ∧ c.ty ≤ T29

structure TDom (t : Tetris) : Prop where
  rows : RowsOk t.rows
  free : FreeOk t.free
  rowH1 : 1 ≤ t.rowH
  rowH2 : t.rowH ≤ 2 * M22
  nonempty : t.rows ≠ []

/-- a cell of width `w` put at `x` lies inside ±2^22 -/
structure Fits (w x : Int) : Prop where
  lo : -M22 ≤ x
  hi : x + w ≤ M22

/-- an interval in which a cell of width `w` can be put: `b ≤ e`, inside ±2^22 -/
def IvOk (w : Int) (iv : Int × Int) : Prop := -M22 ≤ iv.1 ∧ iv.1 ≤ iv.2 ∧ iv.2 + w ≤ M22

/-- where the recursion over the levels of a tall cell stands: the level at `y`, the height `h` still to
cover; `y + h` stays at the top of the cell while `y` climbs by `rowH ≥ 1` -/
def LevelInRange (y h : Int) : Prop := -M22 ≤ y ∧ y ≤ 2 * M22 ∧ y + h ≤ 2 * M22 ∧ h ≤ M22

theorem RowOkT.minX_between {r : Row} (h : RowOkT r) : -M22 ≤ r.rect.minX ∧ r.rect.minX ≤ M22 :=
  ⟨h.1, Int.le_trans h.2.1 h.2.2.1⟩

theorem RowOkT.maxX_between {r : Row} (h : RowOkT r) : -M22 ≤ r.rect.maxX ∧ r.rect.maxX ≤ M22 :=
  ⟨Int.le_trans h.1 h.2.1, h.2.2.1⟩

theorem RowOkT.minY_between {r : Row} (h : RowOkT r) : -M22 ≤ r.rect.minY ∧ r.rect.minY ≤ M22 := h.2.2.2

theorem CellOkT.w_between {c : LCell} (h : CellOkT c) : 0 ≤ c.w ∧ c.w ≤ M22 := ⟨h.1, h.2.1⟩

theorem CellOkT.tx_between {c : LCell} (h : CellOkT c) : -T29 ≤ c.tx ∧ c.tx ≤ T29 := ⟨h.2.2.2.1, h.2.2.2.2.1⟩

theorem CellOkT.ty_between {c : LCell} (h : CellOkT c) : -T29 ≤ c.ty ∧ c.ty ≤ T29 := h.2.2.2.2.2

theorem Fits.x_between {w x : Int} (h : Fits w x) (hw : 0 ≤ w) : -M22 ≤ x ∧ x ≤ M22 :=
  ⟨h.lo, Int.le_trans (Int.le_add_of_nonneg_right hw) h.hi⟩

theorem Fits.end_between {w x : Int} (h : Fits w x) (hw : 0 ≤ w) : -M22 ≤ x + w ∧ x + w ≤ M22 :=
  ⟨Int.le_trans h.lo (Int.le_add_of_nonneg_right hw), h.hi⟩

theorem IvOk.snd {w : Int} {iv : Int × Int} (h : IvOk w iv) : Fits w iv.2 := ⟨Int.le_trans h.1 h.2.1, h.2.2⟩

theorem IvOk.clamp {w : Int} {iv : Int × Int} (h : IvOk w iv) (x : Int) : Fits w (clamp x iv.1 iv.2) :=
  have hc := clamp_mem x iv.1 iv.2 h.2.1
  ⟨Int.le_trans h.1 hc.1, Int.le_trans (Int.add_le_add_right hc.2 w) h.2.2⟩

theorem LevelInRange.start {y h : Int} (hy : -M22 ≤ y ∧ y ≤ M22) (hh : h ≤ M22) : LevelInRange y h :=
  ⟨hy.1, by omega, by omega, hh⟩

theorem LevelInRange.y_between {y h : Int} (hl : LevelInRange y h) : -T29 ≤ y ∧ y ≤ T29 := between_mono ⟨hl.1, hl.2.1⟩

theorem default_rowOk : RowOkT (default : Row) := by
  unfold RowOkT
  refine ⟨?_, ?_, ?_, ?_, ?_⟩ <;> decide

theorem tc_rowAt_ok {rows : List Row} (h : RowsOk rows) (i : Nat) : RowOkT (rowAt rows i) :=
  ListFacts.forall_getD h default_rowOk i

theorem rowsOk_drop {rows : List Row} (h : RowsOk rows) (n : Nat) : RowsOk (rows.drop n) :=
  fun r hr => h r (List.mem_of_mem_drop hr)

theorem freeOk_drop {free : List Int} (h : FreeOk free) (n : Nat) : FreeOk (free.drop n) :=
  fun r hr => h r (List.mem_of_mem_drop hr)

theorem freeOk_take {free : List Int} (h : FreeOk free) (n : Nat) : FreeOk (free.take n) :=
  fun r hr => h r (List.mem_of_mem_take hr)

theorem freeOk_append {a b : List Int} (ha : FreeOk a) (hb : FreeOk b) : FreeOk (a ++ b) := by
  intro f hf
  rcases List.mem_append.mp hf with h | h
  · exact ha f h
  · exact hb f h

theorem tc_iabs_eq (v : Int) : iabs v = (v.natAbs : Int) := by
  unfold iabs; split <;> omega

theorem absI32_iabs {s : String} {v lo hi : Int} (h : lo ≤ v ∧ v ≤ hi) (hl : -2147483647 ≤ lo := by decide)
    (hh : hi ≤ 2147483647 := by decide) : chk32 s (v.natAbs : Int) = .ok (iabs v) := by
  rw [tc_iabs_eq]; exact chk32_ok' (by omega) (by omega)

@[simp] theorem andThen_ok {α β : Type} (a : α) (f : α → Except Fault β) : andThen (.ok a) f = f a :=
  Checked.andThen_ok a f

theorem closestRowC_ok {rows : List Row} (h : RowsOk rows) {y : Int} (hy : -T29 ≤ y ∧ y ≤ T29) :
    closestRowC rows y = .ok (closestRow rows y) := by
  simp only [closestRowC, closestRow, checked, chk32_between (sub_between (tc_rowAt_ok h _).minY_between hy),
    chk32_between (sub_between hy (tc_rowAt_ok h _).minY_between), apply_ite Except.ok]

theorem levelIvsC_ok {w y : Int} (hw : 0 ≤ w ∧ w ≤ M22) :
    ∀ (rows : List Row) (free : List Int), RowsOk rows → FreeOk free →
      levelIvsC w y rows free = .ok (levelIvs w y rows free) ∧ ∀ iv ∈ levelIvs w y rows free, IvOk w iv := by
  intro rows
  induction rows with
  | nil => intro free _ _; cases free <;> simp [levelIvsC, levelIvs]
  | cons r rs ih =>
    intro free hr hf
    cases free with
    | nil => simp [levelIvsC, levelIvs]
    | cons f fs =>
      have hr0 := hr r (by simp)
      have hf0 := hf f (by simp)
      have ihh := ih fs (fun x hx => hr x (by simp [hx])) (fun x hx => hf x (by simp [hx]))
      unfold levelIvsC levelIvs
      by_cases hy : r.rect.minY ≠ y
      · simp [hy]
      · simp only [hy, if_false, checked, chk32_between (sub_between hr0.maxX_between hw), ihh.1]
        by_cases hge : r.rect.maxX - w ≥ f
        · simp only [hge, if_true, true_and]
          intro iv hiv
          rcases List.mem_cons.mp hiv with h | h
          · subst h; exact ⟨hf0.1, hge, Int.le_trans (Int.le_of_eq (Int.sub_add_cancel _ _)) hr0.2.2.1⟩
          · exact ihh.2 iv h
        · simp only [hge, if_false, true_and]
          exact ihh.2

theorem meetIv_ivOk {w : Int} {i1 i2 iv : Int × Int} (h1 : IvOk w i1) (h2 : IvOk w i2) (h : meetIv i1 i2 = some iv) :
    IvOk w iv := by
  obtain ⟨hle, hx⟩ := meetIv_some i1 i2 iv h h1.2.1 h2.2.1
  exact ⟨Int.le_trans h1.1 (hx iv.1 (Int.le_refl _) hle).1.1, hle,
    Int.le_trans (Int.add_le_add_right (hx iv.2 hle (Int.le_refl _)).1.2 w) h1.2.2⟩

theorem crossIvs_ivOk {w : Int} {a b : List (Int × Int)} (ha : ∀ iv ∈ a, IvOk w iv) (hb : ∀ iv ∈ b, IvOk w iv) :
    ∀ iv ∈ crossIvs a b, IvOk w iv := by
  intro iv hiv
  obtain ⟨i1, hi1, i2, hi2, hmeet⟩ := mem_crossIvs a b iv hiv
  exact meetIv_ivOk (ha i1 hi1) (hb i2 hi2) hmeet

theorem tc_startRow_eq (rows : List Row) (y : Int) : startRow rows y = (closestRow rows y).toNat := rfl

theorem nextLevelC_ok {rowH y h : Int} (hH : 1 ≤ rowH ∧ rowH ≤ 2 * M22) (hl : LevelInRange y h) (hlt : ¬ h ≤ rowH) :
    (∀ s, chk32 s (y + rowH) = .ok (y + rowH)) ∧ (∀ s, chk32 s (h - rowH) = .ok (h - rowH)) ∧
    LevelInRange (y + rowH) (h - rowH) := by
  obtain ⟨hy1, hy2, hyh, hh⟩ := hl
  have hh0 : 0 ≤ h := by omega
  exact ⟨fun _ => chk32_between (add_between ⟨hy1, hy2⟩ hH), fun _ => chk32_between (sub_between ⟨hh0, hh⟩ hH),
    by omega, by omega, by omega, by omega⟩

theorem possibleIvsC_ok {rows : List Row} {rowH : Int} {free : List Int} {w : Int} (hr : RowsOk rows)
    (hf : FreeOk free) (hH : 1 ≤ rowH ∧ rowH ≤ 2 * M22) (hw : 0 ≤ w ∧ w ≤ M22) :
    ∀ (fuel : Nat) (h y : Int), LevelInRange y h →
      possibleIvsC rows rowH free w fuel h y = .ok (possibleIvs rows rowH free w fuel h y) ∧
      ∀ iv ∈ possibleIvs rows rowH free w fuel h y, IvOk w iv := by
  intro fuel
  induction fuel with
  | zero => intro h y _; simp [possibleIvsC, possibleIvs]
  | succ fuel ih =>
    intro h y hl
    have ec := closestRowC_ok hr hl.y_between
    have el := levelIvsC_ok (y := y) hw (rows.drop (closestRow rows y).toNat) (free.drop (closestRow rows y).toNat)
      (rowsOk_drop hr _) (freeOk_drop hf _)
    unfold possibleIvsC possibleIvs
    simp only [ec, checked, el.1, tc_startRow_eq]
    by_cases hc : (h ≤ rowH || (levelIvs w y (rows.drop (closestRow rows y).toNat) (free.drop (closestRow rows y).toNat)).isEmpty) = true
    · simp only [hc, if_true, true_and]
      exact el.2
    · simp only [hc]
      simp only [Bool.or_eq_true, decide_eq_true_eq, not_or] at hc
      obtain ⟨ea, es, hb⟩ := nextLevelC_ok hH hl hc.1
      have ihh := ih (h - rowH) (y + rowH) hb
      simp only [es, ea, checked, ihh.1, Bool.false_eq_true, if_false, true_and]
      exact crossIvs_ivOk el.2 ihh.2

def AccOk (w : Int) (acc : Option Int) : Prop := ∀ d, acc = some d → Fits w d

theorem closestStepC_ok {x w : Int} {acc : Option Int} {iv : Int × Int} (hx : -T29 ≤ x ∧ x ≤ T29)
    (hw0 : 0 ≤ w) (hiv : IvOk w iv) (hacc : AccOk w acc) : closestStepC x acc iv = .ok (closestStep x acc iv) := by
  cases acc with
  | none => rfl
  | some d =>
    have hp := sub_between ((hiv.clamp x).x_between hw0) hx
    have hd := sub_between ((hacc d rfl).x_between hw0) hx
    simp only [closestStepC, checked, chk32_between hp, absI32_iabs hp, chk32_between hd, absI32_iabs hd,
      closestStep]

theorem closestInSegC_ok {x w : Int} {r : Row} {acc : Option Int} {iv : Int × Int} (hx : -T29 ≤ x ∧ x ≤ T29)
    (hw0 : 0 ≤ w) (hiv : IvOk w iv) (hacc : AccOk w acc) :
    closestInSegC x w r acc iv = .ok (closestInSeg x w r acc iv) ∧ AccOk w (closestInSeg x w r acc iv) := by
  refine ⟨?_, closestInSeg_inv x w r (Fits w) acc iv (fun _ _ => hiv.clamp x) hacc⟩
  have e1 : ∀ s, chk32 s (iv.2 + w) = .ok (iv.2 + w) := fun _ => chk32_between (hiv.snd.end_between hw0)
  unfold closestInSegC closestInSeg
  by_cases h1 : iv.1 < r.rect.minX
  · simp only [h1, if_true, decide_true, Bool.true_or]
  · by_cases h2 : iv.2 + w > r.rect.maxX
    · simp only [h1, if_false, e1, checked, h2, if_true, decide_true, decide_false, Bool.or_true]
    · simp only [h1, if_false, e1, checked, h2, decide_false, Bool.or_self, Bool.false_eq_true]
      exact closestStepC_ok hx hw0 hiv hacc

theorem foldlC_ok {α β : Type} (P : β → Prop) (Q : α → Prop) (f : β → α → β) (fC : β → α → Except Fault β)
    (hf : ∀ b a, P b → Q a → fC b a = .ok (f b a) ∧ P (f b a)) :
    ∀ (l : List α) (b : β), P b → (∀ a ∈ l, Q a) → foldlC fC l b = .ok (l.foldl f b) ∧ P (l.foldl f b) := by
  intro l
  induction l with
  | nil => intro b hb _; exact ⟨rfl, hb⟩
  | cons a as ih =>
    intro b hb hq
    have h1 := hf b a hb (hq a (by simp))
    have h2 := ih (f b a) h1.2 (fun x hx => hq x (by simp [hx]))
    simp only [foldlC, h1.1, checked, List.foldl_cons]
    exact h2

theorem attemptSegsC_ok {rows : List Row} {c : LCell} {y : Int} {ivs : List (Int × Int)}
    {ivsC : Except Fault (List (Int × Int))} (hivs : ivsC = .ok ivs) (hok : ∀ iv ∈ ivs, IvOk c.w iv)
    (hc : CellOkT c) :
    ∀ (l : List Row) (i : Nat) (acc : Option Int), AccOk c.w acc →
      attemptSegsC rows c y ivsC i l acc = .ok (attemptSegs rows c y ivs i l acc) ∧
      AccOk c.w (attemptSegs rows c y ivs i l acc) := by
  subst hivs
  intro l
  induction l with
  | nil => intro i acc ha; exact ⟨rfl, ha⟩
  | cons r rs ih =>
    intro i acc ha
    rw [attemptSegsC, attemptSegs]
    by_cases h1 : r.rect.minY ≠ y
    · rw [if_pos h1, if_pos h1]; exact ⟨rfl, ha⟩
    · rw [if_neg h1, if_neg h1]
      by_cases h2 : getOrientation rows c i = Orient.INVALID
      · rw [if_pos h2, if_pos h2]
        exact ih (i + 1) acc ha
      · have hfold := foldlC_ok (AccOk c.w) (IvOk c.w) (closestInSeg c.tx c.w r) (closestInSegC c.tx c.w r)
          (fun b a hb hq => closestInSegC_ok hc.tx_between hc.1 hq hb) ivs acc ha hok
        rw [if_neg h2, if_neg h2]
        simp only [checked, hfold.1]
        exact ih (i + 1) _ hfold.2

theorem accOk_none (w : Int) : AccOk w none := by intro d hd; cases hd

theorem attemptC_ok {t : Tetris} (hd : TDom t) {c : LCell} (hc : CellOkT c) {y : Int} (hy : -M22 ≤ y ∧ y ≤ M22) :
    attemptC t c y = .ok (attempt t c y) ∧ AccOk c.w (attempt t c y) := by
  have ep := possibleIvsC_ok hd.rows hd.free ⟨hd.rowH1, hd.rowH2⟩ hc.w_between (c.h.toNat + 1) c.h y
    (.start hy hc.2.2.1)
  rw [attempt_eq]
  unfold attemptC attemptPerSeg
  simp only [closestRowC_ok hd.rows (between_mono hy), checked, tc_startRow_eq]
  exact attemptSegsC_ok ep.1 ep.2 hc _ _ none (accOk_none _)

theorem distC_ok {c : LCell} (hc : CellOkT c) {x y : Int} (hx : -M22 ≤ x ∧ x ≤ M22) (hy : -M22 ≤ y ∧ y ≤ M22) :
    distC c x y = .ok (iabs (c.tx - x) + iabs (c.ty - y)) := by
  have dx := sub_between hc.tx_between hx
  have dy := sub_between hc.ty_between hy
  have ax := natAbs_between (A := 541065216) (between_mono dx)
  have ay := natAbs_between (A := 541065216) (between_mono dy)
  rw [← tc_iabs_eq] at ax ay
  simp only [distC, checked, chk32_between dx, absI32_iabs dx, chk32_between dy, absI32_iabs dy,
    chk32_between (add_between ax ay)]

def BestInRange (w : Int) (b : Option Best) : Prop :=
  ∀ bb, b = some bb → Fits w bb.x ∧ -M22 ≤ bb.y ∧ bb.y ≤ M22

theorem tetrisTryC_ok {t : Tetris} (hd : TDom t) {c : LCell} (hc : CellOkT c) (row : Nat) {b : Option Best}
    (hb : BestInRange c.w b) :
    tetrisTryC t c row b = .ok (tetrisTry t c row b) ∧ BestInRange c.w (tetrisTry t c row b).1 := by
  have hy := (tc_rowAt_ok hd.rows row).minY_between
  have ha := attemptC_ok hd hc hy
  unfold tetrisTryC tetrisTry attemptDistC
  generalize (rowAt t.rows row).rect.minY = y at hy ha ⊢
  have found : ∀ x, attempt t c y = some x →
      distC c x y = .ok (iabs (c.tx - x) + iabs (c.ty - y)) ∧
      BestInRange c.w (some ⟨x, y, iabs (c.tx - x) + iabs (c.ty - y)⟩) := fun x hat =>
    have hx := ha.2 x hat
    ⟨distC_ok hc (hx.x_between hc.1) hy, fun bb hbb => by cases hbb; exact ⟨hx, hy⟩⟩
  have dy := sub_between hc.ty_between hy
  rw [ha.1]
  cases b with
  | none =>
    simp only [checked]
    cases hat : attempt t c y with
    | none => exact ⟨rfl, hb⟩
    | some x => simp only [(found x hat).1, checked]; exact ⟨trivial, (found x hat).2⟩
  | some bb =>
    simp only [checked, chk32_between dy, absI32_iabs dy]
    by_cases hstop : iabs (c.ty - y) ≥ bb.dist
    · rw [if_pos hstop, if_pos hstop]; exact ⟨rfl, hb⟩
    · rw [if_neg hstop, if_neg hstop]
      cases hat : attempt t c y with
      | none => exact ⟨rfl, hb⟩
      | some x =>
        simp only [(found x hat).1, checked]
        split
        · exact ⟨trivial, (found x hat).2⟩
        · exact ⟨trivial, hb⟩

theorem scanRowsC_ok {σ : Type} (P : σ → Prop) (f : Nat → σ → σ × Bool) (fC : Nat → σ → Except Fault (σ × Bool))
    (hf : ∀ r s, P s → fC r s = .ok (f r s) ∧ P (f r s).1) :
    ∀ (l : List Nat) (s : σ), P s → scanRowsC fC l s = .ok (scanRows f l s) ∧ P (scanRows f l s) := by
  intro l
  induction l with
  | nil => intro s hs; exact ⟨rfl, hs⟩
  | cons r rs ih =>
    intro s hs
    have h1 := hf r s hs
    unfold scanRowsC scanRows
    rw [h1.1]
    simp only [checked]
    rcases hfr : f r s with ⟨s', bo⟩
    rw [hfr] at h1
    cases bo with
    | true => simp only [if_true]; exact ⟨trivial, h1.2⟩
    | false => simp only [Bool.false_eq_true, if_false]; exact ih s' h1.2

theorem searchRowsC_ok {σ : Type} (P : σ → Prop) (f : Nat → σ → σ × Bool) (fC : Nat → σ → Except Fault (σ × Bool))
    (hf : ∀ r s, P s → fC r s = .ok (f r s) ∧ P (f r s).1) (n init : Nat) (s : σ) (hs : P s) :
    searchRowsC fC n init s = .ok (searchRows f n init s) ∧ P (searchRows f n init s) := by
  have h1 := scanRowsC_ok P f fC hf (upRows n init) s hs
  have h2 := scanRowsC_ok P f fC hf (downRows init) _ h1.2
  unfold searchRowsC searchRows
  simp only [h1.1, checked]
  exact h2

theorem markLevelC_ok {x w y : Int} (hx : Fits w x) (hw0 : 0 ≤ w) :
    ∀ (rows : List Row) (free : List Int), FreeOk free →
      markLevelC x w y rows free = .ok (markLevel x w y rows free) ∧ FreeOk (markLevel x w y rows free) := by
  have e1 : ∀ s, chk32 s (x + w) = .ok (x + w) := fun _ => chk32_between (hx.end_between hw0)
  intro rows
  induction rows with
  | nil => intro free hf; cases free <;> exact ⟨rfl, hf⟩
  | cons r rs ih =>
    intro free hf
    cases free with
    | nil => exact ⟨rfl, hf⟩
    | cons f fs =>
      have hf0 := hf f (by simp)
      have ihh := ih fs (fun a ha => hf a (by simp [ha]))
      rw [markLevelC, markLevel]
      by_cases hy : r.rect.minY ≠ y
      · rw [if_pos hy, if_pos hy]; exact ⟨rfl, hf⟩
      · rw [if_neg hy, if_neg hy]
        constructor
        · by_cases hlt : x < r.rect.maxX
          · rw [if_pos hlt]
            simp only [e1, checked, ihh.1, hlt, decide_true, Bool.true_and, decide_eq_true_eq]
          · rw [if_neg hlt]
            simp only [ihh.1, checked, hlt, decide_false, Bool.false_and, Bool.false_eq_true, if_false]
        · intro a ha
          rcases List.mem_cons.mp ha with rfl | h
          · split
            · exact hx.end_between hw0
            · exact hf0
          · exact ihh.2 a h

theorem instanciateC_ok {rows : List Row} {rowH x w : Int} (hr : RowsOk rows) (hH : 1 ≤ rowH ∧ rowH ≤ 2 * M22)
    (hx : Fits w x) (hw0 : 0 ≤ w) :
    ∀ (fuel : Nat) (y h : Int) (free : List Int), FreeOk free → LevelInRange y h →
      instanciateC rows rowH x w fuel y h free = .ok (instanciate rows rowH x w fuel y h free) ∧
      FreeOk (instanciate rows rowH x w fuel y h free) := by
  intro fuel
  induction fuel with
  | zero => intro y h free hf _; exact ⟨rfl, hf⟩
  | succ fuel ih =>
    intro y h free hf hl
    unfold instanciateC instanciate
    by_cases h0 : (h ≤ 0 || w ≤ 0) = true
    · simp only [h0, if_true]; exact ⟨trivial, hf⟩
    · have ec := closestRowC_ok hr hl.y_between
      have em := markLevelC_ok (y := y) hx hw0 (rows.drop (closestRow rows y).toNat) (free.drop (closestRow rows y).toNat)
        (freeOk_drop hf _)
      have hnew : FreeOk (free.take (closestRow rows y).toNat ++
          markLevel x w y (rows.drop (closestRow rows y).toNat) (free.drop (closestRow rows y).toNat)) :=
        freeOk_append (freeOk_take hf _) em.2
      simp only [h0, Bool.false_eq_true, if_false, ec, checked, em.1, tc_startRow_eq]
      simp only [Bool.or_eq_true, decide_eq_true_eq, not_or] at h0
      by_cases hle : h ≤ rowH
      · simp only [hle, if_true]; exact ⟨trivial, hnew⟩
      · obtain ⟨ea, es, hb⟩ := nextLevelC_ok hH hl hle
        simp only [hle, if_false, ea, es, checked]
        exact ih (y + rowH) (h - rowH) _ hnew hb

theorem bestInRange_none (w : Int) : BestInRange w none := by intro b hb; cases hb

theorem tetrisPlaceC_ok {t : Tetris} (hd : TDom t) {c : LCell} (hc : CellOkT c) :
    tetrisPlaceC t c = .ok (tetrisPlace t c) ∧ TDom (tetrisPlace t c).1 := by
  have hs := searchRowsC_ok (BestInRange c.w) (tetrisTry t c) (tetrisTryC t c)
    (fun r s hs => tetrisTryC_ok hd hc r hs) t.rows.length (closestRow t.rows c.ty).toNat none (bestInRange_none _)
  unfold tetrisPlaceC tetrisPlace
  simp only [List.isEmpty_eq_false_iff.2 hd.nonempty, Bool.false_eq_true, if_false,
    closestRowC_ok hd.rows hc.ty_between, checked, hs.1, tc_startRow_eq]
  cases hres : searchRows (tetrisTry t c) t.rows.length (closestRow t.rows c.ty).toNat none with
  | none => exact ⟨rfl, hd⟩
  | some b =>
    obtain ⟨hbx, hby⟩ := hs.2 b hres
    have ei := instanciateC_ok (rows := t.rows) hd.rows ⟨hd.rowH1, hd.rowH2⟩ hbx hc.1
      (c.h.toNat + 1) b.y c.h t.free hd.free (.start hby hc.2.2.1)
    simp only [closestRowC_ok hd.rows (between_mono hby), checked, ei.1, orientRow_eq, tc_startRow_eq]
    exact ⟨trivial, ⟨hd.rows, ei.2, hd.rowH1, hd.rowH2, hd.nonempty⟩⟩

theorem tetrisRunC_ok : ∀ (cells : List LCell) (t : Tetris), TDom t → (∀ c ∈ cells, CellOkT c) →
    tetrisRunC t cells = .ok (tetrisRun t cells) := by
  intro cells
  induction cells with
  | nil => intro t _ _; rfl
  | cons c cs ih =>
    intro t hd hc
    have h1 := tetrisPlaceC_ok hd (hc c (by simp))
    have h2 := ih (tetrisPlace t c).1 h1.2 (fun x hx => hc x (by simp [hx]))
    unfold tetrisRunC tetrisRun
    simp only [h1.1, checked, h2]

def RowOkFull (r : Row) : Prop := RowOkT r ∧ 1 ≤ r.rect.maxY - r.rect.minY ∧ r.rect.maxY ≤ M22

theorem initC_ok {rows : List Row} (hne : rows ≠ []) (hr : ∀ r ∈ rows, RowOkFull r) :
    Tetris.initC rows = .ok (Tetris.init rows) ∧ TDom (Tetris.init rows) := by
  have hs : ∀ r ∈ sortRows rows, RowOkFull r := fun r h => hr r ((mem_sortRows r rows).mp h)
  have hsne : sortRows rows ≠ [] := by
    obtain ⟨r, hr⟩ := List.exists_mem_of_ne_nil rows hne
    exact List.ne_nil_of_mem ((mem_sortRows r rows).mpr hr)
  cases hsr : sortRows rows with
  | nil => exact absurd hsr hsne
  | cons r0 rest =>
    have h0 := hs r0 (by rw [hsr]; simp)
    obtain ⟨⟨_, _, _, y1, y2⟩, hh, hm⟩ := h0
    constructor
    · simp (disch := omega) only [Tetris.initC, Tetris.init, hsr, List.head?_cons, checked, Option.map_some,
        Option.getD_some, Rect.height]
    · refine ⟨?_, ?_, ?_, ?_, ?_⟩
      · intro r h
        have : r ∈ sortRows rows := by simpa [Tetris.init] using h
        exact (hs r this).1
      · intro f h
        have : f ∈ (sortRows rows).map (·.rect.minX) := by simpa [Tetris.init] using h
        rcases List.mem_map.mp this with ⟨r, hrm, rfl⟩
        exact (hs r hrm).1.minX_between
      · simp only [Tetris.init, hsr, List.head?_cons, Option.map_some, Option.getD_some, Rect.height]; omega
      · simp only [Tetris.init, hsr, List.head?_cons, Option.map_some, Option.getD_some, Rect.height]; omega
      · simp only [Tetris.init]; exact hsne

end ColoVerif.Legalize
