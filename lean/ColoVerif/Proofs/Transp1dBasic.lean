import ColoVerif.Model.Transp1d
/-
Basic facts about the bounds-checked primitives of the Transp1d model, `iabs` and `balanceDemand`; chains of
one-step inequalities (`le_of_step_up`/`le_of_step_down`).
-/
namespace ColoVerif.Transp1d

theorem get_ok {α : Type} (l : List α) (i : Nat) (h : i < l.length) (d : α) :
    get l i = .ok (l.getD i d) := by
  simp [get, List.getD, List.getElem?_eq_getElem h]
  rfl

theorem iabs_nonneg (x : Int) : 0 ≤ iabs x := by unfold iabs; split <;> omega

theorem le_iabs (x : Int) : x ≤ iabs x ∧ -x ≤ iabs x := by unfold iabs; split <;> omega

theorem iabs_of_nonneg {x : Int} (h : 0 ≤ x) : iabs x = x := if_neg (Int.not_lt.2 h)

theorem iabs_of_nonpos {x : Int} (h : x ≤ 0) : iabs x = -x := by
  unfold iabs; split <;> omega

theorem iabs_cases (x : Int) : iabs x = x ∨ iabs x = -x :=
  (Int.le_total 0 x).imp iabs_of_nonneg iabs_of_nonpos

theorem iabs_spec (x : Int) : (x < 0 ∧ iabs x = -x) ∨ (0 ≤ x ∧ iabs x = x) := by
  unfold iabs
  split
  · left; exact ⟨by assumption, rfl⟩
  · right; exact ⟨by omega, rfl⟩

theorem iabs_le {x B : Int} (h1 : -B ≤ x) (h2 : x ≤ B) : iabs x ≤ B := by
  unfold iabs; split <;> omega

theorem iabs_add_le (a b : Int) : iabs (a + b) ≤ iabs a + iabs b := by
  have := le_iabs a
  have := le_iabs b
  exact iabs_le (by omega) (by omega)

theorem iabs_monge (a b x y : Int) (hab : a ≤ b) (hxy : x ≤ y) :
    iabs (a - x) + iabs (b - y) ≤ iabs (a - y) + iabs (b - x) := by
  have h1 := le_iabs (a - y)
  have h2 := le_iabs (b - x)
  have e1 := iabs_cases (a - x)
  have e2 := iabs_cases (b - y)
  omega

theorem le_of_step_up (f : Nat → Int) (a b : Nat) (hab : a ≤ b)
    (h : ∀ j, a ≤ j → j < b → f j ≤ f (j + 1)) : f a ≤ f b := by
  induction hab with
  | refl => exact Int.le_refl _
  | step hab ih =>
    exact Int.le_trans (ih fun j h1 h2 => h j h1 (Nat.lt_succ_of_lt h2))
      (h _ hab (Nat.lt_succ_self _))

theorem le_of_step_down (f : Nat → Int) (a b : Nat) (hab : a ≤ b)
    (h : ∀ j, a ≤ j → j < b → f (j + 1) ≤ f j) : f b ≤ f a := by
  induction hab with
  | refl => exact Int.le_refl _
  | step hab ih =>
    exact Int.le_trans (h _ hab (Nat.lt_succ_self _))
      (ih fun j h1 h2 => h j h1 (Nat.lt_succ_of_lt h2))

theorem step_mono (D : List Int) (m : Nat) (h : ∀ t, t < m → D.getD t 0 < D.getD (t + 1) 0)
    (a b : Nat) (hab : a ≤ b) (hb : b ≤ m) : D.getD a 0 ≤ D.getD b 0 :=
  le_of_step_up (fun j => D.getD j 0) a b hab fun j _ h2 => Int.le_of_lt (h j (Nat.lt_of_lt_of_le h2 hb))

theorem step_strict (D : List Int) (m : Nat) (h : ∀ t, t < m → D.getD t 0 < D.getD (t + 1) 0)
    (a b : Nat) (hab : a < b) (hb : b ≤ m) : D.getD a 0 < D.getD b 0 :=
  Int.lt_of_lt_of_le (h a (Nat.lt_of_lt_of_le hab hb)) (step_mono D m h (a + 1) b hab hb)

theorem bind_ok_inv {α β : Type} {x : M α} {f : α → M β} {r : β} (h : (x >>= f) = .ok r) :
    ∃ a, x = .ok a ∧ f a = .ok r := by
  cases x with
  | error e => simp [bind, Except.bind] at h
  | ok a => exact ⟨a, rfl, h⟩

theorem get_inv {l : List Int} {i : Nat} {a : Int} (h : get l i = .ok a) :
    i < l.length ∧ a = l.getD i 0 := by
  by_cases hi : i < l.length
  · rw [get_ok l i hi 0] at h
    cases h
    exact ⟨hi, rfl⟩
  · exfalso
    unfold get at h
    rw [List.getElem?_eq_none (by omega)] at h
    cases h

theorem sumFirst_eq (l : List Int) : sumFirst l.length l = .ok l.sum := by
  induction l with
  | nil => rfl
  | cons x xs ih => simp [sumFirst, ih, bind, Except.bind, pure, Except.pure]

theorem incrFirst_ok (k : Nat) (x : Int) (l : List Int) (h : k ≤ l.length) :
    ∃ l', incrFirst k x l = .ok l' ∧ l'.length = l.length ∧ l'.sum = l.sum + k * x ∧
      (0 ≤ x → ∀ j, l.getD j 0 ≤ l'.getD j 0) := by
  induction k generalizing l with
  | zero => exact ⟨l, rfl, rfl, by simp, fun _ _ => Int.le_refl _⟩
  | succ k ih =>
    cases l with
    | nil => simp at h
    | cons y ys =>
      obtain ⟨r, h1, h2, h3, h4⟩ := ih ys (by simpa using h)
      refine ⟨(y + x) :: r, ?_, by simp [h2], ?_, ?_⟩
      · simp [incrFirst, h1, bind, Except.bind, pure, Except.pure]
      · simp only [List.sum_cons, h3]
        have : ((k + 1 : Nat) : Int) * x = k * x + x := by
          rw [Int.natCast_succ, Int.add_mul, Int.one_mul]
        omega
      · intro hx j
        cases j with
        | zero => simp; omega
        | succ j => simpa using h4 hx j

theorem tdiv_rest (x : Int) (n : Nat) (hx : 0 ≤ x) (hn : 0 < n) :
    0 ≤ Int.tdiv x n ∧ Int.tdiv x n ≤ x ∧ 0 ≤ x - Int.tdiv x n * n ∧ x - Int.tdiv x n * n < n := by
  have hn' : (0 : Int) < n := by omega
  have h1 := Int.mul_ediv_add_emod x n
  have h2 := Int.emod_nonneg x (Int.ne_of_gt hn')
  have h3 := Int.emod_lt_of_pos x hn'
  have h4 := Int.ediv_nonneg hx (Int.le_of_lt hn')
  have h5 := Int.ediv_le_self n hx
  rw [Int.mul_comm] at h1
  rw [Int.tdiv_eq_ediv_of_nonneg hx]
  omega

theorem totalSupply_val {pb : Problem} (hs : pb.s.length = pb.u.length) :
    totalSupply pb = .ok pb.s.sum := by
  unfold totalSupply Problem.nbSources; rw [← hs]; exact sumFirst_eq _

theorem totalDemand_val {pb : Problem} (hd : pb.d.length = pb.v.length) :
    totalDemand pb = .ok pb.d.sum := by
  unfold totalDemand Problem.nbSinks; rw [← hd]; exact sumFirst_eq _

theorem balanceDemand_spec (pb : Problem) (hs : pb.s.length = pb.u.length)
    (hd : pb.d.length = pb.v.length) (hm : 0 < pb.v.length ∨ pb.s.sum ≤ pb.d.sum) :
    ∃ pb', balanceDemand pb = .ok pb' ∧ pb'.u = pb.u ∧ pb'.v = pb.v ∧ pb'.s = pb.s ∧
      pb'.d.length = pb.d.length ∧ pb'.s.sum ≤ pb'.d.sum ∧
      (∀ j, pb.d.getD j 0 ≤ pb'.d.getD j 0) ∧ (pb.s.sum ≤ pb.d.sum → pb' = pb) ∧
      (pb.d.sum ≤ pb.s.sum → pb'.s.sum = pb'.d.sum) := by
  have e1 := totalSupply_val hs
  have e2 := totalDemand_val hd
  by_cases hle : pb.s.sum - pb.d.sum ≤ 0
  · refine ⟨pb, ?_, rfl, rfl, rfl, rfl, by omega, fun _ => Int.le_refl _, fun _ => rfl, fun _ => by omega⟩
    simp [balanceDemand, e1, e2, bind, Except.bind, hle, pure, Except.pure]
  · have hmpos : 0 < pb.v.length := hm.resolve_right (by omega)
    obtain ⟨q0, _, r0, r1⟩ := tdiv_rest (pb.s.sum - pb.d.sum) pb.v.length (by omega) hmpos
    obtain ⟨d1, k1, k2, k3, k4⟩ :=
      incrFirst_ok pb.v.length (Int.tdiv (pb.s.sum - pb.d.sum) pb.v.length) pb.d (by omega)
    obtain ⟨d2, l1, l2, l3, l4⟩ := incrFirst_ok
      (pb.s.sum - pb.d.sum - Int.tdiv (pb.s.sum - pb.d.sum) pb.v.length * pb.v.length).toNat 1 d1
      (by omega)
    have hsum : d2.sum = pb.s.sum := by
      rw [l3, k3, Int.toNat_of_nonneg r0, Int.mul_comm]; omega
    refine ⟨{ pb with d := d2 }, ?_, rfl, rfl, rfl, by simp; omega, by simp only [hsum]; omega, ?_,
      fun h => by omega, fun _ => hsum.symm⟩
    · have hnil : ¬ pb.v = [] := fun h => by simp [h] at hmpos
      simp [balanceDemand, e1, e2, bind, Except.bind, hle, pure, Except.pure, Problem.nbSinks, k1, l1,
        hnil]
    · intro j
      exact Int.le_trans (k4 q0 j) (l4 (by omega) j)

end ColoVerif.Transp1d
