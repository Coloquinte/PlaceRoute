import ColoVerif.Model.Export
/-
For C03: the frame relation is a preorder, a guarded single-cell update
respects it, and so do the three export loops.
-/
namespace ColoVerif.Export

theorem CellFrame.refl (o : Bool) (a : Cell) : CellFrame o a a :=
  ⟨rfl, rfl, rfl, rfl, rfl, fun _ => rfl, fun _ => rfl⟩

theorem CellFrame.trans {o : Bool} {a b c : Cell} (h1 : CellFrame o a b) (h2 : CellFrame o b c) :
    CellFrame o a c := by
  obtain ⟨w1, hh1, f1, ob1, p1, fx1, or1⟩ := h1
  obtain ⟨w2, hh2, f2, ob2, p2, fx2, or2⟩ := h2
  refine ⟨w2.trans w1, hh2.trans hh1, f2.trans f1, ob2.trans ob1, p2.trans p1, ?_, ?_⟩
  · intro hf
    have hb : b = a := fx1 hf
    have hfb : b.fixed = true := by rw [hb]; exact hf
    rw [fx2 hfb, hb]
  · intro ho
    rw [or2 ho, or1 ho]

/-- a weaker frame (orientation free) follows from the stronger one -/
theorem CellFrame.weaken {a b : Cell} (h : CellFrame false a b) : CellFrame true a b := by
  obtain ⟨w, hh, f, ob, p, fx, _⟩ := h
  exact ⟨w, hh, f, ob, p, fx, nofun⟩

theorem Frame.refl (o : Bool) (c : Circuit) : Frame o c c :=
  ⟨rfl, rfl, rfl, fun _ => CellFrame.refl o _⟩

theorem Frame.trans {o : Bool} {a b c : Circuit} (h1 : Frame o a b) (h2 : Frame o b c) : Frame o a c :=
  ⟨h2.1.trans h1.1, h2.2.1.trans h1.2.1, h2.2.2.1.trans h1.2.2.1,
   fun i => CellFrame.trans (h1.2.2.2 i) (h2.2.2.2 i)⟩

theorem Frame.weaken {a b : Circuit} (h : Frame false a b) : Frame true a b :=
  ⟨h.1, h.2.1, h.2.2.1, fun i => CellFrame.weaken (h.2.2.2 i)⟩

theorem writeXY_frame (o : Bool) (x y : Int) (a : Cell) (hf : ¬a.fixed = true) :
    CellFrame o a (writeXY x y a) :=
  ⟨rfl, rfl, rfl, rfl, rfl, fun h => absurd h hf, fun _ => rfl⟩

theorem writeXYO_frame (x y : Int) (or : Orient) (a : Cell) (hf : ¬a.fixed = true) :
    CellFrame true a (writeXYO x y or a) :=
  ⟨rfl, rfl, rfl, rfl, rfl, fun h => absurd h hf, nofun⟩

theorem cell_updCell (c : Circuit) (i j : Nat) (f : Cell → Cell) :
    (updCell c i f).cell j = if i = j ∧ j < c.cells.length then f (c.cell j) else c.cell j := by
  simp only [Circuit.cell, updCell, List.getD_eq_getElem?_getD, List.getElem?_modify]
  by_cases hj : j < c.cells.length
  · by_cases hij : i = j <;> simp [hij, hj]
  · have : c.cells[j]? = none := by simp at hj; simp [hj]
    simp [this]
    intro _ h; exact absurd h hj

theorem updCell_frame (o : Bool) (c : Circuit) (i : Nat) (f : Cell → Cell)
    (hf : CellFrame o (c.cell i) (f (c.cell i))) : Frame o c (updCell c i f) := by
  refine ⟨rfl, rfl, by simp [updCell], fun j => ?_⟩
  rw [cell_updCell]
  by_cases h : i = j ∧ j < c.cells.length
  · rw [if_pos h]; obtain ⟨rfl, _⟩ := h; exact hf
  · rw [if_neg h]; exact CellFrame.refl o _

/-- `proj`: where the loop state keeps the circuit -/
theorem foldl_frame {σ α : Type} (o : Bool) (proj : σ → Circuit) (step : σ → α → σ) (l : List α)
    (h : ∀ a ∈ l, ∀ s, Frame o (proj s) (proj (step s a))) (s : σ) : Frame o (proj s) (proj (l.foldl step s)) := by
  induction l generalizing s with
  | nil => exact Frame.refl o _
  | cons a l ih =>
    exact Frame.trans (h a List.mem_cons_self s) (ih (fun b hb => h b (List.mem_cons_of_mem _ hb)) (step s a))

theorem ite_frame {σ : Type} {o : Bool} {p : Prop} [Decidable p] {c : Circuit} (proj : σ → Circuit) {a b : σ}
    (ha : p → Frame o c (proj a)) (hb : ¬p → Frame o c (proj b)) : Frame o c (proj (if p then a else b)) := by
  split
  · exact ha ‹_›
  · exact hb ‹_›

theorem globalStep_frame (xs ys : List Rat) (c : Circuit) (i : Nat) : Frame false c (globalStep xs ys c i) :=
  ite_frame id (fun _ => Frame.refl _ _) fun hf => updCell_frame _ _ _ _ (writeXY_frame _ _ _ _ hf)

theorem exportGlobal_frame (c : Circuit) (xs ys : List Rat) : Frame false c (exportGlobal c xs ys) :=
  foldl_frame false id _ _ (fun i _ c => globalStep_frame xs ys c i) c

theorem legalStep_frame (L : LegVectors) (s : LegLoop) (i : Nat) : Frame true s.c (legalStep L s i).c :=
  ite_frame LegLoop.c (fun _ => Frame.refl _ _) fun _ =>
    ite_frame LegLoop.c (fun _ => Frame.refl _ _) fun hf =>
      ite_frame LegLoop.c (fun _ => Frame.refl _ _) fun _ =>
        ite_frame LegLoop.c (fun _ => updCell_frame _ _ _ _ (writeXYO_frame _ _ _ _ hf)) fun _ => Frame.refl _ _

theorem exportLegal_frame (c : Circuit) (L : LegVectors) : Frame true c (exportLegal c L).2 :=
  foldl_frame true LegLoop.c _ _ (fun i _ s => legalStep_frame L s i) ⟨c, 0, false⟩

theorem detailedStep_frame (D : DetVectors) (c : Circuit) (i : Nat) : Frame true c (detailedStep D c i) :=
  ite_frame id (fun _ => Frame.refl _ _) fun _ =>
    ite_frame id (fun _ => Frame.refl _ _) fun hf => updCell_frame _ _ _ _ (writeXYO_frame _ _ _ _ hf)

theorem exportDetailed_frame (c : Circuit) (D : DetVectors) : Frame true c (exportDetailed c D) :=
  foldl_frame true id _ _ (fun i _ c => detailedStep_frame D c i) c

theorem exportGlobalBlend_frame (c : Circuit) (G : GlobalVectors) : Frame false c (exportGlobalBlend c G) :=
  exportGlobal_frame c _ _

theorem globalCallback_frame (b : Bool) (c : Circuit) (xs ys : List Rat) : Frame false c (globalCallback b c xs ys) := by
  cases b
  · exact Frame.refl _ _
  · exact exportGlobal_frame c xs ys

theorem detailedCallback_frame (b : Bool) (c : Circuit) (D : DetVectors) : Frame true c (detailedCallback b c D) := by
  cases b
  · exact Frame.refl _ _
  · exact exportDetailed_frame c D

theorem Write.apply_frame_global (w : Write) (hw : w.isGlobal = true) (c : Circuit) : Frame false c (w.apply c) := by
  cases w with
  | global xs ys => exact exportGlobal_frame c xs ys
  | globalBlend G => exact exportGlobalBlend_frame c G
  | _ => cases hw

theorem Write.apply_frame (w : Write) (c : Circuit) : Frame true c (w.apply c) := by
  cases w with
  | legal L => exact exportLegal_frame c L
  | detailed D => exact exportDetailed_frame c D
  | global xs ys => exact (exportGlobal_frame c xs ys).weaken
  | globalBlend G => exact (exportGlobalBlend_frame c G).weaken

theorem runWrites_frame (ws : List Write) (c : Circuit) : Frame true c (runWrites ws c) :=
  foldl_frame true id _ ws (fun w _ c => w.apply_frame c) c

theorem runWrites_frame_global (ws : List Write) (h : ∀ w ∈ ws, w.isGlobal = true) (c : Circuit) :
    Frame false c (runWrites ws c) :=
  foldl_frame false id _ ws (fun w hw c => w.apply_frame_global (h w hw) c) c

/-- the writes `GlobalPlacer::place` performs, as a `Write` list -/
def placeGlobalWrites (hasCallback : Bool) (exposed : List (List Rat × List Rat)) (G : GlobalVectors) : List Write :=
  (if hasCallback then exposed.map (fun p => Write.global p.1 p.2) else []) ++ [Write.globalBlend G]

theorem foldl_keep {α σ : Type} (l : List α) (s : σ) : l.foldl (fun s _ => s) s = s := by
  induction l with
  | nil => rfl
  | cons _ _ ih => exact ih

theorem placeGlobalBody_eq_writes (b : Bool) (exposed : List (List Rat × List Rat)) (G : GlobalVectors) (c : Circuit) :
    placeGlobalBody b exposed G c = runWrites (placeGlobalWrites b exposed G) c := by
  unfold placeGlobalBody placeGlobalWrites runWrites
  cases b <;> simp [globalCallback, foldl_keep, List.foldl_append, List.foldl_map, Write.apply]

theorem placeGlobalWrites_isGlobal (b : Bool) (exposed : List (List Rat × List Rat)) (G : GlobalVectors) :
    ∀ w ∈ placeGlobalWrites b exposed G, w.isGlobal = true := by
  intro w hw
  unfold placeGlobalWrites at hw
  rcases List.mem_append.mp hw with h | h
  · cases b
    · simp at h
    · simp only [if_true] at h
      obtain ⟨p, _, rfl⟩ := List.mem_map.mp h
      rfl
  · simp at h; subst h; rfl

/-- the writes `DetailedPlacer::place` performs -/
def placeDetailedWrites (hasCallback : Bool) (L : LegVectors) (exposed : List DetVectors) (D : DetVectors) : List Write :=
  [Write.legal L] ++ (if hasCallback then exposed.map Write.detailed else []) ++ [Write.detailed D]

theorem placeDetailedBody_eq_writes (b : Bool) (L : LegVectors) (exposed : List DetVectors) (D : DetVectors) (c : Circuit) :
    placeDetailedBody b L exposed D c = runWrites (placeDetailedWrites b L exposed D) c := by
  unfold placeDetailedBody placeDetailedWrites runWrites
  cases b <;> simp [show detailedCallback false = (fun c _ => c) from rfl,
    show detailedCallback true = exportDetailed from rfl, foldl_keep, List.foldl_append, List.foldl_map, Write.apply]

end ColoVerif.Export
