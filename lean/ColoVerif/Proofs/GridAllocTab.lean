import ColoVerif.Proofs.GridHier
import Mathlib.Data.List.Nodup
/-
The allocation invariant along everything that ends in `updateCellToBin`: the constructor, `refineX/Y`,
`coarsenX/Y`.  `Alloc A nx ny f` is the invariant of a table given as a function `f`, without the `cellBin`
vectors: an `AllocInv` state has it (`AllocInv.alloc`), and a table with `Alloc` whose vectors record it
(`Records`) is `AllocInv` (`AllocInv.of_alloc`).  `updateCellToBin` recomputes the vectors, so only `Alloc` of the
new table function is left to show (`Alloc.refine`, `Alloc.coarsen`, the y-direction through `Alloc.swap`).  The
vectors, and in `GridAlloc` the bin table, are folds of writes with pairwise distinct keys (`foldl_writes`).
-/
namespace ColoVerif.Grid
open ColoVerif.ListFacts

theorem foldl_writes {σ κ ν : Type} [DecidableEq κ] (write : σ → κ → ν → σ) (read : σ → κ → ν)
    (ok : σ → κ → Prop)
    (hrw : ∀ st k v k', ok st k → read (write st k v) k' = if k' = k then v else read st k')
    (hok : ∀ st k v k', ok st k' → ok (write st k v) k') :
    ∀ (ws : List (κ × ν)) (st : σ), (ws.map Prod.fst).Nodup → (∀ w ∈ ws, ok st w.1) →
      (∀ w ∈ ws, read (ws.foldl (fun a w => write a w.1 w.2) st) w.1 = w.2) ∧
      (∀ k, k ∉ ws.map Prod.fst → read (ws.foldl (fun a w => write a w.1 w.2) st) k = read st k) := by
  intro ws
  induction ws with
  | nil => intro st _ _; simp
  | cons w0 rest ih =>
    intro st hnd hall
    simp only [List.map_cons, List.nodup_cons] at hnd
    have hok' : ∀ w ∈ rest, ok (write st w0.1 w0.2) w.1 := fun w hw =>
      hok _ _ _ _ (hall w (List.mem_cons_of_mem _ hw))
    obtain ⟨ih1, ih2⟩ := ih (write st w0.1 w0.2) hnd.2 hok'
    have h0 : ok st w0.1 := hall w0 (List.mem_cons_self)
    refine ⟨?_, ?_⟩
    · intro w hw
      simp only [List.foldl_cons]
      rcases List.mem_cons.mp hw with rfl | hw
      · rw [ih2 _ hnd.1, hrw _ _ _ _ h0]; simp
      · exact ih1 w hw
    · intro k hk
      simp only [List.map_cons, List.mem_cons, not_or] at hk
      simp only [List.foldl_cons]
      rw [ih2 k hk.2, hrw _ _ _ _ h0, if_neg hk.1]

theorem nodup_flatMap_of_inj {κ α : Type} {K : List κ} {f : κ → List α} (hK : K.Nodup)
    (hnd : ∀ k ∈ K, (f k).Nodup) (hinj : ∀ k ∈ K, ∀ k' ∈ K, ∀ c, c ∈ f k → c ∈ f k' → k = k') :
    (K.flatMap f).Nodup :=
  List.nodup_flatMap.2 ⟨hnd, hK.imp_of_mem fun hk hk' hne c hc hc' => hne (hinj _ hk _ hk' c hc hc')⟩

theorem applyW_length (ws : List (Nat × Int)) : ∀ cb : List Int, (applyW cb ws).length = cb.length := by
  induction ws with
  | nil => intro cb; rfl
  | cons w rest ih =>
    intro cb
    simp only [applyW, List.foldl_cons] at ih ⊢
    rw [ih, List.length_set]

theorem applyW_spec (cb : List Int) (ws : List (Nat × Int)) (hnd : (ws.map Prod.fst).Nodup)
    (hin : ∀ w ∈ ws, w.1 < cb.length) (d : Int) :
    (∀ w ∈ ws, (applyW cb ws).getD w.1 d = w.2) ∧
    (∀ k, k ∉ ws.map Prod.fst → (applyW cb ws).getD k d = cb.getD k d) :=
  foldl_writes (σ := List Int) (κ := Nat) (ν := Int) (fun a k v => a.set k v) (fun a k => a.getD k d)
    (fun a k => k < a.length)
    (fun st k v k' hk => getD_set st k k' v d hk)
    (fun st k v k' hk => by simpa using hk) ws cb hnd hin

theorem cellsAt_tab (nx ny : Nat) (f : Nat → Nat → List Nat) (i j : Nat) :
    cellsAt (tab nx ny f) i j = if i < nx ∧ j < ny then f i j else [] := by
  unfold cellsAt tab
  rw [getD_map_range]
  by_cases hi : i < nx
  · simp only [hi, if_true, true_and]
    rw [getD_map_range]
  · simp [hi]

theorem tab_length (nx ny : Nat) (f : Nat → Nat → List Nat) : (tab nx ny f).length = nx := by
  simp [tab]

theorem tab_col_length (nx ny : Nat) (f : Nat → Nat → List Nat) (i : Nat) (hi : i < nx) :
    ((tab nx ny f).getD i []).length = ny := by
  unfold tab
  rw [getD_map_range]
  simp [hi]

/-- the `bins` update of `HState.setBinCells` -/
def writeBins (b : Bins) (p : Nat × Nat) (cs : List Nat) : Bins := b.set p.1 ((b.getD p.1 []).set p.2 cs)

theorem writeBins_length (b : Bins) (p : Nat × Nat) (cs : List Nat) : (writeBins b p cs).length = b.length := by
  simp [writeBins]

theorem writeBins_col_length (b : Bins) (p : Nat × Nat) (cs : List Nat) (i : Nat) :
    ((writeBins b p cs).getD i []).length = (b.getD i []).length := by
  unfold writeBins
  simp only [List.getD_eq_getElem?_getD, List.getElem?_set]
  by_cases h : p.1 = i
  · subst h
    by_cases h2 : p.1 < b.length
    · simp [h2]
    · simp [h2]
  · simp [h]

theorem cellsAt_writeBins (b : Bins) (p q : Nat × Nat) (cs : List Nat)
    (hx : p.1 < b.length) (hy : p.2 < (b.getD p.1 []).length) :
    cellsAt (writeBins b p cs) q.1 q.2 = if q = p then cs else cellsAt b q.1 q.2 := by
  obtain ⟨px, py⟩ := p
  obtain ⟨qx, qy⟩ := q
  simp only at hx hy
  unfold cellsAt writeBins
  simp only [List.getD_eq_getElem?_getD, List.getElem?_set] at *
  by_cases h1 : px = qx
  · subst h1
    simp only [if_true, hx, Option.getD_some, List.getElem?_set]
    by_cases h2 : py = qy
    · subst h2
      simp [hy]
    · have : ¬ (px, qy) = (px, py) := by intro e; injection e with _ e2; exact h2 e2.symm
      simp [h2, this]
  · have : ¬ (qx, qy) = (px, py) := by intro e; injection e with e1 _; exact h1 e1.symm
    simp [h1, this]

theorem ParOk.first_unique {par : List Nat} {m : Nat} (h : ParOk par m) (i i' : Nat)
    (hi : i < par.length) (hi' : i' < par.length)
    (hf : HState.firstChild par i = true) (hf' : HState.firstChild par i' = true)
    (he : par.getD i 0 = par.getD i' 0) : i = i' := by
  -- for `a < b` the parent of `b - 1` is squeezed between those of `a` and `b`, so `b` is not a first child
  have key : ∀ a b : Nat, a < b → b < par.length → HState.firstChild par b = true →
      par.getD a 0 = par.getD b 0 → False := by
    intro a b hab hb hfb hab'
    have hb1 : b - 1 + 1 = b := Nat.sub_add_cancel (Nat.lt_of_le_of_lt (Nat.zero_le a) hab)
    have h1 := h.mono a (b - 1) (Nat.le_sub_one_of_lt hab) (Nat.lt_of_le_of_lt (Nat.sub_le b 1) hb)
    have h2 := h.mono_succ (b - 1) (hb1.symm ▸ hb)
    rw [hb1] at h2
    rcases (firstChild_iff par b).mp hfb with h0 | hne
    · exact Nat.not_lt_zero a (h0 ▸ hab)
    · exact hne (Nat.le_antisymm (hab' ▸ h1) h2)
  rcases Nat.lt_trichotomy i i' with hlt | heq | hgt
  · exact (key i i' hlt hi' hf' he).elim
  · exact heq
  · exact (key i' i hgt hi hf he.symm).elim

theorem ParOk.first_exists {par : List Nat} {m : Nat} (h : ParOk par m) (p : Nat) (hp : p < m) :
    ∃ i, i < par.length ∧ HState.firstChild par i = true ∧ par.getD i 0 = p := by
  -- by induction on `i`: every value up to the parent of `i` has a first child at or before `i`
  have key : ∀ i, i < par.length → ∀ q, q ≤ par.getD i 0 →
      ∃ k, k ≤ i ∧ HState.firstChild par k = true ∧ par.getD k 0 = q := by
    intro i
    induction i with
    | zero =>
      intro _ q hq
      exact ⟨0, Nat.le_refl _, rfl, h.first.trans (Nat.le_zero.1 (h.first ▸ hq)).symm⟩
    | succ k ih =>
      intro hk q hq
      rcases Nat.lt_or_ge (par.getD k 0) q with hlt | hge
      · rcases h.step k hk with e | e
        · exact absurd (e ▸ hq) (Nat.not_le_of_lt hlt)
        · exact ⟨k + 1, Nat.le_refl _,
            (firstChild_iff par (k + 1)).mpr (Or.inr fun he => Nat.succ_ne_self _ (e.symm.trans he)),
            Nat.le_antisymm (e ▸ hlt) hq⟩
      · obtain ⟨k', hk', hf, hv⟩ := ih (Nat.lt_of_succ_lt hk) q hge
        exact ⟨k', Nat.le_succ_of_le hk', hf, hv⟩
  have hlast := Nat.sub_lt h.pos Nat.one_pos
  obtain ⟨k, hk, hf, hv⟩ := key (par.length - 1) hlast p (Nat.le_of_lt_succ (Nat.lt_of_lt_of_eq hp h.last.symm))
  exact ⟨k, Nat.lt_of_le_of_lt hk hlast, hf, hv⟩

theorem mem_cellsAt_range (b : Bins) (i j c : Nat) (hc : c ∈ cellsAt b i j) :
    i < b.length ∧ j < (b.getD i []).length :=
  have hj := lt_length_of_mem_getD hc
  ⟨lt_length_of_mem_getD (getD_mem _ j [] hj), hj⟩

theorem cells_in_range {s : HState} (hX : s.bins.length = s.nbX)
    (hY : ∀ i, i < s.nbX → (s.bins.getD i []).length = s.nbY) {i j c : Nat} (hc : c ∈ s.cells i j) :
    i < s.nbX ∧ j < s.nbY := by
  have := mem_cellsAt_range s.bins i j c hc
  have hx : i < s.nbX := by rw [← hX]; exact this.1
  exact ⟨hx, by rw [← hY i hx]; exact this.2⟩

theorem AllocInv.in_range {s : HState} (h : AllocInv s) {i j c : Nat} (hc : c ∈ s.cells i j) :
    i < s.nbX ∧ j < s.nbY :=
  cells_in_range h.shapeX h.shapeY hc

/-- The table `f`, read on `nx × ny` bins, holds exactly the cells satisfying `A`, each once. -/
structure Alloc (A : Nat → Prop) (nx ny : Nat) (f : Nat → Nat → List Nat) : Prop where
  nodup : ∀ i j, i < nx → j < ny → (f i j).Nodup
  disjoint : ∀ i j i' j' c, i < nx → j < ny → i' < nx → j' < ny → c ∈ f i j → c ∈ f i' j' → i = i' ∧ j = j'
  covers : ∀ c, A c ↔ ∃ i j, i < nx ∧ j < ny ∧ c ∈ f i j

theorem AllocInv.alloc {s : HState} (h : AllocInv s) :
    Alloc (fun c => c < s.nbCells ∧ s.cellDemand c > 0) s.nbX s.nbY (cellsAt s.bins) where
  nodup i j _ _ := h.nodup i j
  disjoint i j i' j' c _ _ _ _ := h.disjoint i j i' j' c
  covers c := (h.covers c).trans <| exists_congr fun _ => exists_congr fun _ =>
    ⟨fun hc => ⟨(h.in_range hc).1, (h.in_range hc).2, hc⟩, fun h => h.2.2⟩

theorem Alloc.swap {A : Nat → Prop} {nx ny : Nat} {f : Nat → Nat → List Nat} (h : Alloc A nx ny f) :
    Alloc A ny nx (fun j i => f i j) where
  nodup j i hj hi := h.nodup i j hi hj
  disjoint j i j' i' c hj hi hj' hi' hc hc' := (h.disjoint i j i' j' c hi hj hi' hj' hc hc').symm
  covers c := (h.covers c).trans
    ⟨fun ⟨i, j, hi, hj, hc⟩ => ⟨j, i, hj, hi, hc⟩, fun ⟨j, i, hj, hi, hc⟩ => ⟨i, j, hi, hj, hc⟩⟩

theorem Alloc.congr {A : Nat → Prop} {nx ny : Nat} {f g : Nat → Nat → List Nat} (h : Alloc A nx ny f)
    (e : ∀ i j, i < nx → j < ny → g i j = f i j) : Alloc A nx ny g where
  nodup i j hi hj := e i j hi hj ▸ h.nodup i j hi hj
  disjoint i j i' j' c hi hj hi' hj' hc hc' :=
    h.disjoint i j i' j' c hi hj hi' hj' (e i j hi hj ▸ hc) (e i' j' hi' hj' ▸ hc')
  covers c := (h.covers c).trans <| exists_congr fun i => exists_congr fun j =>
    and_congr_right fun hi => and_congr_right fun hj => by rw [e i j hi hj]

theorem writesOf_fst (s : HState) : (writesOf s.nbX s.nbY s.bins).map (fun w => w.1) = s.flat := by
  simp [writesOf, HState.flat, HState.cells, List.map_flatMap, Function.comp_def]

theorem mem_writesOf (nx ny : Nat) (b : Bins) (c i j : Nat) :
    (c, i, j) ∈ writesOf nx ny b ↔ i < nx ∧ j < ny ∧ c ∈ cellsAt b i j := by
  simp only [writesOf, List.mem_flatMap, List.mem_range, List.mem_map, Prod.mk.injEq]
  constructor
  · rintro ⟨i', hi', j', hj', c', hc', rfl, rfl, rfl⟩
    exact ⟨hi', hj', hc'⟩
  · rintro ⟨hi, hj, hc⟩
    exact ⟨i, hi, j, hj, c, hc, rfl, rfl, rfl⟩

theorem mem_flat (s : HState) (c : Nat) : c ∈ s.flat ↔ ∃ i j, i < s.nbX ∧ j < s.nbY ∧ c ∈ s.cells i j := by
  simp only [HState.flat, List.mem_flatMap, List.mem_range]
  constructor
  · rintro ⟨i, hi, j, hj, hc⟩; exact ⟨i, j, hi, hj, hc⟩
  · rintro ⟨i, j, hi, hj, hc⟩; exact ⟨i, hi, j, hj, hc⟩

theorem Alloc.nodup_flat {A : Nat → Prop} {s : HState} (h : Alloc A s.nbX s.nbY s.cells) : s.flat.Nodup :=
  nodup_flatMap_of_inj List.nodup_range
    (fun i hi => nodup_flatMap_of_inj List.nodup_range
      (fun j hj => h.nodup i j (List.mem_range.1 hi) (List.mem_range.1 hj))
      fun j hj j' hj' c hc hc' => (h.disjoint i j i j' c (List.mem_range.1 hi) (List.mem_range.1 hj)
        (List.mem_range.1 hi) (List.mem_range.1 hj') hc hc').2)
    fun i hi i' hi' c hc hc' => by
      obtain ⟨j, hj, hcj⟩ := List.mem_flatMap.1 hc
      obtain ⟨j', hj', hcj'⟩ := List.mem_flatMap.1 hc'
      exact (h.disjoint i j i' j' c (List.mem_range.1 hi) (List.mem_range.1 hj) (List.mem_range.1 hi')
        (List.mem_range.1 hj') hcj hcj').1

theorem redist_cb (cb : List Int) (π : Nat × Nat → Nat) (zs : List ((Nat × Nat) × List Nat))
    (hnd : (zs.flatMap Prod.snd).Nodup) (hin : ∀ w ∈ zs, ∀ c ∈ w.2, c < cb.length) :
    let cb' := applyW cb (zs.flatMap fun pc => pc.2.map fun c => (c, ((π pc.1 : Nat) : Int)))
    cb'.length = cb.length ∧
    (∀ w ∈ zs, ∀ c ∈ w.2, cb'.getD c (-1) = ((π w.1 : Nat) : Int)) ∧
    (∀ c, c ∉ zs.flatMap Prod.snd → cb'.getD c (-1) = cb.getD c (-1)) := by
  intro cb'
  have hkeys : ((zs.flatMap fun pc => pc.2.map fun c => (c, ((π pc.1 : Nat) : Int))).map Prod.fst)
      = zs.flatMap Prod.snd := by
    simp [List.map_flatMap, Function.comp_def]
  have hin' : ∀ w ∈ (zs.flatMap fun pc => pc.2.map fun c => (c, ((π pc.1 : Nat) : Int))), w.1 < cb.length := by
    intro w hw
    simp only [List.mem_flatMap, List.mem_map] at hw
    obtain ⟨pc, hpc, c, hc, rfl⟩ := hw
    exact hin pc hpc c hc
  obtain ⟨h1, h2⟩ := applyW_spec cb _ (by rw [hkeys]; exact hnd) hin' (-1)
  refine ⟨applyW_length _ _, ?_, ?_⟩
  · intro w hw c hc
    exact h1 (c, ((π w.1 : Nat) : Int)) (List.mem_flatMap.mpr ⟨w, hw, List.mem_map.mpr ⟨c, hc, rfl⟩⟩)
  · intro c hc
    exact h2 c (by rw [hkeys]; exact hc)

/-- `cb` holds coordinate `π` of the bin of every cell of the table, and `-1` for a cell in no bin -/
structure Records (s : HState) (π : Nat × Nat → Nat) (cb : List Int) : Prop where
  len : cb.length = s.nbCells
  agree : ∀ i j c, c ∈ s.cells i j → cb.getD c (-1) = ((π (i, j) : Nat) : Int)
  none : ∀ c, (∀ i j, c ∉ s.cells i j) → cb.getD c (-1) = -1

theorem updateCellToBin_cb (s : HState) (π : Nat × Nat → Nat)
    (hin : ∀ i j c, c ∈ s.cells i j → i < s.nbX ∧ j < s.nbY)
    (ha : Alloc (fun c => c < s.nbCells ∧ s.cellDemand c > 0) s.nbX s.nbY s.cells) :
    Records s π (applyW (List.replicate s.nbCells (-1))
      ((writesOf s.nbX s.nbY s.bins).map fun w => (w.1, ((π w.2 : Nat) : Int)))) := by
  -- `updateCellToBin` writes every bin of the view with the contents it has, over vectors of `-1`
  let zs := (List.range s.nbX).flatMap fun i => (List.range s.nbY).map fun j => ((i, j), s.cells i j)
  have hws : ((writesOf s.nbX s.nbY s.bins).map fun w => (w.1, ((π w.2 : Nat) : Int))) =
      zs.flatMap fun pc => pc.2.map fun c => (c, ((π pc.1 : Nat) : Int)) := by
    simp only [zs, writesOf, HState.cells, List.map_flatMap, List.flatMap_assoc, List.flatMap_map, List.map_map,
      Function.comp_def]
  have hflat : zs.flatMap Prod.snd = s.flat := by
    simp only [zs, HState.flat, List.flatMap_assoc, List.flatMap_map]
  have hzs : ∀ w, w ∈ zs ↔ ∃ i, i < s.nbX ∧ ∃ j, j < s.nbY ∧ ((i, j), s.cells i j) = w := fun w => by
    simp only [zs, List.mem_flatMap, List.mem_range, List.mem_map]
  rw [hws]
  obtain ⟨h1, h2, h3⟩ := redist_cb (List.replicate s.nbCells (-1)) π zs (hflat ▸ ha.nodup_flat) fun w hw c hc => by
    obtain ⟨i, hi, j, hj, rfl⟩ := (hzs w).1 hw
    exact List.length_replicate ▸ ((ha.covers c).2 ⟨i, j, hi, hj, hc⟩).1
  refine ⟨h1.trans List.length_replicate,
    fun i j c hc => h2 _ ((hzs _).2 ⟨i, (hin i j c hc).1, j, (hin i j c hc).2, rfl⟩) c hc,
    fun c hc => (h3 c (hflat ▸ fun hm => ?_)).trans (getD_replicate s.nbCells c (-1))⟩
  obtain ⟨i, j, _, _, h⟩ := (mem_flat s c).1 hm
  exact hc i j h

/-- the converse of `AllocInv.alloc`, for vectors that record the table -/
theorem AllocInv.of_alloc {s : HState} (hX : s.bins.length = s.nbX)
    (hY : ∀ i, i < s.nbX → (s.bins.getD i []).length = s.nbY)
    (hlx : s.levelX < s.hx.nbLevels) (hly : s.levelY < s.hy.nbLevels)
    (ha : Alloc (fun c => c < s.nbCells ∧ s.cellDemand c > 0) s.nbX s.nbY s.cells) {cx cy : List Int}
    (hx : Records s (fun p => p.1) cx) (hy : Records s (fun p => p.2) cy) :
    AllocInv { s with cbx := cx, cby := cy } where
  shapeX := hX
  shapeY := hY
  lvlX := hlx
  lvlY := hly
  nodup i j := by
    by_cases hr : i < s.nbX ∧ j < s.nbY
    · exact ha.nodup i j hr.1 hr.2
    · exact (List.eq_nil_iff_forall_not_mem.2 fun c hc => hr (cells_in_range hX hY hc) : s.cells i j = []) ▸
        List.nodup_nil
  disjoint i j i' j' c hc hc' :=
    ha.disjoint i j i' j' c (cells_in_range hX hY hc).1 (cells_in_range hX hY hc).2
      (cells_in_range hX hY hc').1 (cells_in_range hX hY hc').2 hc hc'
  covers c := (ha.covers c).trans <| exists_congr fun i => exists_congr fun j =>
    ⟨fun h => h.2.2, fun hc => ⟨(cells_in_range hX hY hc).1, (cells_in_range hX hY hc).2, hc⟩⟩
  cbLen := ⟨hx.len, hy.len⟩
  agree i j c hc := ⟨hx.agree i j c hc, hy.agree i j c hc⟩
  none c hc := ⟨hx.none c hc, hy.none c hc⟩

theorem allocInv_updateCellToBin (s : HState) (f : Nat → Nat → List Nat)
    (hbins : s.bins = tab s.nbX s.nbY f)
    (hlx : s.levelX < s.hx.nbLevels) (hly : s.levelY < s.hy.nbLevels)
    (ha : Alloc (fun c => c < s.nbCells ∧ s.cellDemand c > 0) s.nbX s.nbY f) :
    AllocInv s.updateCellToBin := by
  have hX : s.bins.length = s.nbX := hbins ▸ tab_length _ _ _
  have hY : ∀ i, i < s.nbX → (s.bins.getD i []).length = s.nbY := fun i hi => hbins ▸ tab_col_length _ _ _ i hi
  have ha' : Alloc _ s.nbX s.nbY s.cells := ha.congr fun i j hi hj => by
    rw [HState.cells, hbins, cellsAt_tab, if_pos ⟨hi, hj⟩]
  exact AllocInv.of_alloc hX hY hlx hly ha' (updateCellToBin_cb s (fun p => p.1) (fun _ _ _ => cells_in_range hX hY) ha')
    (updateCellToBin_cb s (fun p => p.2) (fun _ _ _ => cells_in_range hX hY) ha')

theorem mem_flatMap_ite (n : Nat) (P : Nat → Prop) [DecidablePred P] (g : Nat → List Nat) (c : Nat) :
    c ∈ (List.range n).flatMap (fun i => if P i then g i else []) ↔ ∃ i, i < n ∧ P i ∧ c ∈ g i := by
  simp only [List.mem_flatMap, List.mem_range, List.mem_ite_nil_right]

section
variable {A : Nat → Prop} {nx ny : Nat} {f : Nat → Nat → List Nat} {par : List Nat}

/-- `refineX`: every first child takes the cells of its parent -/
theorem Alloc.refine (hpk : ParOk par nx) (h : Alloc A nx ny f) :
    Alloc A par.length ny (fun i j => if HState.firstChild par i then f (par.getD i 0) j else []) where
  nodup i j hi hj := by
    split
    · exact h.nodup _ j (hpk.lt i hi) hj
    · exact List.nodup_nil
  disjoint i j i' j' c hi hj hi' hj' hc hc' := by
    obtain ⟨hf, hc⟩ := List.mem_ite_nil_right.1 hc
    obtain ⟨hf', hc'⟩ := List.mem_ite_nil_right.1 hc'
    have := h.disjoint _ j _ j' c (hpk.lt i hi) hj (hpk.lt i' hi') hj' hc hc'
    exact ⟨hpk.first_unique i i' hi hi' hf hf' this.1, this.2⟩
  covers c := (h.covers c).trans
    ⟨fun ⟨p, j, hp, hj, hc⟩ => by
      obtain ⟨i, hi, hf, hv⟩ := hpk.first_exists p hp
      exact ⟨i, j, hi, hj, by rw [if_pos hf, hv]; exact hc⟩,
    fun ⟨i, j, hi, hj, hc⟩ => ⟨_, j, hpk.lt i hi, hj, (List.mem_ite_nil_right.1 hc).2⟩⟩

/-- `coarsenX`: every parent collects the cells of its children -/
theorem Alloc.coarsen {m : Nat} (hpk : ParOk par m) (hlen : nx = par.length) (h : Alloc A nx ny f) :
    Alloc A m ny (fun p j => (List.range nx).flatMap fun i => if par.getD i 0 = p then f i j else []) where
  nodup p j _ hj := by
    refine nodup_flatMap_of_inj List.nodup_range (fun i hi => ?_) fun i hi i' hi' c hc hc' => ?_
    · split
      · exact h.nodup i j (List.mem_range.1 hi) hj
      · exact List.nodup_nil
    · exact (h.disjoint i j i' j c (List.mem_range.1 hi) hj (List.mem_range.1 hi') hj
        (List.mem_ite_nil_right.1 hc).2 (List.mem_ite_nil_right.1 hc').2).1
  disjoint p j p' j' c _ hj _ hj' hc hc' := by
    obtain ⟨i, hi, hp, hci⟩ := (mem_flatMap_ite nx _ _ c).1 hc
    obtain ⟨i', hi', hp', hci'⟩ := (mem_flatMap_ite nx _ _ c).1 hc'
    have := h.disjoint i j i' j' c hi hj hi' hj' hci hci'
    exact ⟨by rw [← hp, ← hp', this.1], this.2⟩
  covers c := (h.covers c).trans
    ⟨fun ⟨i, j, hi, hj, hc⟩ =>
      ⟨_, j, hpk.lt i (hlen ▸ hi), hj, (mem_flatMap_ite nx _ _ c).2 ⟨i, hi, rfl, hc⟩⟩,
    fun ⟨p, j, _, hj, hc⟩ => by
      obtain ⟨i, hi, _, hci⟩ := (mem_flatMap_ite nx _ _ c).1 hc
      exact ⟨i, j, hi, hj, hci⟩⟩

end

theorem allocInv_init (g : DGrid) (demand : List Int)
    (hx : HierOk (setupHierarchy g.nbX) g.nbX) (hy : HierOk (setupHierarchy g.nbY) g.nbY) :
    AllocInv (HState.init g demand) := by
  have ha : Alloc (fun c => c < demand.length ∧ demand.getD c 0 > 0) 1 1 fun _ _ => HState.activeCells demand :=
    { nodup := fun _ _ _ _ => List.Nodup.filter _ List.nodup_range
      disjoint := fun i j i' j' _ hi hj hi' hj' _ _ => by omega
      covers := fun c => by
        simp only [HState.activeCells, List.mem_filter, List.mem_range, decide_eq_true_eq]
        exact ⟨fun hc => ⟨0, 0, Nat.one_pos, Nat.one_pos, hc⟩, fun ⟨_, _, _, _, hc⟩ => hc⟩ }
  refine allocInv_updateCellToBin _ (fun _ _ => HState.activeCells demand) ?_ (Nat.sub_lt hx.pos Nat.one_pos)
    (Nat.sub_lt hy.pos Nat.one_pos) ?_
  · show _ = tab (Hier.nbBins _ _) (Hier.nbBins _ _) _
    rw [hx.nbBins_top, hy.nbBins_top]; rfl
  · show Alloc _ (Hier.nbBins _ _) (Hier.nbBins _ _) _
    rw [hx.nbBins_top, hy.nbBins_top]; exact ha

theorem allocInv_refineX (s : HState) (n : Nat) (hok : HierOk s.hx n) (h : AllocInv s) :
    AllocInv s.refineX := by
  unfold HState.refineX
  split
  · exact h
  · rename_i hl0
    have hl : s.levelX - 1 + 1 < s.hx.nbLevels := (Nat.sub_add_cancel (Nat.pos_of_ne_zero hl0)).symm ▸ h.lvlX
    have hpk := hok.parOk _ hl
    rw [Nat.sub_add_cancel (Nat.pos_of_ne_zero hl0)] at hpk
    refine allocInv_updateCellToBin _ _ rfl (Nat.lt_of_succ_lt hl) h.lvlY ?_
    show Alloc _ (s.hx.nbBins (s.levelX - 1)) _ _
    rw [hok.nbBins_eq _ (Nat.lt_of_succ_lt hl)]
    exact h.alloc.refine hpk

theorem allocInv_refineY (s : HState) (n : Nat) (hok : HierOk s.hy n) (h : AllocInv s) :
    AllocInv s.refineY := by
  unfold HState.refineY
  split
  · exact h
  · rename_i hl0
    have hl : s.levelY - 1 + 1 < s.hy.nbLevels := (Nat.sub_add_cancel (Nat.pos_of_ne_zero hl0)).symm ▸ h.lvlY
    have hpk := hok.parOk _ hl
    rw [Nat.sub_add_cancel (Nat.pos_of_ne_zero hl0)] at hpk
    refine allocInv_updateCellToBin _ _ rfl h.lvlX (Nat.lt_of_succ_lt hl) ?_
    show Alloc _ _ (s.hy.nbBins (s.levelY - 1)) _
    rw [hok.nbBins_eq _ (Nat.lt_of_succ_lt hl)]
    exact (h.alloc.swap.refine hpk).swap

theorem allocInv_coarsenX (s : HState) (n : Nat) (hok : HierOk s.hx n) (h : AllocInv s) :
    AllocInv s.coarsenX := by
  unfold HState.coarsenX
  split
  · rename_i hl
    exact allocInv_updateCellToBin _ _ rfl hl h.lvlY
      (h.alloc.coarsen (hok.parOk _ hl) (hok.nbBins_eq _ h.lvlX))
  · exact h

theorem allocInv_coarsenY (s : HState) (n : Nat) (hok : HierOk s.hy n) (h : AllocInv s) :
    AllocInv s.coarsenY := by
  unfold HState.coarsenY
  split
  · rename_i hl
    exact allocInv_updateCellToBin _ _ rfl h.lvlX hl
      (h.alloc.swap.coarsen (hok.parOk _ hl) (hok.nbBins_eq _ h.lvlY)).swap
  · exact h

end ColoVerif.Grid
