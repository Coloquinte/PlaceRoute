import ColoVerif.Proofs.DetReorderPlacer
import ColoVerif.Proofs.DetSearchTotal
/-!
The moves the optimiser makes, as a relation on placements (`Accepted`, `History`: used by Properties/C05.lean).
A search pass of the whole-object model (`SearchTrace`) and one window of a reordering pass that registers distinct
valid cells (`WindowOk`, discharged from `Inv` in Proofs/DetReorderTotal.lean) are histories for the real objective
(`trace_history`, `window_reaches`).  For any position-only objective `V`, an accepted move is a run of the `DetPlace`
model that does not increase `V` (`Accepted.not_worse`: the value the scan read for a chosen swap or insert is the
value of the state the move produces), so along a `History` every state satisfies `Inv`, has the statics of the
first one, and is at most every earlier one (`History.pairwise`).
-/
namespace ColoVerif.DetPlace
open State

/-- one move the optimiser makes: a swap / insert chosen by the acceptance rule (`bestSwap`,
`bestSwapUpdate`, `bestInsert`), a shift write-back that does not increase the value (optimality of
lemon's NetworkSimplex: **assumed**, checked on every logged shift), or a `RowReordering` pass over a
window of cells — the modelled enumeration itself (Model/DetReorder.lean), no assumption on its leaves -/
inductive Accepted (V : Value) : State → State → Prop
  | swap {s t : State} (k b : Int) (cands : List Int) :
      s.bestSwapChoice V k cands = some b → s.step (.swap k b) = .ok t → Accepted V s t
  | insert {s t : State} (k r b : Int) (cands : List Int) :
      s.bestInsertChoice V k r cands = some b → s.step (.insert k r b) = .ok t → Accepted V s t
  | shift {s t : State} (mv : List (Int × Int)) :
      s.step (.shift mv) = .ok t → t.value V ≤ s.value V → Accepted V s t
  | reorder {s t : State} (window : List Int) :
      s.reorderWindow V window = .ok t → Accepted V s t

/-- `s`, then the successive states of a history of accepted moves -/
inductive History (V : Value) : State → List State → Prop
  | nil (s : State) : History V s []
  | cons {s t : State} {rest : List State} : Accepted V s t → History V t rest → History V s (t :: rest)

theorem History.append {V : Value} {s t : State} {l1 l2 : List State} (h1 : History V s l1)
    (hl : (s :: l1).getLast? = some t) (h2 : History V t l2) : History V s (l1 ++ l2) := by
  induction h1 with
  | nil s => simp at hl; subst hl; exact h2
  | cons a _ ih =>
    refine .cons a (ih ?_)
    simpa [List.getLast?_cons_cons] using hl

theorem getLast_append_hist {s t u : State} {l1 l2 : List State} (hl : (s :: l1).getLast? = some t)
    (hl2 : (t :: l2).getLast? = some u) : (s :: (l1 ++ l2)).getLast? = some u := by
  cases l2 with
  | nil => simp at hl2; subst hl2; simpa using hl
  | cons x xs =>
    have : (s :: (l1 ++ x :: xs)) = (s :: l1) ++ (x :: xs) := rfl
    rw [this, List.getLast?_append]
    simp only [List.getLast?_cons_cons] at hl2
    rw [hl2]; rfl

/-- `q` is reached from `p` by a history of accepted moves for the real objective, and the object is
in sync again -/
def Reaches (c : Circuit) (p q : Placer) : Prop :=
  Sync c q ∧ ∃ states, History (circuitValue c) p.pl states ∧ (p.pl :: states).getLast? = some q.pl

theorem Reaches.refl {c : Circuit} {p : Placer} (h : Sync c p) : Reaches c p p := ⟨h, [], .nil _, rfl⟩

theorem Reaches.trans {c : Circuit} {p q r : Placer} (h1 : Reaches c p q) (h2 : Reaches c q r) : Reaches c p r := by
  obtain ⟨_, l1, a1, b1⟩ := h1
  obtain ⟨s2, l2, a2, b2⟩ := h2
  exact ⟨s2, l1 ++ l2, a1.append b1 a2, getLast_append_hist b1 b2⟩

/-- a move the whole-object scan chose is a move the acceptance rule on the coordinate vectors chooses
(among the candidate list reduced to the chosen cell) -/
theorem swap_accepted {c : Circuit} {p q : Placer} {k b : Int} {cands : List Int} (hs : Sync c p)
    (hch : p.bestSwapChoice k cands = some b) (e : p.step (.swap k b) = .ok q) :
    Sync c q ∧ Accepted (circuitValue c) p.pl q.pl := by
  obtain ⟨hsq, e'⟩ := step_sync hs e
  have hg := Bool.and_eq_true_iff.1 (guard_ok e').1
  obtain ⟨v, hv, hlt⟩ := bestSwapChoice_improves hch
  rw [(valueOnSwap_eq hs ((liveCell_iff _ _).1 hg.1).1 ((liveCell_iff _ _).1 hg.2).1).1] at hv
  exact ⟨hsq, .swap k b [b] (scan_singleton hv (hs.value ▸ hlt)) e'⟩

theorem insert_accepted {c : Circuit} {p q : Placer} {k r b : Int} {cands : List Int} (hs : Sync c p)
    (hch : p.bestInsertChoice k r cands = some b) (e : p.step (.insert k r b) = .ok q) :
    Sync c q ∧ Accepted (circuitValue c) p.pl q.pl := by
  obtain ⟨hsq, e'⟩ := step_sync hs e
  obtain ⟨v, hv, hlt⟩ := bestInsertChoice_improves hch
  rw [(valueOnInsert_eq hs ((liveCell_iff _ _).1 (Bool.and_eq_true_iff.1 (guard_ok e').1).1).1).1] at hv
  exact ⟨hsq, .insert k r b [b] (scan_singleton hv (hs.value ▸ hlt)) e'⟩

theorem trace_history {c : Circuit} {p q : Placer} {ops : List Op} (t : SearchTrace p ops q) (hs : Sync c p) :
    Reaches c p q := by
  induction t with
  | nil p => exact Reaches.refl hs
  | swap k b cands hch _ e _ ih =>
    obtain ⟨hs', a⟩ := swap_accepted hs hch e
    exact Reaches.trans ⟨hs', [_], .cons a (.nil _), rfl⟩ (ih hs')
  | insert k r b cands hch _ e _ ih =>
    obtain ⟨hs', a⟩ := insert_accepted hs hch e
    exact Reaches.trans ⟨hs', [_], .cons a (.nil _), rfl⟩ (ih hs')

/-- the cells `RowReordering` registers for the window `w` on `p` (those of the report, when the pass returns) are
distinct valid cells of `p` -/
def WindowOk (p : Placer) (w : List Int) : Prop :=
  ∀ q ops info, p.reorderWindow w = .ok (q, ops, info) → info.cells.Nodup ∧ ∀ k ∈ info.cells, p.pl.validCell k

theorem window_reaches {c : Circuit} {p q : Placer} {w : List Int} {ops : List Op} {info : WindowInfo} (hs : Sync c p)
    (hw : WindowOk p w) (e : p.reorderWindow w = .ok (q, ops, info)) : Reaches c p q ∧ p.run ops = .ok q := by
  obtain ⟨e1, hsq, hrun, _⟩ := reorderWindow_placer c p q w ops info hs e (hw q ops info e)
  exact ⟨⟨hsq, [q.pl], .cons (.reorder w e1) (.nil _), rfl⟩, hrun⟩

theorem run_append {p q r : Placer} : ∀ {ops ops' : List Op}, p.run ops = .ok q → q.run ops' = .ok r → p.run (ops ++ ops') = .ok r
  | [], _, h1, h2 => by simp only [Placer.run] at h1; injection h1 with h1; subst h1; exact h2
  | op :: ops, ops', h1, h2 => by
    simp only [List.cons_append, Placer.run] at h1 ⊢
    split at h1
    · cases h1
    · exact run_append h1 h2

/-- the run is empty for a reordering window without a better leaf -/
theorem Accepted.not_worse {V : Value} {s t : State} (a : Accepted V s t) (h : Inv s) :
    t.value V ≤ s.value V ∧ ∃ ops, s.run ops = .ok t := by
  have one : ∀ {op}, s.step op = .ok t → ∃ ops, s.run ops = .ok t := fun {op} e =>
    ⟨[op], by simp only [State.run, e]⟩
  cases a with
  | swap k b cands hch e =>
    obtain ⟨hg, e'⟩ := guard_ok e
    rw [Bool.and_eq_true_iff, liveCell_iff, liveCell_iff] at hg
    exact ⟨Int.le_of_lt (scan_lt hch (valueOnSwap_of_swap V h hg.1.1 hg.2.1 e')), one e⟩
  | insert k r b cands hch e =>
    exact ⟨Int.le_of_lt (scan_lt hch (valueOnInsert_of_insert V (guard_ok e).2)), one e⟩
  | shift mv e hle => exact ⟨hle, one e⟩
  | reorder w e =>
    rcases reorderWindow_not_worse V s t w e with rfl | ⟨hlt, cells, regions, e'⟩
    · exact ⟨Int.le_refl _, [], rfl⟩
    · exact ⟨Int.le_of_lt hlt, one e'⟩

theorem History.pairwise {V : Value} {s : State} {states : List State} (hist : History V s states) (h : Inv s) :
    (s :: states).Pairwise (fun a b => b.value V ≤ a.value V) ∧ ∀ t ∈ s :: states, Inv t ∧ Static s t := by
  induction hist with
  | nil s => exact ⟨List.pairwise_singleton _ _, fun t ht => by cases List.mem_singleton.1 ht; exact ⟨h, .refl _⟩⟩
  | cons a _ ih =>
    obtain ⟨hle, ops, er⟩ := a.not_worse h
    obtain ⟨pw, hr⟩ := ih (run_inv h er)
    refine ⟨List.pairwise_cons.2 ⟨fun u hu => ?_, pw⟩, fun u hu => ?_⟩
    · rcases List.mem_cons.1 hu with rfl | hu'
      · exact hle
      · exact Int.le_trans ((List.pairwise_cons.1 pw).1 u hu') hle
    · rcases List.mem_cons.1 hu with rfl | hu'
      · exact ⟨h, .refl _⟩
      · exact ⟨(hr u hu').1, (run_static er).trans (hr u hu').2⟩

end ColoVerif.DetPlace
