import ColoVerif.Model.NetTopology
import ColoVerif.Proofs.NetAsmScale
import ColoVerif.Proofs.NetAsmLsq
/-
The `Circuit → NetModel` step of C17 (`NetModel::xTopology/yTopology`):
the stored net list is, net for net, the list of non-degenerate circuit nets, each with the
weight of the circuit net it came from (`topology_eq_circuitNets`), the explicit index map
`keptIdx`, and well-formedness of the resulting nets.
-/
namespace ColoVerif.NetTopology
open ColoVerif.NetAsm

theorem foldl_pinStep_pins (a : Axis) (c : Circuit) (ps : List ColoVerif.Pin) (acc : PinAcc) :
    (ps.foldl (pinStep a c) acc).pins
      = acc.pins ++ (ps.filter (fun p => !(c.cell p.cell).fixed)).map (movablePin a c) := by
  induction ps generalizing acc with
  | nil => simp
  | cons p ps ih =>
    rw [List.foldl_cons, ih]
    unfold pinStep
    by_cases h : (c.cell p.cell).fixed = true
    · simp [h]
    · simp [h]

theorem foldFixed_isSome (r : Option (Rat × Rat)) (v : Rat) : (foldFixed r v).isSome = true := by
  unfold foldFixed
  cases r with
  | none => rfl
  | some q => rfl

theorem foldl_pinStep_range (a : Axis) (c : Circuit) (ps : List ColoVerif.Pin) (acc : PinAcc) :
    (ps.foldl (pinStep a c) acc).range.isSome
      = (acc.range.isSome || ps.any (fun p => (c.cell p.cell).fixed)) := by
  induction ps generalizing acc with
  | nil => simp
  | cons p ps ih =>
    rw [List.foldl_cons, ih]
    unfold pinStep
    by_cases h : (c.cell p.cell).fixed = true
    · simp [h, foldFixed_isSome]
    · simp [h]

theorem rawOf_pins (a : Axis) (c : Circuit) (n : ColoVerif.Net) :
    (rawOf a c n).pins = (n.pins.filter (fun p => !(c.cell p.cell).fixed)).map (movablePin a c) := by
  unfold rawOf walkPins
  simp [foldl_pinStep_pins]

theorem rawOf_pins_length (a : Axis) (c : Circuit) (n : ColoVerif.Net) :
    (rawOf a c n).pins.length = nbMovable c n := by
  rw [rawOf_pins]; simp [nbMovable]

theorem clampRange_isSome (a : Axis) (c : Circuit) (r : Option (Rat × Rat)) :
    (clampRange a c r).isSome = r.isSome := by
  unfold clampRange
  cases r with
  | none => rfl
  | some q => rfl

theorem rawOf_fixed_isSome (a : Axis) (c : Circuit) (n : ColoVerif.Net) :
    (rawOf a c n).fixedMinMax.isSome = hasFixed c n := by
  unfold rawOf walkPins hasFixed
  simp [clampRange_isSome, foldl_pinStep_range]

theorem withFixed_length_none (pins : List NetAsm.Pin) : (withFixed pins none).length = pins.length := rfl

theorem withFixed_length_some (pins : List NetAsm.Pin) (q : Rat × Rat) :
    pins.length + 1 ≤ (withFixed pins (some q)).length := by
  obtain ⟨mn, mx⟩ := q
  unfold withFixed
  by_cases h : mx = mn
  · simp [h]
  · simp [h]

theorem rawKept_rawOf (a : Axis) (c : Circuit) (n : ColoVerif.Net) :
    RawKept (rawOf a c n) = IsKept c n := by
  have hl := rawOf_pins_length a c n
  have hE : (!(rawOf a c n).pins.isEmpty) = decide (1 ≤ nbMovable c n) := by
    rw [← hl]; cases (rawOf a c n).pins <;> rfl
  unfold RawKept IsKept
  rw [hE, ← rawOf_fixed_isSome a c n]
  cases (rawOf a c n).fixedMinMax with
  | none =>
    -- no fixed pin: the stored pins are the movable ones
    rw [withFixed_length_none, hl, Option.isSome_none, Bool.or_false]
  | some q =>
    -- a fixed pin: at least one pseudo-pin is stored as well, so one movable pin is enough
    have hw := withFixed_length_some (rawOf a c n).pins q
    rw [hl] at hw
    rw [Option.isSome_some, Bool.or_true, Bool.and_true]
    by_cases h1 : 1 ≤ nbMovable c n
    · rw [decide_eq_true h1, Bool.true_and, decide_eq_true (by omega)]
    · rw [decide_eq_false h1, Bool.false_and]

theorem foldFixed_rangeOf (vs : List Rat) (r : Option (Rat × Rat)) (v : Rat) (h : RangeOf vs r) :
    RangeOf (vs ++ [v]) (foldFixed r v) := by
  cases r with
  | none =>
    have hv : vs = [] := h
    subst hv
    show v ∈ [] ++ [v] ∧ v ∈ [] ++ [v] ∧ ∀ u ∈ [] ++ [v], v ≤ u ∧ u ≤ v
    refine ⟨by simp, by simp, ?_⟩
    intro u hu
    simp at hu
    subst hu
    exact ⟨Rat.le_refl, Rat.le_refl⟩
  | some q =>
    obtain ⟨mn, mx⟩ := q
    obtain ⟨h1, h2, h3⟩ : mn ∈ vs ∧ mx ∈ vs ∧ ∀ u ∈ vs, mn ≤ u ∧ u ≤ mx := h
    show rmin mn v ∈ vs ++ [v] ∧ rmax mx v ∈ vs ++ [v] ∧ ∀ u ∈ vs ++ [v], rmin mn v ≤ u ∧ u ≤ rmax mx v
    refine ⟨?_, ?_, ?_⟩
    · rcases rmin_cases mn v with e | e <;> rw [e] <;> simp [h1]
    · rcases rmax_cases mx v with e | e <;> rw [e] <;> simp [h2]
    · intro u hu
      rw [List.mem_append] at hu
      rcases hu with hu | hu
      · obtain ⟨ha, hb⟩ := h3 u hu
        exact ⟨Rat.le_trans (rmin_le_left mn v) ha, Rat.le_trans hb (le_rmax_left mx v)⟩
      · simp at hu
        subst hu
        exact ⟨rmin_le_right mn u, le_rmax_right mx u⟩

theorem foldl_pinStep_rangeOf (a : Axis) (c : Circuit) (ps : List ColoVerif.Pin) (acc : PinAcc)
    (vs : List Rat) (h : RangeOf vs acc.range) :
    RangeOf (vs ++ (ps.filter (fun p => (c.cell p.cell).fixed)).map (fixedPos a c))
      (ps.foldl (pinStep a c) acc).range := by
  induction ps generalizing acc vs with
  | nil => simpa using h
  | cons p ps ih =>
    rw [List.foldl_cons]
    by_cases hf : (c.cell p.cell).fixed = true
    · have := ih (pinStep a c acc p) (vs ++ [fixedPos a c p])
        (by unfold pinStep; rw [if_pos hf]; exact foldFixed_rangeOf vs acc.range _ h)
      simpa [hf, List.append_assoc] using this
    · have := ih (pinStep a c acc p) vs (by unfold pinStep; rw [if_neg hf]; exact h)
      simpa [hf] using this

theorem walkPins_rangeOf (a : Axis) (c : Circuit) (n : ColoVerif.Net) :
    RangeOf (fixedPositions a c n) (walkPins a c n).range := by
  have := foldl_pinStep_rangeOf a c n.pins ⟨none, []⟩ [] rfl
  simpa [fixedPositions, walkPins] using this

theorem buildWith_rawNets (store : Rat → Rat) (a : Axis) (c : Circuit) :
    buildWith store (rawNets a c)
      = (c.nets.filter (IsKept c)).map (fun n => ⟨store (netWeight n), storedPins a c n⟩) := by
  unfold rawNets
  rw [buildWith_eq, List.filter_map, List.map_map]
  have e : (RawKept ∘ rawOf a c) = IsKept c := funext (fun n => rawKept_rawOf a c n)
  rw [e]
  rfl

theorem topology_eq_circuitNets (a : Axis) (c : Circuit) : topology a c = circuitNets a c := by
  unfold topology build circuitNets
  rw [buildWith_rawNets, store_eq_id]

theorem keptIdxFrom_eq (c : Circuit) (ns : List ColoVerif.Net) (i : Nat) :
    keptIdxFrom c i ns = ((ns.zipIdx i).filter (IsKept c ∘ Prod.fst)).map Prod.snd := by
  induction ns generalizing i with
  | nil => rfl
  | cons n ns ih =>
    rw [keptIdxFrom, ih, List.zipIdx_cons]
    by_cases h : IsKept c n = true
    · rw [if_pos h, List.filter_cons_of_pos (a := (n, i)) h]; rfl
    · rw [if_neg h, List.filter_cons_of_neg (a := (n, i)) h]

theorem filter_isKept (c : Circuit) (ns : List ColoVerif.Net) :
    ns.filter (IsKept c) = (ns.zipIdx.filter (IsKept c ∘ Prod.fst)).map Prod.fst := by
  rw [← List.filter_map, List.zipIdx_map_fst]

theorem keptIdx_length (c : Circuit) : (keptIdx c).length = (c.nets.filter (IsKept c)).length := by
  rw [keptIdx, keptIdxFrom_eq, filter_isKept, List.length_map, List.length_map]

theorem keptIdx_pairwise (c : Circuit) : List.Pairwise (fun i j => i < j) (keptIdx c) := by
  rw [keptIdx, keptIdxFrom_eq]
  refine List.Pairwise.sublist (List.filter_sublist.map _) ?_
  rw [List.zipIdx_map_snd]
  exact List.pairwise_lt_range'

theorem mem_keptIdx (c : Circuit) (i : Nat) :
    i ∈ keptIdx c ↔ ∃ n, c.nets[i]? = some n ∧ IsKept c n = true := by
  rw [keptIdx, keptIdxFrom_eq]
  simp only [List.mem_map, List.mem_filter, List.mem_zipIdx_iff_getElem?]
  exact ⟨fun ⟨q, h, e⟩ => ⟨q.1, e ▸ h⟩, fun ⟨n, h⟩ => ⟨(n, i), h, rfl⟩⟩

theorem keptIdx_get {β : Type} (c : Circuit) (f : ColoVerif.Net → β) (k i : Nat)
    (h : (keptIdx c)[k]? = some i) :
    ∃ n, c.nets[i]? = some n ∧ ((c.nets.filter (IsKept c)).map f)[k]? = some (f n) := by
  rw [keptIdx, keptIdxFrom_eq, List.getElem?_map, Option.map_eq_some_iff] at h
  obtain ⟨q, hq, rfl⟩ := h
  refine ⟨q.1, List.mem_zipIdx_iff_getElem?.1 (List.mem_filter.1 (List.mem_of_getElem? hq)).1, ?_⟩
  rw [filter_isKept, List.getElem?_map, List.getElem?_map, hq]
  rfl

theorem netWeight_nonneg (n : ColoVerif.Net) (h : 0 ≤ n.wMant) : 0 ≤ netWeight n := by
  unfold netWeight
  have h2 : (0 : Rat) < (2 : Rat) ^ n.wExp := Rat.zpow_pos (by decide)
  have h1 : (0 : Rat) ≤ (n.wMant : Rat) := by exact_mod_cast h
  exact Rat.mul_nonneg h1 (Rat.le_of_lt h2)

theorem withFixed_mem (pins : List NetAsm.Pin) (fm : Option (Rat × Rat)) (q : NetAsm.Pin)
    (hq : q ∈ withFixed pins fm) : q ∈ pins ∨ q.1 = -1 := by
  unfold withFixed at hq
  cases fm with
  | none => exact Or.inl hq
  | some r =>
    obtain ⟨mn, mx⟩ := r
    by_cases h : mx = mn
    · simp [h] at hq
      rcases hq with hq | rfl
      · exact Or.inl hq
      · exact Or.inr rfl
    · simp [h] at hq
      rcases hq with hq | rfl | rfl
      · exact Or.inl hq
      · exact Or.inr rfl
      · exact Or.inr rfl

theorem storedPins_ok (a : Axis) (c : Circuit) (n : ColoVerif.Net)
    (hn : ∀ p ∈ n.pins, p.cell < c.cells.length) :
    ∀ q ∈ storedPins a c n, q.1 = -1 ∨ (0 ≤ q.1 ∧ q.1 < (c.cells.length : Int)) := by
  intro q hq
  unfold storedPins at hq
  rcases withFixed_mem _ _ q hq with hq | hq
  · rw [rawOf_pins] at hq
    simp only [List.mem_map, List.mem_filter] at hq
    obtain ⟨p, ⟨hp, _⟩, rfl⟩ := hq
    right
    have := hn p hp
    show (0 : Int) ≤ (p.cell : Int) ∧ (p.cell : Int) < (c.cells.length : Int)
    exact ⟨Int.natCast_nonneg _, by exact_mod_cast this⟩
  · exact Or.inl hq

theorem circuitNets_wellFormed (a : Axis) (c : Circuit) (h : CircuitOk c) :
    ∀ m ∈ circuitNets a c, NetOk c.cells.length m ∧ 0 ≤ m.weight := by
  intro m hm
  unfold circuitNets at hm
  simp only [List.mem_map, List.mem_filter] at hm
  obtain ⟨n, ⟨hn, _⟩, rfl⟩ := hm
  obtain ⟨hw, hp⟩ := h n hn
  exact ⟨storedPins_ok a c n hp, netWeight_nonneg n hw⟩

end ColoVerif.NetTopology
