import ColoVerif.Proofs.ListFacts
import ColoVerif.Proofs.LegalizeCellOrder
import ColoVerif.Proofs.RowLegOpt
import ColoVerif.Proofs.LegalizeRowLeg
import ColoVerif.Proofs.LegalizeLegalAbacus
/-
For C11's `abacus_keeps_own_row`: `AbacusLegalizer::placeCell` puts a cell that already sits legally in a
segment, to the right of everything pushed there so far, back into that segment at cost 0 — the own segment
costs 0 and is visited before any segment at non-zero y distance, every other segment of the same y costs > 0
or has no room (first strict minimum wins), later rows never beat cost 0, and the cost queries leave the row
legalizers unchanged.
-/
namespace ColoVerif.RowLeg

/-- For the costs of the other segments: in any reachable state the cost `push`/`getCost` reports is at least
`width · |x − target|`, `x` being the position the new cell takes.  By `push_bellman` at the right limit the reported
cost is that displacement plus the drop of the old queue function between the cell's final position and the end of
the row, and the function is non-increasing. -/
theorem push_cost_ge {b e : Int} {h : List (Int × Int)} {C : Int} {s : State} (hr : Reach b e h C s)
    (w t : Int) (hw : 0 < w) (hfit : w ≤ s.remaining) :
    ∃ x, b ≤ x ∧ x + w ≤ e ∧ w * ((x - t).natAbs : Int) ≤ (push s w t).1 := by
  have hi := reach_inv hr
  have hpos := (reach_costInv hr).bpos
  have hf := fin_bounds s w t hfit
  have hused : 0 ≤ s.used := aligned_sum_nonneg b e _ _ hi.aligned
  have h2 := (push_bellman s w t hi.sorted (by rw [hi.hb]; exact hpos) hw hfit hused).2.k2 (s.e - s.used - w)
    (by omega) (Int.le_refl _)
  have hd := (eval_diff_bounds (displacement s w t).finalAbsPos (s.e - s.used) (by omega) s.bounds
    fun β hβ => Int.le_of_lt (hpos β hβ).2).1
  rw [Int.min_eq_left (by omega)] at h2
  rw [hi.hb, hi.he] at hf
  refine ⟨(displacement s w t).finalAbsPos + s.used, by omega, by omega, ?_⟩
  rw [show (displacement s w t).finalAbsPos + s.used - t = (displacement s w t).finalAbsPos - (t - s.used) by omega]
  omega

theorem push_cost_nonneg {b e : Int} {h : List (Int × Int)} {C : Int} {s : State} (hr : Reach b e h C s)
    (w t : Int) (hw : 0 < w) (hfit : w ≤ s.remaining) : 0 ≤ (push s w t).1 := by
  obtain ⟨x, _, _, hx⟩ := push_cost_ge hr w t hw hfit
  exact Int.le_trans (Int.mul_nonneg (Int.le_of_lt hw) (Int.natCast_nonneg _)) hx

theorem push_cost_pos {b e : Int} {h : List (Int × Int)} {C : Int} {s : State} (hr : Reach b e h C s)
    (w t : Int) (hw : 0 < w) (hfit : w ≤ s.remaining) (hout : e ≤ t ∨ t + w ≤ b) : 0 < (push s w t).1 := by
  obtain ⟨x, h1, h2, hx⟩ := push_cost_ge hr w t hw hfit
  have hne : x - t ≠ 0 := by omega
  exact Int.lt_of_lt_of_le (Int.mul_pos hw (Int.natCast_pos.mpr (Int.natAbs_pos.mpr hne))) hx

end ColoVerif.RowLeg

namespace ColoVerif.Legalize
open ColoVerif ColoVerif.RowLeg

theorem lowerBound_spec (rows : List Row) (y : Int) :
    lowerBound rows y ≤ rows.length ∧ (∀ i, i < lowerBound rows y → (rowAt rows i).rect.minY < y) ∧
    (lowerBound rows y < rows.length → y ≤ (rowAt rows (lowerBound rows y)).rect.minY) := by
  unfold lowerBound
  refine ⟨List.findIdx_le_length, fun i hi => ?_, fun hl => ?_⟩
  · have := List.not_of_lt_findIdx hi
    rw [rowAt_eq_getElem rows i (Nat.lt_of_lt_of_le hi List.findIdx_le_length)]
    simpa using this
  · have := List.findIdx_getElem (w := hl)
    rw [rowAt_eq_getElem rows _ hl]
    simpa using this

/-- `closestRow` compares the lower-bound row with the one before it; at y distance 0 the lower-bound row stays -/
theorem startRow_own (S : List Row) (hs : SortedBy rowLt S) (y : Int) (k0 : Nat) (hk0 : k0 < S.length)
    (hy : (rowAt S k0).rect.minY = y) :
    startRow S y = lowerBound S y ∧ lowerBound S y ≤ k0 ∧
    ∀ r, lowerBound S y ≤ r → r ≤ k0 → (rowAt S r).rect.minY = y := by
  obtain ⟨h1, h2, h3⟩ := lowerBound_spec S y
  have hle : lowerBound S y ≤ k0 := by
    rcases Nat.lt_or_ge k0 (lowerBound S y) with h | h
    · have := h2 k0 h; omega
    · exact h
  have hlb := h3 (by omega)
  have hmid : ∀ r, lowerBound S y ≤ r → r ≤ k0 → (rowAt S r).rect.minY = y := by
    intro r hr1 hr2
    have a1 := sortedRows_minY S hs (lowerBound S y) r hr1 (by omega)
    have a2 := sortedRows_minY S hs r k0 hr2 hk0
    omega
  refine ⟨?_, hle, hmid⟩
  unfold startRow closestRow
  have hne : lowerBound S y ≠ S.length := by omega
  rw [if_neg hne]
  by_cases h0 : lowerBound S y = 0
  · rw [if_pos h0, h0]; rfl
  · rw [if_neg h0]
    have hprev := h2 (lowerBound S y - 1) (by omega)
    have hcur := hmid (lowerBound S y) (Nat.le_refl _) hle
    have : ¬ ((rowAt S (lowerBound S y)).rect.minY - y > y - (rowAt S (lowerBound S y - 1)).rect.minY) := by
      omega
    rw [if_neg this]
    simp

theorem set_legAt_self (legs : List State) (k : Nat) (hk : k < legs.length) : legs.set k (legAt legs k) = legs := by
  rw [show legAt legs k = legs[k] from (List.getElem_eq_getD _).symm]
  exact List.set_getElem_self hk

theorem iabs_nonneg (v : Int) : 0 ≤ iabs v := by unfold iabs; split <;> omega

theorem ydist_same {S : List Row} {c : LCell} {row : Nat} (h : (rowAt S row).rect.minY = c.ty) :
    c.w * iabs ((rowAt S row).rect.minY - c.ty) = 0 := by
  rw [h, Int.sub_self]
  exact Int.mul_zero _

theorem canEval_iff (S : List Row) (legs : List State) (c : LCell) (k : Nat) :
    canEval S legs c k = true ↔ c.w ≤ (legAt legs k).remaining ∧ getOrientation S c k ≠ Orient.INVALID := by
  simp only [canEval, Bool.and_eq_true, Bool.not_eq_true', decide_eq_false_iff_not, Int.not_lt, bne_iff_ne, ne_eq]

/-- the `tryPlace` lambda of `placeCell`.  `getCost` pops bounds and re-inserts them, which gives the state
back only on a sorted queue (`getCost_state`): hence the reachability hypothesis -/
theorem abacusTry_eq {S : List Row} {legs : List State} {c : LCell} {row : Nat} (b : Option ABest)
    (hh : (rowAt S row).rect.height = c.h) (hrow : row < legs.length)
    (hreach : ∃ h C, Reach (rowAt S row).rect.minX (rowAt S row).rect.maxX h C (legAt legs row)) :
    abacusTry S c row (legs, b) =
      if abacusStop b (c.w * iabs ((rowAt S row).rect.minY - c.ty)) = true then ((legs, b), true)
      else if canEval S legs c row = true then
        ((legs, abacusBetter b row ((push (legAt legs row) c.w c.tx).1
            + c.w * iabs ((rowAt S row).rect.minY - c.ty))), false)
      else ((legs, b), false) := by
  obtain ⟨h, C, hr⟩ := hreach
  unfold abacusTry
  rw [if_neg (not_not.mpr hh)]
  split
  · rfl
  · by_cases h2 : canEval S legs c row = true
    · have hg : getCost (legAt legs row) c.w c.tx = ((push (legAt legs row) c.w c.tx).1, legAt legs row) :=
        Prod.ext (getCost_fst ..) (getCost_state _ _ _ (reach_inv hr).sorted)
      simp only [h2, Bool.not_true, hg, set_legAt_self legs row hrow, Bool.false_eq_true, if_false, if_true]
    · simp only [h2, Bool.not_false, if_true, Bool.false_eq_true, if_false]

/-- The state of `placeCell`'s search in which the cell stays: sorted segments of the cell's height whose row
legalizers are reachable; `c` lies in segment `k0` right of everything pushed there (`own_nc`) and overlaps no other
segment of its y (`others`). -/
structure SearchCtx (S : List Row) (legs : List State) (c : LCell) (k0 : Nat) : Prop where
  hk0 : k0 < S.length
  hlen : legs.length = S.length
  sorted : SortedBy rowLt S
  heights : ∀ k, k < S.length → (rowAt S k).rect.height = c.h
  reach : ∀ k, k < S.length → ∃ h C, Reach (rowAt S k).rect.minX (rowAt S k).rect.maxX h C (legAt legs k)
  wpos : 0 < c.w
  own_y : (rowAt S k0).rect.minY = c.ty
  own_nc : ∃ lo ts, NC (legAt legs k0) lo ts ∧ lo ≤ c.tx
  own_e : c.tx + c.w ≤ (rowAt S k0).rect.maxX
  own_orient : getOrientation S c k0 ≠ Orient.INVALID
  others : ∀ k, k < S.length → k ≠ k0 → (rowAt S k).rect.minY = c.ty →
    (rowAt S k).rect.maxX ≤ c.tx ∨ c.tx + c.w ≤ (rowAt S k).rect.minX

/-- before the own segment was seen: no candidate yet, or one with positive cost -/
def PhaseA (b : Option ABest) : Prop := ∀ bb, b = some bb → 0 < bb.dist

theorem PhaseA.none : PhaseA none := fun _ h => nomatch h

theorem PhaseA.not_stop {b : Option ABest} (h : PhaseA b) : ¬ abacusStop b 0 = true := by
  cases b with
  | none => exact Bool.false_ne_true
  | some bb =>
    have := h bb rfl
    simp only [abacusStop, decide_eq_true_eq]
    omega

theorem PhaseA.better {b : Option ABest} (h : PhaseA b) (row : Nat) {d : Int} (hd : 0 < d) :
    PhaseA (abacusBetter b row d) :=
  abacusBetter_some h hd

theorem PhaseA.better_zero {b : Option ABest} (h : PhaseA b) (k : Nat) : abacusBetter b k 0 = some ⟨k, 0⟩ := by
  cases b with
  | none => rfl
  | some bb => exact if_pos (h bb rfl)

/-- `dist < bestDist` is strict: a candidate at cost 0 is never replaced -/
theorem abacusBetter_zero (k row : Nat) {d : Int} (hd : 0 ≤ d) :
    abacusBetter (some ⟨k, 0⟩) row d = some ⟨k, 0⟩ :=
  if_neg (Int.not_lt.mpr hd)

theorem SearchCtx.stepA {S legs c k0} (x : SearchCtx S legs c k0) (row : Nat) (hrow : row < S.length)
    (hne : row ≠ k0) (hy : (rowAt S row).rect.minY = c.ty) (b : Option ABest) (hA : PhaseA b) :
    ∃ b', PhaseA b' ∧ abacusTry S c row (legs, b) = ((legs, b'), false) := by
  rw [abacusTry_eq b (x.heights row hrow) (x.hlen ▸ hrow) (x.reach row hrow), ydist_same hy, if_neg hA.not_stop]
  split
  · rename_i hce
    obtain ⟨h, C, hr⟩ := x.reach row hrow
    have hpos := push_cost_pos hr c.w c.tx x.wpos ((canEval_iff S legs c row).mp hce).1 (x.others row hrow hne hy)
    exact ⟨_, hA.better row (by omega), rfl⟩
  · exact ⟨b, hA, rfl⟩

theorem SearchCtx.stepK0 {S legs c k0} (x : SearchCtx S legs c k0) (b : Option ABest) (hA : PhaseA b) :
    abacusTry S c k0 (legs, b) = ((legs, some ⟨k0, 0⟩), false) := by
  obtain ⟨lo, ts, hnc, hlo⟩ := x.own_nc
  obtain ⟨h, C, hr⟩ := x.reach k0 x.hk0
  have he : c.tx + c.w ≤ (legAt legs k0).e := by rw [(reach_inv hr).he]; exact x.own_e
  have hce : canEval S legs c k0 = true :=
    (canEval_iff S legs c k0).mpr ⟨nc_fits _ lo ts c.w c.tx hnc hlo he, x.own_orient⟩
  have e := abacusTry_eq b (x.heights k0 x.hk0) (x.hlen ▸ x.hk0) (x.reach k0 x.hk0)
  have hcost := (push_no_conflict _ lo ts c.w c.tx hnc x.wpos hlo he).1
  rw [e, ydist_same x.own_y, if_neg hA.not_stop, if_pos hce, hcost, Int.add_zero, hA.better_zero]

theorem SearchCtx.stepB {S legs c k0} (x : SearchCtx S legs c k0) (row : Nat) (hrow : row < S.length) :
    ∃ fl, abacusTry S c row (legs, some ⟨k0, 0⟩) = ((legs, some ⟨k0, 0⟩), fl) := by
  rw [abacusTry_eq _ (x.heights row hrow) (x.hlen ▸ hrow) (x.reach row hrow)]
  split
  · exact ⟨true, rfl⟩
  · split
    · rename_i hce
      obtain ⟨h, C, hr⟩ := x.reach row hrow
      have h1 := push_cost_nonneg hr c.w c.tx x.wpos ((canEval_iff S legs c row).mp hce).1
      have h2 : 0 ≤ c.w * iabs ((rowAt S row).rect.minY - c.ty) :=
        Int.mul_nonneg (Int.le_of_lt x.wpos) (iabs_nonneg _)
      exact ⟨false, by rw [abacusBetter_zero k0 row (Int.add_nonneg h1 h2)]⟩
    · exact ⟨false, rfl⟩

theorem scanRows_cons_false {σ : Type} (f : Nat → σ → σ × Bool) (r : Nat) (rs : List Nat) (s s' : σ)
    (h : f r s = (s', false)) : scanRows f (r :: rs) s = scanRows f rs s' := by
  simp only [scanRows, h]

theorem scanRows_cons_true {σ : Type} (f : Nat → σ → σ × Bool) (r : Nat) (rs : List Nat) (s s' : σ)
    (h : f r s = (s', true)) : scanRows f (r :: rs) s = s' := by
  simp only [scanRows, h]

theorem SearchCtx.scanA {S legs c k0} (x : SearchCtx S legs c k0) : ∀ (l : List Nat),
    (∀ r ∈ l, r < S.length ∧ r ≠ k0 ∧ (rowAt S r).rect.minY = c.ty) → ∀ b, PhaseA b →
    ∃ b', PhaseA b' ∧ ∀ rest, scanRows (abacusTry S c) (l ++ rest) (legs, b)
      = scanRows (abacusTry S c) rest (legs, b')
  | [], _, b, hA => ⟨b, hA, fun _ => rfl⟩
  | r :: l, hl, b, hA => by
    obtain ⟨h1, h2, h3⟩ := hl r List.mem_cons_self
    obtain ⟨b1, hA1, e1⟩ := x.stepA r h1 h2 h3 b hA
    obtain ⟨b2, hA2, e2⟩ := x.scanA l (fun r' hr' => hl r' (List.mem_cons_of_mem _ hr')) b1 hA1
    refine ⟨b2, hA2, fun rest => ?_⟩
    rw [List.cons_append, scanRows_cons_false _ _ _ _ _ e1]
    exact e2 rest

theorem SearchCtx.scanB {S legs c k0} (x : SearchCtx S legs c k0) : ∀ (l : List Nat),
    (∀ r ∈ l, r < S.length) →
    scanRows (abacusTry S c) l (legs, some ⟨k0, 0⟩) = (legs, some ⟨k0, 0⟩)
  | [], _ => rfl
  | r :: l, hl => by
    obtain ⟨fl, e⟩ := x.stepB r (hl r List.mem_cons_self)
    cases fl with
    | true => exact scanRows_cons_true _ _ _ _ _ e
    | false =>
      rw [scanRows_cons_false _ _ _ _ _ e]
      exact x.scanB l (fun r' hr' => hl r' (List.mem_cons_of_mem _ hr'))

theorem upRows_split (lb a b : Nat) :
    upRows (lb + a + b + 1) lb = List.range' lb a ++ (lb + a) :: List.range' (lb + a + 1) b := by
  rw [upRows, Nat.add_assoc, Nat.add_assoc, Nat.add_sub_cancel_left, ← List.range'_append_1, List.range'_succ]

/-- C11's `abacus_keeps_own_row`: the search of `placeCell` ends with the own segment at cost 0 and
unchanged row legalizers -/
theorem SearchCtx.search {S legs c k0} (x : SearchCtx S legs c k0) :
    searchRows (abacusTry S c) S.length (startRow S c.ty) (legs, none) = (legs, some ⟨k0, 0⟩) := by
  obtain ⟨hst, hle, hmid⟩ := startRow_own S x.sorted c.ty k0 x.hk0 x.own_y
  rw [hst]
  generalize lowerBound S c.ty = lb at hle hmid
  -- rows `lb … k0 − 1` are other segments of the cell's y; then the own segment; nothing later wins
  obtain ⟨a, rfl⟩ := Nat.exists_eq_add_of_le hle
  obtain ⟨b, hb⟩ := Nat.exists_eq_add_of_lt x.hk0
  obtain ⟨b', hA', e⟩ := x.scanA (List.range' lb a) (fun r hr => by
    have := List.mem_range'_1.mp hr
    exact ⟨by omega, by omega, hmid r (by omega) (by omega)⟩) none PhaseA.none
  have hup : ∀ r ∈ List.range' (lb + a + 1) b, r < S.length := fun r hr => by
    have := List.mem_range'_1.mp hr
    omega
  have hdown : ∀ r ∈ downRows lb, r < S.length := fun r hr => by
    have := List.mem_range.mp (List.mem_reverse.mp hr)
    omega
  unfold searchRows
  rw [hb, upRows_split, e, scanRows_cons_false _ _ _ _ _ (x.stepK0 b' hA'), x.scanB _ hup]
  exact x.scanB _ hdown

theorem legAt_placed (a : Abacus) {k : Nat} (i : Nat) (c : LCell) (hk : k < a.legs.length) (k' : Nat) :
    legAt (a.placed k i c).legs k' = if k' = k then (push (legAt a.legs k) c.w c.tx).2 else legAt a.legs k' :=
  ListFacts.getD_set a.legs k k' _ default hk

theorem rowCells_placed (a : Abacus) {k : Nat} (i : Nat) (c : LCell) (hk : k < a.rowCells.length) (k' : Nat) :
    (a.placed k i c).rowCells.getD k' [] = if k' = k then a.rowCells.getD k [] ++ [i] else a.rowCells.getD k' [] :=
  ListFacts.getD_set a.rowCells k k' _ [] hk

theorem legAt_init (R : List Row) (k : Nat) (hk : k < (sortRows R).length) :
    legAt (Abacus.init R).legs k = State.new (rowAt (sortRows R) k).rect.minX (rowAt (sortRows R) k).rect.maxX :=
  ListFacts.getD_map_of_lt _ default default hk

theorem SearchCtx.place {a : Abacus} {c : LCell} {k0 : Nat} (x : SearchCtx a.rows a.legs c k0) (i : Nat) :
    abacusPlace a i c = (a.placed k0 i c, true) := by
  unfold abacusPlace
  rw [x.search]
  rfl

end ColoVerif.Legalize
