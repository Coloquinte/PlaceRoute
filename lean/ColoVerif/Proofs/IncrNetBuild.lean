import ColoVerif.Proofs.IncrNetFinalize
import ColoVerif.Proofs.C09Hpwl
/-
`IncrNetModelBuilder` produces a CSR that represents exactly the list of nets it kept; the models it
builds are good; the value of a consistent model is the 1-D wirelength of its net CSR.
-/
namespace ColoVerif.IncrNet
open ColoVerif Model ColoVerif.C09

def total (L : List (List Pin1)) : Nat := (L.map List.length).sum

/-- `netLimits_` of the nets `L` when the first pin has index `s` -/
def limits (s : Nat) : List (List Pin1) → List Nat
  | [] => [s]
  | l :: ls => s :: limits (s + l.length) ls

theorem limits_length : ∀ (L : List (List Pin1)) (s : Nat), (limits s L).length = L.length + 1
  | [], _ => rfl
  | l :: ls, s => by simp [limits, limits_length ls]

theorem limits_head (L : List (List Pin1)) (s : Nat) : (limits s L).getD 0 0 = s := by
  cases L <;> simp [limits]

theorem limits_getLastD : ∀ (L : List (List Pin1)) (s d : Nat), (limits s L).getLastD d = s + total L
  | [], s, d => by simp [limits, total, List.getLastD]
  | l :: ls, s, d => by
    have := limits_getLastD ls (s + l.length) s
    rw [limits, List.getLastD_cons, this]
    simp [total]
    omega

theorem limits_append : ∀ (L : List (List Pin1)) (l : List Pin1) (s : Nat),
    limits s (L ++ [l]) = limits s L ++ [s + total L + l.length]
  | [], l, s => by simp [limits, total]
  | l' :: ls, l, s => by
    have := limits_append ls l (s + l'.length)
    simp [limits, total, this] at this ⊢
    omega

theorem total_append (L : List (List Pin1)) (l : List Pin1) : total (L ++ [l]) = total L + l.length := by
  simp [total]

/-- `pre`: the pins before the first net of `L`, so that the induction can drop a net -/
theorem slice_repr : ∀ (L : List (List Pin1)) (s : Nat) (pre : List Pin1) (n : Nat), n < L.length → pre.length = s →
    (List.range ((limits s L).getD (n + 1) 0 - (limits s L).getD n 0)).map
      (fun j => (pre ++ L.flatten).getD ((limits s L).getD n 0 + j) (0, 0)) = L.getD n []
  | [], _, _, _, h, _ => absurd h (Nat.not_lt_zero _)
  | l :: ls, s, pre, 0, _, hs => by
    have h1 : (limits s (l :: ls)).getD 1 0 = s + l.length := limits_head ls (s + l.length)
    have h0 : (limits s (l :: ls)).getD 0 0 = s := limits_head _ _
    rw [h1, h0, Nat.add_sub_cancel_left]
    refine Eq.trans (List.map_congr_left fun j hj => ?_) (ListFacts.range_map_getD_id l (0, 0))
    rw [← hs, List.flatten_cons, ListFacts.getD_append_right,
      ListFacts.getD_append_left _ _ _ (List.mem_range.mp hj)]
  | l :: ls, s, pre, n + 1, h, hs => by
    have ih := slice_repr ls (s + l.length) (pre ++ l) n (Nat.lt_of_succ_lt_succ h) (by rw [List.length_append, hs])
    rwa [List.append_assoc] at ih

/-- the CSR arrays `lims`, `cells`, `offs` hold the nets `L` -/
def Csr (lims cells : List Nat) (offs : List Int) (L : List (List Pin1)) : Prop :=
  lims = limits 0 L ∧ cells = L.flatten.map (·.1) ∧ offs = L.flatten.map (·.2)

abbrev Repr (m : Model) (L : List (List Pin1)) : Prop := Csr m.netLimits m.netCells m.netPinOffsets L
abbrev BRepr (b : Builder) (L : List (List Pin1)) : Prop := Csr b.netLimits b.netCells b.netPinOffsets L

theorem Repr.nbNets {m : Model} {L} (h : Repr m L) : m.nbNets = L.length := by
  simp [Model.nbNets, h.1, limits_length]

theorem Repr.nbPins {m : Model} {L} (h : Repr m L) : m.nbPins = total L := by
  unfold Model.nbPins
  rw [h.1, limits_getLastD]; omega

theorem Repr.netPins {m : Model} {L} (h : Repr m L) (n : Nat) (hn : n < L.length) : m.netPins n = L.getD n [] := by
  have hp : ∀ i, ((L.flatten.map (·.1)).getD i 0, (L.flatten.map (·.2)).getD i 0) = L.flatten.getD i (0, 0) := fun i => by
    simp only [List.getD_eq_getElem?_getD, List.getElem?_map]
    cases L.flatten[i]? <;> rfl
  have := slice_repr L 0 [] n hn rfl
  unfold Model.netPins Model.nbNetPins Model.pinCell Model.netPinOffset
  rw [h.1, h.2.1, h.2.2]
  simpa only [hp, List.nil_append] using this

theorem Repr.nets {m : Model} {L} (h : Repr m L) : (List.range m.nbNets).map m.netPins = L := by
  rw [h.nbNets]
  exact (List.map_congr_left fun n hn => h.netPins n (List.mem_range.mp hn)).trans (ListFacts.range_map_getD_id L [])

theorem Repr.allPins_length {m : Model} {L} (h : Repr m L) : m.allPins.length = total L := by
  unfold Model.allPins total
  rw [← h.nets, List.length_flatMap, List.map_map]
  simp only [Function.comp_def, List.length_map]

theorem Repr.mem_allPins {m : Model} {L} (h : Repr m L) (q : P3) (hq : q ∈ m.allPins) :
    ∃ l ∈ L, (q.2.1, q.2.2) ∈ l := by
  obtain ⟨n, hn, hq⟩ := List.mem_flatMap.mp hq
  obtain ⟨p, hp, rfl⟩ := List.mem_map.mp hq
  exact ⟨m.netPins n, h.nets ▸ List.mem_map_of_mem hn, hp⟩

/-- the nets `addNet` keeps -/
def kept (Ls : List (List Pin1)) : List (List Pin1) := Ls.filter fun l => decide (1 < l.length)

theorem addNet_repr (b : Builder) (L : List (List Pin1)) (l : List Pin1) (h : BRepr b L) :
    BRepr (b.addNet l) (L ++ kept [l]) := by
  unfold Builder.addNet kept
  by_cases hl : l.length ≤ 1
  · rw [if_pos hl, List.filter_cons_of_neg (by simpa using hl), List.filter_nil, List.append_nil]; exact h
  · rw [if_neg hl, List.filter_cons_of_pos (by simpa using hl), List.filter_nil]
    refine ⟨?_, ?_, ?_⟩
    · show b.netLimits ++ [b.netLimits.getLastD 0 + l.length] = _
      rw [h.1, limits_getLastD, limits_append]
    · show b.netCells ++ l.map (·.1) = _
      rw [h.2.1]; simp
    · show b.netPinOffsets ++ l.map (·.2) = _
      rw [h.2.2]; simp

theorem foldl_addNet_repr : ∀ (Ls : List (List Pin1)) (b : Builder) (L : List (List Pin1)), BRepr b L →
    BRepr (Ls.foldl Builder.addNet b) (L ++ kept Ls)
  | [], b, L, h => by simpa [kept] using h
  | l :: Ls, b, L, h => by
    have h2 := foldl_addNet_repr Ls _ _ (addNet_repr b L l h)
    rwa [List.append_assoc, kept, kept, ← List.filter_append] at h2

theorem foldl_addNet_nbCells : ∀ (Ls : List (List Pin1)) (b : Builder), (Ls.foldl Builder.addNet b).nbCells = b.nbCells
  | [], _ => rfl
  | l :: Ls, b => by
    rw [List.foldl_cons, foldl_addNet_nbCells Ls]
    unfold Builder.addNet; split <;> rfl

/-- the model `build(pos)` finalizes -/
def Builder.initModel (b : Builder) (pos : List Int) : Model :=
  { cellPos := pos, netLimits := b.netLimits, netCells := b.netCells, netPinOffsets := b.netPinOffsets
    cellLimits := [], cellNets := [], cellPinOffsets := [], netMinMaxPos := [], value := 0 }

theorem build_repr (b : Builder) (L : List (List Pin1)) (pos : List Int) (h : BRepr b L) : Repr (b.build pos) L := h

theorem build_cellPos (b : Builder) (pos : List Int) : (b.build pos).cellPos = pos := rfl

theorem builder_repr (K : Nat) (Ls : List (List Pin1)) : BRepr (Ls.foldl Builder.addNet (Builder.new K)) (kept Ls) := by
  have h := foldl_addNet_repr Ls (Builder.new K) [] ⟨rfl, rfl, rfl⟩
  rwa [List.nil_append] at h

theorem Repr.netPins_ne_nil {m : Model} {Ls} (h : Repr m (kept Ls)) (n : Nat) (hn : n < m.nbNets) : m.netPins n ≠ [] := by
  have := h.nets ▸ List.mem_map_of_mem (f := m.netPins) (List.mem_range.mpr hn)
  exact fun h0 => by simp [kept, h0] at this

theorem build_wfOff (b : Builder) (L : List (List Pin1)) (pos : List Int) (h : BRepr b L)
    (hrange : ∀ l ∈ L, ∀ p ∈ l, p.1 < pos.length) : WFOff (b.build pos) := by
  have hr : Repr (b.initModel pos) L := h
  refine finalize_wfOff (b.initModel pos) ?_ ?_
  · intro q hq
    obtain ⟨l, hl, hp⟩ := hr.mem_allPins q hq
    exact hrange l hl _ hp
  · rw [hr.allPins_length, hr.nbPins]; exact Nat.le_refl _

/-- `nonempty`: the stored bounds of an empty net are `(intMax, intMin)`, whose difference is not a span;
`addNet` drops the nets with fewer than two pins -/
structure Good (m : Model) : Prop where
  wf : WF m
  inv : Inv m
  nonempty : ∀ n, n < m.nbNets → m.netPins n ≠ []

theorem builder_wfOff (K : Nat) (Ls : List (List Pin1)) (pos : List Int) (hK : pos.length = K)
    (hrange : ∀ l ∈ Ls, ∀ p ∈ l, p.1 < K) : WFOff ((Ls.foldl Builder.addNet (Builder.new K)).build pos) :=
  build_wfOff _ _ pos (builder_repr K Ls) (fun l hl p hp => by rw [hK]; exact hrange l (List.mem_filter.mp hl).1 p hp)

theorem builder_Good (K : Nat) (Ls : List (List Pin1)) (pos : List Int) (hK : pos.length = K)
    (hrange : ∀ l ∈ Ls, ∀ p ∈ l, p.1 < K) : Good ((Ls.foldl Builder.addNet (Builder.new K)).build pos) :=
  ⟨(builder_wfOff K Ls pos hK hrange).wf, finalize_inv _, (build_repr _ _ pos (builder_repr K Ls)).netPins_ne_nil⟩

/-- 1-D wirelength of the current positions, recomputed from scratch from the net CSR -/
def scratchValue (m : Model) : Int := ((List.range m.nbNets).map fun n => span (m.netPinPositions n)).sum

theorem inv_value (m : Model) (h : Inv m) (hne : ∀ n, n < m.nbNets → m.netPins n ≠ []) : m.value = scratchValue m := by
  obtain ⟨_, hpt, hval⟩ := h
  rw [hval]
  unfold computeValue scratchValue
  refine congrArg List.sum (List.map_congr_left fun n hn => ?_)
  have hn' := List.mem_range.mp hn
  rw [hpt n hn' (fun f => f)]
  exact lmax_lmin_span intMin intMax (m.netPinPositions n) fun h0 => hne n hn' (List.map_eq_nil_iff.mp h0)

theorem Repr.scratchValue {m : Model} {L} (h : Repr m L) :
    scratchValue m = (L.map fun l => span (l.map fun p => m.cellPos.getD p.1 0 + p.2)).sum := by
  unfold IncrNet.scratchValue
  rw [← h.nets, List.map_map]
  rfl

end ColoVerif.IncrNet
