import ColoVerif.Proofs.CheckedDetPlace
import ColoVerif.Proofs.DetPlaceLegal
/-
The C07 domain `DomC` of `DetailedPlacement` along a whole optimiser history (C07 `detplace_history_no_fault`).
`DomC` asks for magnitudes of the *cells*; what the C07 statement bounds is the input.  The cell part follows from
the invariant of `check()` (`Inv`): every placed cell lies between the ends of its row (`row_bounds`), so it is
enough that the *rows* lie within ±2^22 and that every optimised cell is placed — both are kept by every move of the
optimiser (`run_inv`, `run_static`, `Lg.run_allPlaced`).
-/
namespace ColoVerif.DetPlace
open ColoVerif.Checked
open State

/-- every row of the placement lies within ±2^22 -/
def RowsC (s : State) : Prop :=
  ∀ r, s.validRow r →
    (-M22 ≤ s.rowMinX r ∧ s.rowMinX r ≤ M22) ∧ (-M22 ≤ s.rowMaxX r ∧ s.rowMaxX r ≤ M22)

theorem RowsC.congr {s t : State} (hr : RowsC s) (e : t.rows = s.rows) : RowsC t := fun r vr => by
  rw [rowMinX_congr e, rowMaxX_congr e]
  exact hr r (validRow_congr e.symm vr)

theorem DomC_of_Inv_rows {s : State} (h : Inv s) (hr : RowsC s) (hap : Lg.AllPlaced s) : s.DomC := by
  refine DomC_of_Inv h ?_ hr (fun c hc => hap c hc.1 hc.2)
  intro c hc
  have hp := hap c hc.1 hc.2
  have hb := row_bounds h hc.1 hp
  have hrow := hr _ (h.placed_row hc.1 hp)
  omega

theorem run_DomC {s t : State} (h : Inv s) (hr : RowsC s) (hap : Lg.AllPlaced s) {ops : List Op}
    (e : s.run ops = .ok t) : t.DomC :=
  DomC_of_Inv_rows (run_inv h e) (hr.congr (run_static e).rows) (Lg.run_allPlaced hap e)

theorem fromIspdCircuit_DomC {c : Circuit} {s : State}
    (hd : ∀ cl ∈ c.cells, ¬ cl.fixed → 0 < cl.placedWidth ∧ cl.orient ≠ Orient.INVALID)
    (e : fromIspdCircuit c = .ok s) (hr : RowsC s) : s.DomC := by
  obtain ⟨hi, hap⟩ := fromIspdCircuit_inv hd e
  exact DomC_of_Inv_rows hi hr ((Lg.allPlaced_iff s).1 hap)

end ColoVerif.DetPlace
