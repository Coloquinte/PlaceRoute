import ColoVerif.Proofs.DetReorderPerm
import ColoVerif.Proofs.InsertionSort
import ColoVerif.Proofs.ListFacts
/-!
The enumeration of `RowReordering` over two stores that simulate each other runs in lock step —
same orders, same leaves with the same values, same best-so-far fields, same ghost flags — and the two
stores stay related.  Instantiated in Proofs/DetReorderPlacer.lean with the coordinate vectors
(`pureStore (circuitValue c)`) and the two incremental net models (`modelStore`).
-/
namespace ColoVerif.DetPlace

variable {σ1 σ2 : Type}

/-- `R` relates two stores; both `updateCellPos` (on cells satisfying `ok`) keep them related and related
stores have the same value -/
structure StoreSim (S1 : Store σ1) (S2 : Store σ2) (R : σ1 → σ2 → Prop) (ok : Int → Prop) : Prop where
  setX : ∀ a b c v, R a b → ok c → R (S1.setX a c v) (S2.setX b c v)
  setY : ∀ a b c v, R a b → ok c → R (S1.setY a c v) (S2.setY b c v)
  value : ∀ a b, R a b → S1.value a = S2.value b

/-- everything but the store -/
def RowReord.core {σ : Type} (rr : RowReord σ) : RowReord Unit :=
  ⟨rr.regions, rr.cells, rr.order, rr.positions, rr.bestVal, rr.bestOrder, rr.bestPositions, rr.improvement, (),
   rr.leaves, rr.fuelOut, rr.assertFail⟩

/-- the two objects agree on every field but the store, and their stores are related; `cs` is the field `cells`, which
the enumeration never writes -/
structure Sim (R : σ1 → σ2 → Prop) (ok : Int → Prop) (cs : List Int) (a : RowReord σ1) (b : RowReord σ2) : Prop where
  core : a.core = b.core
  store : R a.store b.store
  okOrder : ∀ l ∈ a.order, ∀ c ∈ l, ok c
  cells : a.cells = cs

theorem core_fields {σ τ : Type} {a : RowReord σ} {b : RowReord τ} (h : a.core = b.core) :
    a.regions = b.regions ∧ a.cells = b.cells ∧ a.order = b.order ∧ a.positions = b.positions ∧
    a.bestVal = b.bestVal ∧ a.bestOrder = b.bestOrder ∧ a.bestPositions = b.bestPositions ∧
    a.improvement = b.improvement ∧ a.leaves = b.leaves ∧ a.fuelOut = b.fuelOut ∧ a.assertFail = b.assertFail := by
  unfold RowReord.core at h
  injection h with h1 h2 h3 h4 h5 h6 h7 h8 _ h10 h11 h12
  exact ⟨h1, h2, h3, h4, h5, h6, h7, h8, h10, h11, h12⟩

variable {S1 : Store σ1} {S2 : Store σ2} {R : σ1 → σ2 → Prop} {ok : Int → Prop} {cs : List Int}

/-- a store that holds nothing and reads `v`: a step of the enumeration commutes with `core` when the
store is replaced by it (`v` only matters at a leaf) -/
def unitStore (v : Int) : Store Unit := ⟨fun _ _ _ => (), fun _ _ _ => (), fun _ => v⟩

theorem evalLeaf_core {σ : Type} (S : Store σ) (a : RowReord σ) :
    (evalLeaf S a).core = evalLeaf (unitStore (S.value a.store)) a.core := by
  unfold evalLeaf
  exact apply_ite RowReord.core _ _ _

/-- the same step `f` (seen on the cores) performed on both sides keeps the simulation -/
theorem Sim.step {a a' : RowReord σ1} {b b' : RowReord σ2} {cs' : List Int} (h : Sim R ok cs a b)
    (f : RowReord Unit → RowReord Unit) (ha : a'.core = f a.core) (hb : b'.core = f b.core) (hst : R a'.store b'.store)
    (ho : ∀ l ∈ a'.order, ∀ c ∈ l, ok c) (hc : a'.cells = cs') : Sim R ok cs' a' b' :=
  ⟨by rw [ha, hb, h.core], hst, ho, hc⟩

theorem packStore_sim (hS : StoreSim S1 S2 R ok) (s : State) : ∀ (l : List Int) (pos : Int) (a : σ1) (b : σ2),
    R a b → (∀ c ∈ l, ok c) → R (packStore S1 s pos l a) (packStore S2 s pos l b)
  | [], _, _, _, h, _ => h
  | c :: cs, pos, a, b, h, hok =>
    packStore_sim hS s cs _ _ _ (hS.setX a b c pos h (hok c (List.mem_cons_self ..)))
      (fun d hd => hok d (List.mem_cons_of_mem _ hd))

theorem evalLeaf_fields {σ : Type} (S : Store σ) (rr : RowReord σ) :
    (evalLeaf S rr).regions = rr.regions ∧ (evalLeaf S rr).cells = rr.cells ∧
    (evalLeaf S rr).order = rr.order ∧ (evalLeaf S rr).positions = rr.positions ∧
    (evalLeaf S rr).store = rr.store ∧ (evalLeaf S rr).fuelOut = rr.fuelOut ∧
    (evalLeaf S rr).assertFail = rr.assertFail := by
  unfold evalLeaf
  split <;> exact ⟨rfl, rfl, rfl, rfl, rfl, rfl, rfl⟩

theorem evalLeaf_sim (hS : StoreSim S1 S2 R ok) {a : RowReord σ1} {b : RowReord σ2} (h : Sim R ok cs a b) :
    Sim R ok cs (evalLeaf S1 a) (evalLeaf S2 b) := by
  obtain ⟨-, ec, eo, -, es, -, -⟩ := evalLeaf_fields S1 a
  refine h.step _ (evalLeaf_core S1 a) (hS.value _ _ h.store ▸ evalLeaf_core S2 b) ?_ (eo ▸ h.okOrder) (ec.trans h.cells)
  rw [es, (evalLeaf_fields S2 b).2.2.2.2.1]
  exact h.store

theorem set_mem_ok {L : List (List Int)} {j : Nat} {o : List Int} (hL : ∀ l ∈ L, ∀ c ∈ l, ok c) (ho : ∀ c ∈ o, ok c) :
    ∀ l ∈ L.set j o, ∀ c ∈ l, ok c := by
  intro l hl c hc
  rcases List.mem_or_eq_of_mem_set hl with hl | rfl
  · exact hL l hl c hc
  · exact ho c hc

theorem setupRow_sim (hS : StoreSim S1 S2 R ok) (s : State) (j : Nat) (o : List Int) {a : RowReord σ1} {b : RowReord σ2}
    (h : Sim R ok cs a b) (ho : ∀ c ∈ o, ok c) : Sim R ok cs (setupRow S1 s j o a) (setupRow S2 s j o b) := by
  have hr : b.regions = a.regions := (core_fields h.core).1.symm
  refine h.step (setupRow (unitStore 0) s j o) rfl rfl ?_ (set_mem_ok h.okOrder ho) h.cells
  show R (packStore S1 s _ o a.store) (packStore S2 s _ o b.store)
  rw [hr]
  exact packStore_sim hS s o _ _ _ h.store ho

theorem order_mem_ok {a : RowReord σ1} {b : RowReord σ2} (h : Sim R ok cs a b) (j : Nat) :
    ∀ c ∈ (nextPerm (a.order.getD j [])).2, ok c := by
  intro c hc
  have hc' : c ∈ a.order.getD j [] := nextPerm_mem.1 hc
  rw [List.getD_eq_getElem?_getD] at hc'
  cases hj : a.order[j]? with
  | none => rw [hj] at hc'; cases hc'
  | some l => rw [hj] at hc'; exact h.okOrder l (List.mem_of_getElem? hj) c hc'

theorem permLoop_sim (hS : StoreSim S1 S2 R ok) (s : State) (rec1 : RowReord σ1 → RowReord σ1)
    (rec2 : RowReord σ2 → RowReord σ2) (hrec : ∀ a b, Sim R ok cs a b → Sim R ok cs (rec1 a) (rec2 b)) (j : Nat) :
    ∀ (fuel : Nat) (a : RowReord σ1) (b : RowReord σ2), Sim R ok cs a b →
      Sim R ok cs (permLoop S1 s rec1 j fuel a) (permLoop S2 s rec2 j fuel b)
  | 0, a, b, h => h.step (fun u => { u with fuelOut := true }) rfl rfl h.store h.okOrder h.cells
  | fuel + 1, a, b, h => by
    have hord : b.order = a.order := (core_fields h.core).2.2.1.symm
    unfold permLoop
    rw [hord]
    split
    · exact permLoop_sim hS s rec1 rec2 hrec j fuel _ _ (hrec _ _ (setupRow_sim hS s j _ h (order_mem_ok h j)))
    · exact h.step (fun u => { u with order := u.order.set j (nextPerm (a.order.getD j [])).2 }) rfl
        (by rw [← hord]; rfl) h.store (set_mem_ok h.okOrder (order_mem_ok h j)) h.cells

theorem runOrdering_sim (hS : StoreSim S1 S2 R ok) (s : State) : ∀ (j : Nat) (a : RowReord σ1) (b : RowReord σ2),
    Sim R ok cs a b → Sim R ok cs (runOrdering S1 s j a) (runOrdering S2 s j b)
  | 0, a, b, h => by unfold runOrdering; exact evalLeaf_sim hS h
  | j + 1, a, b, h => by
    unfold runOrdering
    rw [(core_fields h.core).2.2.1]
    exact permLoop_sim hS s _ _ (fun x y hxy => runOrdering_sim hS s j x y hxy) j _ a b h

theorem modify_mem_ok {L : List (List Int)} {i : Nat} {f : List Int → List Int} (hL : ∀ l ∈ L, ∀ d ∈ l, ok d)
    (hf : ∀ l, (∀ d ∈ l, ok d) → ∀ d ∈ f l, ok d) : ∀ l ∈ L.modify i f, ∀ d ∈ l, ok d := by
  intro l hl d hd
  obtain ⟨n, hn⟩ := List.getElem?_of_mem hl
  obtain ⟨x, hx, rfl⟩ := ListFacts.getElem?_modify_some hn
  split at hd
  · exact hf x (hL x (List.mem_of_getElem? hx)) d hd
  · exact hL x (List.mem_of_getElem? hx) d hd

theorem popBack_sim (i : Nat) (c : Int) {a : RowReord σ1} {b : RowReord σ2} (h : Sim R ok cs a b) :
    Sim R ok cs (popBack i c a) (popBack i c b) :=
  h.step (popBack i c) rfl rfl h.store
    (modify_mem_ok h.okOrder fun l hl d hd => hl d (List.dropLast_subset l hd)) h.cells

theorem pushBack_sim (i : Nat) (c : Int) (hc : ok c) {a : RowReord σ1} {b : RowReord σ2} (h : Sim R ok cs a b) :
    Sim R ok cs (pushBack i c a) (pushBack i c b) :=
  h.step (pushBack i c) rfl rfl h.store
    (modify_mem_ok h.okOrder fun l hl d hd => by
      rcases List.mem_append.1 hd with hd | hd
      · exact hl d hd
      · rw [List.mem_singleton.1 hd]; exact hc)
    h.cells

theorem tellY_sim (hS : StoreSim S1 S2 R ok) (c y : Int) (hc : ok c) {a : RowReord σ1} {b : RowReord σ2} (h : Sim R ok cs a b) :
    Sim R ok cs (tellY S1 c y a) (tellY S2 c y b) :=
  h.step (tellY (unitStore 0) c y) rfl rfl (hS.setY _ _ c y h.store hc) h.okOrder h.cells

theorem regionStep_sim (hS : StoreSim S1 S2 R ok) (s : State) (rec1 : RowReord σ1 → RowReord σ1)
    (rec2 : RowReord σ2 → RowReord σ2) (c : Int) (hc : ok c)
    (i : Nat) {a : RowReord σ1} {b : RowReord σ2} (h : Sim R ok cs a b)
    (hrec : ∀ x y, Sim R ok cs x y → Sim R ok cs (rec1 x) (rec2 y)) :
    Sim R ok cs (regionStep S1 s rec1 c a i) (regionStep S2 s rec2 c b i) := by
  have ho : b.order = a.order := (core_fields h.core).2.2.1.symm
  have hr : b.regions = a.regions := (core_fields h.core).1.symm
  unfold regionStep
  rw [ho, hr]
  apply popBack_sim
  split
  · exact hrec _ _ (tellY_sim hS c _ hc (pushBack_sim i c hc h))
  · exact pushBack_sim i c hc h

theorem runRegionChoice_sim (hS : StoreSim S1 S2 R ok) (s : State) (hcs : ∀ c ∈ cs, ok c) :
    ∀ (k : Nat) (a : RowReord σ1) (b : RowReord σ2),
    k ≤ cs.length → Sim R ok cs a b → Sim R ok cs (runRegionChoice S1 s k a) (runRegionChoice S2 s k b)
  | 0, a, b, _, h => by
    unfold runRegionChoice
    rw [(core_fields h.core).1]
    exact runOrdering_sim hS s _ a b h
  | k + 1, a, b, hk, h => by
    unfold runRegionChoice
    obtain ⟨h1, h2, _⟩ := core_fields h.core
    rw [← h1, ← h2, h.cells]
    have hc : ok (cs.getD k 0) := by
      rw [List.getD_eq_getElem?_getD, List.getElem?_eq_getElem hk]
      exact hcs _ (List.getElem_mem hk)
    have loop : ∀ (is : List Nat) (x : RowReord σ1) (y : RowReord σ2), Sim R ok cs x y →
        Sim R ok cs (is.foldl (regionStep S1 s (runRegionChoice S1 s k) (cs.getD k 0)) x)
                    (is.foldl (regionStep S2 s (runRegionChoice S2 s k) (cs.getD k 0)) y) := by
      intro is
      induction is with
      | nil => intro x y hxy; exact hxy
      | cons i is ih =>
        intro x y hxy
        exact ih _ _ (regionStep_sim hS s _ _ _ hc i hxy (runRegionChoice_sim hS s hcs k · · (Nat.le_of_succ_le hk)))
    exact loop _ a b h

theorem sortDesc_perm (l : List Int) : (sortDesc l).Perm l :=
  foldr_insert_perm insertDesc (fun _ => rfl) (fun _ _ _ => (ite_eq_or_eq ..).symm) l

/-- `run` sorts the registered cells and then leaves them alone: the run simulates itself -/
theorem run_cells {σ : Type} (S : Store σ) (s : State) (a : RowReord σ) : (a.run S s).cells = sortDesc a.cells :=
  (runRegionChoice_sim (R := Eq) (ok := fun _ => True)
    ⟨fun _ _ c v h _ => congrArg (S.setX · c v) h, fun _ _ c v h _ => congrArg (S.setY · c v) h, fun _ _ => congrArg S.value⟩ s (fun _ _ => trivial) _ _ _
    (Nat.le_of_eq (sortDesc_perm a.cells).length_eq.symm) ⟨rfl, rfl, fun _ _ _ _ => trivial, rfl⟩).cells

end ColoVerif.DetPlace
