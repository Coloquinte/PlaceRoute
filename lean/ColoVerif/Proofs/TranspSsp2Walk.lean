import ColoVerif.Proofs.TranspSsp2Queue
import ColoVerif.Proofs.CheckedArith
import ColoVerif.Model.TranspRunChecked
/-
Under the state invariant `Mid` (shapes, non-negative allocations, lazy queues of the full sinks, remaining
capacities) one round of the second walk of `sendSource(src, sink, quantity)` through a full sink does not fail and
keeps `Mid` (`sendStep_total`).  With `Pot` (dual potentials) and an acyclic tree of tight edges out of full sinks
besides, neither walk along `sinkParent_` fails, and the second keeps `Mid` and `Pot` for the capacities before the
call (`WInv`).  For C07: `Mid` bounds every allocation and remaining capacity by the capacity of its sink
(`Mid.ranges`), so the checked walk of `Model/TranspRunChecked.lean` is carried along.
-/
namespace ColoVerif.Transp

lemma qtop_ok (qs : Queues) (a b : Nat) (hs : 0 < (qget qs a b).size) :
    qtop qs a b = .ok (hget (qget qs a b) 0) := by
  unfold qtop
  have h2 : ((qget qs a b).size == 0) = false := beq_eq_false_iff_ne.mpr (by omega)
  simp [h2]

lemma movingCostQ_ok (qs : Queues) (a b : Nat) (hne : a ≠ b) (hs : 0 < (qget qs a b).size) :
    movingCostQ qs a b = .ok (hget (qget qs a b) 0).cost := by
  unfold movingCostQ
  rw [if_neg (by simpa using hne), qtop_ok qs a b hs]
  rfl

lemma sentSourceQ_ok (qs : Queues) (a b : Nat) (hs : 0 < (qget qs a b).size) :
    sentSourceQ qs a b = .ok (hget (qget qs a b) 0).elt := by
  unfold sentSourceQ
  rw [qtop_ok qs a b hs]
  rfl

lemma add2?_ok (n m : Nat) (a : Mat) (i j : Nat) (d : Int) (hi : i < n) (hj : j < m)
    (hl : j < (a.getD i []).length) : add2? n m a i j d = some (add2 a i j d) := by
  unfold add2?; rw [if_pos ⟨hi, hj, hl⟩]

lemma QRow.nonempty {p : Problem} {alloc : Mat} {qs : Queues} {i : Nat} (h : QRow p alloc qs i)
    (hsum : 0 < rowSum alloc p.nbSources i) : ∀ d, d < p.nbSinks → d ≠ i → 0 < (qget qs i d).size := by
  obtain ⟨j, hj, hpos⟩ := sumTo_pos_exists _ _ hsum
  intro d hd hd'
  exact (h.2 d hd hd').toQPre.nonempty j hj (by omega)

open ColoVerif.Checked

/-- dual potentials `d` on the sinks: non-negative, zero on sinks with free capacity, and every source
sits only in sinks that are cheapest for it w.r.t. `cost + d` (complementary slackness) -/
structure Pot (p : Problem) (alloc : Mat) (remCapa : List Int) (d : Nat → Int) : Prop where
  nn : ∀ i, i < p.nbSinks → 0 ≤ d i
  free : ∀ i, i < p.nbSinks → remCapa.getD i 0 > 0 → d i = 0
  red : ∀ i j k, i < p.nbSinks → j < p.nbSources → k < p.nbSinks → 0 < get2 alloc i j →
    p.cost i j + d i ≤ p.cost k j + d k

structure Shape (p : Problem) (alloc : Mat) (qs : Queues) (remCapa : List Int) : Prop where
  rows : ∀ i, i < p.nbSinks → (alloc.getD i []).length = p.nbSources
  qsize : qs.size = p.nbSinks
  rlen : remCapa.length = p.nbSinks

/-- everything about allocations / queues / remaining capacities (no tree) -/
structure Mid (p : Problem) (alloc : Mat) (qs : Queues) (remCapa : List Int) : Prop where
  shape : Shape p alloc qs remCapa
  nn : ∀ i j, 0 ≤ get2 alloc i j
  qrow : ∀ i, i < p.nbSinks → remCapa.getD i 0 = 0 → QRow p alloc qs i
  rnn : ∀ i, 0 ≤ remCapa.getD i 0
  row : ∀ i, rowSum alloc p.nbSources i + remCapa.getD i 0 = p.capacity i

lemma Mid.rowpos {p : Problem} {alloc : Mat} {qs : Queues} {rem : List Int} (h : Mid p alloc qs rem)
    (hcap : ∀ i, i < p.nbSinks → 0 < p.capacity i) (i : Nat) (hi : i < p.nbSinks) (hf : rem.getD i 0 = 0) :
    0 < rowSum alloc p.nbSources i := by
  have := h.row i
  have := hcap i hi
  omega

lemma Mid.qnonempty {p : Problem} {alloc : Mat} {qs : Queues} {rem : List Int} (h : Mid p alloc qs rem)
    (hcap : ∀ i, i < p.nbSinks → 0 < p.capacity i) (i k : Nat) (hi : i < p.nbSinks) (hk : k < p.nbSinks)
    (hne : k ≠ i) (hf : rem.getD i 0 = 0) : 0 < (qget qs i k).size :=
  (h.qrow i hi hf).nonempty (h.rowpos hcap i hi hf) k hk hne

lemma Mid.top {p : Problem} {alloc : Mat} {qs : Queues} {rem : List Int} (h : Mid p alloc qs rem)
    (hcap : ∀ i, i < p.nbSinks → 0 < p.capacity i) (i k : Nat) (hi : i < p.nbSinks) (hk : k < p.nbSinks)
    (hne : k ≠ i) (hf : rem.getD i 0 = 0) :
    (hget (qget qs i k) 0).elt < p.nbSources ∧
    (hget (qget qs i k) 0).cost = p.cost k (hget (qget qs i k) 0).elt - p.cost i (hget (qget qs i k) 0).elt ∧
    0 < get2 alloc i (hget (qget qs i k) 0).elt := by
  have hpos := h.qnonempty hcap i k hi hk hne hf
  have hq := (h.qrow i hi hf).2 k hk hne
  obtain ⟨h1, h2⟩ := hq.cost _ (hget_mem _ 0 hpos)
  have h3 := hq.top hpos
  have h4 := h.nn i (hget (qget qs i k) 0).elt
  exact ⟨h1, h2, by omega⟩

lemma sendStep_total {p : Problem} {alloc : Mat} {qs : Queues} {rem : List Int} (hmid : Mid p alloc qs rem)
    (hcap : ∀ i, i < p.nbSinks → 0 < p.capacity i) (m : Int) (snk1 snk2 sentSrc : Nat)
    (h1 : snk1 < p.nbSinks) (h2 : snk2 < p.nbSinks) (hne : snk2 ≠ snk1) (hs : sentSrc < p.nbSources)
    (hfull : rem.getD snk1 0 = 0) (hm : 0 < m)
    (hmle : m ≤ get2 alloc snk1 (hget (qget qs snk1 snk2) 0).elt) :
    ∃ st, sendStep p m alloc qs snk1 snk2 sentSrc = .ok st ∧ Mid p st.alloc st.queues rem ∧
      st.newSrc < p.nbSources ∧
      p.movingCost st.newSrc snk1 snk2 ≤ (hget (qget qs snk1 snk2) 0).cost ∧
      st.costUp = decide ((hget (qget st.queues snk1 snk2) 0).cost > (hget (qget qs snk1 snk2) 0).cost) := by
  have hlen := hmid.shape.rows snk1 h1
  have hne0 := fun d hd hd' => hmid.qnonempty hcap snk1 d h1 hd hd' hfull
  have hqs : snk1 < qs.size := by rw [hmid.shape.qsize]; exact h1
  obtain ⟨qs1, hq1, hsz1, hrow1, htop1⟩ := pushStage p m alloc qs snk1 sentSrc hs hlen hqs
    (hmid.qrow snk1 h1 hfull) (hmid.nn snk1) hm hne0
  obtain ⟨hpos1, hle1⟩ := htop1 snk2 h2 hne
  have hcost1 := (hrow1.2 snk2 h2 hne).cost _ (hget_mem _ 0 hpos1)
  have hl1 : sentSrc < (alloc.getD snk1 []).length := by omega
  have hlen1 : ((add2 alloc snk1 sentSrc m).getD snk1 []).length = p.nbSources := by
    rw [add2_row_len]; exact hlen
  have hl2 : (hget (qget qs1 snk1 snk2) 0).elt < ((add2 alloc snk1 sentSrc m).getD snk1 []).length := by
    rw [hlen1]; exact hcost1.1
  have hnz1 := (hrow1.2 snk2 h2 hne).top hpos1
  obtain ⟨hsz2, hrow2⟩ := popStage p m (add2 alloc snk1 sentSrc m) qs1 snk1 (hget (qget qs1 snk1 snk2) 0).elt
    hl2 (by omega) hrow1 hnz1
  have hsum2 : 0 < rowSum (add2 (add2 alloc snk1 sentSrc m) snk1 (hget (qget qs1 snk1 snk2) 0).elt (-m))
      p.nbSources snk1 := by
    have e1 := (add2?_sums (add2?_ok p.nbSinks p.nbSources alloc snk1 sentSrc m h1 hs hl1)).2 snk1
    have e2 := (add2?_sums (add2?_ok p.nbSinks p.nbSources _ snk1 _ (-m) h1 hcost1.1 hl2)).2 snk1
    have := hmid.rowpos hcap snk1 h1 hfull
    rw [e2, e1]; simp only [if_true]; omega
  have hst := sendStep_ok (movingCostQ_ok qs snk1 snk2 hne.symm (hne0 snk2 h2 hne)) hq1
    (sentSourceQ_ok qs1 snk1 snk2 hpos1) (add2?_ok p.nbSinks p.nbSources alloc snk1 sentSrc m h1 hs hl1)
    (add2?_ok p.nbSinks p.nbSources _ snk1 _ (-m) h1 hcost1.1 hl2)
    (movingCostQ_ok _ snk1 snk2 hne.symm (hrow2.nonempty hsum2 snk2 h2 hne))
  obtain ⟨_, hra, hrq, _⟩ := sendStep_alloc hst
  refine ⟨_, hst, ⟨⟨fun i hi => ?_, (hsz2.trans hsz1).trans hmid.shape.qsize, hmid.shape.rlen⟩,
      fun i j => sendStep_nonneg hst hm hmle i j (hmid.nn i j), fun i hi hf => ?_, hmid.rnn,
      fun i => (sendStep_sums hst).2 i ▸ hmid.row i⟩, hcost1.1, ?_, ?_⟩
  · show ((add2 (add2 alloc snk1 sentSrc m) snk1 (hget (qget qs1 snk1 snk2) 0).elt (-m)).getD i []).length = _
    rw [add2_row_len, add2_row_len]; exact hmid.shape.rows i hi
  · -- the step touches the row and the queues of `snk1` only
    by_cases e : i = snk1
    · rw [e]; exact hrow2
    · exact (hmid.qrow i hi hf).congr (hra i e) (hrq i e)
  · rw [← hcost1.2]; exact hle1
  · -- a bare `rfl` unfolds `decide` before it reduces the projection `costUp`
    dsimp only

/-- the second walk keeps `Mid` and `Pot` for the capacities `s.remCapa` before the call and the potentials
`d`; the tree edges stay tight as long as no front cost went up -/
structure WInv (p : Problem) (s : St) (d : Nat → Int) (alloc : Mat) (qs : Queues) (nu : Bool) : Prop where
  mid : Mid p alloc qs s.remCapa
  pot : Pot p alloc s.remCapa d
  tight : ∀ i k, i < p.nbSinks → s.parent.getD i none = some k → nu = false →
    d i = (hget (qget qs i k) 0).cost + d k

lemma maxSentLoop_total (alloc : Mat) (qs : Queues) (parent : List (Option Nat)) (n : Nat)
    (hedge : ∀ i k, i < n → parent.getD i none = some k →
      k < n ∧ 0 < (qget qs i k).size ∧ 0 < get2 alloc i (hget (qget qs i k) 0).elt) :
    ∀ (k fuel snk1 : Nat) (q : Int), depthIs parent k snk1 → k < fuel → snk1 < n → 0 < q →
      ∃ ms root, maxSentLoop alloc qs parent fuel snk1 q = .ok (ms, root) ∧ 0 < ms ∧ root < n ∧
        parent.getD root none = none := by
  intro k
  induction k with
  | zero =>
    intro fuel snk1 q hd hf hs hq
    cases fuel with
    | zero => omega
    | succ fuel =>
      simp only [depthIs] at hd
      exact ⟨q, snk1, by simp only [maxSentLoop, hd], hq, hs, hd⟩
  | succ k ih =>
    intro fuel snk1 q hd hf hs hq
    cases fuel with
    | zero => omega
    | succ fuel =>
      obtain ⟨y, hy, hdy⟩ := hd
      obtain ⟨hyn, hpos, hal⟩ := hedge snk1 y hs hy
      have hq' : 0 < min q (get2 alloc snk1 (hget (qget qs snk1 y) 0).elt) := by
        rw [lt_min_iff]; exact ⟨hq, hal⟩
      obtain ⟨ms, root, e, h1, h2, h3⟩ := ih fuel y _ hdy (by omega) hyn hq'
      refine ⟨ms, root, ?_, h1, h2, h3⟩
      unfold maxSentLoop
      simp only [hy, sentSourceQ_ok qs snk1 y hpos]
      have : min q (get2 alloc snk1 (hget (qget qs snk1 y) 0).elt) > 0 := hq'
      rw [if_pos this]
      exact e

lemma sendStep_winv (p : Problem) (s : St) (d : Nat → Int) (m : Int) (hm : 0 < m)
    (alloc : Mat) (qs : Queues) (snk1 snk2 sentSrc : Nat) (nu : Bool)
    (hw : WInv p s d alloc qs nu) (hs1 : snk1 < p.nbSinks) (hs2 : snk2 < p.nbSinks) (hne : snk2 ≠ snk1)
    (hss : sentSrc < p.nbSources) (hfull : s.remCapa.getD snk1 0 = 0)
    (hpar : s.parent.getD snk1 none = some snk2)
    (hcap : ∀ i, i < p.nbSinks → 0 < p.capacity i)
    (hbound : m ≤ get2 alloc snk1 (hget (qget qs snk1 snk2) 0).elt)
    (hP2 : ∀ k', k' < p.nbSinks → p.cost snk1 sentSrc + d snk1 ≤ p.cost k' sentSrc + d k')
    (hP3 : d snk1 = (hget (qget qs snk1 snk2) 0).cost + d snk2) :
    ∃ st, sendStep p m alloc qs snk1 snk2 sentSrc = .ok st ∧
      WInv p s d st.alloc st.queues (nu || st.costUp) ∧ st.newSrc < p.nbSources ∧
      (∀ k', k' < p.nbSinks → p.cost snk2 st.newSrc + d snk2 ≤ p.cost k' st.newSrc + d k') := by
  obtain ⟨st, hst, hmid, hnsM, hmc, hcu⟩ :=
    sendStep_total hw.mid hcap m snk1 snk2 sentSrc hs1 hs2 hne hss hfull hm hbound
  obtain ⟨ha, _, hrq, hns⟩ := sendStep_alloc hst
  -- Reduced costs.  The only entry that can have become positive is `(snk1, sentSrc)`, and `sentSrc` is cheapest at
  -- `snk1` w.r.t. `d`.  The tree edge `snk1 → snk2` is tight; so the source that leaves is cheapest at `snk2`, and
  -- the edge cost did not go down.
  have hpot : Pot p st.alloc s.remCapa d := ⟨hw.pot.nn, hw.pot.free, fun i j k hi hj hk hpos => by
    rw [ha i j] at hpos
    by_cases e : i = snk1 ∧ j = sentSrc
    · rw [e.1, e.2]; exact hP2 k hk
    · rw [if_neg e] at hpos
      exact hw.pot.red i j k hi hj hk (by split at hpos <;> omega)⟩
  have tight1 : ∀ k, k < p.nbSinks → p.cost snk1 st.newSrc + d snk1 ≤ p.cost k st.newSrc + d k := by
    rcases hns with e | e
    · rw [e]; exact hP2
    · rw [e] at hnsM ⊢
      exact fun k hk => hw.pot.red snk1 _ k hs1 hnsM hk (by omega)
  have hP2' : ∀ k, k < p.nbSinks → p.cost snk2 st.newSrc + d snk2 ≤ p.cost k st.newSrc + d k := by
    intro k hk
    have t1 := tight1 snk2 hs2
    have t2 := tight1 k hk
    unfold Problem.movingCost at hmc
    omega
  have hup : (hget (qget qs snk1 snk2) 0).cost ≤ (hget (qget st.queues snk1 snk2) 0).cost := by
    obtain ⟨hlt, hc, hnz⟩ := hmid.top hcap snk1 snk2 hs1 hs2 hne hfull
    have := hpot.red snk1 _ snk2 hs1 hlt hs2 hnz
    omega
  refine ⟨st, hst, ⟨hmid, hpot, fun i k' hi hpar' hnu => ?_⟩, hnsM, hP2'⟩
  · obtain ⟨hnu1, hnu2⟩ := Bool.or_eq_false_iff.mp hnu
    by_cases e : i = snk1
    · subst e
      obtain rfl : snk2 = k' := Option.some.inj (hpar.symm.trans hpar')
      have : ¬ ((hget (qget st.queues i snk2) 0).cost > (hget (qget qs i snk2) 0).cost) := by
        rw [hcu] at hnu2
        simpa using hnu2
      omega
    · rw [qget_row st.queues qs i k' (hrq i e)]
      exact hw.tight i k' hi hpar' hnu1

/-- bound on the total demand and on the total capacity: `2^61` -/
def Qmax : Int := 2305843009213693952

/-- largest stored cost allowed by `3·cost < INT_MAX` -/
def Cmax : Int := 715827882

lemma get2_le_rowSum (a : Mat) (m i j : Nat) (hnn : ∀ j, 0 ≤ get2 a i j) (hj : j < m) :
    get2 a i j ≤ rowSum a m i :=
  le_sumTo (fun j => get2 a i j) m j (fun k _ => hnn k) hj

lemma destCostsFit_of (p : Problem) (sink src : Nat)
    (h : ∀ i, i < p.nbSinks → 0 ≤ p.cost i src ∧ p.cost i src ≤ Cmax) (hs : sink < p.nbSinks) :
    destCostsFit p sink src = true := by
  unfold destCostsFit
  rw [List.all_eq_true]
  intro dst hd
  have : fitsInt32 (p.movingCost src sink dst) :=
    between_mono (sub_between (h dst (by simpa using hd)) (h sink hs))
  simp [this]

lemma Mid.ranges {p : Problem} {alloc : Mat} {qs : Queues} {rem : List Int} (h : Mid p alloc qs rem) {i : Nat}
    {Q : Int} (hQ : p.capacity i ≤ Q) :
    (∀ j, j < p.nbSources → 0 ≤ get2 alloc i j ∧ get2 alloc i j ≤ Q) ∧ 0 ≤ rem.getD i 0 ∧ rem.getD i 0 ≤ Q := by
  have h0 : 0 ≤ rowSum alloc p.nbSources i := sumTo_nonneg (fun k _ => h.nn i k)
  have := h.row i
  have := h.rnn i
  exact ⟨fun j hj => ⟨h.nn i j, by have := get2_le_rowSum alloc p.nbSources i j (h.nn i) hj; omega⟩, by omega, by omega⟩

/-- the bounds within which the checked walk returns what the unbounded one returns: stored costs in
`[0, Cmax]`, capacities and the amount sent at most `2^61` -/
def WalkFits (p : Problem) (m : Int) : Prop :=
  (∀ i j, i < p.nbSinks → j < p.nbSources → 0 ≤ p.cost i j ∧ p.cost i j ≤ Cmax) ∧
  (∀ i, i < p.nbSinks → p.capacity i ≤ Qmax) ∧ m ≤ Qmax

lemma sendStepC_of_winv (p : Problem) (s : St) (d : Nat → Int) (m : Int) (hm : 0 < m)
    (alloc : Mat) (qs : Queues) (snk1 snk2 sentSrc : Nat) (nu : Bool) (st : Step)
    (hw : WInv p s d alloc qs nu) (hs1 : snk1 < p.nbSinks) (hss : sentSrc < p.nbSources)
    (hns : st.newSrc < p.nbSources)
    (h : sendStep p m alloc qs snk1 snk2 sentSrc = .ok st) (hf : WalkFits p m) :
    sendStepC p m alloc qs snk1 snk2 sentSrc = .ok st := by
  obtain ⟨hcost, hR, hmQ⟩ := hf
  have hrow := (hw.mid.ranges (hR snk1 hs1)).1
  have hmr : 0 ≤ m ∧ m ≤ Qmax := ⟨hm.le, hmQ⟩
  have hl : sentSrc < (alloc.getD snk1 []).length := by rw [hw.mid.shape.rows snk1 hs1]; exact hss
  have h1 : fitsInt64 (get2 alloc snk1 sentSrc + m) := between_mono (add_between (hrow sentSrc hss) hmr)
  have h2 : fitsInt64 (get2 (add2 alloc snk1 sentSrc m) snk1 st.newSrc - m) := by
    rw [get2_add2_row alloc snk1 sentSrc m hl]
    have hite : 0 ≤ (if st.newSrc = sentSrc then m else 0) ∧ (if st.newSrc = sentSrc then m else 0) ≤ Qmax := by
      split
      · exact hmr
      · exact ⟨le_refl 0, by decide⟩
    exact between_mono (sub_between (add_between (hrow st.newSrc hns) hite) hmr)
  unfold sendStepC
  rw [destCostsFit_of p snk1 sentSrc (fun i hi => hcost i sentSrc hi hss) hs1, Bool.or_true, if_pos rfl, h]
  simp only [addI64, subI64, chk64_ok h1, chk64_ok h2]

lemma sendLoop_total (p : Problem) (s : St) (d : Nat → Int) (m : Int) (hm : 0 < m)
    (hcap : ∀ i, i < p.nbSinks → 0 < p.capacity i)
    (hedge : ∀ i k, i < p.nbSinks → s.parent.getD i none = some k →
      s.remCapa.getD i 0 = 0 ∧ k < p.nbSinks ∧ k ≠ i ∧
      d i = (hget (qget s.queues i k) 0).cost + d k) :
    ∀ (fuel k snk1 : Nat) (q ms : Int) (root : Nat) (alloc : Mat) (qs : Queues) (sentSrc : Nat) (nu : Bool),
      maxSentLoop s.alloc s.queues s.parent fuel snk1 q = .ok (ms, root) → m ≤ ms →
      depthIs s.parent k snk1 → snk1 < p.nbSinks → sentSrc < p.nbSources →
      Untouched s.parent s.alloc s.queues k alloc qs →
      WInv p s d alloc qs nu →
      (∀ k', k' < p.nbSinks → p.cost snk1 sentSrc + d snk1 ≤ p.cost k' sentSrc + d k') →
      ∃ w, sendLoop p s.remCapa s.parent m fuel alloc qs snk1 sentSrc nu = .ok w ∧
        (WalkFits p m → sendLoopC p s.remCapa s.parent m fuel alloc qs snk1 sentSrc nu = .ok w) ∧
        WInv p s d w.alloc w.queues w.needUpdate ∧ w.root = root ∧ w.src < p.nbSources ∧
        w.root < p.nbSinks ∧
        (∀ k', k' < p.nbSinks → p.cost w.root w.src + d w.root ≤ p.cost k' w.src + d k') := by
  intro fuel
  induction fuel with
  | zero => intro k snk1 q ms root alloc qs sentSrc nu h; simp [maxSentLoop] at h
  | succ fuel ih =>
    intro k snk1 q ms root alloc qs sentSrc nu h1 hle hdep hs1 hss hrows hw hP2
    unfold sendLoop sendLoopC
    rcases maxSentLoop_succ_eq_ok h1 with ⟨hp, _, rfl⟩ | ⟨snk2, src0, hp, hsrc0, _, h1⟩
    · rw [hp]
      exact ⟨_, rfl, fun _ => rfl, hw, rfl, hss, hs1, hP2⟩
    · obtain ⟨k, rfl, hdy⟩ := depthIs_of_parent hp hdep
      obtain ⟨hfull, hs2, hne, hP3s⟩ := hedge snk1 snk2 hs1 hp
      have hc : (s.remCapa.getD snk1 0 != 0) = false := by rw [hfull]; rfl
      simp only [hp, hc, Bool.false_eq_true, if_false]
      obtain ⟨hbound, hrows'⟩ := walk_round p hp hdy hsrc0 h1 hle hrows
      have hP3 : d snk1 = (hget (qget qs snk1 snk2) 0).cost + d snk2 := by
        rw [qget_row qs s.queues snk1 snk2 (hrows snk1 (k + 1) (Nat.le_refl _) ⟨snk2, hp, hdy⟩).2]
        exact hP3s
      obtain ⟨st, hst, hw', hnsM, hP2'⟩ := sendStep_winv p s d m hm alloc qs snk1 snk2 sentSrc nu
        hw hs1 hs2 hne hss hfull hp hcap hbound hP2 hP3
      obtain ⟨w, hwok, hwokC, hrest⟩ := ih k snk2 _ ms root st.alloc st.queues st.newSrc _ h1 hle hdy hs2 hnsM
        (hrows' hst) hw' hP2'
      refine ⟨w, ?_, fun hf => ?_, hrest⟩
      · rw [hst]; exact hwok
      · rw [sendStepC_of_winv p s d m hm alloc qs snk1 snk2 sentSrc nu st hw hs1 hss hnsM hst hf]
        exact hwokC hf

end ColoVerif.Transp
