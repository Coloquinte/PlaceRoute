import ColoVerif.Proofs.GridAlloc
import ColoVerif.Model.GridSched
/-
The schedule model of the public passes (`Model/GridSched.lean`): filling the holes of a schedule gives an
operation list of the allocation model, and the view (hierarchy + levels) the schedule is computed from
evolves independently of the holes (`run_fill_view`).  The bin groups the schedules name are well formed
(`Call.WF`: pairwise distinct bins inside the view), window shape by window shape.
-/
namespace ColoVerif.Grid

theorem run_append (s : HState) (a b : List Op) : s.run (a ++ b) = (s.run a).run b := by
  simp only [HState.run, List.foldl_append]

theorem apply_toOp_view (s : HState) (c : Call) (h : Hole) : (s.apply (c.toOp h)).view = s.view.apply c := by
  cases c with
  | refineX =>
    show s.refineX.view = s.view.refineX
    unfold HState.refineX HState.updateCellToBin
    exact (apply_ite HState.view _ _ _).trans rfl
  | refineY =>
    show s.refineY.view = s.view.refineY
    unfold HState.refineY HState.updateCellToBin
    exact (apply_ite HState.view _ _ _).trans rfl
  | coarsenX =>
    show s.coarsenX.view = s.view.coarsenX
    unfold HState.coarsenX HState.updateCellToBin
    exact (apply_ite HState.view _ _ _).trans rfl
  | coarsenY =>
    show s.coarsenY.view = s.view.coarsenY
    unfold HState.coarsenY HState.updateCellToBin
    exact (apply_ite HState.view _ _ _).trans rfl
  | _ =>
    exact apply_skeleton_writes (Q := fun t => t.view = s.view) s (fun _ _ _ => rfl) _ trivial

theorem run_fill_view (cs : List Call) : ∀ (s : HState) (holes : Nat → Hole),
    (s.run (fill cs holes)).view = s.view.run cs := by
  induction cs with
  | nil => intro s holes; rfl
  | cons c rest ih =>
    intro s holes
    simp only [fill, HState.run, List.foldl_cons, View.run]
    have := ih (s.apply (c.toOp (holes 0))) (fun k => holes (k + 1))
    simp only [HState.run, View.run] at this
    rw [this, apply_toOp_view]

open Sched

/-- the call names distinct bins of an `nx × ny` view: what `redistOk` asks of the bin list -/
def Call.WF (nx ny : Nat) : Call → Prop
  | .reoptimize cands => cands.Nodup ∧ ∀ b ∈ cands, b.1 < nx ∧ b.2 < ny
  | .rebisect x1 y1 x2 y2 => x1 < nx ∧ y1 < ny ∧ x2 < nx ∧ y2 < ny ∧ ¬ (x1 = x2 ∧ y1 = y2)
  | _ => True

theorem mem_window (n i w x : Nat) :
    x ∈ ((List.range w).map (i + ·)).filter (· < n) ↔ i ≤ x ∧ x < i + w ∧ x < n := by
  simp only [List.mem_filter, List.mem_map, List.mem_range, decide_eq_true_eq]
  constructor
  · rintro ⟨⟨a, ha, rfl⟩, hx⟩; exact ⟨Nat.le_add_right i a, Nat.add_lt_add_left ha i, hx⟩
  · rintro ⟨h1, h2, h3⟩; exact ⟨⟨x - i, by omega, by omega⟩, h3⟩

theorem window_nodup (n i w : Nat) : (((List.range w).map (i + ·)).filter (· < n)).Nodup :=
  List.Nodup.filter _ (List.Nodup.map (fun _ _ hab => Nat.add_left_cancel hab) List.nodup_range)

theorem mem_rectBins (nx ny i j w h : Nat) (b : Nat × Nat) :
    b ∈ rectBins nx ny i j w h ↔ i ≤ b.1 ∧ b.1 < i + w ∧ b.1 < nx ∧ j ≤ b.2 ∧ b.2 < j + h ∧ b.2 < ny := by
  obtain ⟨x, y⟩ := b
  simp only [rectBins, List.mem_flatMap, List.mem_map, mem_window, Prod.mk.injEq]
  constructor
  · rintro ⟨k, hk, l, hl, rfl, rfl⟩; exact ⟨hk.1, hk.2.1, hk.2.2, hl.1, hl.2.1, hl.2.2⟩
  · rintro ⟨h1, h2, h3, h4, h5, h6⟩; exact ⟨x, ⟨h1, h2, h3⟩, y, ⟨h4, h5, h6⟩, rfl, rfl⟩

theorem rectBins_nodup (nx ny i j w h : Nat) : (rectBins nx ny i j w h).Nodup :=
  nodup_flatMap_of_inj (window_nodup nx i w)
    (fun _ _ => (window_nodup ny j h).map fun _ _ hab => (Prod.mk.inj hab).2) fun a _ b _ p hp hp' => by
      obtain ⟨l, _, rfl⟩ := List.mem_map.1 hp
      obtain ⟨l', _, e⟩ := List.mem_map.1 hp'
      exact (Prod.mk.inj e).1.symm

theorem improveRectangle_wf (nx ny i j w h : Nat) : (improveRectangle nx ny i j w h).WF nx ny := by
  refine ⟨rectBins_nodup _ _ _ _ _ _, ?_⟩
  intro b hb
  have := (mem_rectBins _ _ _ _ _ _ b).mp hb
  exact ⟨this.2.2.1, this.2.2.2.2.2⟩

theorem mem_diagBins (nx ny i j xmy xpy : Nat) (b : Nat × Nat) :
    b ∈ diagBins nx ny i j xmy xpy ↔ ∃ k l, k < xmy ∧ l < xpy ∧ i + k + l < nx ∧ k ≤ j + l ∧ j + l - k < ny ∧
      b = (i + k + l, j + l - k) := by
  simp only [diagBins, List.mem_flatMap, List.mem_filterMap, List.mem_range, Option.ite_none_right_eq_some,
    Option.some.injEq]
  constructor
  · rintro ⟨k, hk, l, hl, hc, h⟩; exact ⟨k, l, hk, hl, hc.1, hc.2.1, hc.2.2, h.symm⟩
  · rintro ⟨k, l, hk, hl, h1, h2, h3, rfl⟩; exact ⟨k, hk, l, hl, ⟨h1, h2, h3⟩, rfl⟩

theorem diag_inj {i j k l k' l' : Nat} (h : k ≤ j + l) (h' : k' ≤ j + l')
    (e : (i + k + l, j + l - k) = (i + k' + l', j + l' - k')) : k = k' ∧ l = l' := by
  have e1 := (Prod.mk.inj e).1
  have e2 := (Prod.mk.inj e).2
  omega

theorem diagBins_nodup (nx ny i j xmy xpy : Nat) : (diagBins nx ny i j xmy xpy).Nodup := by
  refine nodup_flatMap_of_inj List.nodup_range
    (fun k _ => List.Nodup.filterMap (fun l l' b hb hb' => ?_) List.nodup_range) fun k _ k' _ b hb hb' => ?_
  · simp only [Option.mem_def, Option.ite_none_right_eq_some, Option.some.injEq] at hb hb'
    exact (diag_inj hb.1.2.1 hb'.1.2.1 (hb.2.trans hb'.2.symm)).2
  · simp only [List.mem_filterMap, List.mem_range, Option.ite_none_right_eq_some, Option.some.injEq] at hb hb'
    obtain ⟨l, _, hc, hb⟩ := hb
    obtain ⟨l', _, hc', hb'⟩ := hb'
    exact (diag_inj hc.2.1 hc'.2.1 (hb.trans hb'.symm)).1

theorem diag_wf (nx ny i j xmy xpy : Nat) : (Call.reoptimize (diagBins nx ny i j xmy xpy)).WF nx ny := by
  refine ⟨diagBins_nodup _ _ _ _ _ _, ?_⟩
  intro b hb
  obtain ⟨k, l, _, _, h1, _, h3, rfl⟩ := (mem_diagBins _ _ _ _ _ _ b).mp hb
  exact ⟨h1, h3⟩

theorem improveRectangles_wf (nx ny w h sx sy x0 y0 : Nat) :
    ∀ c ∈ improveRectangles nx ny w h sx sy x0 y0, c.WF nx ny := by
  intro c hc
  unfold improveRectangles at hc
  split at hc
  · simp at hc
  · simp only [List.mem_flatMap, List.mem_map] at hc
    obtain ⟨i, _, j, _, rfl⟩ := hc
    exact improveRectangle_wf _ _ _ _ _ _

theorem improveDiagonalRectangles_wf (nx ny a b sx sy x0 y0 : Nat) :
    ∀ c ∈ improveDiagonalRectangles nx ny a b sx sy x0 y0, c.WF nx ny := by
  intro c hc
  unfold improveDiagonalRectangles at hc
  split at hc
  · simp at hc
  · simp only [List.mem_flatMap, List.mem_map] at hc
    obtain ⟨i, _, j, _, rfl⟩ := hc
    exact diag_wf _ _ _ _ _ _

theorem improveStep_wf (p : LegParams) (nx ny : Nat) : ∀ c ∈ improveStep p nx ny, c.WF nx ny := by
  intro c hc
  simp only [improveStep, List.mem_append] at hc
  rcases hc with ((hc | hc) | hc) | hc
  · unfold improveSquare at hc
    split at hc
    · simp at hc
    · simp only [List.mem_append] at hc
      rcases hc with ((hc | hc) | hc) | hc <;> exact improveRectangles_wf _ _ _ _ _ _ _ _ c hc
  · unfold improveXY at hc
    split at hc
    · simp at hc
    · simp only [List.mem_append] at hc
      rcases hc with ((hc | hc) | hc) | hc <;> exact improveRectangles_wf _ _ _ _ _ _ _ _ c hc
  · unfold improveUnidimensionalTransport at hc
    split at hc
    · simp only [List.mem_cons, List.not_mem_nil, or_false] at hc
      rcases hc with rfl | rfl <;> exact True.intro
    · simp at hc
  · unfold improveDiagonals at hc
    split at hc
    · simp at hc
    · simp only [List.mem_append] at hc
      rcases hc with ((hc | hc) | hc) | hc <;> exact improveDiagonalRectangles_wf _ _ _ _ _ _ _ _ c hc

theorem improve_wf (p : LegParams) (v : View) : ∀ c ∈ Sched.improve p v, c.WF v.nbX v.nbY := by
  intro c hc
  simp only [Sched.improve, List.mem_flatten, List.mem_replicate] at hc
  obtain ⟨l, ⟨_, rfl⟩, hcl⟩ := hc
  exact improveStep_wf p _ _ c hcl

theorem improveXNeighbours_wf (v : View) (same : Bool) : ∀ c ∈ improveXNeighbours v same, c.WF v.nbX v.nbY := by
  intro c hc
  simp only [improveXNeighbours, List.mem_flatMap, List.mem_range] at hc
  obtain ⟨i, hi, hc⟩ := hc
  split at hc
  · simp at hc
  · simp only [List.mem_map, List.mem_range] at hc
    obtain ⟨j, hj, rfl⟩ := hc
    simp only [Call.WF]
    omega

theorem improveYNeighbours_wf (v : View) (same : Bool) : ∀ c ∈ improveYNeighbours v same, c.WF v.nbX v.nbY := by
  intro c hc
  simp only [improveYNeighbours, List.mem_flatMap, List.mem_range] at hc
  obtain ⟨j, hj, hc⟩ := hc
  split at hc
  · simp at hc
  · simp only [List.mem_map, List.mem_range] at hc
    obtain ⟨i, hi, rfl⟩ := hc
    simp only [Call.WF]
    omega

theorem improveSquareNeighbours_wf (v : View) (sx sy : Bool) :
    ∀ c ∈ improveSquareNeighbours v sx sy, c.WF v.nbX v.nbY := by
  intro c hc
  simp only [improveSquareNeighbours, List.mem_flatMap, List.mem_range] at hc
  obtain ⟨i, _, hc⟩ := hc
  split at hc
  · simp at hc
  · simp only [List.mem_flatMap, List.mem_range] at hc
    obtain ⟨j, _, hc⟩ := hc
    split at hc
    · simp at hc
    · simp only [List.mem_singleton] at hc
      subst hc
      exact improveRectangle_wf _ _ _ _ _ _

end ColoVerif.Grid
