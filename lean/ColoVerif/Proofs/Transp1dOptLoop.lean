import ColoVerif.Proofs.Transp1dOptEvents
/-
The `while` loop of `push`.  One iteration: `pushOnce` either takes `pushToNewSink` or
`pushToLastSink`, characterised by their effect on `(L, J, events)` through `evS` (`StepNS`, `StepTL`);
either way the loop invariant `LoopInv` is kept.  At the exit `LoopInv` yields the recorded facts about
source `i` (`FactsTop`) and the between-pushes invariant `SweepInv` for the next source (`loop_exit`).
-/
namespace ColoVerif.Transp1d

theorem newSink_step (sv : Solver) (wf : sv.WF) (i : Nat) (hi : i < sv.u.length) (st st' : St)
    (ev : List Event) (hocc : st.lastOcc + 1 < sv.v.length) (hs : SortedEv ev)
    (hle : ∀ e ∈ ev, e.1 ≤ st.lastPosition) (hev : ∀ y, evS ev y = evS st.events y)
    (hB : sv.S.getD i 0 + st.lastPosition ≤ sv.D.getD (st.lastOcc + 1) 0)
    (dec : st.lastPosition = 0 ∨
      cs sv i (st.lastOcc + 1) ≤ evS st.events st.lastPosition + cs sv i st.lastOcc)
    (e : pushToNewSink sv i { st with events := ev } = .ok st') : StepNS sv i st st' := by
  obtain ⟨ev', e', ei', _⟩ := pushNewSinkEvents_spec sv wf i (st.lastOcc + 1) hi hocc
    { st with events := ev } ⟨hs, hle⟩
  obtain rfl := Except.ok.inj (e.symm.trans e')
  refine ⟨hocc, dec, Nat.max_eq_right (Nat.le_succ _), rfl, rfl, rfl, fun y hy => ?_, ei'⟩
  -- one event, at `min (D (J+1) - S i) L = L`
  rw [pushNewSinkEvents_evS sv wf i (st.lastOcc + 1) hi hocc _ _ e y hy, snkS,
    Nat.add_sub_cancel_left, sumFrom, sumFrom, Int.add_zero, Int.add_comm, hev y]
  show (if y ≤ min (sv.D.getD (st.lastOcc + 1) 0 - sv.S.getD i 0) st.lastPosition then _ else _) + _ = _
  rw [Int.min_eq_right (by omega)]

theorem lastSink_step (sv : Solver) (wf : sv.WF) (i : Nat) (hi : i < sv.u.length) (st st' : St)
    (ev : List Event) (hocc : st.lastOcc < sv.v.length) (hs : SortedEv ev)
    (hle : ∀ e ∈ ev, e.1 ≤ st.lastPosition) (hev : ∀ y, evS ev y = evS st.events y)
    (hc : sv.D.getD (st.lastOcc + 1) 0 - sv.S.getD (i + 1) 0 < st.lastPosition)
    (hL : 0 < st.lastPosition)
    (dec : st.lastOcc + 1 = sv.v.length ∨ (st.lastPosition ≠ 0 ∧
      evS st.events st.lastPosition + cs sv i st.lastOcc < cs sv i (st.lastOcc + 1)))
    (e : pushToLastSink sv i { st with events := ev } = .ok st') : StepTL sv i st st' := by
  have hr_sorted := sorted_popAt st.lastPosition ev hs
  have hr_lt := lt_popAt st.lastPosition ev hs hle
  have hpop := evS_popAt st.lastPosition ev
  unfold pushToLastSink at e
  simp only [wf.getD (j := st.lastOcc + 1) hocc, wf.getS (i := i + 1) hi, bind, Except.bind, pure,
    Except.pure] at e
  generalize popAt st.lastPosition ev = r at *
  generalize hmp : max (sv.D.getD (st.lastOcc + 1) 0 - sv.S.getD (i + 1) 0) 0 = mp at *
  have hge := topOr_ge mp r.2
  have hgm := topOr_ge_mem mp r.2 hr_sorted
  obtain ⟨hlt, hsorted, hbelow, -⟩ := topOr_step (s := r.1) hr_sorted hr_lt (show mp < st.lastPosition by omega)
  obtain rfl := Except.ok.inj e
  refine ⟨dec, rfl, rfl, rfl, hlt, hmp ▸ hge, fun y hy hyl => ?_, fun y h1 h2 => ?_, hsorted, hbelow⟩
  · rw [← hev y, hpop y, if_pos (Int.le_trans hyl (Int.le_of_lt hlt))]
    exact (evS_emplacePos _ _ _ _ hy).trans (by rw [if_pos hyl])
  · -- between the new and the old position only the popped events count
    rw [← hev y, ← hev st.lastPosition, hpop y, hpop st.lastPosition, if_pos h2,
      if_pos (Int.le_refl _), evS_zero r.2 st.lastPosition hr_lt,
      evS_zero r.2 y fun e0 he0 => Int.lt_of_le_of_lt (hgm e0 he0) h1]

theorem pushOnce_cases (sv : Solver) (sd : SwDom sv) (i : Nat) (st st' : St) (inv : LoopInv sv i st)
    (hc : Overflow sv i st) (e : pushOnce sv i st = .ok st') :
    StepNS sv i st st' ∨ StepTL sv i st st' := by
  have wf := sd.dom.wf
  have hi := inv.ilt
  have hocc := inv.occ
  have hc' : sv.D.getD (st.lastOcc + 1) 0 - sv.S.getD (i + 1) 0 < st.lastPosition := hc
  unfold pushOnce Solver.nbSinks at e
  by_cases h1 : st.lastOcc + 1 = sv.v.length
  · rw [if_pos h1] at e
    have hL : 0 < st.lastPosition := by
      have := sd.dom.Smono (i + 1) sv.u.length inv.ilt (Nat.le_refl _)
      have := sd.dom.slack
      rw [h1] at hc'
      omega
    exact Or.inr (lastSink_step sv wf i hi st st' st.events hocc inv.ei.sorted inv.ei.le
      (fun _ => rfl) hc' hL (Or.inl h1) e)
  · rw [if_neg h1] at e
    have h1' : st.lastOcc + 1 < sv.v.length := Nat.lt_of_le_of_ne hocc h1
    by_cases h2 : st.lastPosition = 0
    · rw [if_pos h2] at e
      exact Or.inl (newSink_step sv wf i hi st st' st.events h1' inv.ei.sorted inv.ei.le
        (fun _ => rfl) inv.hB (Or.inl h2) e)
    · rw [if_neg h2] at e
      simp only [cost_ok sv i (st.lastOcc + 1) hi h1', cost_ok sv i st.lastOcc hi hocc,
        bind, Except.bind] at e
      -- `getSlope(false)` regroups the events at `L` and returns their slope
      obtain ⟨ev, eg, g1, _⟩ := getSlopeKeep_spec st inv.ei
      have hs : (getSlopeKeep st).1 = evS st.events st.lastPosition := popAt_fst_eq st inv.ei
      have hev : ∀ y, evS ev y = evS st.events y := fun y => by rw [← evS_getSlopeKeep st y, eg]
      rw [hs, eg] at e
      split at e
      · rename_i hcond
        exact Or.inl (newSink_step sv wf i hi st st' ev h1' g1.sorted g1.le hev inv.hB (Or.inr hcond) e)
      · rename_i hcond
        have hpos := inv.pos
        exact Or.inr (lastSink_step sv wf i hi st st' ev hocc g1.sorted g1.le hev hc' (by omega)
          (Or.inr ⟨h2, Int.lt_of_not_ge hcond⟩) e)

/-- pushing the last `j` sources of the run sitting at `x` to the right costs at least what
pushing the run sitting at `x + 1` to the left gains -/
theorem right_lamRj_add_lamU_nonneg (sv : Solver)
    (Smono : ∀ a b, a ≤ b → b ≤ sv.u.length → sv.S.getD a 0 ≤ sv.S.getD b 0)
    (x : Int) (hx0 : 0 ≤ x) (l : List Int) :
    Facts sv l → l.length ≤ sv.u.length →
    sv.S.getD l.length 0 + x < sv.D.getD sv.v.length 0 →
    ∀ j, 0 ≤ lamRj sv l x j + lamU sv l (x + 1) := by
  induction l with
  | nil => exact fun _ _ _ _ => Int.le_refl _
  | cons pk rest ih =>
    intro hf hlen hx j
    have hU := lamU_nonneg sv (pk :: rest) hf (x + 1) (Int.lt_add_one_iff.mpr hx0)
    cases j with
    | zero => rw [lamRj, Int.zero_add]; exact hU
    | succ j =>
      rw [lamRj, lamU]
      by_cases h1 : x + 1 ≤ pk
      · -- both runs reach source `rest.length`; its two derivatives cancel
        have hS := Smono rest.length (rest.length + 1) (Nat.le_succ _) hlen
        have := ih hf.2 (Nat.le_of_succ_le hlen) (Int.lt_of_le_of_lt (Int.add_le_add_right hS x) hx) j
        rw [if_pos h1, if_pos (Int.le_trans (Int.le_add_one (Int.le_refl x)) h1), tR_eq]
        omega
      · rw [if_neg h1, Int.add_zero]
        by_cases h2 : x = pk
        · -- the run at `x` starts with this source: its own recorded fact `f3`
          subst h2
          exact hf.1.f3 hx (j + 1)
        · rw [if_neg (by omega)]

theorem loopInv_of_stepNS (sv : Solver) (sd : SwDom sv) (i : Nat) (st st' : St)
    (inv : LoopInv sv i st) (hc : Overflow sv i st) (ns : StepNS sv i st st') :
    LoopInv sv i st' := by
  obtain ⟨room, dec, occ, pos, pRev, optS, ev, ei⟩ := ns
  obtain ⟨pRev', ev', L', J', o'⟩ := st'
  dsimp only at occ pos pRev optS ev
  subst occ pos pRev optS
  have hc' : sv.D.getD (st.lastOcc + 1) 0 - sv.S.getD (i + 1) 0 < st.lastPosition := hc
  have hev : ∀ x, 0 < x → x ≤ st.lastPosition →
      evS ev' x = cs sv i st.lastOcc - cs sv i (st.lastOcc + 1) + evS st.events x :=
    fun x hx hxl => by rw [ev x hx, if_pos hxl]
  have hmono : ∀ x x', 0 < x → x ≤ x' → x' ≤ st.lastPosition → evS ev' x' ≤ evS ev' x := by
    intro x x' hx hxx hxl
    rw [hev x hx (Int.le_trans hxx hxl), hev x' (Int.lt_of_lt_of_le hx hxx) hxl]
    exact Int.add_le_add_left (inv.mono.mono x x' hx hxx hxl) _
  have hnn : 0 < st.lastPosition → 0 ≤ evS ev' st.lastPosition := by
    intro hL
    rw [hev _ hL (Int.le_refl _)]
    omega
  have hrinv := inv.rinv room (by omega)
  exact
    { inv with
      occ := room
      ei := ei
      hJ := Int.le_of_lt hc'
      hB := Int.le_trans inv.hB (sd.dom.Dmono (st.lastOcc + 1) (st.lastOcc + 1 + 1) (Nat.le_succ _) room)
      oJ := Nat.le_succ_of_le inv.oJ
      iev := fun x hx hxl => by
        dsimp only at hxl ⊢
        rw [hev x hx hxl, inv.iev x hx hxl]
        omega
      mono := ⟨hmono, hnn⟩
      decU := fun t hot htJ x hx hxl => by
        dsimp only at hot htJ hxl ⊢
        by_cases h : t ≤ st.lastOcc
        · have := inv.decU t hot h x hx hxl
          rw [hev x hx hxl]
          omega
        · -- the new sink: the slope stays non-negative up to `L`
          have h1 := hmono x st.lastPosition hx hxl (Int.le_refl _)
          have h2 := hnn (Int.lt_of_lt_of_le hx hxl)
          rw [show t = st.lastOcc + 1 by omega]
          omega
      rinv := fun hroom _ j => by
        have h1 := hrinv j
        have h2 := inv.opt.right (st.lastOcc + 1) (st.lastOcc + 1 + 1)
          (Nat.le_succ_of_le inv.oJ) (Nat.le_succ _) hroom
        dsimp only
        omega
      rtop := fun _ => hrinv }

theorem loopInv_of_stepTL (sv : Solver) (sd : SwDom sv) (i : Nat) (st st' : St)
    (inv : LoopInv sv i st) (tl : StepTL sv i st st') :
    LoopInv sv i st' := by
  obtain ⟨dec, occ, pRev, optS, hlt, hge, ev, flat, ei⟩ := tl
  obtain ⟨pRev', ev', L', J', o'⟩ := st'
  dsimp only at occ pRev optS hlt hge ev flat
  subst occ pRev optS
  have hge1 : sv.D.getD (st.lastOcc + 1) 0 - sv.S.getD (i + 1) 0 ≤ L' :=
    Int.le_trans (Int.le_max_left _ _) hge
  have hL0 : 0 ≤ L' := Int.le_trans (Int.le_max_right _ _) hge
  clear hge
  have hle : ∀ x, x ≤ L' → x ≤ st.lastPosition := fun x h => Int.le_trans h (Int.le_of_lt hlt)
  exact
    { inv with
      pos := hL0
      ei := ei
      hJ := by
        have := sd.dom.Dmono st.lastOcc (st.lastOcc + 1) (Nat.le_succ _) inv.occ
        dsimp only; omega
      hB := Int.le_trans (Int.add_le_add_left (Int.le_of_lt hlt) _) inv.hB
      iev := fun x hx hxl => (ev x hx hxl).trans (inv.iev x hx (hle x hxl))
      mono := ⟨fun x x' hx hxx hxl => by
          rw [ev x hx (Int.le_trans hxx hxl), ev x' (Int.lt_of_lt_of_le hx hxx) hxl]
          exact inv.mono.mono x x' hx hxx (hle x' hxl),
        fun hL => by
          rw [ev _ hL (Int.le_refl _)]
          exact Int.le_trans (inv.mono.nn (Int.lt_trans hL hlt))
            (inv.mono.mono L' st.lastPosition hL (Int.le_of_lt hlt) (Int.le_refl _))⟩
      decU := fun t hot htJ x hx hxl => by
        rw [ev x hx hxl]
        exact inv.decU t hot htJ x hx (hle x hxl)
      rinv := fun hroom _ j => by
        -- the slope just right of the new position is the one popped at `L`, which was too small
        -- to enter sink `J + 1`
        dsimp only at hroom ⊢
        rcases dec with hd | ⟨_, hdec⟩
        · omega
        · have h1 : 0 < L' + 1 := Int.lt_add_one_iff.mpr hL0
          have h2 : L' + 1 ≤ st.lastPosition := hlt
          have hiev := inv.iev (L' + 1) h1 h2
          have hflat := flat (L' + 1) (Int.lt_add_one_iff.mpr (Int.le_refl _)) h2
          have hlem := right_lamRj_add_lamU_nonneg sv sd.dom.Smono L' hL0 st.pRev inv.facts
            (by rw [inv.len]; exact Nat.le_of_lt inv.ilt)
            (by
              have := inv.hB
              have := sd.dom.Dmono (st.lastOcc + 1) sv.v.length (Nat.le_of_lt hroom) (Nat.le_refl _)
              rw [inv.len]; omega) j
          rw [sigR_eq_sigL, Int.add_assoc]
          omega
      rtop := fun h _ => absurd h (by dsimp only; omega)
      lof := fun x hx hxl hp => inv.lof x hx (hle x hxl) hp }

theorem pushOnce_loopInv (sv : Solver) (sd : SwDom sv) (i : Nat) (st st' : St)
    (inv : LoopInv sv i st) (hc : Overflow sv i st) (e : pushOnce sv i st = .ok st') :
    LoopInv sv i st' := by
  rcases pushOnce_cases sv sd i st st' inv hc e with ns | tl
  · exact loopInv_of_stepNS sv sd i st st' inv hc ns
  · exact loopInv_of_stepTL sv sd i st st' inv tl

theorem facts_nn (sv : Solver) (l : List Int) (hf : Facts sv l) : ∀ x ∈ l, 0 ≤ x := by
  induction l with
  | nil => intro x hx; cases hx
  | cons p rest ih =>
    intro x hx
    rcases List.mem_cons.mp hx with h | h
    · rw [h]; exact hf.1.nn
    · exact ih hf.2 x h

section
variable (sv : Solver) (sd : SwDom sv) (i : Nat) (st : St) (inv : LoopInv sv i st)
  (hc : ¬ Overflow sv i st)
include sd inv hc

/-- pushing the run of source `i` at `x` to the left does not pay: up to the optimal sink because
the events say so (`decU`), beyond it because `c i ·` decreases there -/
theorem exit_f1 (x : Int) (hx : 0 < x) (hxL : x ≤ st.lastPosition) :
    0 ≤ tL sv i x + lamU sv st.pRev x := by
  have nov : ¬ _ < _ := hc
  have hSs := sd.si.S_step sd.spos i inv.ilt
  have htJ := sigL_lt_of_le sv sd.dom.Dmono (sv.S.getD (i + 1) 0 + x) (st.lastOcc + 1)
    (Nat.succ_pos _) inv.occ (by omega)
  rw [tL]
  by_cases hot : st.optSink ≤ sigL sv (sv.S.getD (i + 1) 0 + x)
  · have := inv.decU _ hot (Nat.le_of_lt_succ htJ) x hx hxL
    rw [inv.iev x hx hxL] at this
    omega
  · have := inv.opt.left i (Nat.le_refl _) inv.ilt _ _
      (sigL_monotone sv (sv.S.getD i 0 + x) (sv.S.getD (i + 1) 0 + x) (by omega))
      (Nat.le_of_lt (Nat.lt_of_not_le hot))
    have := lamU_nonneg sv st.pRev inv.facts x hx
    omega

theorem exit_sigR_hi (hfit : sv.S.getD (i + 1) 0 + st.lastPosition < sv.D.getD sv.v.length 0) :
    (sigR sv (sv.S.getD (i + 1) 0 + st.lastPosition) = st.lastOcc ∧
      sv.S.getD (i + 1) 0 + st.lastPosition < sv.D.getD (st.lastOcc + 1) 0) ∨
    (sigR sv (sv.S.getD (i + 1) 0 + st.lastPosition) = st.lastOcc + 1 ∧
      st.lastOcc + 1 < sv.v.length ∧
      sv.D.getD (st.lastOcc + 1) 0 ≤ sv.S.getD (i + 1) 0 + st.lastPosition) := by
  have nov : ¬ _ < _ := hc
  have hJ := inv.hJ
  by_cases hlt : sv.S.getD (i + 1) 0 + st.lastPosition < sv.D.getD (st.lastOcc + 1) 0
  · exact Or.inl ⟨sigR_eq sv sd.dom.Dmono _ st.lastOcc inv.occ (by omega) hlt, hlt⟩
  · have hJm : st.lastOcc + 1 < sv.v.length := by
      refine Nat.lt_of_le_of_ne inv.occ fun e => ?_
      rw [e] at hlt
      exact hlt hfit
    have hstep := sd.si.D_step sd.dpos (st.lastOcc + 1) hJm
    exact Or.inr ⟨sigR_eq sv sd.dom.Dmono _ (st.lastOcc + 1) hJm (by omega) (by omega), hJm,
      by omega⟩

theorem exit_factsTop : FactsTop sv st.lastPosition st.pRev := by
  have hl := inv.len
  subst hl
  have hD0 := sd.si.D_zero
  have hS0 := sw_Snn sv sd _ (Nat.le_of_lt inv.ilt)
  refine ⟨fun x hx hxL => ?_, fun x hx hxL hh t ht => ?_, fun hfit j => ?_, fun hfit t ht htm => ?_,
    inv.pos, ?_⟩
  · rw [lamU, if_pos hxL]
    exact exit_f1 sv sd _ st inv hc x hx hxL
  · -- the start of the source lies before the optimal sink (`lof`)
    have hlof := inv.lof x hx hxL hh
    have := sigL_lt_of_le sv sd.dom.Dmono (sv.S.getD st.pRev.length 0 + x) st.optSink
      (Nat.pos_of_ne_zero fun e => by rw [e] at hlof; omega) (Nat.le_of_lt inv.opt.lt) hlof
    exact inv.opt.left _ (Nat.le_refl _) inv.ilt t _ (Nat.le_of_lt ht) (Nat.le_of_lt this)
  · cases j with
    | zero => exact Int.le_refl _
    | succ j =>
      rw [lamRj, if_pos (Int.le_refl st.lastPosition), tR]
      rcases exit_sigR_hi sv sd _ st inv hc hfit with ⟨e, h⟩ | ⟨e, hJm, h⟩
      · rw [e]; exact inv.rtop h j
      · rw [e]; exact inv.rinv hJm h j
  · have hoJ := inv.oJ
    refine inv.opt.right _ t ?_ (Nat.le_of_lt ht) htm
    rcases exit_sigR_hi sv sd _ st inv hc hfit with ⟨e, _⟩ | ⟨e, _, _⟩ <;> omega
  · have nov : ¬ _ < _ := hc
    have := sd.dom.Dmono (st.lastOcc + 1) sv.v.length inv.occ (Nat.le_refl _)
    omega

theorem loop_exit : SweepInv sv { st with pRev := st.lastPosition :: st.pRev } := by
  have ft := exit_factsTop sv sd i st inv hc
  have nov : ¬ _ < _ := hc
  have hl := inv.len
  subst hl
  refine
    { inv := ⟨inv.occ, inv.opt.lt, inv.pos, ?_⟩
      ei := ⟨inv.ei.sorted, inv.ei.le⟩
      hJ := inv.hJ
      fit := by
        show st.lastPosition ≤ sv.D.getD (st.lastOcc + 1) 0 - sv.S.getD (st.pRev.length + 1) 0
        omega
      head := fun y hy => (Option.some.inj hy).symm
      init := fun h => absurd h (List.cons_ne_nil _ _)
      iev := ?_
      mono := ⟨inv.mono.mono, inv.mono.nn⟩
      optL := fun k hk hku t t' htt ht' =>
        inv.opt.left k (Nat.le_of_succ_le_succ hk) hku t t' htt ht'
      facts := ⟨ft, inv.facts⟩ }
  · intro x hx
    rcases List.mem_cons.mp hx with h | h
    · rw [h]; exact inv.pos
    · exact facts_nn sv st.pRev inv.facts x h
  · intro pk rest h x hx hxL
    obtain ⟨h1, h2⟩ := List.cons.inj h
    subst h1 h2
    exact inv.iev x hx hxL

end

end ColoVerif.Transp1d
