import ColoVerif.Proofs.TranspFloat
import ColoVerif.Proofs.TranspSsp2Inv
/-
From optimality in the stored fixed-point costs to near-optimality in the original real-valued costs.  Every
stored cost is within `δ = 1/2 + 2^-24` of `c·factor` (`costsFromFloats_entry`) and a feasible plan moves exactly
`D = total demand` units, so `|costOf p z − factor·realCostOf z| ≤ δ·D` (`fixed_vs_real`).  Hence a plan that is
optimal for the stored costs is within `2·δ·D/factor` of the real-valued optimum (`float_gap`), and with
`factor ≥ INT_MAX/(4 n M)·(1−2^-53)²` within `2·D·(3/4)·(4 n M/INT_MAX)` (`float_gap_ideal`), the tolerance the
direct oracle of `harness/h_C13.cpp` applies to the long-double brute-force optimum.
-/
namespace ColoVerif.Transp
open ColoVerif.F64

lemma sumToQ_mul_left (n : Nat) (c : Rat) (f : Nat → Rat) : sumToQ n (fun i => c * f i) = c * sumToQ n f := by
  induction n with
  | zero => simp [sumToQ]
  | succ n ih => simp only [sumToQ, ih]; ring

lemma sumToQ_cast (n : Nat) (f : Nat → Int) : ((sumTo n f : Int) : Rat) = sumToQ n (fun i => (f i : Rat)) := by
  induction n with
  | zero => simp [sumTo, sumToQ]
  | succ n ih => simp only [sumTo, sumToQ]; push_cast; rw [ih]

lemma sumToQ_cast₂ (n m : Nat) (f : Nat → Nat → Int) :
    ((sumTo n (fun i => sumTo m (f i)) : Int) : Rat) = sumToQ n (fun i => sumToQ m (fun j => (f i j : Rat))) := by
  rw [sumToQ_cast]
  congr 1; funext i
  exact sumToQ_cast m (f i)

lemma sumToQ_abs_sub_le {n : Nat} {f g w : Nat → Rat} (h : ∀ i, i < n → |f i - g i| ≤ w i) :
    |sumToQ n f - sumToQ n g| ≤ sumToQ n w := by
  induction n with
  | zero => simp [sumToQ]
  | succ n ih =>
    simp only [sumToQ]
    rw [add_sub_add_comm]
    exact (abs_add_le _ _).trans
      (add_le_add (ih fun i hi => h i (Nat.lt_succ_of_lt hi)) (h n (Nat.lt_succ_self n)))

lemma feasible_total (p : Problem) (z : Mat) (hz : Feasible p z) :
    sumTo p.nbSinks (fun i => sumTo p.nbSources (fun j => get2 z i j)) = p.totalDemand := by
  rw [sumTo_comm]
  have : sumTo p.nbSources (fun j => sumTo p.nbSinks (fun i => get2 z i j))
      = sumTo p.nbSources (fun j => p.demand j) :=
    sumTo_congr (fun j hj => hz.demand j hj)
  rw [this]
  unfold Problem.nbSources Problem.demand Problem.totalDemand
  exact sumTo_list p.demands

/-- the rounding unit of the fixed-point costs: `1/2` from `std::round` plus `2^-24` from the binary64 product -/
def fcDelta : Rat := 1 / 2 + 1 / 16777216

/-- Entry by entry the stored cost is within `δ` of `factor·c` and the plan is non-negative, so the three double
sums compare term by term. -/
lemma fixed_vs_real (caps dems : List Int) (fc : List (List Rat)) (h : FloatCostsOk fc) (hn1 : 1 ≤ fc.length)
    (z : Mat) (hz : Feasible (Problem.makeFloat caps dems fc) z) :
    |((costOf (Problem.makeFloat caps dems fc) z : Int) : Rat)
        - fcFactor (fcMaxVal fc) fc.length * realCostOf fc caps.length dems.length z|
      ≤ fcDelta * ((dems.sum : Int) : Rat) := by
  have hD : ((dems.sum : Int) : Rat)
      = sumToQ caps.length (fun i => sumToQ dems.length (fun j => ((get2 z i j : Int) : Rat))) := by
    rw [← sumToQ_cast₂]
    exact congrArg Int.cast (feasible_total _ z hz).symm
  have hC : ((costOf (Problem.makeFloat caps dems fc) z : Int) : Rat)
      = sumToQ caps.length (fun i => sumToQ dems.length (fun j =>
          ((get2 (costsFromFloats fc) i j : Int) : Rat) * ((get2 z i j : Int) : Rat))) := by
    unfold costOf
    rw [sumToQ_cast₂]
    simp only [Int.cast_mul]
    rfl
  rw [hC, hD]
  unfold realCostOf
  simp only [← sumToQ_mul_left]
  refine sumToQ_abs_sub_le fun i hi => sumToQ_abs_sub_le fun j hj => ?_
  obtain ⟨_, _, he⟩ := costsFromFloats_entry fc h hn1 i j
  have hz0 : (0 : Rat) ≤ ((get2 z i j : Int) : Rat) := by exact_mod_cast hz.nonneg i j hi hj
  rw [← mul_assoc, mul_comm (fcFactor _ _), ← sub_mul, abs_mul, abs_of_nonneg hz0]
  exact mul_le_mul_of_nonneg_right he hz0

lemma float_gap (caps dems : List Int) (fc : List (List Rat)) (h : FloatCostsOk fc) (hn1 : 1 ≤ fc.length)
    (x y : Mat) (hx : Feasible (Problem.makeFloat caps dems fc) x) (hy : Feasible (Problem.makeFloat caps dems fc) y)
    (hxy : costOf (Problem.makeFloat caps dems fc) x ≤ costOf (Problem.makeFloat caps dems fc) y) :
    realCostOf fc caps.length dems.length x ≤ realCostOf fc caps.length dems.length y
      + 2 * fcDelta * ((dems.sum : Int) : Rat) / fcFactor (fcMaxVal fc) fc.length := by
  obtain ⟨hcf, _, _⟩ := fcFactor_bounds _ _ (fcMaxVal_pos fc) (fcMaxVal_le_fltMax h) hn1 h.rows
  have lx := (abs_sub_le_iff.mp (fixed_vs_real caps dems fc h hn1 x hx)).2
  have uy := (abs_sub_le_iff.mp (fixed_vs_real caps dems fc h hn1 y hy)).1
  have hq : ((costOf (Problem.makeFloat caps dems fc) x : Int) : Rat)
      ≤ ((costOf (Problem.makeFloat caps dems fc) y : Int) : Rat) := by exact_mod_cast hxy
  rw [← sub_le_iff_le_add', le_div_iff₀ hcf, sub_mul, mul_comm _ (fcFactor _ _), mul_comm _ (fcFactor _ _)]
  linarith only [lx, uy, hq]

/-- `float_gap` with the ideal factor `INT_MAX/(4·n·maxVal)`, because `n·maxVal·factor ≥ INT_MAX/4·(1−2^-53)²` and
`δ ≤ (3/4)·(1−2^-53)²` -/
lemma float_gap_ideal (caps dems : List Int) (fc : List (List Rat)) (h : FloatCostsOk fc) (hn1 : 1 ≤ fc.length)
    (x y : Mat) (hx : Feasible (Problem.makeFloat caps dems fc) x) (hy : Feasible (Problem.makeFloat caps dems fc) y)
    (hxy : costOf (Problem.makeFloat caps dems fc) x ≤ costOf (Problem.makeFloat caps dems fc) y) :
    realCostOf fc caps.length dems.length x ≤ realCostOf fc caps.length dems.length y
      + 2 * ((dems.sum : Int) : Rat) * (3 / 4) * (4 * (fc.length : Rat) * fcMaxVal fc / 2147483647) := by
  obtain ⟨hcf, hlow, _⟩ := fcFactor_bounds _ _ (fcMaxVal_pos fc) (fcMaxVal_le_fltMax h) hn1 h.rows
  have hlow : 2147483647 / 4 * (1 - (2 : Rat) ^ (-53 : Int)) ^ 2
      ≤ (fc.length : Rat) * fcMaxVal fc * fcFactor (fcMaxVal fc) fc.length := hlow.down
  -- a feasible plan exists, so the total demand is not negative: `0 ≤ |…| ≤ δ·D`
  have hDq : (0 : Rat) ≤ ((dems.sum : Int) : Rat) :=
    nonneg_of_mul_nonneg_right ((abs_nonneg _).trans (fixed_vs_real caps dems fc h hn1 x hx))
      (by unfold fcDelta; norm_num)
  have key : fcDelta / fcFactor (fcMaxVal fc) fc.length
      ≤ 3 / 4 * (4 * (fc.length : Rat) * fcMaxVal fc / 2147483647) := by
    rw [div_le_iff₀ hcf]
    calc fcDelta ≤ 3 / 4 * (4 / 2147483647 * (2147483647 / 4 * (1 - (2 : Rat) ^ (-53 : Int)) ^ 2)) := by
          unfold fcDelta; norm_num
      _ ≤ 3 / 4 * (4 / 2147483647 * ((fc.length : Rat) * fcMaxVal fc * fcFactor (fcMaxVal fc) fc.length)) := by
          gcongr
      _ = 3 / 4 * (4 * (fc.length : Rat) * fcMaxVal fc / 2147483647) * fcFactor (fcMaxVal fc) fc.length := by
          ring
  calc realCostOf fc caps.length dems.length x
      ≤ realCostOf fc caps.length dems.length y
        + 2 * fcDelta * ((dems.sum : Int) : Rat) / fcFactor (fcMaxVal fc) fc.length :=
        float_gap caps dems fc h hn1 x y hx hy hxy
    _ = realCostOf fc caps.length dems.length y
        + 2 * ((dems.sum : Int) : Rat) * (fcDelta / fcFactor (fcMaxVal fc) fc.length) := by ring
    _ ≤ realCostOf fc caps.length dems.length y
        + 2 * ((dems.sum : Int) : Rat) * (3 / 4 * (4 * (fc.length : Rat) * fcMaxVal fc / 2147483647)) := by
        gcongr
    _ = _ := by ring

lemma costsFromFloats_costBound (caps dems : List Int) (fc : List (List Rat)) (h : FloatCostsOk fc) :
    CostBound (Problem.makeFloat caps dems fc) := by
  intro i j _ _
  obtain ⟨a, b⟩ := costsFromFloats_range fc h i j
  show 3 * get2 (costsFromFloats fc) i j < intMax ∧ -intMax < 3 * get2 (costsFromFloats fc) i j
  unfold intMax
  constructor <;> omega

end ColoVerif.Transp
