import ColoVerif.Proofs.TranspSsp2Defs
/-
The libstdc++ binary heap of `Model/Transp.lean` (`makeHeap`, `heapPush`, `heapPop`) keeps the
min-heap property `IsHeap` and permutes its contents.  `std::__push_heap` and `std::__adjust_heap` have
one invariant rule each (`pushHeapLoop_ind`, `adjustHeap_ind`), instantiated with `PInv` (contents) and
with `HInv` (order: a heap with a hole).
-/
namespace ColoVerif.Transp

theorem getD_setIfInBounds {α : Type} (a : Array α) (i k : Nat) (v d : α) :
    (a.setIfInBounds i v).getD k d = if k = i ∧ i < a.size then v else a.getD k d := by
  simp only [Array.getD_eq_getD_getElem?, Array.getElem?_setIfInBounds]
  by_cases h : i = k
  · subst h
    by_cases h2 : i < a.size
    · simp [h2]
    · simp [h2]
  · have h' : ¬ k = i := fun e => h e.symm
    simp [h, h']

theorem hget_set (a : Heap) (i k : Nat) (v : CostElt) :
    hget (a.setIfInBounds i v) k = if k = i ∧ i < a.size then v else hget a k :=
  getD_setIfInBounds a i k v default

theorem hget_set_self (a : Heap) (i : Nat) (v : CostElt) (h : i < a.size) :
    hget (a.setIfInBounds i v) i = v := by
  rw [hget_set]; simp [h]

theorem hget_set_ne (a : Heap) (i k : Nat) (v : CostElt) (h : k ≠ i) :
    hget (a.setIfInBounds i v) k = hget a k := by
  rw [hget_set]; simp [h]

theorem hget_eq_getElem (a : Heap) (i : Nat) (h : i < a.size) : hget a i = a[i] := by
  unfold hget; simp [h]

theorem hget_toList (a : Heap) (i : Nat) (h : i < a.toList.length) : a.toList[i] = hget a i := by
  unfold hget
  have h' : i < a.size := by simpa using h
  simp [h']

theorem hget_pop (a : Heap) (i : Nat) (h : i < a.size - 1) : hget a.pop i = hget a i := by
  have h' : i < a.size := by omega
  unfold hget
  simp [h, h']

theorem hget_push_lt (a : Heap) (v : CostElt) (i : Nat) (h : i < a.size) : hget (a.push v) i = hget a i := by
  have h' : i < (a.push v).size := by simp; omega
  rw [hget_eq_getElem _ _ h', hget_eq_getElem _ _ h, Array.getElem_push_lt]

theorem hget_push_size (a : Heap) (v : CostElt) : hget (a.push v) a.size = v := by
  rw [hget_eq_getElem _ _ (by simp), Array.getElem_push_eq]

theorem comp_iff (x y : CostElt) : comp x y = true ↔ x.cost > y.cost := by
  unfold comp; simp

theorem parent_lt {i : Nat} (h : 0 < i) : (i - 1) / 2 < i := by omega

theorem lt_of_parent {c p : Nat} (c0 : 0 < c) (cp : (c - 1) / 2 = p) : p < c := cp ▸ parent_lt c0

/-! Index arithmetic of `std::__adjust_heap`: inside the loop both children of the hole exist; when it
stops the hole has no child below `len`, except the single child `len - 1` when `len` is even and the
hole is `(len - 2) / 2`. -/

theorem child_in_loop {s hole len : Nat} (hs : s = 2 * hole + 1 ∨ s = 2 * hole + 2) (hlt : hole < (len - 1) / 2) :
    0 < s ∧ s < len ∧ (s - 1) / 2 = hole := by omega

theorem child_cases {c hole : Nat} (c0 : 0 < c) (cp : (c - 1) / 2 = hole) : c = 2 * hole + 1 ∨ c = 2 * hole + 2 := by
  omega

theorem only_child {hole len : Nat} (hl : hole < len) (he : len % 2 = 0) (hh : hole = (len - 2) / 2) :
    0 < 2 * (hole + 1) - 1 ∧ 2 * (hole + 1) - 1 < len ∧ (2 * (hole + 1) - 1 - 1) / 2 = hole ∧
    2 * (hole + 1) - 1 + 1 = len := by omega

theorem child_at_exit {c hole len : Nat} (hf : ¬ hole < (len - 1) / 2) (c0 : 0 < c) (cl : c < len)
    (cp : (c - 1) / 2 = hole) : (len % 2 = 0 ∧ hole = (len - 2) / 2) ∧ c = 2 * (hole + 1) - 1 := by omega

theorem pushHeapLoop_ind (top : Nat) (v : CostElt) (P : Heap → Nat → Prop) (Q : Heap → Prop)
    (step : ∀ a hole, P a hole → hole > top → (hget a ((hole - 1) / 2)).cost > v.cost →
      P (a.setIfInBounds hole (hget a ((hole - 1) / 2))) ((hole - 1) / 2))
    (fin : ∀ a hole, P a hole → (hole ≤ top ∨ (hget a ((hole - 1) / 2)).cost ≤ v.cost) →
      Q (a.setIfInBounds hole v)) :
    ∀ (hole : Nat) (a : Heap), P a hole → Q (pushHeapLoop a hole top v) := by
  intro hole
  induction hole using Nat.strongRecOn with
  | _ hole ih =>
    intro a hP
    rw [pushHeapLoop]
    split
    · rename_i hc
      have hc2 := (comp_iff _ _).1 hc.2
      exact ih ((hole - 1) / 2) (parent_lt (Nat.zero_lt_of_lt hc.1)) _ (step a hole hP hc.1 hc2)
    · rename_i hc
      apply fin a hole hP
      by_cases h1 : hole > top
      · right
        have : ¬ comp (hget a ((hole - 1) / 2)) v = true := fun h => hc ⟨h1, h⟩
        rw [comp_iff] at this
        omega
      · left; omega

/-- `v` may be put above all the children of the hole -/
def HB (a : Heap) (len hole : Nat) (v : CostElt) : Prop :=
  ∀ c, 0 < c → c < len → (c - 1) / 2 = hole → v.cost ≤ (hget a c).cost

theorem HB.of_last {a : Heap} {len hole : Nat} {v : CostElt} (h : len ≤ hole + 1) : HB a len hole v :=
  fun c c0 cl cp => absurd (lt_of_parent c0 cp) (by omega)

theorem adjustLoop_ind (len : Nat) (P : Heap → Nat → Prop)
    (step : ∀ a hole s, P a hole → 0 < s → s < len → (s - 1) / 2 = hole → HB a len hole (hget a s) →
      P (a.setIfInBounds hole (hget a s)) s) :
    ∀ (fuel : Nat) (a : Heap) (hole : Nat), P a hole → hole < len →
      ∃ a1 hole1, adjustLoop len fuel a hole hole = (a1, hole1, hole1) ∧ P a1 hole1 ∧ hole1 < len ∧
        (len ≤ hole + fuel → ¬ hole1 < (len - 1) / 2) := by
  intro fuel
  induction fuel with
  | zero => exact fun a hole hP hl => ⟨a, hole, rfl, hP, hl, by omega⟩
  | succ fuel ih =>
    intro a hole hP hl
    simp only [adjustLoop]
    split
    · rename_i hlt
      have e1 : 2 * (hole + 1) - 1 = 2 * hole + 1 := rfl
      have e2 : 2 * (hole + 1) = 2 * hole + 2 := rfl
      rw [e1, e2]
      generalize hs3 : (if comp (hget a (2 * hole + 2)) (hget a (2 * hole + 1)) = true then 2 * hole + 1
        else 2 * hole + 2) = s3
      have hs : (s3 = 2 * hole + 1 ∨ s3 = 2 * hole + 2) ∧ (hget a s3).cost ≤ (hget a (2 * hole + 1)).cost ∧
          (hget a s3).cost ≤ (hget a (2 * hole + 2)).cost := by
        split at hs3
        · rename_i hc
          rw [comp_iff] at hc
          subst hs3
          exact ⟨Or.inl rfl, Int.le_refl _, Int.le_of_lt hc⟩
        · rename_i hc
          rw [comp_iff] at hc
          subst hs3
          exact ⟨Or.inr rfl, Int.not_lt.mp hc, Int.le_refl _⟩
      obtain ⟨s0, sl, sp⟩ := child_in_loop hs.1 hlt
      obtain ⟨a1, hole1, e, hP1, hl1, hf⟩ := ih _ _ (step a hole s3 hP s0 sl sp fun c c0 _ cp => by
        rcases child_cases c0 cp with e | e
        · rw [e]; exact hs.2.1
        · rw [e]; exact hs.2.2) sl
      exact ⟨a1, hole1, e, hP1, hl1, fun h => hf (by clear hlt; omega)⟩
    · rename_i hlt
      exact ⟨a, hole, rfl, hP, hl, fun _ => hlt⟩

/-- `std::__adjust_heap`: the hole goes down along least children (the last step to an only child), then
`v` is pushed up from where it stopped, where it is below every child. -/
theorem adjustHeap_ind {len hole : Nat} {v : CostElt} {P : Heap → Nat → Prop} {Q : Heap → Prop}
    (down : ∀ a hole s, P a hole → 0 < s → s < len → (s - 1) / 2 = hole → HB a len hole (hget a s) →
      P (a.setIfInBounds hole (hget a s)) s)
    (up : ∀ a hole1, P a hole1 → HB a len hole1 v → Q (pushHeapLoop a hole1 hole v))
    {a : Heap} (hl : hole < len) (h : P a hole) : Q (adjustHeap a hole len v) := by
  obtain ⟨a1, hole1, e, hP, hl1, hf⟩ := adjustLoop_ind len P down (len + 1) a hole h hl
  have hf := hf (Nat.le_trans (Nat.le_succ len) (Nat.le_add_left _ _))
  unfold adjustHeap
  rw [e]
  simp only []
  split
  · rename_i hc
    simp only [Bool.and_eq_true, beq_iff_eq] at hc
    obtain ⟨s0, sl, sp, se⟩ := only_child hl1 hc.1 hc.2
    refine up _ _ (down a1 hole1 _ hP s0 sl sp fun c c0 cl cp => ?_) (HB.of_last (Nat.le_of_eq se.symm))
    rw [(child_at_exit hf c0 cl cp).2]
    exact Int.le_refl _
  · rename_i hc
    simp only [Bool.and_eq_true, beq_iff_eq] at hc
    exact up a1 hole1 hP fun c c0 cl cp => absurd (child_at_exit hf c0 cl cp).1 hc

theorem list_move_perm {α} (l : List α) (i j : Nat) (x : α) (hi : i < l.length) (hj : j < l.length)
    (hij : i ≠ j) : ((l.set i l[j]).set j x).Perm (l.set i x) := by
  have h := List.set_set_perm (as := l.set i x) (i := i) (j := j) (by simpa using hi) (by simpa using hj)
  have e1 : (l.set i x)[j]'(by simpa using hj) = l[j] := by
    simp [hij]
  have e2 : (l.set i x)[i]'(by simpa using hi) = x := by simp
  rw [e1, e2, List.set_set] at h
  exact h

theorem move_perm (a : Heap) (i j : Nat) (x : CostElt) (hi : i < a.size) (hj : j < a.size)
    (hij : i ≠ j) :
    ((a.setIfInBounds i (hget a j)).setIfInBounds j x).toList.Perm (a.setIfInBounds i x).toList := by
  simp only [Array.toList_setIfInBounds]
  have := list_move_perm a.toList i j x (by simpa using hi) (by simpa using hj) hij
  rw [hget_toList] at this
  exact this

/-- the array `a` with `v` put into the hole is a permutation of `L`; nothing at or beyond `m` moved -/
def PInv (L : List CostElt) (m : Nat) (F : Nat → CostElt) (v : CostElt) (a : Heap) (hole : Nat) : Prop :=
  hole < m ∧ m ≤ a.size ∧ (a.setIfInBounds hole v).toList.Perm L ∧ ∀ k, m ≤ k → hget a k = F k

def PFin (L : List CostElt) (m : Nat) (F : Nat → CostElt) (r : Heap) : Prop :=
  r.toList.Perm L ∧ ∀ k, m ≤ k → hget r k = F k

theorem PInv.step {L m F v a hole} (h : PInv L m F v a hole) (j : Nat) (hj : j < m) (hne : j ≠ hole) :
    PInv L m F v (a.setIfInBounds hole (hget a j)) j := by
  obtain ⟨h1, h2, h3, h4⟩ := h
  refine ⟨hj, by simpa using h2, ?_, ?_⟩
  · exact (move_perm a hole j v (by omega) (by omega) (fun e => hne e.symm)).trans h3
  · intro k hk
    rw [hget_set_ne _ _ _ _ (by omega)]
    exact h4 k hk

theorem PInv.fin {L m F v a hole} (h : PInv L m F v a hole) : PFin L m F (a.setIfInBounds hole v) := by
  obtain ⟨h1, h2, h3, h4⟩ := h
  refine ⟨h3, ?_⟩
  intro k hk
  rw [hget_set_ne _ _ _ _ (by omega)]
  exact h4 k hk

theorem pushHeapLoop_pfin {L m F v a hole} (top : Nat) (h : PInv L m F v a hole) :
    PFin L m F (pushHeapLoop a hole top v) := by
  refine pushHeapLoop_ind top v (PInv L m F v) (PFin L m F) ?_ ?_ hole a h
  · intro a hole hP ht _
    have hp := parent_lt (Nat.zero_lt_of_lt ht)
    exact hP.step _ (Nat.lt_trans hp hP.1) (Nat.ne_of_lt hp)
  · intro a hole hP _
    exact hP.fin

theorem adjustHeap_pfin {L len F v a hole} (h : PInv L len F v a hole) :
    PFin L len F (adjustHeap a hole len v) :=
  adjustHeap_ind (P := PInv L len F v) (Q := PFin L len F)
    (fun _ _ _ hP s0 sl sp _ => hP.step _ sl (Nat.ne_of_gt (lt_of_parent s0 sp)))
    (fun _ _ hP _ => pushHeapLoop_pfin hole hP) h.1 h

theorem PInv.init (a : Heap) (hole len : Nat) (v : CostElt) (h1 : hole < len) (h2 : len ≤ a.size) :
    PInv (a.setIfInBounds hole v).toList len (hget a) v a hole :=
  ⟨h1, h2, List.Perm.refl _, fun _ _ => rfl⟩

theorem set_hget_self (a : Heap) (i : Nat) : a.setIfInBounds i (hget a i) = a := by
  apply Array.ext
  · simp
  · intro k h1 h2
    have := hget_set a i k (hget a i)
    rw [hget_eq_getElem _ _ h1, hget_eq_getElem _ _ h2] at this
    rw [this]
    split
    · rename_i h; obtain ⟨h, _⟩ := h; subst h; exact hget_eq_getElem _ _ (by omega)
    · rfl

theorem heapPush_perm (h : Heap) (v : CostElt) : (heapPush h v).toList.Perm (v :: h.toList) := by
  unfold heapPush
  have hi := PInv.init (h.push v) h.size (h.size + 1) v (by omega) (by simp)
  have := (pushHeapLoop_pfin 0 hi).1
  refine this.trans ?_
  have e : (h.push v).setIfInBounds h.size v = h.push v := by
    have := set_hget_self (h.push v) h.size
    rwa [hget_push_size] at this
  rw [e]
  simp only [Array.toList_push]
  exact List.perm_append_singleton _ _

theorem heapPush_size (h : Heap) (v : CostElt) : (heapPush h v).size = h.size + 1 := by
  have := (heapPush_perm h v).length_eq
  simpa using this

theorem pop_perm_aux (r : Heap) (L : List CostElt) (x : CostElt) (hr : r.toList.Perm L) (hs : 0 < r.size)
    (hx : hget r (r.size - 1) = x) : (x :: r.pop.toList).Perm L := by
  refine List.Perm.trans ?_ hr
  have hne : r.toList ≠ [] := by
    intro h
    have : r.size = 0 := by rw [← Array.length_toList, h]; rfl
    omega
  have h1 := List.dropLast_concat_getLast hne
  have h2 : r.toList.getLast hne = x := by
    rw [List.getLast_eq_getElem, hget_toList]
    simpa using hx
  rw [h2] at h1
  rw [Array.toList_pop]
  conv => rhs; rw [← h1]
  exact (List.perm_append_singleton _ _).symm

theorem heapPop_perm (h : Heap) (hs : 0 < h.size) : (hget h 0 :: (heapPop h).toList).Perm h.toList := by
  unfold heapPop
  split
  · rename_i h1
    simp only
    have hi := PInv.init (h.setIfInBounds (h.size - 1) (hget h 0)) 0 (h.size - 1) (hget h (h.size - 1))
      (by omega) (by simp)
    obtain ⟨hp, hf⟩ := adjustHeap_pfin hi
    have hsz := hp.length_eq
    simp only [Array.length_toList, Array.size_setIfInBounds] at hsz
    apply pop_perm_aux
    · refine hp.trans ?_
      have := move_perm h (h.size - 1) 0 (hget h (h.size - 1)) (by omega) (by omega) (by omega)
      rwa [set_hget_self] at this
    · omega
    · rw [hsz, hf _ (Nat.le_refl _), hget_set_self _ _ _ (by omega)]
  · apply pop_perm_aux _ _ _ (List.Perm.refl _) hs
    have : h.size - 1 = 0 := by omega
    rw [this]

theorem heapPop_size (h : Heap) : (heapPop h).size = h.size - 1 := by
  by_cases hs : 0 < h.size
  · have := (heapPop_perm h hs).length_eq
    simp only [List.length_cons, Array.length_toList] at this
    omega
  · unfold heapPop
    simp at hs
    simp [hs]

theorem pushHeapLoop_top (v : CostElt) (hole : Nat) (a : Heap) (top : Nat) :
    hget (pushHeapLoop a hole top v) 0 = hget a 0 ∨ hget (pushHeapLoop a hole top v) 0 = v := by
  refine pushHeapLoop_ind top v (fun b _ => hget b 0 = hget a 0) (fun r => hget r 0 = hget a 0 ∨ hget r 0 = v)
    ?_ ?_ hole a rfl
  · intro b hole hP ht _
    rw [hget_set_ne _ _ _ _ (Nat.ne_of_lt (Nat.zero_lt_of_lt ht))]
    exact hP
  · intro b hole hP _
    rw [hget_set]
    split
    · exact Or.inr rfl
    · exact Or.inl hP

theorem heapPush_top (h : Heap) (v : CostElt) :
    (0 < h.size ∧ hget (heapPush h v) 0 = hget h 0) ∨ hget (heapPush h v) 0 = v := by
  unfold heapPush
  rcases pushHeapLoop_top v h.size (h.push v) 0 with e | e
  · by_cases hs : h.size = 0
    · right; rw [e]; exact hs ▸ hget_push_size h v
    · exact .inl ⟨by omega, e.trans (hget_push_lt _ _ _ (by omega))⟩
  · right; exact e

/-- `h` lies in the subtree rooted at `lo` -/
inductive Desc (lo : Nat) : Nat → Prop
  | refl : Desc lo lo
  | step {h : Nat} : 0 < h → Desc lo ((h - 1) / 2) → Desc lo h

theorem Desc.le {lo h : Nat} (d : Desc lo h) : lo ≤ h := by
  induction d with
  | refl => exact Nat.le_refl _
  | step h0 _ ih => omega

theorem Desc.parent {lo h : Nat} (d : Desc lo h) (hlt : lo < h) : Desc lo ((h - 1) / 2) := by
  cases d with
  | refl => omega
  | step _ d' => exact d'

theorem desc_zero : ∀ h, Desc 0 h := by
  intro h
  induction h using Nat.strongRecOn with
  | _ h ih =>
    by_cases h0 : h = 0
    · subst h0; exact Desc.refl
    · exact Desc.step (Nat.pos_of_ne_zero h0) (ih _ (parent_lt (Nat.pos_of_ne_zero h0)))

/-- heap property on all edges (inside the prefix `len`) whose parent index is at least `lo`:
the `std::make_heap` loop invariant -/
def HeapFrom (a : Heap) (len lo : Nat) : Prop :=
  ∀ i, 0 < i → i < len → lo ≤ (i - 1) / 2 → (hget a ((i - 1) / 2)).cost ≤ (hget a i).cost

/-- heap-with-a-hole: every edge not touching the hole is fine, and the children of the hole are fine
with respect to the parent of the hole -/
structure HInv (a : Heap) (len lo hole : Nat) : Prop where
  hlt : hole < len
  hsz : len ≤ a.size
  desc : Desc lo hole
  away : ∀ i, 0 < i → i < len → lo ≤ (i - 1) / 2 → i ≠ hole → (i - 1) / 2 ≠ hole →
    (hget a ((i - 1) / 2)).cost ≤ (hget a i).cost
  across : lo < hole → HB a len hole (hget a ((hole - 1) / 2))

theorem set_edge {a : Heap} {hole i : Nat} (x : CostElt) (hh : hole < a.size) (i0 : 0 < i)
    (h1 : i = hole → (hget a ((hole - 1) / 2)).cost ≤ x.cost)
    (h2 : (i - 1) / 2 = hole → x.cost ≤ (hget a i).cost)
    (h3 : i ≠ hole → (i - 1) / 2 ≠ hole → (hget a ((i - 1) / 2)).cost ≤ (hget a i).cost) :
    (hget (a.setIfInBounds hole x) ((i - 1) / 2)).cost ≤ (hget (a.setIfInBounds hole x) i).cost := by
  by_cases e1 : i = hole
  · subst e1
    rw [hget_set_self a i _ hh, hget_set_ne a i _ _ (Nat.ne_of_lt (parent_lt i0))]
    exact h1 rfl
  · rw [hget_set_ne a hole _ _ e1]
    by_cases e2 : (i - 1) / 2 = hole
    · rw [e2, hget_set_self a hole _ hh]
      exact h2 e2
    · rw [hget_set_ne a hole _ _ e2]
      exact h3 e1 e2

theorem HInv.hole_lt_size {a : Heap} {len lo hole : Nat} (h : HInv a len lo hole) : hole < a.size :=
  Nat.lt_of_lt_of_le h.hlt h.hsz

theorem HInv.init {a : Heap} {len lo : Nat} (h : HeapFrom a len (lo + 1)) (h1 : lo < len)
    (h2 : len ≤ a.size) : HInv a len lo lo where
  hlt := h1
  hsz := h2
  desc := Desc.refl
  away := fun i i0 il ip _ hp => h i i0 il (by omega)
  across := fun hlo => absurd hlo (Nat.lt_irrefl _)

theorem HInv.down {a : Heap} {len lo hole : Nat} (h : HInv a len lo hole) (s3 : Nat) (s0 : 0 < s3)
    (sl : s3 < len) (sp : (s3 - 1) / 2 = hole)
    (hmin : HB a len hole (hget a s3)) :
    HInv (a.setIfInBounds hole (hget a s3)) len lo s3 where
  hlt := sl
  hsz := by simpa using h.hsz
  desc := Desc.step s0 (sp ▸ h.desc)
  away := fun i i0 il ip _ _ => set_edge _ h.hole_lt_size i0
    (by rintro rfl; exact h.across (Nat.lt_of_le_of_lt ip (parent_lt i0)) s3 s0 sl sp)
    (hmin i i0 il) (h.away i i0 il ip)
  across := by
    intro _ c c0 cl cp
    have hs3 : hole < s3 := lt_of_parent s0 sp
    have hc : s3 < c := lt_of_parent c0 cp
    have hne : c ≠ hole := Nat.ne_of_gt (Nat.lt_trans hs3 hc)
    rw [sp, hget_set_self a hole _ h.hole_lt_size, hget_set_ne a hole _ _ hne]
    have := h.away c c0 cl (cp ▸ Nat.le_trans h.desc.le (Nat.le_of_lt hs3)) hne (cp ▸ Nat.ne_of_gt hs3)
    rwa [cp] at this

/-- once the parent's value stands in the hole, what costs at most the parent costs at most each of the
parent's children: the hole's sibling is an edge away from the hole -/
theorem HInv.hb_parent {a : Heap} {len lo hole : Nat} {x : CostElt} (h : HInv a len lo hole) (hlo : lo < hole)
    (hx : x.cost ≤ (hget a ((hole - 1) / 2)).cost) :
    HB (a.setIfInBounds hole (hget a ((hole - 1) / 2))) len ((hole - 1) / 2) x := by
  intro c c0 cl cp
  by_cases e1 : c = hole
  · rw [e1, hget_set_self a hole _ h.hole_lt_size]
    exact hx
  · rw [hget_set_ne a hole _ _ e1]
    exact Int.le_trans hx (cp ▸ h.away c c0 cl (cp ▸ (h.desc.parent hlo).le) e1
      (cp ▸ Nat.ne_of_lt (parent_lt (Nat.zero_lt_of_lt hlo))))

theorem HInv.up {a : Heap} {len lo hole : Nat} {v : CostElt} (h : HInv a len lo hole) (hlo : lo < hole)
    (hc : (hget a ((hole - 1) / 2)).cost > v.cost) :
    HInv (a.setIfInBounds hole (hget a ((hole - 1) / 2))) len lo ((hole - 1) / 2) ∧
    HB (a.setIfInBounds hole (hget a ((hole - 1) / 2))) len ((hole - 1) / 2) v := by
  have hd := h.desc.parent hlo
  have hg : (hole - 1) / 2 < hole := parent_lt (Nat.zero_lt_of_lt hlo)
  refine ⟨⟨Nat.lt_trans hg h.hlt, by simpa using h.hsz, hd, ?_, ?_⟩, h.hb_parent hlo (Int.le_of_lt hc)⟩
  · exact fun i i0 il ip _ hpi => set_edge _ h.hole_lt_size i0 (fun e => absurd (by rw [e]) hpi)
      (h.across hlo i i0 il) (h.away i i0 il ip)
  · intro hlp
    have g0 := Nat.zero_lt_of_lt hlp
    have hgg := Nat.ne_of_lt (Nat.lt_trans (parent_lt g0) hg)
    rw [hget_set_ne a hole _ _ hgg]
    exact h.hb_parent hlo
      (h.away ((hole - 1) / 2) g0 (Nat.lt_trans hg h.hlt) (hd.parent hlp).le (Nat.ne_of_lt hg) hgg)

theorem HInv.fin {a : Heap} {len lo hole : Nat} {v : CostElt} (h : HInv a len lo hole) (hb : HB a len hole v)
    (hc : hole ≤ lo ∨ (hget a ((hole - 1) / 2)).cost ≤ v.cost) :
    HeapFrom (a.setIfInBounds hole v) len lo := by
  intro i i0 il ip
  refine set_edge v h.hole_lt_size i0 ?_ (hb i i0 il) (h.away i i0 il ip)
  rintro rfl
  rcases hc with hc | hc
  · exact absurd (Nat.lt_of_le_of_lt ip (parent_lt i0)) (Nat.not_lt.mpr hc)
  · exact hc

theorem pushHeapLoop_heapFrom {a : Heap} {len lo hole : Nat} {v : CostElt} (h : HInv a len lo hole)
    (hb : HB a len hole v) : HeapFrom (pushHeapLoop a hole lo v) len lo := by
  refine pushHeapLoop_ind lo v (fun a hole => HInv a len lo hole ∧ HB a len hole v)
    (fun r => HeapFrom r len lo) ?_ ?_ hole a ⟨h, hb⟩
  · intro a hole hP ht hc
    exact hP.1.up ht hc
  · intro a hole hP hc
    exact hP.1.fin hP.2 hc

theorem adjustHeap_heapFrom {a : Heap} {len lo : Nat} (v : CostElt) (h : HeapFrom a len (lo + 1))
    (h1 : lo < len) (h2 : len ≤ a.size) : HeapFrom (adjustHeap a lo len v) len lo :=
  adjustHeap_ind (P := fun a hole => HInv a len lo hole) (Q := fun r => HeapFrom r len lo)
    (fun _ _ s hP => hP.down s) (fun _ _ hP => pushHeapLoop_heapFrom hP) h1 (HInv.init h h1 h2)

theorem heapFrom_zero_iff (a : Heap) : HeapFrom a a.size 0 ↔ IsHeap a := by
  unfold HeapFrom IsHeap
  constructor
  · intro h i i0 il; exact h i i0 il (Nat.zero_le _)
  · intro h i i0 il _; exact h i i0 il

theorem adjustHeap_size (a : Heap) (hole len : Nat) (v : CostElt) (h1 : hole < len) (h2 : len ≤ a.size) :
    (adjustHeap a hole len v).size = a.size := by
  have := (adjustHeap_pfin (PInv.init a hole len v h1 h2)).1.length_eq
  simpa using this

theorem isHeap_top_le_idx (h : Heap) (hh : IsHeap h) : ∀ i, i < h.size → (hget h 0).cost ≤ (hget h i).cost := by
  intro i
  induction i using Nat.strongRecOn with
  | _ i ih =>
    intro hi
    by_cases i0 : i = 0
    · subst i0; exact Int.le_refl _
    · have i0 : 0 < i := Nat.pos_of_ne_zero i0
      have hp := parent_lt i0
      exact Int.le_trans (ih _ hp (Nat.lt_trans hp hi)) (hh i i0 hi)

theorem isHeap_top_le (h : Heap) (hh : IsHeap h) : ∀ e, e ∈ h.toList → (hget h 0).cost ≤ e.cost := by
  intro e he
  obtain ⟨i, hi, rfl⟩ := List.getElem_of_mem he
  rw [hget_toList]
  exact isHeap_top_le_idx h hh i (by simpa using hi)

theorem isHeap_empty : IsHeap #[] := by
  intro i _ hi
  simp at hi

theorem makeHeapLoop_spec (len : Nat) : ∀ (parent : Nat) (a : Heap), parent < len → len ≤ a.size →
    (makeHeapLoop len parent a).toList.Perm a.toList ∧
    (HeapFrom a len (parent + 1) → HeapFrom (makeHeapLoop len parent a) len 0) := by
  have step : ∀ (a : Heap) (hole : Nat), hole < len → len ≤ a.size →
      (adjustHeap a hole len (hget a hole)).toList.Perm a.toList := fun a hole h1 h2 => by
    have := (adjustHeap_pfin (PInv.init a hole len (hget a hole) h1 h2)).1
    rwa [set_hget_self] at this
  intro parent
  induction parent with
  | zero =>
    intro a h1 h2
    simp only [makeHeapLoop]
    exact ⟨step a 0 h1 h2, fun hf => adjustHeap_heapFrom _ hf h1 h2⟩
  | succ p ih =>
    intro a h1 h2
    simp only [makeHeapLoop]
    have hp := step a (p + 1) h1 h2
    obtain ⟨ihp, ihh⟩ := ih (adjustHeap a (p + 1) len (hget a (p + 1))) (by omega)
      (by rw [← Array.length_toList, hp.length_eq]; simpa using h2)
    exact ⟨ihp.trans hp, fun hf => ihh (adjustHeap_heapFrom _ hf h1 h2)⟩

theorem makeHeap_perm (a : Heap) : (makeHeap a).toList.Perm a.toList := by
  unfold makeHeap
  split
  · exact List.Perm.refl _
  · exact (makeHeapLoop_spec _ _ _ (by omega) (Nat.le_refl _)).1

theorem makeHeap_isHeap (a : Heap) : IsHeap (makeHeap a) := by
  have hsz : (makeHeap a).size = a.size := by simpa using (makeHeap_perm a).length_eq
  rw [← heapFrom_zero_iff, hsz]
  unfold makeHeap
  split
  · intro i i0 il _; omega
  · apply (makeHeapLoop_spec _ _ _ (by omega) (Nat.le_refl _)).2
    intro i i0 il ip
    omega

theorem heapPush_isHeap (h : Heap) (v : CostElt) (hh : IsHeap h) : IsHeap (heapPush h v) := by
  rw [← heapFrom_zero_iff, heapPush_size]
  unfold heapPush
  apply pushHeapLoop_heapFrom
  · refine ⟨by omega, by simp, desc_zero _, ?_, ?_⟩
    · intro i i0 il _ hi _
      have hi' : i < h.size := Nat.lt_of_le_of_ne (Nat.le_of_lt_succ il) hi
      rw [hget_push_lt _ _ _ (Nat.lt_trans (parent_lt i0) hi'), hget_push_lt _ _ _ hi']
      exact hh i i0 hi'
    · exact fun _ => HB.of_last (Nat.le_refl _)
  · exact HB.of_last (Nat.le_refl _)

theorem HeapFrom.isHeap_pop {a : Heap} (h : HeapFrom a (a.size - 1) 0) : IsHeap a.pop := by
  intro i i0 il
  rw [Array.size_pop] at il
  rw [hget_pop _ _ (Nat.lt_trans (parent_lt i0) il), hget_pop _ _ il]
  exact h i i0 il (Nat.zero_le _)

theorem heapPop_isHeap (h : Heap) (hh : IsHeap h) : IsHeap (heapPop h) := by
  unfold heapPop
  split
  · apply HeapFrom.isHeap_pop
    rw [adjustHeap_size _ _ _ _ (by omega) (by simp), Array.size_setIfInBounds]
    refine adjustHeap_heapFrom _ ?_ (by omega) (by simp)
    intro j j0 jl _
    rw [hget_set_ne _ _ _ _ (Nat.ne_of_lt (Nat.lt_trans (parent_lt j0) jl)), hget_set_ne _ _ _ _ (Nat.ne_of_lt jl)]
    exact hh j j0 (Nat.lt_of_lt_of_le jl (Nat.sub_le _ _))
  · exact HeapFrom.isHeap_pop fun i _ il _ => by omega

end ColoVerif.Transp
