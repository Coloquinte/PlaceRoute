import ColoVerif.Proofs.TranspSsp2Solve
import ColoVerif.Model.TranspRunChecked
/-
For C07 `transp_costs_fit`: the checked twin of `increaseCapacity(); solve(); toAssignment()`
(Model/TranspRunChecked.lean) never faults and returns what the unbounded model returns, for every problem that
passes `check()`, has non-negative stored costs with `3·cost < INT_MAX` and totals at most `2^61` (`assignC_eq`).
For `solve()` this is the second conclusion of `run_total` (`Proofs/TranspSsp2Solve.lean`); here
`increaseCapacity()` and the whole sequence.
-/
namespace ColoVerif.Transp
open ColoVerif.Checked

/-- the C07 domain of the general transportation solver: `check()` passes (positive capacities and demands),
demand fits in capacity, the stored costs are non-negative with `3·cost < INT_MAX` (C13's `costBoundOk`; the
fixed-point scaling of `costsFromIntegers` delivers `[0, 2^29]`), totals at most `2^61` -/
structure RunDom (p : Problem) : Prop where
  chk : p.check = true
  bal : p.totalDemand ≤ p.totalCapacity
  cb : CostBound p
  cnn : ∀ i j, i < p.nbSinks → j < p.nbSources → 0 ≤ p.cost i j
  capQ : p.totalCapacity ≤ Qmax

theorem solveC_eq (p : Problem) (hd : RunDom p) : ∃ q, solve p = .ok q ∧ solveC p = .ok q := by
  obtain ⟨s, h1, hC, _⟩ := run_total p hd.chk hd.bal hd.cb
  exact ⟨{ p with allocations := s.alloc }, by unfold solve; rw [h1],
    by unfold solveC; rw [hC hd.cnn hd.capQ]⟩

lemma accC_ok (site : String) : ∀ (l : List Int) (acc : Int), (∀ x, x ∈ l → 0 ≤ x) → 0 ≤ acc →
    acc + l.sum ≤ 9223372036854775807 → accC site l acc = .ok (acc + l.sum) := by
  intro l
  induction l with
  | nil => intro acc _ _ _; simp [accC]
  | cons x xs ih =>
    intro acc hnn h0 hb
    have hx := hnn x (by simp)
    have hs : 0 ≤ xs.sum := ListFacts.sum_nonneg_int xs (fun z hz => hnn z (by simp [hz]))
    simp only [List.sum_cons] at hb
    have hfit : fitsInt64 (acc + x) := by unfold fitsInt64; omega
    unfold accC
    simp only [addI64, chk64_ok hfit]
    rw [ih (acc + x) (fun z hz => hnn z (by simp [hz])) (by omega) (by omega)]
    simp only [List.sum_cons]
    congr 1
    omega

lemma incCapsFit_ok (added rest : Int) (ha0 : 0 ≤ added) (haQ : added ≤ Qmax) :
    ∀ (cs : List Int) (i : Nat), (∀ c, c ∈ cs → 0 ≤ c ∧ c ≤ Qmax) → incCapsFit added rest i cs = true := by
  intro cs
  induction cs with
  | nil => intro i _; rfl
  | cons c cs ih =>
    intro i h
    have hc := add_between (h c (by simp)) ⟨ha0, haQ⟩
    have f1 : fitsInt64 (c + added) := between_mono hc
    have f2 : fitsInt64 (c + added + 1) := between_mono (add_between hc ⟨le_refl 1, le_refl 1⟩)
    unfold incCapsFit
    simp [f1, f2, ih (i + 1) (fun z hz => h z (by simp [hz]))]

/-- domain of the whole sequence `increaseCapacity(); solve(); toAssignment()` as `DensityLegalizer::reoptimize`
runs it: the problem passes `check()`, there is a sink, the stored costs are non-negative with
`3·cost < INT_MAX`, total demand and total capacity are at most `2^61` -/
structure AssignDom (p : Problem) : Prop where
  chk : p.check = true
  sinks : 0 < p.nbSinks
  cb : CostBound p
  cnn : ∀ i j, i < p.nbSinks → j < p.nbSources → 0 ≤ p.cost i j
  capQ : p.totalCapacity ≤ Qmax
  demQ : p.totalDemand ≤ Qmax

lemma incArith_fits {M n : Int} (hM0 : 0 ≤ M) (hM : M ≤ Qmax) (hn : 0 < n) :
    fitsInt64 (M / n) ∧ fitsInt64 (M / n * n) ∧ fitsInt64 (M - M / n * n) ∧
    0 ≤ M / n ∧ M / n ≤ Qmax ∧ 0 ≤ M - M / n * n ∧ M - M / n * n < n := by
  have hQ : Qmax = 2305843009213693952 := rfl
  have ha0 : 0 ≤ M / n := Int.ediv_nonneg hM0 hn.le
  have hale : M / n ≤ M := Int.ediv_le_self _ hM0
  have hdm := Int.ediv_mul_add_emod M n
  have hr0 := Int.emod_nonneg M hn.ne'
  have hr1 := Int.emod_lt_of_pos M hn
  have hd0 : 0 ≤ M / n * n := Int.mul_nonneg ha0 hn.le
  unfold fitsInt64
  omega

theorem increaseCapacityC_ok (asr : Bool) (p : Problem) (hd : AssignDom p) :
    increaseCapacityC asr p = .ok p.increaseCapacity := by
  have hQ : Qmax = 2305843009213693952 := rfl
  obtain ⟨hcap, hdem⟩ := check_pos p hd.chk
  have hdnn : ∀ x, x ∈ p.demands → 0 ≤ x := fun x hx => (mem_le_sum_of_pos p.demands hdem x hx).1
  have hcnn : ∀ x, x ∈ p.capacities → 0 ≤ x := fun x hx => (mem_le_sum_of_pos p.capacities hcap x hx).1
  have hcQ : ∀ c, c ∈ p.capacities → 0 ≤ c ∧ c ≤ Qmax := fun c hc => by
    have := mem_le_sum_of_pos p.capacities hcap c hc
    have := hd.capQ
    unfold Problem.totalCapacity at this
    omega
  have hdQ : p.demands.sum ≤ Qmax := hd.demQ
  have hcQ' : p.capacities.sum ≤ Qmax := hd.capQ
  have htd0 := ListFacts.sum_nonneg_int p.demands hdnn
  have htc0 := ListFacts.sum_nonneg_int p.capacities hcnn
  have hnpos : (0 : Int) < (p.nbSinks : Int) := by have := hd.sinks; omega
  unfold increaseCapacityC
  rw [accC_ok _ p.demands 0 hdnn (le_refl 0) (by omega), accC_ok _ p.capacities 0 hcnn (le_refl 0) (by omega)]
  simp only [Int.zero_add]
  unfold Problem.increaseCapacity Problem.added
  have hmiss : p.missing = p.demands.sum - p.capacities.sum := rfl
  rw [hmiss]
  simp only [subI64]
  -- from here on only the missing amount `M ≤ 2^61` and the number of sinks `n > 0` matter
  have hM : p.demands.sum - p.capacities.sum ≤ Qmax := by omega
  have f1 : fitsInt64 (p.demands.sum - p.capacities.sum) := by unfold fitsInt64; omega
  generalize p.demands.sum - p.capacities.sum = M at hM f1 ⊢
  generalize (p.nbSinks : Int) = n at hnpos ⊢
  simp only [chk64_ok f1]
  by_cases hle : M ≤ 0
  · rw [if_pos hle, if_pos hle]
  · rw [if_neg hle, if_neg hle]
    obtain ⟨f2, f3, f4, ha0, haQ, hr0, hr1⟩ := incArith_fits (le_of_not_ge hle) hM hnpos
    have hasrt : (decide (0 ≤ M - M / n * n) && decide (M - M / n * n < n)) = true := by
      rw [Bool.and_eq_true, decide_eq_true_eq, decide_eq_true_eq]
      exact ⟨hr0, hr1⟩
    simp only [divI64, if_neg hnpos.ne', Int.tdiv_eq_ediv_of_nonneg (le_of_not_ge hle), chk64_ok f2, mulI64,
      chk64_ok f3, chk64_ok f4, assertC_true asr _ hasrt]
    rw [incCapsFit_ok _ _ ha0 haQ p.capacities 0 hcQ, if_pos rfl]

theorem runDom_increaseCapacity (p : Problem) (hd : AssignDom p) : RunDom p.increaseCapacity := by
  obtain ⟨hchk, hbal, hcb⟩ := increaseCapacity_wf p hd.chk hd.sinks hd.cb
  obtain ⟨_, _, hns, hdems, hcosts, _, htot⟩ := increaseCapacity_spec p hd.sinks
  refine ⟨hchk, hbal, hcb, ?_, ?_⟩
  · simpa only [Problem.nbSources, Problem.cost, hdems, hcosts, hns] using hd.cnn
  · by_cases h : p.totalCapacity < p.totalDemand
    · rw [htot h]; exact hd.demQ
    · rw [show p.increaseCapacity = p from if_pos (by unfold Problem.missing; omega)]; exact hd.capQ

theorem assignC_eq (asr : Bool) (p : Problem) (hd : AssignDom p) :
    ∃ a, assign p = .ok a ∧ assignC asr p = .ok a := by
  obtain ⟨q, h1, h2⟩ := solveC_eq p.increaseCapacity (runDom_increaseCapacity p hd)
  refine ⟨q.toAssignment, ?_, ?_⟩
  · unfold assign; rw [h1]
  · unfold assignC; rw [increaseCapacityC_ok asr p hd]; simp only []; rw [h2]

end ColoVerif.Transp
