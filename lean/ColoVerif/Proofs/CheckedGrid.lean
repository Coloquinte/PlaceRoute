import ColoVerif.Model.GridChecked
import ColoVerif.Proofs.CheckedCores
import ColoVerif.Proofs.GridCap
import ColoVerif.Proofs.GridHier
/-
C07: the integer bookkeeping of `DensityGrid` evaluates without fault on the C07 domain and returns what
the unbounded model `Model/Grid.lean` returns (checked twins: `Model/GridChecked.lean`).
The `HierarchicalDensityPlacement` part is `Proofs/CheckedGridHier.lean`.
Where the bounds come from: coordinates within ±2^22 give extents ≤ 2^23 (`int`) and areas ≤ 2^46; with at
most 2^16 regions every `long long` accumulation stays ≤ 2^62.
-/
namespace ColoVerif.Grid
open ColoVerif.Checked ColoVerif.ListFacts

theorem mapC_ok {α β : Type} (f : α → Except Fault β) (g : α → β) :
    ∀ l : List α, (∀ a ∈ l, f a = .ok (g a)) → mapC f l = .ok (l.map g)
  | [], _ => rfl
  | a :: as, h => by
    have ha := h a (by simp)
    have ih := mapC_ok f g as (fun b hb => h b (by simp [hb]))
    simp only [mapC, ha, ih, andThen_ok, List.map_cons]

theorem forAllC_ok {α : Type} (f : α → Except Fault Unit) :
    ∀ l : List α, (∀ a ∈ l, f a = .ok ()) → forAllC f l = .ok ()
  | [], _ => rfl
  | a :: as, h => by
    have ha := h a (by simp)
    have ih := forAllC_ok f as (fun b hb => h b (by simp [hb]))
    simp only [forAllC, ha, ih, andThen_ok]

theorem mapC2_ok {β : Type} (F : Nat → Nat → Except Fault β) (G : Nat → Nat → β) (n m : Nat)
    (h : ∀ i j, i < n → j < m → F i j = .ok (G i j)) :
    mapC (fun i => mapC (fun j => F i j) (List.range m)) (List.range n) =
      .ok ((List.range n).map fun i => (List.range m).map fun j => G i j) :=
  mapC_ok _ _ _ fun i hi => mapC_ok _ _ _ fun j hj => h i j (List.mem_range.1 hi) (List.mem_range.1 hj)

theorem forAll2C_ok {F : Nat → Nat → Except Fault Unit} (n m : Nat) (h : ∀ i j, i < n → j < m → F i j = .ok ()) :
    forAllC (fun i => forAllC (fun j => F i j) (List.range m)) (List.range n) = .ok () :=
  forAllC_ok _ _ fun i hi => forAllC_ok _ _ fun j hj => h i j (List.mem_range.1 hi) (List.mem_range.1 hj)

theorem sumC_ok (site : String) : ∀ (l : List Int) (acc : Int), (∀ v ∈ l, 0 ≤ v) → 0 ≤ acc →
    acc + l.sum ≤ 9223372036854775807 → sumC site l acc = .ok (acc + l.sum)
  | [], acc, _, _, _ => by simp [sumC]
  | v :: vs, acc, h, h0, hb => by
    have hv := h v List.mem_cons_self
    have hvs := fun x hx => h x (List.mem_cons_of_mem v hx)
    rw [List.sum_cons, ← Int.add_assoc] at hb ⊢
    -- the partial sum `acc + v` lies between 0 and the total
    have h1 : 0 ≤ acc + v := Int.add_nonneg h0 hv
    have e : addI64 site acc v = .ok (acc + v) :=
      addI64_ok ⟨Int.le_trans (by decide) h1,
        Int.le_trans (Int.le_add_of_nonneg_right (sum_nonneg_int vs hvs)) hb⟩
    simp only [sumC, e, andThen_ok, sumC_ok site vs (acc + v) hvs h1 hb]

theorem sumC_bounded (site : String) (l : List Int) {B : Int} {n : Nat} (h : ∀ v ∈ l, 0 ≤ v ∧ v ≤ B) (hB : 0 ≤ B)
    (hn : l.length ≤ n) (hfit : B * (n : Int) ≤ 9223372036854775807) : sumC site l 0 = .ok l.sum := by
  have hs := Int.le_trans (sum_le_mul B l fun v hv => (h v hv).2)
    (Int.mul_le_mul_of_nonneg_left (Int.ofNat_le.2 hn) hB)
  have := sumC_ok site l 0 (fun v hv => (h v hv).1) (Int.le_refl 0) (by rw [Int.zero_add]; exact Int.le_trans hs hfit)
  rwa [Int.zero_add] at this

/-- all four coordinates within ±2^22 -/
def In22 (r : Rect) : Prop :=
  -4194304 ≤ r.minX ∧ r.minX ≤ 4194304 ∧ -4194304 ≤ r.maxX ∧ r.maxX ≤ 4194304 ∧
  -4194304 ≤ r.minY ∧ r.minY ≤ 4194304 ∧ -4194304 ≤ r.maxY ∧ r.maxY ≤ 4194304

instance (r : Rect) : Decidable (In22 r) := by unfold In22; exact inferInstance

theorem extent_bounds {a b : Int} (ha : -4194304 ≤ a) (hb : b ≤ 4194304) (hab : a ≤ b) :
    0 ≤ b - a ∧ b - a ≤ 8388608 :=
  ⟨Int.sub_nonneg_of_le hab, Int.le_trans (Int.sub_le_sub hb ha) (by decide)⟩

theorem extentC_ok (site : String) {a b : Int} (h : 0 ≤ b - a ∧ b - a ≤ 8388608) :
    subI32 site b a = .ok (b - a) := chk32_between h

/-- the 64-bit product of two extents of at most 2^23 does not overflow; it is at most 2^46 -/
theorem extentMulC_ok (site : String) {w h : Int} (hw : 0 ≤ w ∧ w ≤ 8388608) (hh : 0 ≤ h ∧ h ≤ 8388608) :
    mulI64 site w h = .ok (w * h) ∧ 0 ≤ w * h ∧ w * h ≤ 70368744177664 := by
  have hp := mul_between_nonneg hw hh
  exact ⟨chk64_between hp, hp.1, Int.le_trans hp.2 (by decide)⟩

theorem inter_extent_bounds {a b lo hi : Int} (ha : -4194304 ≤ a) (hb : b ≤ 4194304) (hab : a ≤ b) (hlh : lo ≤ hi)
    (h1 : a < hi) (h2 : lo < b) : 0 ≤ min b hi - max a lo ∧ min b hi - max a lo ≤ 8388608 :=
  extent_bounds (Int.le_trans ha (Int.le_max_left _ _)) (Int.le_trans (Int.min_le_left _ _) hb)
    (Int.sub_nonneg.1 (inter_extent_nonneg hab hlh h1 h2))

theorem interAreaC_ok (reg bin : Rect) (h1 : In22 reg)
    (v1 : reg.minX ≤ reg.maxX ∧ reg.minY ≤ reg.maxY) (v2 : bin.minX ≤ bin.maxX ∧ bin.minY ≤ bin.maxY) :
    interAreaC reg bin = .ok (interArea reg bin) ∧ 0 ≤ interArea reg bin ∧ interArea reg bin ≤ 70368744177664 := by
  unfold interAreaC interArea
  split
  · rename_i hi
    simp only [Rect.intersects, Bool.and_eq_true, decide_eq_true_eq] at hi
    obtain ⟨⟨⟨f1, f2⟩, f3⟩, f4⟩ := hi
    obtain ⟨a1, _, _, a4, a5, _, _, a8⟩ := h1
    have hw := inter_extent_bounds a1 a4 v1.1 v2.1 f1 f2
    have hh := inter_extent_bounds a5 a8 v1.2 v2.2 f3 f4
    unfold areaC Rect.area Rect.width Rect.height Rect.intersection
    simp only [extentC_ok _ hw, extentC_ok _ hh, andThen_ok]
    exact extentMulC_ok _ hw hh
  · exact ⟨rfl, Int.le_refl 0, by decide⟩

theorem binLimitC_ok (asr : Bool) (lim : List Int) (k : Nat) (hk : k < lim.length) :
    binLimitC asr lim (k : Int) = .ok (lim.getD k 0) := by
  unfold binLimitC
  rw [assertC_true asr _ (decide_eq_true (by omega))]
  simp [andThen, indexC, hk]

theorem idx1C_ok (site : String) (lim : List Int) (k : Nat) (hk : k + 1 < lim.length)
    (hl : lim.length ≤ 2147483647) : idx1C site lim k = .ok (lim.getD (k + 1) 0) := by
  unfold idx1C
  rw [succI32_ok site k (Nat.le_trans (Nat.le_of_lt hk) hl), andThen_ok]
  exact indexC_nat site lim (k + 1) hk

/-- every limit within ±2^22 -/
def LimIn22 (lim : List Int) : Prop := ∀ l ∈ lim, -4194304 ≤ l ∧ l ≤ 4194304

theorem LimIn22.getD {lim : List Int} (h : LimIn22 lim) (k : Nat) :
    -4194304 ≤ lim.getD k 0 ∧ lim.getD k 0 ≤ 4194304 :=
  forall_getD h (by decide) k

/-- a list of bin limits as `computeSubdivisions` returns them on the domain (`axisC_ok`): indexable by
an `int`, within ±2^22, non-decreasing -/
structure LimOk (lim : List Int) : Prop where
  len : lim.length ≤ 2147483647
  in22 : LimIn22 lim
  sorted : lim.Pairwise (· ≤ ·)

def RectOk (r : Rect) : Prop := In22 r ∧ r.minX ≤ r.maxX ∧ r.minY ≤ r.maxY

instance (r : Rect) : Decidable (RectOk r) := by unfold RectOk; exact inferInstance

theorem centerSumsC_ok {lim : List Int} (h : LimOk lim) : centerSumsC lim = .ok (centerSums lim) := by
  unfold centerSumsC centerSums
  apply mapC_ok
  intro i hi
  have hi' := List.mem_range.mp hi
  have a := h.in22.getD i; have b := h.in22.getD (i + 1)
  rw [indexC_nat _ lim i (by omega), idx1C_ok _ lim i (by omega) h.len]
  simp only [andThen_ok]
  exact chk32_between (add_between a b)

section
variable (asr : Bool) {limX limY : List Int} (hx : LimOk limX) (hy : LimOk limY)
include hx hy

theorem regionOfC_ok (i j : Nat) (hi : i + 1 < limX.length) (hj : j + 1 < limY.length) :
    regionOfC asr limX limY i j = .ok (regionOf limX limY i j) := by
  unfold regionOfC regionOf
  have ei := succI32_ok "DensityGrid::region: i + 1" i (Nat.le_trans (Nat.le_of_lt hi) hx.len)
  have ej := succI32_ok "DensityGrid::region: j + 1" j (Nat.le_trans (Nat.le_of_lt hj) hy.len)
  simp only [binLimitC_ok asr limX i (Nat.lt_of_succ_lt hi), andThen_ok, ei, binLimitC_ok asr limX (i + 1) hi,
    binLimitC_ok asr limY j (Nat.lt_of_succ_lt hj), ej, binLimitC_ok asr limY (j + 1) hj]

theorem sizeCapC_ok (i j : Nat) (hi : i + 1 < limX.length) (hj : j + 1 < limY.length) :
    sizeCapC asr limX limY i j = .ok (sizeCap limX limY i j) := by
  have hw := extent_bounds (hx.in22.getD i).1 (hx.in22.getD (i + 1)).2 (pairwise_getD hx.sorted 0 hi)
  have hh := extent_bounds (hy.in22.getD j).1 (hy.in22.getD (j + 1)).2 (pairwise_getD hy.sorted 0 hj)
  unfold sizeCapC sizeCap
  rw [idx1C_ok _ limX i hi hx.len, idx1C_ok _ limY j hj hy.len]
  simp only [andThen_ok, indexC_nat _ limX i (Nat.lt_of_succ_lt hi), indexC_nat _ limY j (Nat.lt_of_succ_lt hj),
    extentC_ok _ hw, extentC_ok _ hh, assertC_true asr _ (decide_eq_true hw.1), assertC_true asr _ (decide_eq_true hh.1)]
  exact (extentMulC_ok _ hw hh).1

theorem sizeCapsC_ok : ∃ t, sizeCapsC asr limX limY = .ok t :=
  ⟨_, mapC2_ok _ (sizeCap limX limY) _ _ fun i j hi hj =>
    sizeCapC_ok asr hx hy i j (Nat.add_lt_of_lt_sub hi) (Nat.add_lt_of_lt_sub hj)⟩

variable {regions : List Rect} (hr : ∀ r ∈ regions, RectOk r) (hn : regions.length ≤ 65536)
include hr hn

theorem binCapOfC_ok (i j : Nat) (hi : i + 1 < limX.length) (hj : j + 1 < limY.length) :
    binCapOfC asr limX limY regions i j = .ok (binCapOf limX limY regions i j) := by
  unfold binCapOfC binCapOf
  have hia := fun r (h : r ∈ regions) => interAreaC_ok r (regionOf limX limY i j) (hr r h).1 (hr r h).2
    (regionOf_valid limX limY hx.sorted hy.sorted i j hi hj)
  rw [regionOfC_ok asr hx hy i j hi hj, andThen_ok,
    mapC_ok _ (fun reg => interArea reg (regionOf limX limY i j)) regions (fun r h => (hia r h).1), andThen_ok]
  refine sumC_bounded (B := 70368744177664) _ _ (fun v hv => ?_) (by decide) (List.length_map _ ▸ hn) (by decide)
  obtain ⟨r, h, rfl⟩ := List.mem_map.mp hv
  exact (hia r h).2

theorem capacitiesC_ok : capacitiesC asr limX limY regions = .ok (capacities limX limY regions) :=
  mapC2_ok _ _ _ _ fun i j hi hj =>
    binCapOfC_ok asr hx hy hr hn i j (Nat.add_lt_of_lt_sub hi) (Nat.add_lt_of_lt_sub hj)

end

theorem adjLe_of_pairwise : ∀ l : List Int, l.Pairwise (· ≤ ·) → adjLe l = true
  | [], _ => rfl
  | [_], _ => rfl
  | a :: b :: rest, h => by
    have h1 : a ≤ b := (List.pairwise_cons.mp h).1 b (by simp)
    have h2 := adjLe_of_pairwise (b :: rest) (List.pairwise_cons.mp h).2
    simp [adjLe, h1, h2]

theorem subdivLoop_eq (mn mx : Int) (n : Nat) : ∀ (k i : Nat),
    Checked.subdivLoop mn mx (n : Int) k (i : Int) = (List.range' i k).map (subdivAt mn mx n)
  | 0, _ => rfl
  | k + 1, i => by
    have ih := subdivLoop_eq mn mx n k (i + 1)
    have e : ((i + 1 : Nat) : Int) = (i : Int) + 1 := by omega
    rw [e] at ih
    simp only [Checked.subdivLoop, ih, List.range'_succ, List.map_cons]
    rfl

theorem subdivisions_eq (mn mx : Int) (n : Nat) :
    Checked.subdivisions mn mx (n : Int) = computeSubdivisions mn mx n := by
  unfold Checked.subdivisions computeSubdivisions
  have e : ((n : Int) + 1).toNat = n + 1 := by omega
  rw [e]
  have := subdivLoop_eq mn mx n (n + 1) 0
  simp only [Int.natCast_zero] at this
  rw [this, List.range_eq_range']

theorem nbBinsForC_ok (site : String) (mx mn binSize : Int) (h1 : -4194304 ≤ mn) (h2 : mx ≤ 4194304) (hle : mn ≤ mx)
    (hb : 1 ≤ binSize) :
    nbBinsForC site mx mn binSize = .ok ((nbBinsFor (mx - mn) binSize : Nat) : Int) ∧
    1 ≤ nbBinsFor (mx - mn) binSize ∧ nbBinsFor (mx - mn) binSize ≤ 8388608 := by
  have he := extent_bounds h1 h2 hle
  -- the quotient by a bin size of at least 1 lies between 0 and the extent
  have hw : mx - mn ≤ (mx - mn) * binSize := by
    have := Int.mul_le_mul_of_nonneg_left hb he.1
    rwa [Int.mul_one] at this
  have hq := tdiv_bounds (a := mx - mn) (n := binSize) (e := mx - mn) he.1 (Int.lt_of_lt_of_le Int.zero_lt_one hb) hw
  have hne : ¬ binSize = 0 := fun h => absurd (h ▸ hb) (by decide)
  unfold nbBinsForC nbBinsFor
  simp only [extentC_ok _ he, divI32, if_neg hne, andThen_ok,
    chk32_between (show 0 ≤ _ ∧ _ ≤ 8388608 from ⟨hq.1, Int.le_trans hq.2 he.2⟩)]
  generalize Int.tdiv (mx - mn) binSize = q at hq
  refine ⟨congrArg _ (Int.toNat_of_nonneg (Int.le_trans (by decide) (Int.le_max_left 1 q))).symm, ?_, ?_⟩ <;> omega

theorem axisC_ok (asr : Bool) (site : String) {mn mx binSize : Int} (h1 : -4194304 ≤ mn) (h2 : mx ≤ 4194304)
    (hle : mn ≤ mx) (hb : 1 ≤ binSize) :
    nbBinsForC site mx mn binSize = .ok ((nbBinsFor (mx - mn) binSize : Nat) : Int) ∧
    Checked.subdivisionsC asr mn mx ((nbBinsFor (mx - mn) binSize : Nat) : Int) =
      .ok (computeSubdivisions mn mx (nbBinsFor (mx - mn) binSize)) ∧
    LimOk (computeSubdivisions mn mx (nbBinsFor (mx - mn) binSize)) := by
  obtain ⟨e, n1, n2⟩ := nbBinsForC_ok site mx mn binSize h1 h2 hle hb
  have s := subdivisionsC_ok asr (number := ((nbBinsFor (mx - mn) binSize : Nat) : Int)) h1 h2 hle (by omega) (by omega)
  rw [subdivisions_eq] at s
  obtain ⟨l1, _, _, l4⟩ := subdivisions_partition_lem mn mx _ n1 hle
  refine ⟨e, s, by omega, fun l hl => ?_, l4⟩
  have := subdiv_bounds mn mx _ n1 hle l hl
  omega

theorem ofAreaC_ok (asr : Bool) (binSize : Int) (a : Rect) (regions : List Rect) (ha : RectOk a)
    (hb : 1 ≤ binSize) (hr : ∀ r ∈ regions, RectOk r) (hn : regions.length ≤ 65536) :
    ofAreaC asr binSize a regions =
      .ok ⟨computeSubdivisions a.minX a.maxX (nbBinsFor a.width binSize),
           computeSubdivisions a.minY a.maxY (nbBinsFor a.height binSize),
           capacities (computeSubdivisions a.minX a.maxX (nbBinsFor a.width binSize))
             (computeSubdivisions a.minY a.maxY (nbBinsFor a.height binSize)) regions⟩ := by
  obtain ⟨⟨a1, a2, a3, a4, a5, a6, a7, a8⟩, vx, vy⟩ := ha
  obtain ⟨ex, sx, lx⟩ := axisC_ok asr "width" a1 a4 vx hb
  obtain ⟨ey, sy, ly⟩ := axisC_ok asr "height" a5 a8 vy hb
  obtain ⟨t, ht⟩ := sizeCapsC_ok asr lx ly
  unfold ofAreaC Rect.width Rect.height
  simp only [ex, ey, andThen_ok, sx, sy, centerSumsC_ok lx, centerSumsC_ok ly, ht, capacitiesC_ok asr lx ly hr hn,
    assertC_true asr _ (adjLe_of_pairwise _ lx.sorted), assertC_true asr _ (adjLe_of_pairwise _ ly.sorted)]

theorem rectOk_iff (r : Rect) :
    RectOk r ↔ Rect.Encloses ⟨-4194304, 4194304, -4194304, 4194304⟩ r ∧ RectValid r := by
  simp only [RectOk, In22, Rect.Encloses, RectValid]; omega

theorem placementArea_ok (regions : List Rect) (hr : ∀ r ∈ regions, RectOk r) : RectOk (computePlacementArea regions) := by
  refine (rectOk_iff _).mpr ⟨?_, (placementArea_bounds regions fun r h => (hr r h).2).1⟩
  cases regions with
  | nil => exact ⟨by decide, by decide, by decide, by decide⟩
  | cons r0 t =>
    -- the ±2^22 box encloses every region, hence the least box that does
    exact foldl_areaStep_least _ t r0 ((rectOk_iff r0).mp (hr r0 List.mem_cons_self)).1 fun r h =>
      ((rectOk_iff r).mp (hr r (List.mem_cons_of_mem _ h))).1

/-- **`DensityGrid(binSize, regions)`**: no fault, equal to the unbounded constructor -/
theorem ofRegionsC_ok (asr : Bool) (binSize : Int) (regions : List Rect) (hb : 1 ≤ binSize)
    (hr : ∀ r ∈ regions, RectOk r) (hn : regions.length ≤ 65536) :
    DGrid.ofRegionsC asr binSize regions = .ok (DGrid.ofRegions binSize regions) := by
  unfold DGrid.ofRegionsC DGrid.ofRegions
  exact ofAreaC_ok asr binSize _ regions (placementArea_ok regions hr) hb hr hn

theorem accBinsC_eq (site : String) (cap : List (List Int)) (i : Nat) (hi : i < cap.length) :
    ∀ (js : List Nat) (acc : Int), (∀ j ∈ js, j < (cap.getD i []).length) →
      accBinsC site cap i js acc = sumC site (js.map fun j => (cap.getD i []).getD j 0) acc
  | [], _, _ => rfl
  | j :: js, acc, h => by
    have e0 : index2C site cap i j = .ok ((cap.getD i []).getD j 0) := by
      unfold index2C; rw [if_pos ⟨hi, h j List.mem_cons_self⟩]
    simp only [accBinsC, e0, andThen_ok, List.map_cons, sumC]
    congr 1
    funext a
    exact accBinsC_eq site cap i hi js a (fun k hk => h k (List.mem_cons_of_mem _ hk))

theorem sumC_append (site : String) : ∀ (l1 l2 : List Int) (acc : Int),
    sumC site (l1 ++ l2) acc = andThen (sumC site l1 acc) (sumC site l2)
  | [], _, _ => rfl
  | v :: vs, l2, acc => by
    simp only [List.cons_append, sumC]
    cases addI64 site acc v with
    | error e => rfl
    | ok a => exact sumC_append site vs l2 a

theorem accGridC_eq (site : String) (cap : List (List Int)) (js : List Nat) :
    ∀ (is : List Nat) (acc : Int), (∀ i ∈ is, i < cap.length ∧ ∀ j ∈ js, j < (cap.getD i []).length) →
      accGridC site cap js is acc = sumC site (is.flatMap fun i => js.map fun j => (cap.getD i []).getD j 0) acc
  | [], _, _ => rfl
  | i :: is, acc, h => by
    obtain ⟨hi, hrow⟩ := h i List.mem_cons_self
    rw [accGridC, accBinsC_eq site cap i hi js acc hrow, List.flatMap_cons, sumC_append]
    congr 1
    funext a
    exact accGridC_eq site cap js is a (fun k hk => h k (List.mem_cons_of_mem _ hk))

theorem accGridC_ok (site : String) (g : DGrid) (hs : CapShape g)
    (hnn : ∀ i j, i < g.nbX → j < g.nbY → 0 ≤ g.binCapacity i j)
    (js is : List Nat) (hi : ∀ i ∈ is, i < g.nbX) (hj : ∀ j ∈ js, j < g.nbY)
    (hb : (is.map fun i => (js.map fun j => (g.cap.getD i []).getD j 0).sum).sum ≤ 9223372036854775807) :
    accGridC site g.cap js is 0 = .ok (is.map fun i => (js.map fun j => (g.cap.getD i []).getD j 0).sum).sum := by
  rw [accGridC_eq site g.cap js is 0 (fun i h => ⟨by rw [hs.1]; exact hi i h, fun j h' => by
      rw [hs.2 i (hi i h)]; exact hj j h'⟩), ← sum_flatMap, ← Int.zero_add (List.sum _)]
  refine sumC_ok site _ 0 ?_ (Int.le_refl 0) (by rwa [Int.zero_add, sum_flatMap])
  intro v hv
  obtain ⟨i, hi', hv⟩ := List.mem_flatMap.1 hv
  obtain ⟨j, hj', rfl⟩ := List.mem_map.1 hv
  exact hnn i j (hi i hi') (hj j hj')

/-- **`totalCapacity()`**: no index is out of range and no partial sum overflows -/
theorem totalCapacityC_ok (g : DGrid) (hs : CapShape g) (hnn : ∀ i j, i < g.nbX → j < g.nbY → 0 ≤ g.binCapacity i j)
    (ht : g.totalCapacity ≤ 9223372036854775807) : g.totalCapacityC = .ok g.totalCapacity := by
  have e := total_as_ranges g hs
  unfold DGrid.totalCapacityC
  rw [accGridC_ok _ g hs hnn _ _ (fun _ => List.mem_range.1) (fun _ => List.mem_range.1)
    (by rw [e]; exact ht), e]

theorem area_bounds (r : Rect) (h : RectOk r) : 0 ≤ r.area ∧ r.area ≤ 70368744177664 := by
  obtain ⟨⟨a1, _, _, a4, a5, _, _, a8⟩, vx, vy⟩ := h
  have hp := mul_between_nonneg (extent_bounds a1 a4 vx) (extent_bounds a5 a8 vy)
  exact ⟨hp.1, Int.le_trans hp.2 (by decide)⟩

/-- the grid `DensityGrid(binSize, regions)` builds on the domain of `ofRegionsC_ok`: every capacity is
non-negative and the total is at most `2^16 · 2^46 = 2^62` -/
theorem ofRegions_capacity_bounds (binSize : Int) (regions : List Rect)
    (hr : ∀ r ∈ regions, RectOk r) (hn : regions.length ≤ 65536) :
    (∀ i j, i < (DGrid.ofRegions binSize regions).nbX → j < (DGrid.ofRegions binSize regions).nbY →
      0 ≤ (DGrid.ofRegions binSize regions).binCapacity i j) ∧
    0 ≤ (DGrid.ofRegions binSize regions).totalCapacity ∧
    (DGrid.ofRegions binSize regions).totalCapacity ≤ 4611686018427387904 := by
  have hv : ∀ r ∈ regions, RectValid r := fun r h => (hr r h).2
  have ok := ofRegions_ok binSize regions hv
  have ht : (DGrid.ofRegions binSize regions).totalCapacity = (regions.map Rect.area).sum := ok.2.2.2.2.2.2.2
  refine ⟨fun i j hi hj => ?_, ?_, ?_⟩
  · rw [show (DGrid.ofRegions binSize regions).binCapacity i j = binCapOf _ _ regions i j from
      capacities_entry _ _ regions i j hi hj]
    exact binCapOf_nonneg _ _ regions ok.2.2.2.1 ok.2.2.2.2.2.2.1 hv i j (Nat.add_lt_of_lt_sub hi)
      (Nat.add_lt_of_lt_sub hj)
  · rw [ht]
    refine sum_nonneg_int _ fun v hv => ?_
    obtain ⟨r, h, rfl⟩ := List.mem_map.mp hv
    exact (area_bounds r (hr r h)).1
  · have hs := sum_le_mul 70368744177664 (regions.map Rect.area) fun v hv => by
      obtain ⟨r, h, rfl⟩ := List.mem_map.mp hv; exact (area_bounds r (hr r h)).2
    rw [List.length_map] at hs
    rw [ht]
    exact Int.le_trans hs (Int.mul_le_mul_of_nonneg_left (Int.ofNat_le.2 hn) (by decide))

theorem ofRegions_totalCapacityC (binSize : Int) (regions : List Rect)
    (hr : ∀ r ∈ regions, RectOk r) (hn : regions.length ≤ 65536) :
    (DGrid.ofRegions binSize regions).totalCapacityC = .ok (DGrid.ofRegions binSize regions).totalCapacity := by
  obtain ⟨h1, _, h3⟩ := ofRegions_capacity_bounds binSize regions hr hn
  exact totalCapacityC_ok _ (capacities_shape _ _ regions) h1 (by omega)

theorem groupCapacity_nonneg (g : DGrid) (h : ∀ i j, i < g.nbX → j < g.nbY → 0 ≤ g.binCapacity i j)
    (x0 x1 y0 y1 : Nat) (hx1 : x1 ≤ g.nbX) (hy1 : y1 ≤ g.nbY) : 0 ≤ g.groupCapacity x0 x1 y0 y1 := by
  unfold DGrid.groupCapacity
  apply sum_nonneg_int
  intro v hv
  obtain ⟨i, hi, rfl⟩ := List.mem_map.mp hv
  apply sum_nonneg_int
  intro w hw
  obtain ⟨j, hj, rfl⟩ := List.mem_map.mp hw
  exact h _ _ (Nat.lt_of_lt_of_le (Nat.add_lt_of_lt_sub' (List.mem_range.mp hi)) hx1)
    (Nat.lt_of_lt_of_le (Nat.add_lt_of_lt_sub' (List.mem_range.mp hj)) hy1)

theorem groupCapacity_le_total (g : DGrid) (hs : CapShape g)
    (h : ∀ i j, i < g.nbX → j < g.nbY → 0 ≤ g.binCapacity i j)
    (x0 x1 y0 y1 : Nat) (hx : x0 ≤ x1) (hx1 : x1 ≤ g.nbX) (hy : y0 ≤ y1) (hy1 : y1 ≤ g.nbY) :
    g.groupCapacity x0 x1 y0 y1 ≤ g.totalCapacity := by
  rw [← groupCapacity_whole g hs]
  have s1 := groupCapacity_split_x g 0 x0 g.nbX 0 g.nbY (by omega) (by omega)
  have s2 := groupCapacity_split_x g x0 x1 g.nbX 0 g.nbY hx hx1
  have s3 := groupCapacity_split_y g x0 x1 0 y0 g.nbY (by omega) (by omega)
  have s4 := groupCapacity_split_y g x0 x1 y0 y1 g.nbY hy hy1
  have n1 := groupCapacity_nonneg g h 0 x0 0 g.nbY (by omega) (Nat.le_refl _)
  have n2 := groupCapacity_nonneg g h x1 g.nbX 0 g.nbY (Nat.le_refl _) (Nat.le_refl _)
  have n3 := groupCapacity_nonneg g h x0 x1 0 y0 hx1 (by omega)
  have n4 := groupCapacity_nonneg g h x0 x1 y1 g.nbY hx1 (Nat.le_refl _)
  omega

/-- **`binCapacity(BinGroup)`**: a group inside the grid is summed without an out-of-range index or an overflow -/
theorem groupCapacityC_ok (g : DGrid) (hs : CapShape g)
    (hnn : ∀ i j, i < g.nbX → j < g.nbY → 0 ≤ g.binCapacity i j) (ht : g.totalCapacity ≤ 9223372036854775807)
    (x0 x1 y0 y1 : Nat) (hx : x0 ≤ x1) (hx1 : x1 ≤ g.nbX) (hy : y0 ≤ y1) (hy1 : y1 ≤ g.nbY) :
    g.groupCapacityC x0 x1 y0 y1 = .ok (g.groupCapacity x0 x1 y0 y1) := by
  have hle := groupCapacity_le_total g hs hnn x0 x1 y0 y1 hx hx1 hy hy1
  have hsum : ((List.range' x0 (x1 - x0)).map fun i => ((List.range' y0 (y1 - y0)).map fun j =>
      (g.cap.getD i []).getD j 0).sum).sum = g.groupCapacity x0 x1 y0 y1 := by
    unfold DGrid.groupCapacity DGrid.binCapacity
    simp only [List.range'_eq_map_range, List.map_map, Function.comp_def]
  unfold DGrid.groupCapacityC
  rw [accGridC_ok _ g hs hnn _ _ (fun i hi => by have := List.mem_range'_1.1 hi; omega)
    (fun j hj => by have := List.mem_range'_1.1 hj; omega) (by rw [hsum]; exact Int.le_trans hle ht), hsum]

end ColoVerif.Grid
