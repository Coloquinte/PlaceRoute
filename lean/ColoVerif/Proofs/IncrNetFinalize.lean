import ColoVerif.Proofs.IncrNetInv
import ColoVerif.Model.IncrNetChecked
/-
`IncrNetModel::finalize` (counting sort of the pins by cell) builds the exact transpose of the
net→cell CSR, pin offsets included (`WFOff`), and establishes the invariant `Inv`.  The limits are the running
sums of the final counts per cell (`IsLimits`), so the second loop finds a slot of its own for every pin (`Slots`).
-/
namespace ColoVerif.IncrNet
open ColoVerif Model

abbrev P3 := Nat × Nat × Int

def onCell (c : Nat) (Q : List P3) : List P3 := Q.filter (fun p => p.2.1 == c)
def cnt (c : Nat) (Q : List P3) : Nat := (onCell c Q).length

theorem cnt_cons (c : Nat) (p : P3) (Q : List P3) : cnt c (p :: Q) = (if p.2.1 = c then 1 else 0) + cnt c Q := by
  unfold cnt onCell
  by_cases h : p.2.1 = c <;> simp [h] <;> omega

theorem cnt_append (c : Nat) (Q R : List P3) : cnt c (Q ++ R) = cnt c Q + cnt c R := by
  simp [cnt, onCell, List.filter_append]

theorem foldl_countStep_length : ∀ (Q : List P3) (L : List Nat), (Q.foldl countStep L).length = L.length
  | [], _ => rfl
  | p :: Q, L => by rw [List.foldl_cons, foldl_countStep_length Q]; simp [countStep]

theorem foldl_countStep_getD : ∀ (Q : List P3) (L : List Nat) (c : Nat), c + 1 < L.length →
    (Q.foldl countStep L).getD (c + 1) 0 = L.getD (c + 1) 0 + cnt c Q
  | [], _, _, _ => by simp [cnt, onCell]
  | p :: Q, L, c, h => by
    rw [List.foldl_cons, foldl_countStep_getD Q _ c (by simpa [countStep] using h), cnt_cons]
    unfold countStep
    rw [ListFacts.getD_modify]
    by_cases hp : p.2.1 = c
    · simp [hp, h]; omega
    · simp [hp]

theorem foldl_countStep_getD_zero : ∀ (Q : List P3) (L : List Nat),
    (Q.foldl countStep L).getD 0 0 = L.getD 0 0
  | [], _ => rfl
  | p :: Q, L => by
    rw [List.foldl_cons, foldl_countStep_getD_zero Q]
    unfold countStep
    rw [ListFacts.getD_modify]
    simp

theorem partialSum_length : ∀ (l : List Nat) (acc : Nat), (partialSum acc l).length = l.length
  | [], _ => rfl
  | x :: xs, acc => by simp [partialSum, partialSum_length xs]

theorem partialSum_head (x : Nat) (xs : List Nat) (acc : Nat) :
    (partialSum acc (x :: xs)).getD 0 0 = acc + x := by simp [partialSum]

theorem partialSum_succ : ∀ (l : List Nat) (acc i : Nat), i + 1 < l.length →
    (partialSum acc l).getD (i + 1) 0 = (partialSum acc l).getD i 0 + l.getD (i + 1) 0
  | [], _, _, h => by simp at h
  | [x], _, _, h => by simp at h
  | x :: y :: ys, acc, 0, _ => rfl
  | x :: y :: ys, acc, i + 1, h => partialSum_succ (y :: ys) (acc + x) i (Nat.lt_of_succ_lt_succ h)

def below (c : Nat) (Q : List P3) : Nat := Q.countP (fun p => p.2.1 < c)

theorem below_succ (c : Nat) (Q : List P3) : below (c + 1) Q = below c Q + cnt c Q := by
  induction Q with
  | nil => rfl
  | cons p Q ih =>
    simp only [below, List.countP_cons, decide_eq_true_eq] at ih ⊢
    rw [ih, cnt_cons]
    -- `p` counts below `c + 1` iff it counts below `c` or on `c`, and never for both
    have step : (if p.2.1 < c + 1 then 1 else 0) = (if p.2.1 < c then 1 else 0) + (if p.2.1 = c then 1 else 0) := by
      rcases Nat.lt_trichotomy p.2.1 c with h | h | h
      · rw [if_pos (by omega), if_pos h, if_neg (by omega)]
      · rw [if_pos (by omega), if_neg (by omega), if_pos h]
      · rw [if_neg (by omega), if_neg (by omega), if_neg (by omega)]
    rw [step]
    omega

/-- what the first half of `finalize` establishes about `cellLimits_` -/
structure IsLimits (lim : List Nat) (K : Nat) (P : List P3) : Prop where
  len : lim.length = K + 1
  zero : lim.getD 0 0 = 0
  step : ∀ c, c < K → lim.getD (c + 1) 0 = lim.getD c 0 + cnt c P

theorem cellLimits_isLimits (m : Model) : IsLimits m.computeCellLimits m.nbCells m.allPins := by
  unfold computeCellLimits
  have hlen : (m.allPins.foldl countStep (List.replicate (m.nbCells + 1) 0)).length = m.nbCells + 1 := by
    rw [foldl_countStep_length]; simp
  refine ⟨by rw [partialSum_length, hlen], ?_, ?_⟩
  · generalize hC : m.allPins.foldl countStep (List.replicate (m.nbCells + 1) 0) = C at hlen
    have h0 : C.getD 0 0 = 0 := by
      rw [← hC, foldl_countStep_getD_zero]; simp
    cases C with
    | nil => simp at hlen
    | cons x xs =>
      rw [partialSum_head]
      simpa using h0
  · intro c hc
    rw [partialSum_succ _ _ _ (by omega), foldl_countStep_getD _ _ c (by simp; omega)]
    rw [ListFacts.getD_replicate]; omega

variable {lim : List Nat} {K : Nat} {P : List P3}

theorem IsLimits.eq_below (h : IsLimits lim K P) : ∀ c, c ≤ K → lim.getD c 0 = below c P
  | 0, _ => h.zero.trans (by simp [below])
  | c + 1, hc => by rw [h.step c hc, h.eq_below c (Nat.le_of_lt hc), below_succ]

theorem IsLimits.mono (h : IsLimits lim K P) {a b : Nat} (hab : a ≤ b) (hb : b ≤ K) :
    lim.getD a 0 ≤ lim.getD b 0 := by
  rw [h.eq_below a (Nat.le_trans hab hb), h.eq_below b hb]
  exact List.countP_mono_left fun p _ hp => by simp only [decide_eq_true_eq] at hp ⊢; omega

theorem IsLimits.le_length (h : IsLimits lim K P) {c : Nat} (hc : c ≤ K) : lim.getD c 0 ≤ P.length :=
  h.eq_below c hc ▸ List.countP_le_length

/-- `A` holds, for every cell `c < K`, the images under `g` of the pins of `Q` on `c`, in the order
of `Q`, from index `lim[c]` on -/
def Slots {α} (lim : List Nat) (K : Nat) (Q : List P3) (g : P3 → α) (d : α) (A : List α) : Prop :=
  ∀ c, c < K → ∀ t, t < cnt c Q → A.getD (lim.getD c 0 + t) d = ((onCell c Q).map g).getD t d

theorem Slots.nil {α} (lim : List Nat) (K : Nat) (g : P3 → α) (d : α) (A : List α) : Slots lim K [] g d A :=
  fun _ _ _ ht => absurd ht (Nat.not_lt_zero _)

/-- Writing `g p` into the next free slot of the cell of `p` accounts for one more pin: the slot is
inside the array and belongs to no other cell because the limits are the running sums of the
final counts. -/
theorem Slots.set {α} {Q R : List P3} {p : P3} {g : P3 → α} {d : α} {A : List α}
    (h : Slots lim K Q g d A) (hl : IsLimits lim K P) (hP : P = Q ++ p :: R) (hp : p.2.1 < K)
    (hB : P.length ≤ A.length) : Slots lim K (Q ++ [p]) g d (A.set (lim.getD p.2.1 0 + cnt p.2.1 Q) (g p)) := by
  intro c hc t ht
  have hcnt : ∀ c, cnt c P = cnt c Q + (if p.2.1 = c then 1 else 0) + cnt c R := by
    intro c; rw [hP, cnt_append, cnt_cons]; omega
  have hstep := hl.step c hc
  have hstepp := hl.step p.2.1 hp
  have hcp := hcnt p.2.1
  rw [if_pos rfl] at hcp
  by_cases hpc : p.2.1 = c
  · subst hpc
    have hon : onCell p.2.1 (Q ++ [p]) = onCell p.2.1 Q ++ [p] := by simp [onCell, List.filter_append]
    rw [hon]
    rw [cnt, hon, List.length_append] at ht
    by_cases ht2 : t < (onCell p.2.1 Q).length
    · rw [ListFacts.getD_set_ne _ _ _ _ _ (by unfold cnt; omega), ListFacts.getD_map_append_lt _ _ _ _ ht2]
      exact h _ hc t ht2
    · have hteq : t = (onCell p.2.1 Q).length := by simp only [List.length_singleton] at ht; omega
      have hin : lim.getD p.2.1 0 + cnt p.2.1 Q < A.length := by
        have := hl.le_length (c := p.2.1 + 1) hp; omega
      rw [hteq, ListFacts.getD_map_append_length]
      exact ListFacts.getD_set_eq _ _ _ _ hin
  · have hon : onCell c (Q ++ [p]) = onCell c Q := by simp [onCell, List.filter_append, hpc]
    have ht' : t < cnt c Q := by rw [cnt, hon] at ht; exact ht
    have hcc := hcnt c
    rw [if_neg hpc] at hcc
    have hne : lim.getD p.2.1 0 + cnt p.2.1 Q ≠ lim.getD c 0 + t := by
      by_cases hlt : c < p.2.1
      · have := hl.mono (a := c + 1) hlt (Nat.le_of_lt hp); omega
      · have := hl.mono (a := p.2.1 + 1) (b := c) (by omega) (Nat.le_of_lt hc); omega
    rw [hon, ListFacts.getD_set_ne _ _ _ _ _ hne]
    exact h c hc t ht'

theorem Slots.slice {α β} {g : P3 → α} {g' : P3 → β} {d : α} {d' : β}
    {A : List α} {A' : List β} (h : Slots lim K P g d A) (h' : Slots lim K P g' d' A') {c : Nat} (hc : c < K) :
    (List.range (cnt c P)).map (fun i => (A.getD (lim.getD c 0 + i) d, A'.getD (lim.getD c 0 + i) d'))
      = (onCell c P).map fun p => (g p, g' p) := by
  apply List.ext_getElem
  · simp only [List.length_map, List.length_range, cnt]
  · intro i h1 h2
    have hi : i < (onCell c P).length := by simpa using h2
    simp only [List.getElem_map, List.getElem_range]
    rw [h c hc i hi, h' c hc i hi]
    simp only [List.getD_eq_getElem?_getD, List.getElem?_map, List.getElem?_eq_getElem hi, Option.map_some,
      Option.getD_some]

/-- state of the second loop of `finalize` after the pins `Q` -/
structure FillInv (lim : List Nat) (K B : Nat) (Q : List P3) (f : Fill) : Prop where
  curLen : f.curIndex.length = K + 1
  cur : ∀ c, c < K → f.curIndex.getD c 0 = lim.getD c 0 + cnt c Q
  netsLen : f.cellNets.length = B
  offsLen : f.cellPinOffsets.length = B
  nets : Slots lim K Q (·.1) 0 f.cellNets
  offs : Slots lim K Q (·.2.2) 0 f.cellPinOffsets

theorem fillStep_inv {B : Nat} {Q R : List P3} {p : P3} {f : Fill}
    (hl : IsLimits lim K P) (hB : P.length ≤ B) (hP : P = Q ++ p :: R) (hp : p.2.1 < K) (h : FillInv lim K B Q f) :
    FillInv lim K B (Q ++ [p]) (fillStep f p) := by
  have hind : f.curIndex.getD p.2.1 0 = lim.getD p.2.1 0 + cnt p.2.1 Q := h.cur _ hp
  refine ⟨by simp [fillStep, h.curLen], ?_, by simp [fillStep, h.netsLen], by simp [fillStep, h.offsLen], ?_, ?_⟩
  · intro c hc
    show (f.curIndex.modify p.2.1 (· + 1)).getD c 0 = _
    rw [ListFacts.getD_modify, cnt_append, cnt_cons, h.cur c hc]
    have hnil : cnt c ([] : List P3) = 0 := rfl
    by_cases hpc : p.2.1 = c
    · subst hpc
      rw [if_pos ⟨rfl, by rw [h.curLen]; omega⟩, if_pos rfl, hnil]; omega
    · rw [if_neg (fun hh => hpc hh.1), if_neg hpc, hnil]; omega
  · show Slots lim K (Q ++ [p]) (·.1) 0 (f.cellNets.set (f.curIndex.getD p.2.1 0) p.1)
    rw [hind]; exact h.nets.set hl hP hp (h.netsLen ▸ hB)
  · show Slots lim K (Q ++ [p]) (·.2.2) 0 (f.cellPinOffsets.set (f.curIndex.getD p.2.1 0) p.2.2)
    rw [hind]; exact h.offs.set hl hP hp (h.offsLen ▸ hB)

theorem foldl_fillStep_inv {B : Nat} (hl : IsLimits lim K P) (hB : P.length ≤ B)
    (hrange : ∀ q ∈ P, q.2.1 < K) : ∀ (R Q : List P3) (f : Fill), P = Q ++ R →
    FillInv lim K B Q f → FillInv lim K B P (R.foldl fillStep f)
  | [], Q, f, hP, h => by rw [hP, List.append_nil]; exact h
  | p :: R, Q, f, hP, h =>
    foldl_fillStep_inv hl hB hrange R (Q ++ [p]) (fillStep f p) (by simp [hP])
      (fillStep_inv hl hB hP (hrange p (by rw [hP]; simp)) h)

/-- the (net, offset) pairs of a cell as the C++ accessors `pinNet(cell,i)`,
`cellPinOffset(cell,i)` expose them -/
def cellPinList (m : Model) (cell : Nat) : List (Nat × Int) :=
  (List.range (m.nbCellPins cell)).map fun i => (m.pinNet cell i, m.cellPinOffset cell i)

/-- the cell→(net, offset) CSR is the exact transpose of the net→(cell, offset) CSR, offsets
included, in net order -/
def WFOff (m : Model) : Prop :=
  ∀ cell, cellPinList m cell = (m.allPins.filter (fun p => p.2.1 == cell)).map (fun p => (p.1, p.2.2))

theorem WFOff.wf {m : Model} (h : WFOff m) : WF m := by
  intro cell
  have := congrArg (List.map (·.1)) (h cell)
  simpa only [cellPinList, cellNetList, List.map_map, Function.comp_def] using this

theorem finalize_eq (m : Model) : m.finalize =
    { m.finalizeCsr with
      netMinMaxPos := m.finalizeCsr.computeAllMinMaxPos
      value := Model.computeValue { m.finalizeCsr with netMinMaxPos := m.finalizeCsr.computeAllMinMaxPos } } := rfl

theorem finalize_allPins (m : Model) : m.finalize.allPins = m.allPins := rfl
theorem finalize_nbNets (m : Model) : m.finalize.nbNets = m.nbNets := rfl

theorem finalize_inv (m : Model) : Inv m.finalize :=
  (inv_iff_consistent _).mpr ⟨rfl, rfl⟩

/-- `finalize` builds the exact transpose, provided the pin cells are in range and the pin
array is at least as long as the number of pins (both hold for every model produced by
`IncrNetModelBuilder::build`, see `IncrNetBuild`). -/
theorem finalize_wfOff (m : Model) (hrange : ∀ q ∈ m.allPins, q.2.1 < m.nbCells)
    (hsize : m.allPins.length ≤ m.nbPins) : WFOff m.finalize := by
  intro cell
  have hl := cellLimits_isLimits m
  have hfill := foldl_fillStep_inv hl hsize hrange m.allPins []
    ⟨m.computeCellLimits, List.replicate m.nbPins 0, List.replicate m.nbPins 0⟩ rfl
    ⟨hl.len, fun _ _ => (Nat.add_zero _).symm, List.length_replicate, List.length_replicate, Slots.nil _ _ _ _ _, Slots.nil _ _ _ _ _⟩
  rw [finalize_allPins, finalize_eq]
  simp only [cellPinList, nbCellPins, pinNet, cellPinOffset, finalizeCsr]
  by_cases hc : cell < m.nbCells
  · rw [hl.step cell hc, Nat.add_sub_cancel_left]
    exact hfill.nets.slice hfill.offs hc
  · have h1 : m.computeCellLimits.getD (cell + 1) 0 = 0 := ListFacts.getD_of_le _ (by rw [hl.len]; omega)
    have : m.allPins.filter (fun p => p.2.1 == cell) = [] := by
      rw [List.filter_eq_nil_iff]
      intro q hq
      have := hrange q hq
      simp; omega
    rw [h1, this, Nat.zero_sub]; rfl

theorem finalize_wf (m : Model) (hrange : ∀ q ∈ m.allPins, q.2.1 < m.nbCells)
    (hsize : m.allPins.length ≤ m.nbPins) : WF m.finalize :=
  (finalize_wfOff m hrange hsize).wf

end ColoVerif.IncrNet
