import ColoVerif.Proofs.CheckedGrid
import ColoVerif.Proofs.GridAlloc
/-
C07: the integer bookkeeping of `HierarchicalDensityPlacement` (demands, usage, refine / coarsen index
arithmetic) evaluates without fault in the states characterised by C16's invariant `Grid.Inv`
(`AllocInv` + well-formed hierarchies) and returns what the unbounded model returns.
-/
namespace ColoVerif.Grid
open ColoVerif.Checked ColoVerif.ListFacts

/-- demands as `fromIspdCircuit` produces them on the C07 domain: at most 2^20 cells, areas in `[0, 2^31)`;
so the `long long` sums of demands stay below 2^51 -/
def DemandOk (demand : List Int) : Prop :=
  demand.length ≤ 1048576 ∧ ∀ d ∈ demand, 0 ≤ d ∧ d ≤ 2147483647

instance (demand : List Int) : Decidable (DemandOk demand) := by unfold DemandOk; exact inferInstance

theorem DemandOk.getD {demand : List Int} (h : DemandOk demand) (c : Nat) :
    0 ≤ demand.getD c 0 ∧ demand.getD c 0 ≤ 2147483647 :=
  forall_getD h.2 (by decide) c

theorem totalDemandC_ok (s : HState) (h : DemandOk s.demand) : s.totalDemandC = .ok s.demand.sum :=
  sumC_bounded _ s.demand h.2 (by decide) h.1 (by decide)

theorem cellDemandC_ok (asr : Bool) (demand : List Int) (c : Nat) (hc : c < demand.length) :
    cellDemandC asr demand c = .ok (demand.getD c 0) := by
  unfold cellDemandC
  rw [assertC_true asr _ (decide_eq_true hc), andThen_ok]
  exact indexC_nat _ demand c hc

theorem binUsageC_ok (asr : Bool) (s : HState) (x y : Nat) (hx : x < s.bins.length)
    (hy : y < (s.bins.getD x []).length) (hc : ∀ c ∈ s.cells x y, c < s.nbCells)
    (hlen : (s.cells x y).length ≤ 1048576) (hd : DemandOk s.demand) :
    s.binUsageC asr x y = .ok (s.binUsage x y) := by
  unfold HState.binUsageC HState.binUsage binCellsC
  rw [if_pos ⟨hx, hy⟩, andThen_ok]
  rw [mapC_ok (fun c => cellDemandC asr s.demand c) s.cellDemand (cellsAt s.bins x y)
    (fun c h => cellDemandC_ok asr s.demand c (hc c h)), andThen_ok]
  refine sumC_bounded (B := 2147483647) _ _ (fun v hv => ?_) (by decide) (List.length_map _ ▸ hlen) (by decide)
  obtain ⟨c, _, rfl⟩ := List.mem_map.mp hv
  exact hd.getD c

/-- a movable cell whose area fits an `int`, or a fixed cell -/
def CellAreaOk (cl : Cell) : Prop :=
  cl.fixed = true ∨ (fitsInt64 (cl.w * cl.h) ∧ fitsInt32 (cl.w * cl.h))

instance (cl : Cell) : Decidable (CellAreaOk cl) := by unfold CellAreaOk; exact inferInstance

theorem circuitDemandsC_ok (c : Circuit) (h : ∀ cl ∈ c.cells, CellAreaOk cl) :
    circuitDemandsC c = .ok (circuitDemands c) := by
  unfold circuitDemandsC circuitDemands
  apply mapC_ok
  intro cl hcl
  unfold cellDemandOfC
  rcases h cl hcl with hf | ⟨h64, h32⟩
  · simp [hf]
  · by_cases hf : cl.fixed = true
    · simp [hf]
    · simp only [hf, Bool.false_eq_true, if_false]
      have e1 : mulI64 "Circuit::area: (long long)cellWidth_ * (long long)cellHeight_" cl.w cl.h = .ok (cl.w * cl.h) :=
        chk64_ok h64
      rw [e1, andThen_ok]
      exact chk32_ok h32

theorem AllocInv.mem_flat {s : HState} (h : AllocInv s) (c : Nat) :
    c ∈ s.flat ↔ c < s.nbCells ∧ s.cellDemand c > 0 :=
  (Grid.mem_flat s c).trans (h.alloc.covers c).symm

theorem updateCellToBinC_ok (s : HState) (h : AllocInv s) : s.updateCellToBinC = .ok () := by
  unfold HState.updateCellToBinC
  apply forAllC_ok
  intro c hc
  have := ((h.mem_flat c).mp hc).1
  simp [this]

theorem levelC_ok (site : String) (h : Hier) (n lvl : Nat) (hok : HierOk h n) (hl : lvl < h.nbLevels) :
    HState.levelC site h (lvl : Int) = .ok lvl := by
  unfold HState.levelC
  have h1 : lvl < h.limits.length := hl
  have h2 : lvl < h.parents.length := by rw [hok.len]; exact hl
  rw [if_pos ⟨by omega, by simpa using h1, by simpa using h2⟩]
  simp

theorem HierOk.parent_lt {h : Hier} {n : Nat} (hok : HierOk h n) {lvl i : Nat} (hl : lvl + 1 < h.nbLevels)
    (hi : i < h.nbBins lvl) : i < (h.par lvl).length ∧ (h.par lvl).getD i 0 < h.nbBins (lvl + 1) := by
  have hi' : i < (h.par lvl).length := hok.nbBins_eq lvl (Nat.lt_of_succ_lt hl) ▸ hi
  exact ⟨hi', (hok.parOk lvl hl).lt i hi'⟩

theorem parC_ok (site : String) {par : List Nat} {k : Nat} (hk : k < par.length) :
    HState.parC site par k = .ok (par.getD k 0) := if_pos hk

theorem binsIdxC_ok {s : HState} (h : AllocInv s) (site : String) {x y : Nat} (hx : x < s.nbX) (hy : y < s.nbY) :
    HState.binIdxC site s.bins.length (fun x => (s.bins.getD x []).length) x y = .ok () :=
  if_pos ⟨h.shapeX ▸ hx, show y < (s.bins.getD x []).length from (h.shapeY x hx).symm ▸ hy⟩

theorem refineXC_ok (asr : Bool) (s : HState) (nX nY : Nat) (h : Inv nX nY s) (hl : 1 ≤ s.levelX)
    (hn : s.hx.nbLevels ≤ 2147483647) : s.refineXC asr = .ok s.refineX := by
  have hlv := h.alloc.lvlX
  have hok := h.hxOk
  have hl' : s.levelX - 1 + 1 < s.hx.nbLevels := (Nat.sub_add_cancel hl).symm ▸ hlv
  unfold HState.refineXC
  rw [assertC_true asr _ (decide_eq_true hl), andThen_ok,
    levelDownC_ok _ s.levelX hl (Nat.le_trans (Nat.le_of_lt hlv) hn), andThen_ok,
    levelC_ok _ s.hx nX (s.levelX - 1) hok (Nat.lt_of_succ_lt hl'), andThen_ok, forAll2C_ok, andThen_ok,
    updateCellToBinC_ok _ (allocInv_refineX s nX hok h.alloc), andThen_ok]
  intro i j hi hj
  obtain ⟨hp1, hp⟩ := hok.parent_lt hl' hi
  rw [Nat.sub_add_cancel hl] at hp
  rw [parC_ok _ hp1, andThen_ok, binsIdxC_ok h.alloc _ hp hj]

theorem refineYC_ok (asr : Bool) (s : HState) (nX nY : Nat) (h : Inv nX nY s) (hl : 1 ≤ s.levelY)
    (hn : s.hy.nbLevels ≤ 2147483647) : s.refineYC asr = .ok s.refineY := by
  have hlv := h.alloc.lvlY
  have hok := h.hyOk
  have hl' : s.levelY - 1 + 1 < s.hy.nbLevels := (Nat.sub_add_cancel hl).symm ▸ hlv
  unfold HState.refineYC
  rw [assertC_true asr _ (decide_eq_true hl), andThen_ok,
    levelDownC_ok _ s.levelY hl (Nat.le_trans (Nat.le_of_lt hlv) hn), andThen_ok,
    levelC_ok _ s.hy nY (s.levelY - 1) hok (Nat.lt_of_succ_lt hl'), andThen_ok, forAll2C_ok, andThen_ok,
    updateCellToBinC_ok _ (allocInv_refineY s nY hok h.alloc), andThen_ok]
  intro i j hi hj
  obtain ⟨hp1, hp⟩ := hok.parent_lt hl' hj
  rw [Nat.sub_add_cancel hl] at hp
  rw [parC_ok _ hp1, andThen_ok, binsIdxC_ok h.alloc _ hi hp]

theorem coarsenXC_ok (asr : Bool) (s : HState) (nX nY : Nat) (h : Inv nX nY s) (hl : s.levelX + 1 < s.hx.nbLevels)
    (hn : s.hx.nbLevels ≤ 2147483647) : s.coarsenXC asr = .ok s.coarsenX := by
  have hok := h.hxOk
  unfold HState.coarsenXC
  rw [succI32_ok _ s.levelX (Nat.le_trans (Nat.le_of_lt hl) hn), andThen_ok,
    assertC_true asr _ (decide_eq_true (Int.ofNat_lt.2 hl)), andThen_ok,
    levelC_ok _ s.hx nX (s.levelX + 1) hok hl, andThen_ok, levelC_ok _ s.hx nX s.levelX hok (Nat.lt_of_succ_lt hl),
    andThen_ok, forAll2C_ok, andThen_ok, updateCellToBinC_ok _ (allocInv_coarsenX s nX hok h.alloc), andThen_ok]
  intro i j hi hj
  obtain ⟨hp1, hp⟩ := hok.parent_lt hl hi
  rw [parC_ok _ hp1, andThen_ok, binsIdxC_ok h.alloc _ hi hj, andThen_ok]
  exact if_pos ⟨hp, hj⟩

theorem coarsenYC_ok (asr : Bool) (s : HState) (nX nY : Nat) (h : Inv nX nY s) (hl : s.levelY + 1 < s.hy.nbLevels)
    (hn : s.hy.nbLevels ≤ 2147483647) : s.coarsenYC asr = .ok s.coarsenY := by
  have hok := h.hyOk
  unfold HState.coarsenYC
  rw [succI32_ok _ s.levelY (Nat.le_trans (Nat.le_of_lt hl) hn), andThen_ok,
    assertC_true asr _ (decide_eq_true (Int.ofNat_lt.2 hl)), andThen_ok,
    levelC_ok _ s.hy nY (s.levelY + 1) hok hl, andThen_ok, levelC_ok _ s.hy nY s.levelY hok (Nat.lt_of_succ_lt hl),
    andThen_ok, forAll2C_ok, andThen_ok, updateCellToBinC_ok _ (allocInv_coarsenY s nY hok h.alloc), andThen_ok]
  intro i j hi hj
  obtain ⟨hp1, hp⟩ := hok.parent_lt hl hj
  rw [parC_ok _ hp1, andThen_ok, binsIdxC_ok h.alloc _ hi hj, andThen_ok]
  exact if_pos ⟨hi, hp⟩

theorem AllocInv.cells_length {s : HState} (h : AllocInv s) (i j : Nat) : (s.cells i j).length ≤ s.nbCells := by
  have := List.Nodup.length_le_of_subset (h.nodup i j) (l₂ := List.range s.nbCells)
    (fun c hc => List.mem_range.mpr ((h.covers c).mpr ⟨i, j, hc⟩).1)
  simpa using this

theorem flat_demand_sum (s : HState) (h : AllocInv s) (hd : DemandOk s.demand) :
    (s.flat.map s.cellDemand).sum = s.demand.sum := by
  have hnd : s.flat.Nodup := h.alloc.nodup_flat
  have hnd2 : ((List.range s.nbCells).filter fun c => decide (s.cellDemand c > 0)).Nodup :=
    List.Nodup.filter _ List.nodup_range
  have hperm : s.flat.Perm ((List.range s.nbCells).filter fun c => decide (s.cellDemand c > 0)) := by
    rw [List.perm_ext_iff_of_nodup hnd hnd2]
    intro c
    simp only [List.mem_filter, List.mem_range, decide_eq_true_eq]
    exact h.mem_flat c
  rw [perm_sum_int (hperm.map s.cellDemand)]
  rw [sum_map_filter_zero s.cellDemand (fun c => decide (s.cellDemand c > 0)) (List.range s.nbCells) (by
    intro c _ hp
    have := (hd.getD c).1
    have hp' : ¬ s.cellDemand c > 0 := by simpa using hp
    unfold HState.cellDemand at hp' ⊢
    omega)]
  unfold HState.cellDemand HState.nbCells
  rw [range_map_getD_id]

/-- **`check()`'s usage accumulation**: in a state of C16's invariant with demands of the domain, every
`binUsage(i, j)` and the 64-bit accumulation evaluate without fault and `usage == totalDemand()` holds -/
theorem usageSumC_ok (asr : Bool) (s : HState) (nX nY : Nat) (h : Inv nX nY s) (hd : DemandOk s.demand) :
    s.usageSumC asr = .ok s.demand.sum := by
  have ha := h.alloc
  have hu : ∀ i j, i < s.nbX → j < s.nbY → s.binUsageC asr i j = .ok (s.binUsage i j) := by
    intro i j hi hj
    apply binUsageC_ok asr s i j (by rw [ha.shapeX]; exact hi) (by rw [ha.shapeY i hi]; exact hj)
      (fun c hc => ((ha.covers c).mpr ⟨i, j, hc⟩).1) _ hd
    have := ha.cells_length i j
    have := hd.1
    unfold HState.nbCells at *
    omega
  have htab := mapC2_ok (fun i j => s.binUsageC asr i j) (fun i j => s.binUsage i j) s.nbX s.nbY hu
  have hsum : ((List.range s.nbX).map fun i => (List.range s.nbY).map fun j => s.binUsage i j).flatten.sum =
      s.demand.sum := by
    rw [← flat_demand_sum s ha hd, ← List.flatMap_def, sum_flatMap]
    unfold HState.flat
    rw [List.map_flatMap, sum_flatMap]
    congr 1
    apply List.map_congr_left
    intro i _
    rw [List.map_flatMap, sum_flatMap]
    rfl
  have hnn : ∀ v ∈ ((List.range s.nbX).map fun i => (List.range s.nbY).map fun j => s.binUsage i j).flatten, 0 ≤ v := by
    intro v hv
    obtain ⟨row, hrow, hv'⟩ := List.mem_flatten.mp hv
    obtain ⟨i, _, rfl⟩ := List.mem_map.mp hrow
    obtain ⟨j, _, rfl⟩ := List.mem_map.mp hv'
    unfold HState.binUsage
    apply sum_nonneg_int
    intro w hw
    obtain ⟨c, _, rfl⟩ := List.mem_map.mp hw
    exact (hd.getD c).1
  have hb := sum_le_mul 2147483647 s.demand (fun v hv => (hd.2 v hv).2)
  have hl : (s.demand.length : Int) ≤ 1048576 := by have := hd.1; omega
  unfold HState.usageSumC
  rw [htab, andThen_ok, sumC_ok _ _ 0 hnn (by omega) (by rw [hsum]; omega), andThen_ok, totalDemandC_ok s hd, andThen_ok,
    assertC_true asr _ (decide_eq_true (by rw [hsum]; omega)), andThen_ok, hsum]
  simp

end ColoVerif.Grid
