import ColoVerif.Proofs.DetReorderReg
import ColoVerif.Proofs.DetReorderLeaf
import ColoVerif.Proofs.DetPlaceCan
/-!
`RowReordering::addCells` and the write-back of a well-formed leaf never fail on an `Inv` placement.  `addCells_spec`:
neither `runEnd` nor `cellsUntil` runs out of fuel, `cellsBetween` does not throw, and what is registered is one
segment of distinct window cells per region (`Registered`).  `writeback_succeeds`: `reorderWriteback cs (leafRegions
G O P)` succeeds for a `LeafWF` leaf over registered regions `G`: unplacing the registered cells leaves every
region's site followed by its `cellNext` (`SiteChain`), and the packed cells then fit between the two.
-/
namespace ColoVerif.DetPlace
open State

theorem wb_runEnd_ok {s : State} (h : Inv s) {w : List Int} (hw : ∀ c ∈ w, s.validCell c ∧ s.row c ≠ -1) :
    ∀ (fuel : Nat) (c : Int), walkFuel s c ≤ fuel → ∃ cn, runEnd s w fuel c = .ok cn
  | 0, c, hf => by have := walkFuel_pos s c; omega
  | fuel + 1, c, hf => by
    unfold runEnd
    by_cases hc : w.contains c = true
    · rw [if_pos hc]
      obtain ⟨vc, pc⟩ := hw c (by simpa using hc)
      have := h.walkFuel_next vc pc
      exact wb_runEnd_ok h hw fuel (s.next c) (by omega)
    · rw [if_neg hc]
      exact ⟨c, rfl⟩

theorem RegSeg.row {s : State} (h : Inv s) {w : List Int} (hw : ∀ c ∈ w, s.validCell c ∧ s.row c ≠ -1)
    {c d : Int} (r : RegSeg s w c d) : s.row d = s.row c := by
  induction r with
  | refl _ => rfl
  | tail r hn ih =>
    obtain ⟨vd, pd⟩ := hw _ r.mem
    exact ((h.site_next (Site.of_cell h vd pd) (validCell_ne vd)).2.resolve_left (validCell_ne (hw _ hn).1)).2.trans ih

/-- what `addRow` registers for one region: both ends of the region are sites of its row outside the
window, and its segment is the `next`-path between them -/
structure RegionOk (s : State) (w : List Int) (g : RRegion) (seg : List Int) : Prop where
  hpred : Site s g.row g.cellPred
  hnext : Site s g.row g.cellNext
  predOut : g.cellPred ∉ w
  nextOut : g.cellNext ∉ w
  hmin : g.minPos = s.boundaryAfterIn g.row g.cellPred
  hmax : g.maxPos = s.boundaryBeforeIn g.row g.cellNext
  path : RegPath s g.cellNext (s.siteNext g.row g.cellPred) seg
  mem : ∀ c ∈ seg, c ∈ w ∧ s.row c = g.row
  head : s.siteNext g.row g.cellPred ∈ seg
  nodup : seg.Nodup

/-- one iteration of the loop of `addCells` at a run start -/
theorem wb_segment {s : State} (h : Inv s) {w : List Int} (hw : ∀ c ∈ w, s.validCell c ∧ s.row c ≠ -1)
    {c : Int} (hc : c ∈ w) (hp : s.pred c ∉ w) :
    ∃ cn cs, runEnd s w (s.nCells + 1) c = .ok cn ∧ s.cellsBetween (s.row c) (s.pred c) cn = .ok cs ∧
      RegionOk s w ⟨s.row c, s.boundaryAfterIn (s.row c) (s.pred c), s.boundaryBeforeIn (s.row c) cn, s.pred c, cn⟩ cs ∧
      ∀ d ∈ cs, RegSeg s w c d := by
  have W := regWin_of_inv h hw
  obtain ⟨vc, pc⟩ := hw c hc
  obtain ⟨cn, e1⟩ := wb_runEnd_ok h hw (s.nCells + 1) c (walkFuel_le s c)
  obtain ⟨hcn, l, p, hm, hf⟩ := reg_runEnd_path s (fun d hd => validCell_ne (hw d hd).1) _ _ _ e1
  have e2 := reg_cellsUntil_ok s cn _ _ l p hf
  have hpr : Site s (s.row c) (s.pred c) := h.site_pred vc pc
  have hnx : Site s (s.row c) cn := reg_path_end_site h l c p (Site.of_cell h vc pc)
  have e3 : s.cellsBetween (s.row c) (s.pred c) cn = .ok l := by
    unfold State.cellsBetween
    rw [if_neg fun x => hpr.2.elim x.1 fun e => x.2 e.2, if_neg fun x => hnx.2.elim x.1 fun e => x.2 e.2, W.site c hc]
    exact e2
  obtain ⟨sg, inc⟩ := reg_path_seg W cn l c p hm
  refine ⟨cn, l, e1, e3, ⟨hpr, hnx, hp, hcn, rfl, rfl, ?_, fun d hd => ⟨hm d hd, (sg d hd).1.row h hw⟩, ?_,
    inc.imp fun {a b} hab e => by rw [e] at hab; omega⟩, fun d hd => (sg d hd).1⟩
  · show RegPath s cn (s.siteNext (s.row c) (s.pred c)) l
    rw [W.site c hc]; exact p
  · show s.siteNext (s.row c) (s.pred c) ∈ l
    rw [W.site c hc]
    cases l with
    | nil => exact absurd (p ▸ hc : cn ∈ w) hcn
    | cons a l => rw [p.1]; exact List.mem_cons_self

/-- what `addCells` has registered when the cells `todo` of the window remain: one segment per region, the registered
cells are their concatenation -/
structure Registered (s : State) (w todo : List Int) (G : List RRegion) (segs : List (List Int)) : Prop where
  len : G.length = segs.length
  ok : ∀ gs ∈ G.zip segs, RegionOk s w gs.1 gs.2
  inv : RegInv s w todo segs.flatten

/-- distinct regions start at distinct cells: each starts inside its own segment, and the segments are disjoint -/
theorem Registered.sites {s : State} {w todo : List Int} {G : List RRegion} {segs : List (List Int)}
    (R : Registered s w todo G segs) :
    G.Pairwise (fun g g' => s.siteNext g.row g.cellPred ≠ s.siteNext g'.row g'.cellPred) := by
  have hz : (G.zip segs).Pairwise fun a b => ∀ x ∈ a.2, ∀ y ∈ b.2, x ≠ y := by
    rw [← List.pairwise_map (f := Prod.snd) (R := fun l l' => ∀ x ∈ l, ∀ y ∈ l', x ≠ y),
      List.map_snd_zip (Nat.le_of_eq R.len.symm)]
    exact (List.pairwise_flatten.1 R.inv.1).2
  rw [← List.map_fst_zip (Nat.le_of_eq R.len), List.pairwise_map]
  exact hz.imp_of_mem fun ha hb hab => hab _ (R.ok _ ha).head _ (R.ok _ hb).head

theorem wb_regScan {s : State} (h : Inv s) {w : List Int}
    (hw : ∀ c ∈ w, s.validCell c ∧ s.row c ≠ -1) (todo : List Int) :
    ∀ (G : List RRegion) (segs : List (List Int)) (af : Bool), todo.Nodup → (∀ c ∈ todo, c ∈ w) →
    Registered s w todo G segs → ∃ r, regScan s w todo G segs af = .ok r ∧ Registered s w [] r.1 r.2.1 := by
  induction todo with
  | nil => exact fun G segs af _ _ R => ⟨_, rfl, R⟩
  | cons c rest ih =>
    intro G segs af hn hm R
    obtain ⟨hcr, hnr⟩ := List.nodup_cons.mp hn
    have hc : c ∈ w := hm c List.mem_cons_self
    have hmr : ∀ d ∈ rest, d ∈ w := fun d hd => hm d (List.mem_cons_of_mem _ hd)
    have Iweak : RegInv s w rest segs.flatten :=
      ⟨R.inv.1, fun d hd => (R.inv.2 d hd).imp fun _ k => ⟨k.1, fun h => k.2.1 (List.mem_cons_of_mem _ h), k.2.2⟩⟩
    unfold regScan
    by_cases hp : w.contains (s.pred c) = true
    · rw [if_pos hp]
      exact ih G segs af hnr hmr ⟨R.len, R.ok, Iweak⟩
    · rw [if_neg hp]
      have hp' : s.pred c ∉ w := by simpa using hp
      obtain ⟨cn, cs, e1, e3, RO, sg⟩ := wb_segment h hw hc hp'
      simp only [e1, e3]
      refine ih _ (segs ++ [cs]) _ hnr hmr ⟨?_, fun gs hgs => ?_, ?_⟩
      · rw [List.length_append, List.length_append, R.len]; rfl
      · rw [List.zip_append R.len] at hgs
        rcases List.mem_append.mp hgs with h' | h'
        · exact R.ok gs h'
        · simp only [List.zip_cons_cons, List.zip_nil_right, List.mem_singleton] at h'
          rw [h']; exact RO
      · rw [show (segs ++ [cs]).flatten = segs.flatten ++ cs by simp]
        refine ⟨List.nodup_append.mpr ⟨R.inv.1, RO.nodup, fun a ha b hb eab => ?_⟩, fun d hd => ?_⟩
        · -- a cell registered earlier lies in the run of a start already visited, and a run has one start
          obtain ⟨c0, _, h2, h3, h4⟩ := R.inv.2 a ha
          exact h2 (RegSeg.start_unique (regWin_of_inv h hw) h3 hp' h4 (eab ▸ sg b hb) ▸ List.mem_cons_self)
        · rcases List.mem_append.mp hd with h' | h'
          · exact Iweak.2 d h'
          · exact ⟨c, hc, hcr, hp', sg d h'⟩

/-- the object returned is `RowReord.start` of the registered regions whatever the store: the registration does not
read it -/
theorem addCells_spec (s : State) (h : Inv s) (w : List Int) (hn : w.Nodup)
    (hw : ∀ c ∈ w, s.validCell c ∧ s.row c ≠ -1) :
    ∃ G segs af, Registered s w [] G segs ∧
      ∀ {σ : Type} (st : σ), addCells s (RowReord.new st) w = .ok (RowReord.start s st G segs af) := by
  obtain ⟨r, er, R⟩ := wb_regScan h hw w [] [] false hn (fun _ hc => hc)
    ⟨rfl, fun gs hgs => (by cases hgs), List.nodup_nil, fun d hd => (by cases hd)⟩
  exact ⟨r.1, r.2.1, r.2.2, R, fun st => by rw [addCells_eq, er]; rfl⟩

theorem Registered.mem {s : State} {w : List Int} {G : List RRegion} {segs : List (List Int)} (R : Registered s w [] G segs) :
    ∀ c ∈ segs.flatten, c ∈ w := fun c hc => (R.inv.2 c hc).elim fun _ k => k.2.2.2.mem

theorem addCells_registered {σ : Type} (s : State) (h : Inv s) (w : List Int) (st : σ) (rr : RowReord σ)
    (hn : w.Nodup) (hw : ∀ c ∈ w, s.validCell c ∧ s.row c ≠ -1)
    (e : addCells s (RowReord.new st) w = .ok rr) :
    rr.cells.Nodup ∧ ∀ c ∈ rr.cells, c ∈ w := by
  obtain ⟨G, segs, af, R, e'⟩ := addCells_spec s h w hn hw
  cases e.symm.trans (e' st)
  exact ⟨R.inv.1, R.mem⟩

/-- the cells of `l` hang after the site `(r, p)` one after the other, followed by `n` -/
def SiteChain (t : State) (r : Int) : Int → List Int → Int → Prop
  | p, [], n => t.siteNext r p = n
  | p, a :: l, n => t.siteNext r p = a ∧ SiteChain t r a l n

theorem wb_path_chain (s : State) (r n : Int) : ∀ (l : List Int) (p : Int),
    RegPath s n (s.siteNext r p) l → SiteChain s r p l n
  | [], _, h => h
  | a :: l, p, h => by
    obtain ⟨ea, _, hne, hp⟩ := h
    refine ⟨ea.symm, wb_path_chain s r n l a ?_⟩
    rw [siteNext_cell (by rw [ea]; exact hne), ea]
    exact hp

/-- `unplace c` takes `c` out of a chain.  Afterwards the chain starts at the site `(r, p)`; before, it starts
there too, or at the site of `c` when `c` follows `p` and is not in the chain -/
theorem wb_chain_unplace {t : State} (h : Inv t) {c : Int} (vc : t.validCell c) {r n : Int} (hcn : c ≠ n)
    (l : List Int) : ∀ (p q : Int), Site t r p → p ≠ c → (q = p ∨ (q = c ∧ c ∉ l ∧ t.siteNext r p = c)) →
    (∀ a ∈ l, t.validCell a ∧ t.row a = r) → l.Nodup →
    SiteChain t r q l n → SiteChain (t.unplace c) r p (l.filter (fun a => a != c)) n := by
  -- what follows `p` afterwards is what followed `q`
  have key : ∀ {p q x : Int} {l : List Int}, Site t r p → p ≠ c → (q = p ∨ (q = c ∧ c ∉ l ∧ t.siteNext r p = c)) →
      x ≠ c → t.siteNext r q = x → (t.unplace c).siteNext r p = x := by
    intro p q x _ hs hpc hq hx e
    rw [h.unplace_siteNext vc hs hpc]
    rcases hq with rfl | ⟨rfl, _, e'⟩
    · rw [if_neg (e ▸ hx)]; exact e
    · rw [if_pos e']; exact (siteNext_cell (validCell_ne vc)).symm.trans e
  induction l with
  | nil => exact fun p q hs hpc hq _ _ hch => key hs hpc hq (Ne.symm hcn) hch
  | cons a l ih =>
    intro p q hs hpc hq hl hnd ⟨e1, e2⟩
    obtain ⟨hal, hndl⟩ := List.nodup_cons.mp hnd
    have hlt : ∀ b ∈ l, t.validCell b ∧ t.row b = r := fun b hb => hl b (List.mem_cons_of_mem _ hb)
    rw [List.filter_cons]
    by_cases hac : a = c
    · subst hac
      rw [if_neg (by simp)]
      have hqp : q = p := hq.resolve_right fun k => k.2.1 List.mem_cons_self
      exact ih p a hs hpc (Or.inr ⟨rfl, hal, hqp ▸ e1⟩) hlt hndl e2
    · rw [if_pos (by simpa using hac)]
      exact ⟨key hs hpc hq hac e1, ih a a ⟨hs.1, Or.inr (hl a List.mem_cons_self)⟩ hac (Or.inl rfl) hlt hndl e2⟩

/-- the first loop of `writeback` succeeds on distinct placed cells; afterwards a site is followed by what followed
the chain of cells taken out after it -/
theorem wb_unplaceAll (cs : List Int) : ∀ (t : State), Inv t → cs.Nodup → (∀ c ∈ cs, t.validCell c ∧ t.row c ≠ -1) →
    ∃ u, t.unplaceAll cs = .ok u ∧
      ∀ (r p n : Int) (l : List Int), Site t r p → (∀ a ∈ l, a ∈ cs ∧ t.row a = r) → l.Nodup → p ∉ cs → n ∉ cs →
        SiteChain t r p l n → u.siteNext r p = n := by
  induction cs with
  | nil =>
    intro t _ _ _
    refine ⟨t, rfl, fun r p n l _ hl _ _ _ hch => ?_⟩
    cases l with
    | nil => exact hch
    | cons a _ => cases (hl a List.mem_cons_self).1
  | cons c rest ih =>
    intro t h hn hv
    obtain ⟨hcr, hnr⟩ := List.nodup_cons.mp hn
    obtain ⟨vc, pc⟩ := hv c List.mem_cons_self
    have hg : (t.liveCell c && t.isPlaced c) = true := by
      rw [Bool.and_eq_true, liveCell_iff, isPlaced_iff]
      exact ⟨⟨vc, ((h.cell vc).2 pc).1⟩, pc⟩
    have row' : ∀ d, d ≠ c → (t.unplace c).row d = t.row d := fun d hd => by rw [unplace_row, if_neg hd]
    obtain ⟨u, e, hch⟩ := ih (t.unplace c) (unplace_inv h vc pc) hnr fun d hd =>
      have hdc : d ≠ c := fun e => hcr (e ▸ hd)
      ⟨(hv d (List.mem_cons_of_mem _ hd)).1, by rw [row' d hdc]; exact (hv d (List.mem_cons_of_mem _ hd)).2⟩
    refine ⟨u, by unfold State.unplaceAll; rw [if_pos hg]; exact e, fun r p n l hs hl hnd hpc hnc hchain => ?_⟩
    have hp1 : p ≠ c := fun e => hpc (e ▸ List.mem_cons_self)
    refine hch r p n (l.filter (fun a => a != c)) (hs.unplace hp1)
      (fun a ha => ?_) (hnd.sublist List.filter_sublist)
      (fun e => hpc (List.mem_cons_of_mem _ e)) (fun e => hnc (List.mem_cons_of_mem _ e))
      (wb_chain_unplace h vc (fun e => hnc (e ▸ List.mem_cons_self)) l p p hs hp1 (Or.inl rfl)
        (fun a ha => ⟨(hv a (hl a ha).1).1, (hl a ha).2⟩) hnd hchain)
    obtain ⟨hal, hac⟩ := List.mem_filter.mp ha
    have hac : a ≠ c := by simpa using hac
    exact ⟨(List.mem_cons.mp (hl a hal).1).resolve_left hac, by rw [row' a hac]; exact (hl a hal).2⟩

theorem wb_allocatedWidth_nonneg (s : State) : ∀ l : List Int, (∀ c ∈ l, 0 < s.width c) → 0 ≤ allocatedWidth s l
  | [], _ => by simp [allocatedWidth]
  | c :: l, h => by
    rw [allocatedWidth_cons]
    have := h c List.mem_cons_self
    have := wb_allocatedWidth_nonneg s l (fun d hd => h d (List.mem_cons_of_mem _ hd))
    omega

/-- one turn of the loop of `placeChain`: a cell that fits into the site `(r, p)` at `x` is placed there, and leaves
behind it the site `(r, c)`, which runs from the end of `c` to where the old site ended -/
theorem placeChain_cons {t : State} (h : Inv t) {c r p x : Int} (ok : PlaceOk t c r p) (hal : t.isRowAllowed c r = true)
    (h1 : t.siteBegin r p ≤ x) (h2 : x + t.width c ≤ t.siteEnd r p) (rest : List (Int × Int)) :
    t.placeChain r p ((c, x) :: rest) = (t.placeRaw c r p x).placeChain r c rest ∧ Inv (t.placeRaw c r p x) ∧
      Site (t.placeRaw c r p x) r c ∧ (t.placeRaw c r p x).siteBegin r c = x + t.width c ∧
      (t.placeRaw c r p x).siteEnd r c = t.siteEnd r p := by
  have e := place_succeeds ok.unplaced hal h1 h2
  have hc := validCell_ne ok.hc
  refine ⟨?_, place_inv h ok e, ⟨ok.hr, .inr ⟨ok.hc, if_pos rfl⟩⟩, ?_, ?_⟩
  · have hp : t.isPlaced c = false := by simp [State.isPlaced, ok.unplaced]
    rw [State.placeChain, (liveCell_iff t c).2 ⟨ok.hc, ok.live⟩, hp, (siteOk_iff t r p).2 ok.site, e]
    rfl
  · unfold State.siteBegin
    rw [if_neg hc, placeRaw_x, if_pos rfl]
    rfl
  · unfold State.siteEnd
    rw [placeRaw_siteNext_self t hc, placeRaw_x, if_neg (h.siteNext_ne ok)]
    rfl

theorem wb_placeChain (s : State) (r : Int) (l : List Int) : ∀ (pos : Int) (t : State) (p : Int),
    Inv t → t.width = s.width → Site t r p → t.siteBegin r p ≤ pos →
    (l ≠ [] → pos + allocatedWidth s l ≤ t.siteEnd r p) →
    (∀ c ∈ l, t.validCell c ∧ t.width c ≠ -1 ∧ t.row c = -1 ∧ t.isRowAllowed c r = true) → l.Nodup →
    ∃ t', t.placeChain r p (l.zip (packPos s pos l)) = .ok t' ∧
      (∀ d, d ∉ l → t'.row d = t.row d ∧ t'.x d = t.x d) ∧ (∀ d ∈ l, t'.row d = r) ∧
      (∀ r' p', p' ∉ l → ¬ (p' = p ∧ (p = -1 → r' = r)) → t'.siteNext r' p' = t.siteNext r' p') := by
  induction l with
  | nil =>
    intro pos t p _ _ _ _ _ _ _
    exact ⟨t, rfl, fun _ _ => ⟨rfl, rfl⟩, fun d hd => (by cases hd), fun _ _ _ _ => rfl⟩
  | cons c rest ih =>
    intro pos t p h hw hs hb hfit hcells hnd
    obtain ⟨hcr, hndr⟩ := List.nodup_cons.mp hnd
    obtain ⟨vc, lc, uc, ac⟩ := hcells c List.mem_cons_self
    have hrest := wb_allocatedWidth_nonneg s rest fun d hd => by
      obtain ⟨vd, ld, _, _⟩ := hcells d (List.mem_cons_of_mem _ hd)
      rw [← hw]; exact ((h.cell vd).1 ld).2
    have hfit' := hfit (by simp)
    rw [allocatedWidth_cons] at hfit'
    have hwc : t.width c = s.width c := by rw [hw]
    obtain ⟨e1, h1, s1, b1, n1⟩ := placeChain_cons (x := pos) h ⟨vc, uc, lc, hs.1, hs.2⟩ ac hb
      (by rw [hwc]; exact Int.le_trans (Int.add_le_add_left (Int.le_add_of_nonneg_right hrest) pos) hfit')
      (rest.zip (packPos s (pos + s.width c) rest))
    obtain ⟨t', e, hframe, hin, hsite⟩ := ih (pos + s.width c) _ c h1 hw s1 (by rw [b1, hwc])
      (fun _ => by rw [n1, Int.add_assoc]; exact hfit')
      (fun d hd => by
        have hdc : d ≠ c := fun e => hcr (e ▸ hd)
        obtain ⟨vd, ld, ud, ad⟩ := hcells d (List.mem_cons_of_mem _ hd)
        exact ⟨vd, ld, by rw [placeRaw_row, if_neg hdc]; exact ud, ad⟩)
      hndr
    refine ⟨t', ?_, ?_, ?_, ?_⟩
    · exact e1.trans e
    · intro d hd
      have hdc : d ≠ c := fun e => hd (e ▸ List.mem_cons_self)
      obtain ⟨a, b⟩ := hframe d fun e => hd (List.mem_cons_of_mem _ e)
      rw [a, b, placeRaw_row, if_neg hdc, placeRaw_x, if_neg hdc]
      exact ⟨rfl, rfl⟩
    · intro d hd
      rcases List.mem_cons.mp hd with e | e
      · rw [e, (hframe c hcr).1, placeRaw_row, if_pos rfl]
      · exact hin d e
    · intro r' p' hp' hne
      have hpc : p' ≠ c := fun e => hp' (e ▸ List.mem_cons_self)
      rw [hsite r' p' (fun e => hp' (List.mem_cons_of_mem _ e)) (fun e => hpc e.1)]
      exact placeRaw_siteNext_of_ne t hpc hne

/-- what a region and the order chosen for it must satisfy (in terms of the placement before the write-back) -/
structure JobOk (s : State) (cs : List Int) (g : RRegion) (l : List Int) : Prop where
  hpred : Site s g.row g.cellPred
  predOut : g.cellPred ∉ cs
  nextOut : g.cellNext ∉ cs
  hbegin : s.siteBegin g.row g.cellPred ≤ g.minPos
  hend : l ≠ [] → g.minPos + allocatedWidth s l ≤ (if g.cellNext = -1 then s.rowMaxX g.row else s.x g.cellNext)
  cells : ∀ c ∈ l, c ∈ cs ∧ s.validCell c ∧ s.width c ≠ -1 ∧ s.isRowAllowed c g.row = true
  nodup : l.Nodup

theorem siteNext_congr {s : State} {r r' p p' : Int} (hp : p' = p) (hr : p = -1 → r' = r) :
    s.siteNext r p = s.siteNext r' p' := by
  subst hp
  unfold State.siteNext
  split
  · rw [hr ‹_›]
  · rfl

/-- the region loop of `writeback`, started on a placement `t` that has the static fields of `s`, agrees
with `s` outside the registered cells `cs` and has every job's cells unplaced and its site free -/
theorem wb_placeJobs (s : State) (cs : List Int) (J : List (RRegion × List Int)) : ∀ (t : State), Inv t → Static s t →
    (∀ d, d ∉ cs → t.row d = s.row d ∧ t.x d = s.x d) →
    (∀ j ∈ J, JobOk s cs j.1 j.2 ∧ t.siteNext j.1.row j.1.cellPred = j.1.cellNext ∧ ∀ c ∈ j.2, t.row c = -1) →
    (J.map Prod.fst).Pairwise (fun g g' => s.siteNext g.row g.cellPred ≠ s.siteNext g'.row g'.cellPred) →
    (J.map Prod.snd).Pairwise (fun l l' => ∀ c ∈ l, c ∉ l') →
    ∃ t', t.placeRegions (J.map (jobRegion s)) = .ok t' ∧ ∀ l ∈ J.map Prod.snd, ∀ c ∈ l, t'.row c ≠ -1 := by
  induction J with
  | nil => exact fun t _ _ _ _ _ _ => ⟨t, rfl, fun l hl => (by cases hl)⟩
  | cons j J ih =>
    intro t h k hout hjobs hsites hdisj
    obtain ⟨hs1, hs2⟩ := List.pairwise_cons.mp hsites
    obtain ⟨hd1, hd2⟩ := List.pairwise_cons.mp hdisj
    obtain ⟨jo, hsn, hun⟩ := hjobs j List.mem_cons_self
    -- a site of `s` whose cell is not registered is the same site of `t`
    have site_t : ∀ {p : Int}, Site s j.1.row p → p ∉ cs → Site t j.1.row p := fun hs hp =>
      ⟨validRow_congr k.rows hs.1, hs.2.imp_right fun e => ⟨validCell_congr k.nCells e.1, (hout _ hp).1.trans e.2⟩⟩
    obtain ⟨t1, e1, hframe, hin, hsite⟩ := wb_placeChain s j.1.row j.2 j.1.minPos t j.1.cellPred h
      k.width (site_t jo.hpred jo.predOut)
      (by
        have := jo.hbegin
        unfold State.siteBegin at this ⊢
        rw [rowMinX_congr k.rows, (hout _ jo.predOut).2, k.width]; exact this)
      (fun hne => by
        unfold State.siteEnd
        rw [hsn, rowMaxX_congr k.rows, (hout _ jo.nextOut).2]; exact jo.hend hne)
      (fun c hc => by
        obtain ⟨_, vc, lc, ac⟩ := jo.cells c hc
        exact ⟨validCell_congr k.nCells vc, by rw [k.width]; exact lc, hun c hc, by rw [isRowAllowed_congr k.rows k.pol]; exact ac⟩)
      jo.nodup
    obtain ⟨t', e2, hdone⟩ := ih t1 (inv_respects.placeChain e1 h) (k.trans (static_respects.placeChain e1))
      (fun d hd => by
        have hdl : d ∉ j.2 := fun e => hd (jo.cells d e).1
        rw [(hframe d hdl).1, (hframe d hdl).2]
        exact hout d hd)
      (fun j' hj' => by
        obtain ⟨jo', hsn', hun'⟩ := hjobs j' (List.mem_cons_of_mem _ hj')
        refine ⟨jo', ?_, fun c hc => ?_⟩
        · rw [hsite _ _ (fun hin => jo'.predOut (jo.cells _ hin).1) fun e =>
            hs1 _ (List.mem_map_of_mem hj') (siteNext_congr e.1 e.2)]
          exact hsn'
        · rw [(hframe c fun e => hd1 _ (List.mem_map_of_mem hj') c e hc).1]; exact hun' c hc)
      hs2 hd2
    refine ⟨t', ?_, fun l hl c hc => ?_⟩
    · simp only [List.map_cons, State.placeRegions, jobRegion, e1]
      exact e2
    · rcases List.mem_cons.mp hl with e | e
      -- the cells of this job are placed now, and a later chain takes no cell out
      · exact Lg.stays_respects.placeRegions e2 c (by rw [hin c (e ▸ hc)]; exact validRow_ne jo.hpred.1)
      · exact hdone l e c hc

/-- the cell of a site (or the row, when there is none) lies between the boundaries the registration reads off it -/
theorem wb_site_fits {s : State} (h : Inv s) {r c : Int} (hs : Site s r c) :
    s.siteBegin r c ≤ s.boundaryAfterIn r c ∧ s.boundaryBeforeIn r c ≤ (if c = -1 then s.rowMaxX r else s.x c) := by
  unfold State.siteBegin State.boundaryAfterIn State.boundaryBeforeIn
  rcases hs.2 with e | e
  · simp only [if_pos e]
    exact ⟨Int.le_refl _, Int.le_refl _⟩
  · simp only [if_neg (validCell_ne e.1)]
    exact (h.fits e.1 (e.2 ▸ validRow_ne hs.1)).symm

theorem writeback_succeeds {s : State} (h : Inv s) {w : List Int} (hw : ∀ c ∈ w, s.validCell c ∧ s.row c ≠ -1)
    {G : List RRegion} {segs : List (List Int)} (R : Registered s w [] G segs) (cs : List Int) (hcs : cs.Perm segs.flatten)
    (O P : List (List Int)) (hwf : LeafWF s G cs O P) :
    ∃ t, s.reorderWriteback cs (leafRegions G O P) = .ok t := by
  have csnd : cs.Nodup := hcs.nodup_iff.mpr R.inv.1
  have csw : ∀ c ∈ cs, c ∈ w := fun c hc => R.mem c (hcs.mem_iff.mp hc)
  have csv : ∀ c ∈ cs, s.validCell c ∧ s.row c ≠ -1 := fun c hc => hw c (csw c hc)
  obtain ⟨u, e1, hch⟩ := wb_unplaceAll cs s h csnd csv
  have hrow := unplaceAll_rows e1
  have hjob : ∀ j ∈ G.zip O, JobOk s cs j.1 j.2 ∧ u.siteNext j.1.row j.1.cellPred = j.1.cellNext ∧
      ∀ c ∈ j.2, u.row c = -1 := by
    intro j hj
    obtain ⟨i, hi⟩ := List.mem_iff_getElem?.mp hj
    rw [List.getElem?_zip_eq_some] at hi
    obtain ⟨hg, ho⟩ := hi
    have hi : i < segs.length := R.len ▸ (List.getElem?_eq_some_iff.1 hg).1
    have RO : RegionOk s w j.1 segs[i] := R.ok (j.1, segs[i]) (List.mem_iff_getElem?.mpr
      ⟨i, by rw [List.getElem?_zip_eq_some]; exact ⟨hg, List.getElem?_eq_getElem hi⟩⟩)
    refine ⟨⟨RO.hpred, fun x => RO.predOut (csw _ x), fun x => RO.nextOut (csw _ x), ?_, fun hne => ?_,
      fun c hc => ?_, hwf.nodup i _ ho⟩, ?_, fun c hc => ?_⟩
    · rw [RO.hmin]; exact (wb_site_fits h RO.hpred).1
    · have f := hwf.fits i _ _ ho hg hne
      unfold RRegion.width at f
      have m := (wb_site_fits h RO.hnext).2
      rw [← RO.hmax] at m
      omega
    · have hccs := hwf.sub i _ ho c hc
      obtain ⟨vc, pc⟩ := csv c hccs
      exact ⟨hccs, vc, ((h.cell vc).2 pc).1, hwf.allowed i _ _ ho hg c hc⟩
    -- the region's site is followed by its `cellNext` once the registered cells are unplaced
    · exact hch j.1.row j.1.cellPred j.1.cellNext segs[i] RO.hpred
        (fun a ha => ⟨hcs.mem_iff.mpr (List.mem_flatten.mpr ⟨segs[i], List.getElem_mem hi, ha⟩), (RO.mem a ha).2⟩)
        RO.nodup (fun x => RO.predOut (csw _ x)) (fun x => RO.nextOut (csw _ x))
        (wb_path_chain s j.1.row j.1.cellNext segs[i] j.1.cellPred RO.path)
    · rw [hrow c, if_pos (hwf.sub i _ ho c hc)]
  obtain ⟨t', e2, hdone⟩ := wb_placeJobs s cs (G.zip O) u (inv_respects.unplaceAll e1 h) (static_respects.unplaceAll e1)
    (fun d hd => by rw [hrow d, if_neg hd, (unplaceAll_xy e1).1]; exact ⟨rfl, rfl⟩) hjob
    (by rw [List.map_fst_zip (Nat.le_of_eq hwf.olen.symm)]; exact R.sites)
    (by
      rw [List.map_snd_zip (Nat.le_of_eq hwf.olen)]
      exact List.pairwise_iff_getElem.mpr fun i i' hi hi' hlt c hc hc' => Nat.ne_of_lt hlt
        (hwf.disj i i' _ _ (List.getElem?_eq_getElem hi) (List.getElem?_eq_getElem hi') c hc hc'))
  rw [List.map_snd_zip (Nat.le_of_eq hwf.olen)] at hdone
  rw [← leafRegions_eq s G O P hwf.olen hwf.plen hwf.packed] at e2
  refine ⟨t', ?_⟩
  unfold State.reorderWriteback
  simp only [e1, e2]
  rw [if_pos]
  rw [List.all_eq_true]
  intro d hd
  obtain ⟨i, l, ho, hdl⟩ := hwf.cover d hd
  rw [isPlaced_iff]
  exact hdone l (List.mem_of_getElem? ho) d hdl

end ColoVerif.DetPlace
