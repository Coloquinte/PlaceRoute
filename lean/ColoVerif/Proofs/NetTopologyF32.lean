import ColoVerif.Model.NetTopology
import ColoVerif.Proofs.F64
/-
The binary32 rounding `Legalize.f32` used by `NetTopology` (int → float conversions of
`xTopology`/`yTopology`) is exact on the integers `|v| ≤ 2^24` and on half-integers `m/2` with
`|m| ≤ 2^24`, so that below 2^24 the stored pins are the exact rational values.

`Legalize.f32` is by `rfl` the instance `F64.f32' = fround 24 (−149)` of the generic rounding of
`Model/F64.lean`; its monotonicity and exactness are those proved in `Proofs/F64.lean`.
-/
namespace ColoVerif.NetTopology.F32
open ColoVerif.Legalize

theorem f32_mono {x y : Rat} (hxy : x ≤ y) : f32 x ≤ f32 y := Legalize.f32_mono hxy

theorem f32_exact_dyadic (m k : Int) (hm : -16777216 ≤ m ∧ m ≤ 16777216) (hk : -149 ≤ k) :
    f32 ((m : Rat) * pow2 k) = (m : Rat) * pow2 k :=
  Legalize.f32_exact_dyadic m k hm hk

theorem f32_one : f32 1 = 1 := Legalize.f32_one

end ColoVerif.NetTopology.F32

namespace ColoVerif.NetTopology
open ColoVerif.Legalize

theorem toFloat_exact (v : Int) (h : SmallInt v) : toFloat v = (v : Rat) :=
  f32_exact_int v h

theorem f32_half_exact (m : Int) (h : SmallInt m) :
    f32 ((1 / 2 : Rat) * (m : Rat)) = (1 / 2 : Rat) * (m : Rat) := by
  have := F64.f32'_exact_dyadic m (-1) (abs_le.mpr h) (by norm_num)
  have e : (m : Rat) * (2 : Rat) ^ (-1 : Int) = (1 / 2 : Rat) * (m : Rat) := by
    rw [zpow_neg, zpow_one]; ring
  rw [e] at this
  exact this

/-- Below 2^24 the offset to the cell centre is the exact `offset − ½ size`. -/
theorem movablePin_exact (a : Axis) (c : Circuit) (p : ColoVerif.Pin)
    (ho : SmallInt (pinOffset a (c.cell p.cell) p)) (hs : SmallInt (placedSize a (c.cell p.cell)))
    (hd : SmallInt (2 * pinOffset a (c.cell p.cell) p - placedSize a (c.cell p.cell))) :
    movablePin a c p = ((p.cell : Int),
        ((pinOffset a (c.cell p.cell) p : Int) : Rat) - (1 / 2 : Rat) * ((placedSize a (c.cell p.cell) : Int) : Rat)) := by
  unfold movablePin
  rw [toFloat_exact _ ho, toFloat_exact _ hs, f32_half_exact _ hs]
  have e : ((pinOffset a (c.cell p.cell) p : Int) : Rat) - (1 / 2 : Rat) * ((placedSize a (c.cell p.cell) : Int) : Rat)
      = (1 / 2 : Rat) * ((2 * pinOffset a (c.cell p.cell) p - placedSize a (c.cell p.cell) : Int) : Rat) := by
    push_cast; ring
  rw [e, f32_half_exact _ hd]

theorem fixedPos_exact (a : Axis) (c : Circuit) (p : ColoVerif.Pin)
    (hp : SmallInt (cellPos a (c.cell p.cell) + pinOffset a (c.cell p.cell) p)) :
    fixedPos a c p = ((cellPos a (c.cell p.cell) + pinOffset a (c.cell p.cell) p : Int) : Rat) :=
  toFloat_exact _ hp

end ColoVerif.NetTopology
