import ColoVerif.Proofs.NetAsmLsq
import Mathlib.Tactic.Ring
import Mathlib.Tactic.Linarith
/-
The system assembled by each of the five variants (initial star, B2B, star, clique, light star), with or without
penalty, satisfies `AsmInv` for the documented quadratic `QModel … + penQ …` (stiffnesses frozen at the placement
`pl`): `assembleNets_asm`.  Every operation adds its quadratic to whatever the system stood for (`Adds`): one
spring by `addPin_adds`, a sequence by `Adds.comp`, the pin loop by `Adds.loopIdx`; one step lemma per loop body,
induction over the nets.  At the end, what the models are on a two-pin net (`*_two_pin*`).
-/
namespace ColoVerif.NetAsm

variable {nonneg : Prop} {M M' M'' N : Nat} {s : Sys} {Q : (Nat → Rat) → Rat}

def St (nonneg : Prop) (M N : Nat) (s : Sys) (Q : (Nat → Rat) → Rat) : Prop :=
  AsmInv nonneg s Q ∧ s.matSize = M ∧ s.nbCells = N

theorem St.congr {Q' : (Nat → Rat) → Rat} (h : St nonneg M N s Q)
    (e : ∀ x, Q x = Q' x) : St nonneg M N s Q' := ⟨h.1.congr e, h.2⟩

/-- `op` adds the quadratic `q`: from a system for any `Q` with `M` unknowns to one for `Q + q` with `M'`. -/
def Adds (nonneg : Prop) (M M' N : Nat) (op : Sys → Sys) (q : (Nat → Rat) → Rat) : Prop :=
  ∀ s Q, St nonneg M N s Q → St nonneg M' N (op s) (fun x => Q x + q x)

variable {op op' : Sys → Sys} {q q' : (Nat → Rat) → Rat}

theorem Adds.congr (h : Adds nonneg M M' N op q) (e : ∀ x, q x = q' x) : Adds nonneg M M' N op q' :=
  fun s Q hs => (h s Q hs).congr (fun x => by rw [e])

theorem Adds.skip : Adds nonneg M M N (fun s => s) (fun _ => 0) :=
  fun _ _ hs => hs.congr (fun _ => (add_zero _).symm)

theorem Adds.comp (h : Adds nonneg M M' N op q) (h' : Adds nonneg M' M'' N op' q') :
    Adds nonneg M M'' N (fun s => op' (op s)) (fun x => q x + q' x) :=
  fun s Q hs => (h' _ _ (h s Q hs)).congr (fun _ => add_assoc ..)

theorem addPin_adds (c1 c2 : Int) (o1 o2 w : Rat)
    (h1 : CellOk M c1) (h2 : CellOk M c2) (hw : nonneg → 0 ≤ w) :
    Adds nonneg M M N (addPin · c1 c2 o1 o2 w)
      (fun x => w * sq (pinVal x (c1, o1) - pinVal x (c2, o2))) := by
  rintro s Q ⟨hi, rfl, hn⟩
  exact ⟨addPin_inv c1 c2 o1 o2 w h1 h2 hw hi, (addPin_frame ..).2, (addPin_frame ..).1.trans hn⟩

theorem addCell_st (init : Rat) (h : St nonneg M N s Q) :
    St nonneg (M + 1) N (addCell s init) Q :=
  ⟨addCell_inv init h.1, by rw [addCell_matSize, h.2.1], h.2.2⟩

theorem Adds.loopIdx {f : Sys → Nat → Pin → Sys} {g : (Nat → Rat) → Nat → Pin → Rat}
    (hf : ∀ i p, CellOk M p.1 → Adds nonneg M M N (f · i p) (g · i p)) (pins : List Pin)
    (hp : ∀ p ∈ pins, CellOk M p.1) (i : Nat) :
    Adds nonneg M M N (loopIdx f · i pins) (fun x => sumIdx (g x) i pins) := by
  induction pins generalizing i with
  | nil => exact Adds.skip
  | cons p ps ih =>
    exact (hf i p (hp p (List.mem_cons_self ..))).comp
      (ih (fun q hq => hp q (List.mem_cons_of_mem _ hq)) (i + 1))

theorem pinVal_nat (x : Nat → Rat) (sc : Nat) (o : Rat) : pinVal x ((sc : Int), o) = x sc + o :=
  pinVal_cell x (by omega) o

theorem extGo_cellOk (M : Nat) (step : Ext → Nat → Pin → Ext)
    (hstep : ∀ b i p, (step b i p).c = b.c ∨ (step b i p).c = p.1) (ps : List Pin) :
    ∀ (b : Ext) (i : Nat), CellOk M b.c → (∀ p ∈ ps, CellOk M p.1) → CellOk M (extGo step b i ps).c := by
  induction ps with
  | nil => intro b i hb _; exact hb
  | cons p ps ih =>
    intro b i hb hp
    simp only [extGo]
    apply ih
    · rcases hstep b i p with e | e
      · rw [e]; exact hb
      · rw [e]; exact hp p (List.mem_cons_self ..)
    · exact fun q hq => hp q (List.mem_cons_of_mem _ hq)

theorem extPin_cellOk (M : Nat) (pl : List Rat) (pins : List Pin) (hp : ∀ p ∈ pins, CellOk M p.1) :
    CellOk M (minPin pl pins).c ∧ CellOk M (maxPin pl pins).c := by
  cases pins with
  | nil => exact ⟨Or.inl rfl, Or.inl rfl⟩
  | cons p ps =>
    have h0 := hp p (List.mem_cons_self ..)
    have hs : ∀ q ∈ ps, CellOk M q.1 := fun q hq => hp q (List.mem_cons_of_mem _ hq)
    constructor
    · refine extGo_cellOk M _ (fun b i q => ?_) ps _ 1 h0 hs
      unfold minStep; split
      · exact Or.inr rfl
      · exact Or.inl rfl
    · refine extGo_cellOk M _ (fun b i q => ?_) ps _ 1 h0 hs
      unfold maxStep; split
      · exact Or.inr rfl
      · exact Or.inl rfl

theorem cliqueW_nonneg (n : Net) (hw : 0 ≤ n.weight) : 0 ≤ cliqueW n :=
  div_nonneg (mul_nonneg zero_le_two hw) (Int.cast_nonneg (Int.natCast_nonneg _))

theorem b2bW_nonneg (n : Net) (hw : 0 ≤ n.weight) (hl : 1 ≤ n.pins.length) : 0 ≤ b2bW n :=
  div_nonneg hw (Int.cast_nonneg (Int.sub_nonneg_of_le (Int.ofNat_le.2 hl)))

theorem sumIdx_cliqueInner (pl : List Rat) (ε w : Rat) (x : Nat → Rat) (pi : Pin) (ps : List Pin) (i : Nat) :
    sumIdx (fun _ pj => (w / rmax ε (rabs (pinPos pl pi - pinPos pl pj))) * sq (pinVal x pi - pinVal x pj)) i ps
      = cliqueInnerQ pl ε w x pi ps := by
  induction ps generalizing i with
  | nil => rfl
  | cons q qs ih => simp only [sumIdx, cliqueInnerQ, ih]

theorem cliqueInner_adds (pl : List Rat) (ε w : Rat) (hw : nonneg → 0 ≤ w) (pi : Pin)
    (hpi : CellOk M pi.1) (ps : List Pin) (hps : ∀ p ∈ ps, CellOk M p.1) :
    Adds nonneg M M N (loopIdx (cliqueInner pl ε w pi) · 0 ps) (cliqueInnerQ pl ε w · pi ps) :=
  (Adds.loopIdx (f := cliqueInner pl ε w pi)
    (g := fun x _ pj => (w / rmax ε (rabs (pinPos pl pi - pinPos pl pj))) * sq (pinVal x pi - pinVal x pj))
    (fun _ pj hpj => addPin_adds pi.1 pj.1 pi.2 pj.2 _ hpi hpj (fun hn => bipW_nonneg _ ε _ (hw hn)))
    ps hps 0).congr (fun _ => sumIdx_cliqueInner ..)

theorem cliqueGo_adds (pl : List Rat) (ε w : Rat) (hw : nonneg → 0 ≤ w) (ps : List Pin)
    (hp : ∀ p ∈ ps, CellOk M p.1) :
    Adds nonneg M M N (cliqueGo pl ε w · ps) (cliqueGoQ pl ε w · ps) := by
  induction ps with
  | nil => exact Adds.skip
  | cons p ps ih =>
    have hps : ∀ q ∈ ps, CellOk M q.1 := fun q hq => hp q (List.mem_cons_of_mem _ hq)
    exact (cliqueInner_adds pl ε w hw p (hp p (List.mem_cons_self ..)) ps hps).comp (ih hps)

theorem addClique_adds (pl : List Rat) (ε : Rat) (n : Net)
    (hw : nonneg → 0 ≤ n.weight) (hp : ∀ p ∈ n.pins, CellOk M p.1) :
    Adds nonneg M M N (addClique pl ε · n) (cliqueQ pl ε · n) :=
  cliqueGo_adds pl ε (cliqueW n) (fun hn => cliqueW_nonneg n (hw hn)) n.pins hp

theorem b2bBody_adds (pl : List Rat) (ε w : Rat) (hw : nonneg → 0 ≤ w) (mn mx : Ext)
    (hmn : CellOk M mn.c) (hmx : CellOk M mx.c) (i : Nat) (p : Pin) (hp : CellOk M p.1) :
    Adds nonneg M M N (b2bBody pl ε w mn mx · i p) (b2bTermQ pl ε w mn mx · i p) := by
  unfold b2bBody b2bTermQ b2bMax
  by_cases h1 : i = mn.i
  · simp only [h1, if_true]
    exact Adds.skip
  · simp only [h1, if_false]
    have a : Adds nonneg M M N _ _ := addPin_adds p.1 mn.c p.2 mn.o _ hp hmn
      (fun hn => bipW_nonneg w ε (pinPos pl p - mn.pos) (hw hn))
    by_cases h2 : i = mx.i
    · simp only [h2, if_true]
      exact a.comp Adds.skip
    · simp only [h2, if_false]
      exact a.comp (addPin_adds p.1 mx.c p.2 mx.o _ hp hmx
        (fun hn => bipW_nonneg w ε (pinPos pl p - mx.pos) (hw hn)))

theorem addB2B_adds (pl : List Rat) (ε : Rat) (n : Net)
    (hw : nonneg → 0 ≤ n.weight) (hp : ∀ p ∈ n.pins, CellOk M p.1) :
    Adds nonneg M M N (addB2B pl ε · n) (b2bQ pl ε · n) := by
  unfold addB2B b2bQ
  rcases hpins : n.pins with _ | ⟨p0, rest⟩
  · exact Adds.skip
  · rw [← hpins]
    have hl : 1 ≤ n.pins.length := by rw [hpins]; exact Nat.succ_le_succ (Nat.zero_le _)
    exact Adds.loopIdx (fun i p hp' => b2bBody_adds pl ε (b2bW n) (fun hn => b2bW_nonneg n (hw hn) hl) _ _
      (extPin_cellOk M pl n.pins hp).1 (extPin_cellOk M pl n.pins hp).2 i p hp') n.pins hp 0

theorem starBody_adds (pl : List Rat) (ε wt : Rat) (hw : nonneg → 0 ≤ wt) (hε : nonneg → 0 ≤ ε)
    (mn mx : Ext) (sc : Nat) (hsc : sc < M) (i : Nat) (p : Pin) (hp : CellOk M p.1) :
    Adds nonneg M M N (starBody pl ε wt mn mx sc · i p) (starTermQ pl ε wt mn mx sc · i p) := by
  unfold starBody starTermQ
  by_cases h1 : i = mn.i ∨ i = mx.i
  · simp only [h1, if_true]
    exact (addPin_adds p.1 (sc : Int) p.2 0 _ hp (cellOk_nat M sc hsc)
      (fun hn => bipW_nonneg wt ε (pinPos pl p - starPos mn mx) (hw hn))).congr
      (fun x => by rw [pinVal_nat, add_zero])
  · simp only [h1, if_false]
    exact (addPin_adds p.1 (sc : Int) p.2 (pinPos pl p - starPos mn mx) _ hp (cellOk_nat M sc hsc)
      (fun hn => div_rmax_nonneg_left _ (hw hn) (hε hn))).congr
      (fun x => by rw [pinVal_nat])

theorem lightStarBody_adds (pl : List Rat) (ε wt wb : Rat) (hw : nonneg → 0 ≤ wt)
    (hwb : nonneg → 0 ≤ wb) (hε : nonneg → 0 ≤ ε)
    (mn mx : Ext) (sc : Nat) (hsc : sc < M) (i : Nat) (p : Pin) (hp : CellOk M p.1) :
    Adds nonneg M M N (lightStarBody pl ε wt wb mn mx sc · i p) (lightStarTermQ pl ε wt wb mn mx sc · i p) := by
  unfold lightStarBody lightStarTermQ
  by_cases h1 : i = mn.i ∨ i = mx.i
  · simp only [h1, if_true]
    exact (addPin_adds p.1 (sc : Int) p.2 0 _ hp (cellOk_nat M sc hsc)
      (fun hn => bipW_nonneg wt ε (pinPos pl p - starPos mn mx) (hw hn))).congr
      (fun x => by rw [pinVal_nat, add_zero])
  · simp only [h1, if_false]
    exact (addPin_adds p.1 (sc : Int) p.2 (pinPos pl p - starPos mn mx) _ hp (cellOk_nat M sc hsc)
      (fun hn => add_nonneg (div_rmax_nonneg_left _ (hwb hn) (hε hn))
        (div_rmax_nonneg_left _ (hwb hn) (hε hn)))).congr
      (fun x => by rw [pinVal_nat])

theorem addBipoint_adds (pl : List Rat) (ε : Rat) (n : Net)
    (hw : nonneg → 0 ≤ n.weight) (hp : ∀ p ∈ n.pins, CellOk M p.1) :
    Adds nonneg M M N (addBipoint pl ε · n) (bipTerm pl ε · n) := by
  unfold addBipoint bipTerm
  rcases hpins : n.pins with _ | ⟨p0, _ | ⟨p1, rest⟩⟩
  · exact Adds.skip
  · exact Adds.skip
  · exact addPin_adds p0.1 p1.1 p0.2 p1.2 _ (hp p0 (by simp [hpins])) (hp p1 (by simp [hpins]))
      (fun hn => bipW_nonneg _ ε _ (hw hn))

theorem addBipoint0_adds (n : Net)
    (hw : nonneg → 0 ≤ n.weight) (hp : ∀ p ∈ n.pins, CellOk M p.1) :
    Adds nonneg M M N (addBipoint0 · n) (bipointQ · n.weight n.pins) := by
  unfold addBipoint0
  rcases hpins : n.pins with _ | ⟨p0, _ | ⟨p1, rest⟩⟩
  · exact Adds.skip
  · exact Adds.skip
  · exact addPin_adds p0.1 p1.1 p0.2 p1.2 _ (hp p0 (by simp [hpins])) (hp p1 (by simp [hpins])) hw

theorem auxSize_of_le {m : Mode} {n : Net} (h : n.pins.length ≤ 2) (M : Nat) :
    (if usesAux m n then M + 1 else M) = M := by
  have : ¬ 2 < n.pins.length := Nat.not_lt.2 h
  cases m <;> simp [usesAux, this]

theorem auxSize_of_gt {m : Mode} {n : Net} (hm : m = .star0 ∨ m = .star ∨ m = .lightStar)
    (h : ¬ n.pins.length ≤ 2) (M : Nat) : (if usesAux m n then M + 1 else M) = M + 1 := by
  have : 2 < n.pins.length := Nat.lt_of_not_le h
  rcases hm with rfl | rfl | rfl <;> simp [usesAux, this]

/-- A net with an auxiliary unknown: `addCell`, then one loop over the pins. -/
theorem auxLoop_st (init : Rat) (pins : List Pin)
    {f : Sys → Nat → Pin → Sys} {g : (Nat → Rat) → Nat → Pin → Rat}
    (hf : ∀ i p, CellOk (M + 1) p.1 → Adds nonneg (M + 1) (M + 1) N (f · i p) (g · i p))
    (hp : ∀ p ∈ pins, CellOk M p.1) (h : St nonneg M N s Q) :
    St nonneg (M + 1) N (loopIdx f (addCell s init) 0 pins) (fun x => Q x + sumIdx (g x) 0 pins) :=
  Adds.loopIdx hf pins (fun p hq => cellOk_mono (Nat.le_succ M) (hp p hq)) 0 _ Q (addCell_st init h)

theorem addStar_adds (pl : List Rat) (ε : Rat) (n : Net)
    (hε : nonneg → 2 < n.pins.length → 0 ≤ ε) (hw : nonneg → 0 ≤ n.weight)
    (hp : ∀ p ∈ n.pins, CellOk M p.1) :
    Adds nonneg M (if usesAux .star n then M + 1 else M) N (addStar pl ε · n) (starNetQ pl ε · M n) := by
  intro s Q h
  have hM : s.matSize = M := h.2.1
  unfold addStar starNetQ
  by_cases hl : n.pins.length ≤ 2
  · simp only [if_pos hl, auxSize_of_le hl]
    exact addBipoint_adds pl ε n hw hp s Q h
  · simp only [if_neg hl, auxSize_of_gt (Or.inr (Or.inl rfl)) hl, hM]
    exact auxLoop_st _ n.pins (fun i p hp' => starBody_adds pl ε n.weight hw
      (fun hn => hε hn (Nat.lt_of_not_le hl)) _ _ M (Nat.lt_succ_self M) i p hp') hp h

theorem addLightStar_adds (pl : List Rat) (ε : Rat) (n : Net)
    (hε : nonneg → 2 < n.pins.length → 0 ≤ ε) (hw : nonneg → 0 ≤ n.weight)
    (hp : ∀ p ∈ n.pins, CellOk M p.1) :
    Adds nonneg M (if usesAux .lightStar n then M + 1 else M) N (addLightStar pl ε · n)
      (lightStarNetQ pl ε · M n) := by
  intro s Q h
  have hM : s.matSize = M := h.2.1
  unfold addLightStar lightStarNetQ
  by_cases hl : n.pins.length ≤ 2
  · simp only [if_pos hl, auxSize_of_le hl]
    exact addBipoint_adds pl ε n hw hp s Q h
  · have hl' : 2 < n.pins.length := Nat.lt_of_not_le hl
    simp only [if_neg hl, auxSize_of_gt (Or.inr (Or.inr rfl)) hl, hM]
    exact auxLoop_st _ n.pins (fun i p hp' => lightStarBody_adds pl ε n.weight (b2bW n) hw
      (fun hn => b2bW_nonneg n (hw hn) (Nat.le_of_lt (Nat.lt_of_succ_lt hl'))) (fun hn => hε hn hl')
      _ _ M (Nat.lt_succ_self M) i p hp') hp h

theorem sumIdx_star (x : Nat → Rat) (w : Rat) (sv : Nat) (ps : List Pin) (i : Nat) :
    sumIdx (fun _ p => w * sq (pinVal x p - x sv)) i ps = starQ x w sv ps := by
  induction ps generalizing i with
  | nil => rfl
  | cons q qs ih => simp only [sumIdx, starQ, ih]

theorem addStar0_adds (n : Net)
    (hw : nonneg → 0 ≤ n.weight) (hp : ∀ p ∈ n.pins, CellOk M p.1) :
    Adds nonneg M (if usesAux .star0 n then M + 1 else M) N (addStar0 · n) (netQ0 · M n) := by
  intro s Q h
  have hM : s.matSize = M := h.2.1
  unfold addStar0 netQ0
  by_cases hl : n.pins.length ≤ 2
  · simp only [if_pos hl, auxSize_of_le hl]
    exact addBipoint0_adds n hw hp s Q h
  · simp only [if_neg hl, auxSize_of_gt (Or.inl rfl) hl, hM]
    exact (auxLoop_st 0 n.pins (f := star0Body M (n.weight / (n.pins.length : Rat)))
      (g := fun x _ p => n.weight / (n.pins.length : Rat) * sq (pinVal x p - x M))
      (fun _ p hp' => (addPin_adds p.1 (M : Int) p.2 0 _ hp' (cellOk_nat _ M (Nat.lt_succ_self M))
        (fun hn => div_nonneg (hw hn) (Nat.cast_nonneg _))).congr (fun x => by rw [pinVal_nat, add_zero]))
      hp h).congr (fun x => by rw [sumIdx_star])

/-- `ε` enters the sign of a stiffness only through the inner springs `w / max ε (…)` of a star or
light-star net that has an auxiliary unknown; everywhere else `ε` is compared with an absolute value. -/
theorem addNetModel_adds (m : Mode) (pl : List Rat) (ε : Rat) (n : Net)
    (hε : nonneg → m = .star ∨ m = .lightStar → 2 < n.pins.length → 0 ≤ ε)
    (hw : nonneg → 0 ≤ n.weight) (hp : ∀ p ∈ n.pins, CellOk M p.1) :
    Adds nonneg M (if usesAux m n then M + 1 else M) N (addNetModel m pl ε · n) (netQ m pl ε · M n) := by
  cases m with
  | star0 => exact addStar0_adds n hw hp
  | b2b => exact addB2B_adds pl ε n hw hp
  | star => exact addStar_adds pl ε n (fun hn => hε hn (Or.inl rfl)) hw hp
  | clique => exact addClique_adds pl ε n hw hp
  | lightStar => exact addLightStar_adds pl ε n (fun hn => hε hn (Or.inr rfl)) hw hp

theorem foldl_model_adds (m : Mode) (N : Nat) (pl : List Rat) (ε : Rat) (nets : List Net) :
    ∀ (M : Nat), N ≤ M →
      (nonneg → m = .star ∨ m = .lightStar → ∀ n ∈ nets, 2 < n.pins.length → 0 ≤ ε) →
      (∀ n ∈ nets, NetOk N n ∧ (nonneg → 0 ≤ n.weight)) →
      ∃ M', N ≤ M' ∧ Adds nonneg M M' N (nets.foldl (addNetModel m pl ε)) (QModel m pl ε · M nets) := by
  induction nets with
  | nil => intro M hle _ _; exact ⟨M, hle, Adds.skip⟩
  | cons n ns ih =>
    intro M hle hε hn
    have hn0 := hn n (List.mem_cons_self ..)
    obtain ⟨M', hle', h2⟩ := ih (if usesAux m n then M + 1 else M) (by split <;> omega)
      (fun hnn hm k hk => hε hnn hm k (List.mem_cons_of_mem _ hk))
      (fun k hk => hn k (List.mem_cons_of_mem _ hk))
    exact ⟨M', hle', (addNetModel_adds m pl ε n (fun hnn hm => hε hnn hm n (List.mem_cons_self ..)) hn0.2
      (netOk_cellOk hle hn0.1)).comp h2⟩

theorem penaltyBody_adds (pl : List Rat) (pen : Penalty)
    (hpen : nonneg → ∀ i, 0 ≤ pen.strength.getD i 0) (i : Nat) (hi : i < M) :
    Adds nonneg M M N (penaltyBody pl pen · i)
      (fun x => (pen.strength.getD i 0 / rmax (rabs (pl.getD i 0 - pen.target.getD i 0)) pen.cutoff)
        * sq (x i - pen.target.getD i 0)) := by
  rintro s Q ⟨hinv, rfl, hn⟩
  exact ⟨(addFixedPin_inv i 0 (pen.target.getD i 0) _ hi
    (fun hnn => div_rmax_nonneg_left _ (hpen hnn i) (rabs_nonneg _)) hinv).congr
    (fun x => by rw [add_zero]), rfl, hn⟩

theorem foldl_penalty_adds (pl : List Rat) (pen : Penalty)
    (hpen : nonneg → ∀ i, 0 ≤ pen.strength.getD i 0) (k : Nat) (hk : k ≤ M) :
    Adds nonneg M M N ((List.range k).foldl (penaltyBody pl pen)) (penSum pl pen · k) := by
  induction k with
  | zero => exact Adds.skip
  | succ j ih =>
    simp only [List.range_succ, List.foldl_append]
    exact (ih (Nat.le_of_succ_le hk)).comp (penaltyBody_adds pl pen hpen j hk)

theorem assembleNets_asm (m : Mode) (nb : Nat) (nets : List Net) (pl : List Rat) (ε : Rat)
    (pen : Option Penalty)
    (hε : nonneg → m = .star ∨ m = .lightStar → ∀ n ∈ nets, 2 < n.pins.length → 0 ≤ ε)
    (hpen : nonneg → PenaltyOk pen) (hn : ∀ n ∈ nets, NetOk nb n ∧ (nonneg → 0 ≤ n.weight)) :
    AsmInv nonneg (assembleNets m nb nets pl ε pen)
      (fun x => QModel m pl ε x nb nets + penQ pl pen nb x) := by
  obtain ⟨M', hle, h⟩ := foldl_model_adds m nb pl ε nets nb (Nat.le_refl _) hε hn
  have h : St nonneg M' nb (create m nb nets pl ε) (fun x => QModel m pl ε x nb nets) :=
    (h _ _ ⟨init_inv nb, Nat.add_zero nb, rfl⟩).congr (fun x => zero_add _)
  unfold assembleNets
  cases pen with
  | none => exact h.1.congr (fun x => (add_zero _).symm)
  | some p =>
    show AsmInv nonneg ((List.range (create m nb nets pl ε).nbCells).foldl (penaltyBody pl p) _) _
    rw [h.2.2]
    exact (foldl_penalty_adds pl p (fun hnn => hpen hnn p rfl) nb hle _ _ h).1

theorem assembleNets_inv (m : Mode) (nb : Nat) (nets : List Net) (pl : List Rat) (ε : Rat)
    (hε : m = .star ∨ m = .lightStar → ∀ n ∈ nets, 2 < n.pins.length → 0 ≤ ε)
    (pen : Option Penalty) (hpen : PenaltyOk pen)
    (hn : ∀ n ∈ nets, NetOk nb n ∧ 0 ≤ n.weight) :
    Inv (assembleNets m nb nets pl ε pen) (fun x => QModel m pl ε x nb nets + penQ pl pen nb x) :=
  (assembleNets_asm m nb nets pl ε pen (fun _ => hε) (fun _ => hpen)
    (fun n h => ⟨(hn n h).1, fun _ => (hn n h).2⟩)).inv

theorem assembleNets_fin (m : Mode) (nb : Nat) (nets : List Net) (pl : List Rat) (ε : Rat)
    (pen : Option Penalty) (hn : ∀ n ∈ nets, NetOk nb n) : FinInv (assembleNets m nb nets pl ε pen) :=
  (assembleNets_asm (nonneg := False) m nb nets pl ε pen False.elim False.elim
    (fun n h => ⟨hn n h, False.elim⟩)).toFinInv

theorem QModel_star0 (pl : List Rat) (ε : Rat) (x : Nat → Rat) (nets : List Net) :
    ∀ sv, QModel .star0 pl ε x sv nets = Q0 x sv nets := by
  induction nets with
  | nil => intro sv; rfl
  | cons n ns ih =>
    intro sv
    simp only [QModel, Q0, netQ, ih]
    by_cases hl : n.pins.length ≤ 2
    · rw [auxSize_of_le hl, if_pos hl]
    · rw [auxSize_of_gt (Or.inl rfl) hl, if_neg hl]

theorem QModel_twoPin (m : Mode) (hm : m = .star ∨ m = .lightStar) (pl : List Rat) (ε : Rat) (x : Nat → Rat)
    (nets : List Net) (h2 : ∀ n ∈ nets, n.pins.length ≤ 2) :
    ∀ sv, QModel m pl ε x sv nets = QBip pl ε x nets := by
  induction nets with
  | nil => intro sv; rfl
  | cons n ns ih =>
    intro sv
    have hl := h2 n (List.mem_cons_self ..)
    simp only [QModel, QBip, auxSize_of_le hl, ih (fun k hk => h2 k (List.mem_cons_of_mem _ hk))]
    rcases hm with rfl | rfl
    · rw [netQ, starNetQ, if_pos hl]
    · rw [netQ, lightStarNetQ, if_pos hl]

theorem assembleNets_star0_inv (nb : Nat) (nets : List Net) (pl : List Rat) (ε : Rat)
    (hn : ∀ n ∈ nets, NetOk nb n ∧ 0 ≤ n.weight) :
    Inv (assembleNets .star0 nb nets pl ε none) (fun x => Q0 x nb nets) :=
  (assembleNets_inv .star0 nb nets pl ε (fun hm => absurd hm (by decide)) none (fun _ hp => nomatch hp) hn).congr
    (fun x => by rw [QModel_star0]; exact add_zero _)

theorem assembleNets_twoPin_inv (m : Mode) (hm : m = .star ∨ m = .lightStar) (nb : Nat) (nets : List Net)
    (pl : List Rat) (ε : Rat) (hn : ∀ n ∈ nets, NetOk nb n ∧ 0 ≤ n.weight ∧ n.pins.length ≤ 2) :
    Inv (assembleNets m nb nets pl ε none) (fun x => QBip pl ε x nets) :=
  (assembleNets_inv m nb nets pl ε (fun _ n h hl => absurd hl (Nat.not_lt.2 (hn n h).2.2)) none
    (fun _ hp => nomatch hp) (fun n h => ⟨(hn n h).1, (hn n h).2.1⟩)).congr
    (fun x => by rw [QModel_twoPin m hm pl ε x _ (fun n h => (hn n h).2.2)]; exact add_zero _)

theorem clique_two_pin (pl : List Rat) (ε : Rat) (x : Nat → Rat) (w : Rat) (p0 p1 : Pin) :
    cliqueQ pl ε x ⟨w, [p0, p1]⟩ = bipTerm pl ε x ⟨w, [p0, p1]⟩ := by
  simp only [cliqueQ, cliqueGoQ, cliqueInnerQ, bipTerm, bipointQ, cliqueW, List.length_cons, List.length_nil]
  norm_num

theorem star_two_pin (pl : List Rat) (ε : Rat) (x : Nat → Rat) (sv : Nat) (w : Rat) (p0 p1 : Pin) :
    starNetQ pl ε x sv ⟨w, [p0, p1]⟩ = bipTerm pl ε x ⟨w, [p0, p1]⟩ :=
  if_pos (Nat.le_refl 2)

theorem lightStar_two_pin (pl : List Rat) (ε : Rat) (x : Nat → Rat) (sv : Nat) (w : Rat) (p0 p1 : Pin) :
    lightStarNetQ pl ε x sv ⟨w, [p0, p1]⟩ = bipTerm pl ε x ⟨w, [p0, p1]⟩ :=
  if_pos (Nat.le_refl 2)

theorem rabs_neg (a : Rat) : rabs (-a) = rabs a := by
  unfold rabs
  rcases lt_trichotomy a 0 with h | rfl | h
  · rw [if_neg (by linarith), if_pos h]
  · rfl
  · rw [if_pos (by linarith), if_neg (by linarith), neg_neg]

theorem rabs_neg_sub (a b : Rat) : rabs (a - b) = rabs (b - a) := by
  rw [← neg_sub b a, rabs_neg]

theorem sq_neg_sub (a b : Rat) : sq (a - b) = sq (b - a) := by unfold sq; ring

theorem b2bW_pair (w : Rat) (p0 p1 : Pin) : b2bW ⟨w, [p0, p1]⟩ = w := by
  show w / (((2 : Int) - 1 : Int) : Rat) = w
  norm_num

theorem b2bQ_pair (pl : List Rat) (ε : Rat) (x : Nat → Rat) (w : Rat) (p0 p1 : Pin) :
    b2bQ pl ε x ⟨w, [p0, p1]⟩
      = b2bTermQ pl ε w (minPin pl [p0, p1]) (maxPin pl [p0, p1]) x 0 p0
        + b2bTermQ pl ε w (minPin pl [p0, p1]) (maxPin pl [p0, p1]) x 1 p1 := by
  unfold b2bQ
  rw [b2bW_pair]
  exact congrArg _ (add_zero _)

theorem b2b_two_pin_distinct (pl : List Rat) (ε : Rat) (x : Nat → Rat) (w : Rat) (p0 p1 : Pin)
    (hne : pinPos pl p0 ≠ pinPos pl p1) :
    b2bQ pl ε x ⟨w, [p0, p1]⟩ = bipTerm pl ε x ⟨w, [p0, p1]⟩ := by
  rw [b2bQ_pair]
  simp only [minPin, maxPin, extGo, minStep, maxStep, bipTerm, bipointQ]
  rcases lt_or_gt_of_ne hne with hlt | hgt
  · -- `p0` is the minimum, `p1` the maximum: only `p1` contributes, tied to `p0`
    rw [if_neg (not_lt.2 hlt.le), if_pos hlt]
    simp only [b2bTermQ, if_true, Nat.one_ne_zero, if_false, add_zero, zero_add]
    rw [rabs_neg_sub, sq_neg_sub]
  · -- `p1` is the minimum, `p0` the maximum: only `p0` contributes, tied to `p1`
    rw [if_pos hgt, if_neg (not_lt.2 hgt.le)]
    simp only [b2bTermQ, if_true, Nat.zero_ne_one, if_false, add_zero]

/-- B2B on a two-pin net whose pins *coincide* in `pl`: minimum and maximum pin are both pin 0, and
pin 1 is tied to it twice — the net pulls with twice the stiffness of the other models (still
proportional to its weight). -/
theorem b2b_two_pin_coincident (pl : List Rat) (ε : Rat) (x : Nat → Rat) (w : Rat) (p0 p1 : Pin)
    (heq : pinPos pl p0 = pinPos pl p1) :
    b2bQ pl ε x ⟨w, [p0, p1]⟩ = 2 * bipTerm pl ε x ⟨w, [p0, p1]⟩ := by
  rw [b2bQ_pair]
  simp only [minPin, maxPin, extGo, minStep, maxStep, bipTerm, bipointQ]
  rw [if_neg (heq ▸ lt_irrefl _), if_neg (heq ▸ lt_irrefl _)]
  simp only [b2bTermQ, if_true, Nat.one_ne_zero, if_false, zero_add]
  rw [rabs_neg_sub, sq_neg_sub, two_mul]

end ColoVerif.NetAsm
