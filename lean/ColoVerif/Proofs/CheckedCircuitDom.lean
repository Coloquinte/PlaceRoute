import ColoVerif.Proofs.CheckedCores
import ColoVerif.Proofs.C09Hpwl
import ColoVerif.Proofs.CheckedPinOffset
/-
The circuit-level C07 domain `CircuitOk` (cells within ±2^22 with sizes in [0, 2^22], pin offsets within
±2^22, at most 2^31 nets), and `pinXOffset`/`pinYOffset` without fault on it.
-/
namespace ColoVerif.Checked
open ColoVerif

/-- a pin of the C07 domain: raw offsets within ±2^22 -/
def PinOk (p : Pin) : Prop := -M22 ≤ p.xo ∧ p.xo ≤ M22 ∧ -M22 ≤ p.yo ∧ p.yo ≤ M22

theorem cellOk_default : CellOk (default : Cell) := by
  unfold CellOk; decide

theorem pinXOffsetC_ok {cl : Cell} {p : Pin} (hc : CellOk cl) (hp : PinOk p) :
    pinXOffsetC cl p = .ok (Circuit.pinXOffset cl p) ∧
    -8388608 ≤ Circuit.pinXOffset cl p ∧ Circuit.pinXOffset cl p ≤ 8388608 :=
  pinXOffsetC_of_bounds (W := M22) (O := M22) (between_mono hc.placed.1) ⟨hp.1, hp.2.1⟩ hp.2.2 (by decide)

theorem pinYOffsetC_ok {cl : Cell} {p : Pin} (hc : CellOk cl) (hp : PinOk p) :
    pinYOffsetC cl p = .ok (Circuit.pinYOffset cl p) ∧
    -8388608 ≤ Circuit.pinYOffset cl p ∧ Circuit.pinYOffset cl p ≤ 8388608 :=
  pinYOffsetC_of_bounds (H := M22) (O := M22) (between_mono hc.placed.2) ⟨hp.1, hp.2.1⟩ hp.2.2 (by decide)

/-- a circuit of the C07 domain, as far as the wirelength models are concerned -/
structure CircuitOk (c : Circuit) : Prop where
  cells : ∀ cl ∈ c.cells, CellOk cl
  pins : ∀ n ∈ c.nets, ∀ p ∈ n.pins, PinOk p
  nets : c.nets.length ≤ 2147483648

theorem CircuitOk.cell {c : Circuit} (h : CircuitOk c) (i : Nat) : CellOk (c.cell i) :=
  c.cell_forall CellOk cellOk_default h.cells i

end ColoVerif.Checked
