import ColoVerif.Model.DetSearch
import ColoVerif.Proofs.DetOptHpwlSync
import ColoVerif.Proofs.DetPlaceLegal
import ColoVerif.Proofs.DetPlaceCan
/-!
The local search passes of Model/DetSearch.lean.  A pass that returns `.ok (q, ops)` yields
`SearchTrace p ops q`: every move of the ghost list `ops` was chosen by the acceptance rule on the placer
it is applied to, is feasible there and is accepted by `Placer.step`, so `p.run ops = .ok q`.
On placements satisfying `Inv`, with `nbNeighbours ≥ 0`, the windowed passes, the one-row sweep of
`runSwaps` and the whole of `runInserts` return no error and keep `SweepInv` (`Inv`, and the rows and cells of the
placement the sweep started from); the amplified two-row swap pass (fuel) is in Proofs/DetSearchTotal.lean.
-/
namespace ColoVerif.DetPlace
open State

theorem scan_mem {cur : Int} {eval : Int → Option Int} {cands : List Int} {best : Option Int} {b : Int}
    (e : scan cur eval cands best = some b) : best = some b ∨ b ∈ cands := by
  induction cands generalizing best with
  | nil => exact .inl e
  | cons cand rest ih =>
    have tail : b ∈ rest → best = some b ∨ b ∈ cand :: rest := fun h => .inr (List.mem_cons_of_mem _ h)
    unfold scan at e
    split at e
    · split at e
      · exact (ih e).elim (fun h => .inr (Option.some.inj h ▸ List.mem_cons_self)) tail
      · exact (ih e).elim .inl tail
    · exact (ih e).elim .inl tail

theorem bestSwapChoice_mem {p : Placer} {c b : Int} {cands : List Int}
    (h : p.bestSwapChoice c cands = some b) : b ∈ cands :=
  (scan_mem h).resolve_left nofun

theorem bestInsertChoice_mem {p : Placer} {c r b : Int} {cands : List Int}
    (h : p.bestInsertChoice c r cands = some b) : b ∈ cands :=
  (scan_mem h).resolve_left nofun

theorem bestSwapChoice_improves {p : Placer} {c b : Int} {cands : List Int}
    (h : p.bestSwapChoice c cands = some b) : ∃ v, (p.valueOnSwap c b).1 = some v ∧ v < p.value :=
  scan_some (best := none) nofun h b rfl

theorem bestInsertChoice_improves {p : Placer} {c r b : Int} {cands : List Int}
    (h : p.bestInsertChoice c r cands = some b) : ∃ v, (p.valueOnInsert c r b).1 = some v ∧ v < p.value :=
  scan_some (best := none) nofun h b rfl

theorem bestSwapChoice_canSwap {p : Placer} {c b : Int} {cands : List Int}
    (h : p.bestSwapChoice c cands = some b) : p.pl.canSwap c b = .ok true := by
  obtain ⟨v, hv, _⟩ := bestSwapChoice_improves h
  unfold Placer.valueOnSwap at hv
  split at hv
  · assumption
  · cases hv

theorem bestInsertChoice_canInsert {p : Placer} {c r b : Int} {cands : List Int}
    (h : p.bestInsertChoice c r cands = some b) : p.pl.canInsert c r b = .ok true := by
  obtain ⟨v, hv, _⟩ := bestInsertChoice_improves h
  unfold Placer.valueOnInsert at hv
  split at hv
  · assumption
  · cases hv

/-- a sequence of primitive moves of the local search: every move was chosen by the acceptance rule
among some candidates on the placer it is applied to, is feasible there and is accepted by `step` -/
inductive SearchTrace : Placer → List Op → Placer → Prop
  | nil (p : Placer) : SearchTrace p [] p
  | swap {p p' q : Placer} {ops : List Op} (k b : Int) (cands : List Int) :
      p.bestSwapChoice k cands = some b → p.pl.canSwap k b = .ok true →
      p.step (.swap k b) = .ok p' → SearchTrace p' ops q → SearchTrace p (.swap k b :: ops) q
  | insert {p p' q : Placer} {ops : List Op} (k r b : Int) (cands : List Int) :
      p.bestInsertChoice k r cands = some b → p.pl.canInsert k r b = .ok true →
      p.step (.insert k r b) = .ok p' → SearchTrace p' ops q → SearchTrace p (.insert k r b :: ops) q

theorem SearchTrace.append {p q r : Placer} {ops ops' : List Op}
    (h : SearchTrace p ops q) (h' : SearchTrace q ops' r) : SearchTrace p (ops ++ ops') r := by
  induction h with
  | nil _ => exact h'
  | swap k b cands hc hf hs _ ih => exact .swap k b cands hc hf hs (ih h')
  | insert k r b cands hc hf hs _ ih => exact .insert k r b cands hc hf hs (ih h')

theorem SearchTrace.run {p q : Placer} {ops : List Op} (h : SearchTrace p ops q) : p.run ops = .ok q := by
  induction h with
  | nil _ => rfl
  | swap k b cands _ _ hs _ ih => simp only [Placer.run, hs, ih]
  | insert k r b cands _ _ hs _ ih => simp only [Placer.run, hs, ih]

theorem SearchTrace.one_swap {p q : Placer} {k b : Int} {cands : List Int}
    (hc : p.bestSwapChoice k cands = some b) (hs : p.step (.swap k b) = .ok q) :
    SearchTrace p [.swap k b] q :=
  .swap k b cands hc (bestSwapChoice_canSwap hc) hs (.nil q)

theorem SearchTrace.one_insert {p q : Placer} {k r b : Int} {cands : List Int}
    (hc : p.bestInsertChoice k r cands = some b) (hs : p.step (.insert k r b) = .ok q) :
    SearchTrace p [.insert k r b] q :=
  .insert k r b cands hc (bestInsertChoice_canInsert hc) hs (.nil q)

theorem SearchTrace.ops_kind {p q : Placer} {ops : List Op} (h : SearchTrace p ops q) :
    ∀ op ∈ ops, (∃ k b, op = .swap k b) ∨ (∃ k r b, op = .insert k r b) := by
  induction h with
  | nil _ => intro op hop; cases hop
  | swap k b cands _ _ _ _ ih =>
    intro op hop
    rcases List.mem_cons.1 hop with rfl | hop
    · exact .inl ⟨k, b, rfl⟩
    · exact ih op hop
  | insert k r b cands _ _ _ _ ih =>
    intro op hop
    rcases List.mem_cons.1 hop with rfl | hop
    · exact .inr ⟨k, r, b, rfl⟩
    · exact ih op hop

/-- a pass from `p` that returns normally returns a trace of its ghost list -/
def Traced (p : Placer) (x : Pass) : Prop := ∀ r, x = .ok r → SearchTrace p r.2 r.1

theorem traced_error (p : Placer) (e : Err) : Traced p (.error e) := fun _ h => nomatch h

theorem traced_nil (p : Placer) : Traced p (.ok (p, [])) := by
  intro r h; cases h; exact .nil p

theorem andThen_traced {p : Placer} {x : Pass} {f : Placer → Pass}
    (hx : Traced p x) (hf : ∀ q, Traced q (f q)) : Traced p (x.andThen f) := by
  intro r h
  unfold Pass.andThen at h
  split at h
  · cases h
  · rename_i r1
    split at h
    · cases h
    · rename_i r2 e2
      cases h
      exact (hx r1 rfl).append (hf r1.1 r2 e2)

theorem loopOps_cons {α : Type} (body : Placer → α → Pass) (p : Placer) (a : α) (as : List α) :
    loopOps body p (a :: as) = (body p a).andThen fun q => loopOps body q as := rfl

theorem loopOps_traced {α : Type} {body : Placer → α → Pass}
    (hb : ∀ q a, Traced q (body q a)) (p : Placer) (as : List α) : Traced p (loopOps body p as) := by
  induction as generalizing p with
  | nil => exact traced_nil p
  | cons a rest ih => exact loopOps_cons body p a rest ▸ andThen_traced (hb p a) ih

theorem bestSwap_traced (p : Placer) (c : Int) (cands : List Int) : Traced p (p.bestSwap c cands) := by
  intro r h
  unfold Placer.bestSwap at h
  split at h
  · cases h; exact .nil p
  · rename_i b hc
    split at h
    · cases h
    · rename_i q hs
      cases h
      exact .one_swap hc hs

theorem bestInsert_traced (p : Placer) (c row : Int) (cands : List Int) :
    Traced p (p.bestInsert c row cands) := by
  intro r h
  unfold Placer.bestInsert at h
  split at h
  · cases h; exact .nil p
  · rename_i b hc
    split at h
    · cases h
    · rename_i q hs
      cases h
      exact .one_insert hc hs

/-- `bestSwapUpdate`: a successful round is one chosen swap `c ↔ c'` (the new `c`), and `from` only
changes to the old `c` when the old `from` was the chosen candidate -/
theorem bestSwapUpdate_some {p : Placer} {c from_ nb : Int} {r : Placer × Int × Int × Op}
    (h : p.bestSwapUpdate c from_ nb = .ok (some r)) :
    r.2.2.2 = .swap c r.2.1 ∧ r.2.2.1 = (if r.2.1 = from_ then c else from_) ∧
    p.bestSwapChoice c (p.swapUpdateCands from_ nb) = some r.2.1 ∧
    SearchTrace p [r.2.2.2] r.1 := by
  unfold Placer.bestSwapUpdate at h
  split at h
  · cases h
  · rename_i b hc
    split at h
    · cases h
    · rename_i q hs
      cases h
      exact ⟨rfl, rfl, hc, .one_swap hc hs⟩

theorem bestSwapUpdate_none {p : Placer} {c from_ nb : Int}
    (h : p.bestSwapUpdate c from_ nb = .ok none) :
    p.bestSwapChoice c (p.swapUpdateCands from_ nb) = none := by
  unfold Placer.bestSwapUpdate at h
  split at h
  · assumption
  · split at h <;> cases h

/-- the `while (bestSwapUpdate(...));` loop: its swaps form a trace, and when it stops no candidate
improves any more -/
theorem amplifyInner_spec (k : Nat) (p : Placer) (c from_ nb : Int) (r : Placer × Int × Int × List Op)
    (h : Placer.amplifyInner k p c from_ nb = .ok r) :
    SearchTrace p r.2.2.2 r.1 ∧ r.1.bestSwapChoice r.2.1 (r.1.swapUpdateCands r.2.2.1 nb) = none := by
  induction k generalizing p c from_ r with
  | zero => unfold Placer.amplifyInner at h; cases h
  | succ k ih =>
    unfold Placer.amplifyInner at h
    split at h
    · cases h
    · rename_i e1
      cases h
      exact ⟨.nil p, bestSwapUpdate_none e1⟩
    · rename_i r1 e1
      split at h
      · cases h
      · rename_i r2 e2
        cases h
        exact ⟨(bestSwapUpdate_some e1).2.2.2.append (ih _ _ _ r2 e2).1, (ih _ _ _ r2 e2).2⟩

theorem amplifyInner_stops (k : Nat) (p : Placer) (c from_ nb : Int) (r : Placer × Int × Int × List Op)
    (h : Placer.amplifyInner k p c from_ nb = .ok r) :
    r.1.bestSwapChoice r.2.1 (r.1.swapUpdateCands r.2.2.1 nb) = none :=
  (amplifyInner_spec k p c from_ nb r h).2

theorem amplifyOuter_traced (k : Nat) (p : Placer) (c from_ nb : Int) :
    Traced p (Placer.amplifyOuter k p c from_ nb) := by
  induction k generalizing p c from_ with
  | zero => unfold Placer.amplifyOuter; exact traced_error p _
  | succ k ih =>
    intro r h
    unfold Placer.amplifyOuter at h
    split at h
    · cases h; exact .nil p
    · split at h
      · cases h
      · rename_i r1 e1
        split at h
        · cases h
        · rename_i r2 e2
          cases h
          exact (amplifyInner_spec _ _ _ _ _ _ e1).1.append (ih _ _ _ r2 e2)

theorem runSwapsOneRow_traced (p : Placer) (row nb : Int) : Traced p (p.runSwapsOneRow row nb) := by
  refine loopOps_traced (fun q ic => ?_) _ _
  unfold Placer.swapsOneRowBody
  split
  · exact traced_error q _
  · exact bestSwap_traced q _ _

theorem runInsertsOneRow_traced (p : Placer) (row nb : Int) : Traced p (p.runInsertsOneRow row nb) := by
  refine loopOps_traced (fun q ic => ?_) _ _
  unfold Placer.insertsOneRowBody
  split
  · exact traced_error q _
  · exact bestInsert_traced q _ _ _

theorem runSwapsTwoRows_traced (p : Placer) (r1 r2 nb : Int) : Traced p (p.runSwapsTwoRows r1 r2 nb) := by
  refine loopOps_traced (fun q cc => ?_) _ _
  unfold Placer.swapsTwoRowsBody
  split
  · exact traced_error q _
  · exact bestSwap_traced q _ _

theorem runInsertsTwoRows_traced (p : Placer) (r1 r2 nb : Int) :
    Traced p (p.runInsertsTwoRows r1 r2 nb) := by
  refine loopOps_traced (fun q cc => ?_) _ _
  unfold Placer.insertsTwoRowsBody
  split
  · exact traced_error q _
  · exact bestInsert_traced q _ _ _

theorem runSwapsTwoRowSweeps_traced (p : Placer) (nbRows nbNeighbours : Int) :
    Traced p (p.runSwapsTwoRowSweeps nbRows nbNeighbours) :=
  loopOps_traced (fun _ _ => amplifyOuter_traced _ _ _ _ _) _ _

theorem runSwaps_traced (p : Placer) (nbRows nbNeighbours : Int) :
    Traced p (p.runSwaps nbRows nbNeighbours) :=
  andThen_traced (loopOps_traced (fun q _ => runSwapsOneRow_traced q _ _) _ _)
    (fun q => runSwapsTwoRowSweeps_traced q _ _)

theorem runInserts_traced (p : Placer) (nbRows nbNeighbours : Int) :
    Traced p (p.runInserts nbRows nbNeighbours) :=
  andThen_traced (loopOps_traced (fun q _ => runInsertsOneRow_traced q _ _) _ _)
    (fun _ => loopOps_traced (fun q _ => runInsertsTwoRows_traced q _ _ _) _ _)

theorem runSwaps_trace {p q : Placer} {a b : Int} {ops : List Op}
    (h : p.runSwaps a b = .ok (q, ops)) : SearchTrace p ops q :=
  runSwaps_traced p a b (q, ops) h

theorem runInserts_trace {p q : Placer} {a b : Int} {ops : List Op}
    (h : p.runInserts a b = .ok (q, ops)) : SearchTrace p ops q :=
  runInserts_traced p a b (q, ops) h

theorem runSwapsTwoRowsAmplify_trace {p q : Placer} {r1 r2 nb : Int} {ops : List Op}
    (h : p.runSwapsTwoRowsAmplify r1 r2 nb = .ok (q, ops)) : SearchTrace p ops q :=
  amplifyOuter_traced _ p _ _ nb (q, ops) h

theorem runSwaps_run {p q : Placer} {a b : Int} {ops : List Op}
    (h : p.runSwaps a b = .ok (q, ops)) : p.run ops = .ok q := (runSwaps_trace h).run

theorem runInserts_run {p q : Placer} {a b : Int} {ops : List Op}
    (h : p.runInserts a b = .ok (q, ops)) : p.run ops = .ok q := (runInserts_trace h).run

/-- the invariant between the calls of a sweep that started from the placement `s0`: `Inv`, and the rows, the
cells and their widths are those of `s0` (so the live cells are) -/
structure SweepInv (s0 : State) (p : Placer) : Prop where
  inv : Inv p.pl
  static : Static s0 p.pl

/-- the object between two calls of a pass (search or reordering) that started from `s0`: moreover in sync -/
structure TotalInv (c : Circuit) (s0 : State) (p : Placer) : Prop where
  sync : Sync c p
  sweep : SweepInv s0 p

theorem SweepInv.live {s0 : State} {p : Placer} (h : SweepInv s0 p) {c : Int} (hc : s0.liveCell c = true) :
    p.pl.liveCell c = true := (h.static.liveCell c).trans hc

/-- the invariant of the insertion passes: moreover the entries of the destination snapshot are sites of the
destination row -/
structure RowInv (s0 : State) (dest : List Int) (row : Int) (p : Placer) : Prop where
  sweep : SweepInv s0 p
  sites : ∀ b ∈ dest, Site p.pl row b

theorem bestSwap_ok {s0 : State} {p : Placer} (h : SweepInv s0 p) {c : Int} {cands : List Int}
    (hc : s0.liveCell c = true) (hs : ∀ b ∈ cands, s0.liveCell b = true) :
    ∃ r, p.bestSwap c cands = .ok r ∧ SweepInv s0 r.1 := by
  unfold Placer.bestSwap
  split
  · exact ⟨_, rfl, h⟩
  · rename_i b hch
    obtain ⟨t, e, hi⟩ := step_swap_succeeds h.inv (h.live hc) (h.live (hs b (bestSwapChoice_mem hch)))
      (bestSwapChoice_canSwap hch)
    obtain ⟨q, eq, rfl⟩ := Placer.step_lift e
    rw [eq]
    exact ⟨_, rfl, hi, h.static.trans (static_respects.step e)⟩

theorem bestInsert_ok {s0 : State} {dest : List Int} {row : Int} {p : Placer} (h : RowInv s0 dest row p) {c : Int}
    {cands : List Int} (hc : s0.liveCell c = true) (hs : ∀ b ∈ cands, b ∈ dest) :
    ∃ r, p.bestInsert c row cands = .ok r ∧ RowInv s0 dest row r.1 := by
  unfold Placer.bestInsert
  split
  · exact ⟨_, rfl, h⟩
  · rename_i b hch
    obtain ⟨t, e, hi⟩ := step_insert_succeeds h.sweep.inv (h.sweep.live hc)
      ((siteOk_iff _ _ _).2 (h.sites b (hs b (bestInsertChoice_mem hch)))) (bestInsertChoice_canInsert hch)
    obtain ⟨q, eq, rfl⟩ := Placer.step_lift e
    rw [eq]
    have k := static_respects.step e
    refine ⟨_, rfl, ⟨hi, h.sweep.static.trans k⟩, fun d hd => ⟨validRow_congr k.rows (h.sites d hd).1, ?_⟩⟩
    refine (h.sites d hd).2.imp_right fun h1 => ⟨validCell_congr k.nCells h1.1, ?_⟩
    -- the moved cell lands in the destination row, the others stay
    rw [insert_rows (guard_ok e).2]
    split
    · rfl
    · exact h1.2

theorem andThen_ok {x : Pass} {f : Placer → Pass} {I J : Placer → Prop}
    (hx : ∃ r, x = .ok r ∧ I r.1) (hf : ∀ q, I q → ∃ r, f q = .ok r ∧ J r.1) :
    ∃ r, x.andThen f = .ok r ∧ J r.1 := by
  obtain ⟨r1, e1, h1⟩ := hx
  obtain ⟨r2, e2, h2⟩ := hf r1.1 h1
  refine ⟨(r2.1, r1.2 ++ r2.2), ?_, h2⟩
  unfold Pass.andThen
  simp only [e1, e2]

theorem loopOps_ok {α : Type} {body : Placer → α → Pass} {I : Placer → Prop} {as : List α}
    (hb : ∀ q a, a ∈ as → I q → ∃ r, body q a = .ok r ∧ I r.1) {p : Placer} (hp : I p) :
    ∃ r, loopOps body p as = .ok r ∧ I r.1 := by
  induction as generalizing p with
  | nil => exact ⟨_, rfl, hp⟩
  | cons a rest ih =>
    rw [loopOps_cons]
    exact andThen_ok (hb p a List.mem_cons_self hp)
      fun q hq => ih (fun q a' ha' => hb q a' (List.mem_cons_of_mem _ ha')) hq

theorem mem_zipIdx_map {cells : List Int} {k : Nat} {ic : Int × Int}
    (h : ic ∈ (cells.zipIdx k).map fun ci => (Int.ofNat ci.2, ci.1)) :
    (k : Int) ≤ ic.1 ∧ ic.1 < (k + cells.length : Nat) ∧ ic.2 ∈ cells := by
  obtain ⟨ci, hci, rfl⟩ := List.mem_map.1 h
  obtain ⟨h1, h2, h3⟩ := List.mem_zipIdx (x := ci.1) (i := ci.2) hci
  exact ⟨Int.ofNat_le.2 h1, Int.ofNat_lt.2 h2, h3 ▸ List.getElem_mem _⟩

theorem mem_indexed {cells : List Int} {ic : Int × Int} (h : ic ∈ indexed cells) :
    0 ≤ ic.1 ∧ ic.1 < cells.length ∧ ic.2 ∈ cells := by
  have := mem_zipIdx_map (k := 0) h
  exact ⟨this.1, Nat.zero_add cells.length ▸ this.2.1, this.2.2⟩

theorem mem_indexed_tail {a : Int} {cells : List Int} {ic : Int × Int}
    (h : ic ∈ (indexed (a :: cells)).drop 1) :
    0 ≤ ic.1 ∧ ic.1 < (a :: cells).length ∧ ic.2 ∈ cells := by
  have := mem_zipIdx_map (k := 1) (cells := cells) h
  rw [List.length_cons]
  exact ⟨Int.le_trans (by decide) this.1, Nat.add_comm 1 cells.length ▸ this.2.1, this.2.2⟩

theorem window_ok {cells : List Int} {i nb : Int} (hnb : 0 ≤ nb) (h0 : 0 ≤ i) (h1 : i ≤ cells.length) :
    ∃ cands, window cells i nb = .ok cands ∧ ∀ b ∈ cands, b ∈ cells := by
  unfold window slice
  have : ¬ (max 0 (i - nb) > min (cells.length : Int) (i + nb + 1)) := by omega
  rw [if_neg this]
  exact ⟨_, rfl, fun b hb => List.mem_of_mem_drop (List.mem_of_mem_take hb)⟩

theorem closestGo_lt (s : State) (row2 : List Int) (x : Int) (f k : Nat) (hk : k < row2.length) :
    closestGo s row2 x f k < row2.length := by
  induction f generalizing k with
  | zero => exact hk
  | succ f ih =>
    unfold closestGo
    split
    · exact hk
    · split
      · exact hk
      · exact ih (k + 1) (Nat.lt_of_le_of_ne hk ‹_›)

theorem closestAll_lt (s : State) (row2 : List Int) (k : Nat) (row1 : List Int) (hk : k < row2.length) :
    ∀ v ∈ closestAll s row2 k row1, 0 ≤ v ∧ v < (row2.length : Int) := by
  induction row1 generalizing k with
  | nil => nofun
  | cons c1 rest ih =>
    unfold closestAll
    have hlt := closestGo_lt s row2 (s.x c1) row2.length k hk
    exact List.forall_mem_cons.2 ⟨⟨Int.natCast_nonneg _, Int.ofNat_lt.2 hlt⟩, ih _ hlt⟩

theorem computeClosestIndexInRow_le (s : State) (row1 row2 : List Int) :
    ∀ v ∈ s.computeClosestIndexInRow row1 row2, 0 ≤ v ∧ v ≤ (row2.length : Int) := by
  intro v hv
  unfold computeClosestIndexInRow at hv
  split at hv
  · rw [List.eq_of_mem_replicate hv]
    exact ⟨Int.le_refl _, Int.natCast_nonneg _⟩
  · rename_i hne
    have := closestAll_lt s row2 0 row1 (List.length_pos_iff.2 hne) v hv
    omega

theorem live_of_inRow {s : State} (h : Inv s) {r k : Int} (hr : r ≠ -1) (vk : s.validCell k) (rk : s.row k = r) :
    s.liveCell k = true :=
  (liveCell_iff _ _).2 ⟨vk, ((h.cell vk).2 (rk ▸ hr)).1⟩

theorem rowCells_live {s : State} (h : Inv s) {r : Int} (hr : s.validRow r) :
    ∀ c ∈ s.rowCells r, s.liveCell c = true ∧ s.row c = r := by
  intro c hc
  obtain ⟨vc, hrow⟩ := ((rowCells_spec h hr).1 c).1 hc
  exact ⟨live_of_inRow h (validRow_ne hr) vc hrow, hrow⟩

/-- the snapshot of a row of the current placement: its cells are live in `s0` too -/
theorem SweepInv.snapshot_live {s0 : State} {p : Placer} (h : SweepInv s0 p) {r : Int} (hr : s0.validRow r) :
    ∀ c ∈ p.pl.rowCells r, s0.liveCell c = true := fun c hc =>
  (h.static.liveCell c).symm.trans (rowCells_live h.inv (validRow_congr h.static.rows hr) c hc).1

theorem SweepInv.snapshot_site {s0 : State} {p : Placer} (h : SweepInv s0 p) {r : Int} (hr : s0.validRow r) :
    ∀ b ∈ -1 :: p.pl.rowCells r, Site p.pl r b :=
  have hr' := validRow_congr h.static.rows hr
  List.forall_mem_cons.2 ⟨⟨hr', .inl rfl⟩, fun b hb =>
    have := rowCells_live h.inv hr' b hb
    ⟨hr', .inr ⟨((liveCell_iff _ _).1 this.1).1, this.2⟩⟩⟩

theorem runSwapsOneRow_ok {s0 : State} {p : Placer} (h : SweepInv s0 p) {row nb : Int} (hr : s0.validRow row)
    (hnb : 0 ≤ nb) : ∃ r, p.runSwapsOneRow row nb = .ok r ∧ SweepInv s0 r.1 := by
  have live := h.snapshot_live hr
  refine loopOps_ok (fun q ic hic hq => ?_) h
  obtain ⟨h0, h1, h2⟩ := mem_indexed hic
  obtain ⟨cands, ew, hs⟩ := window_ok hnb h0 (Int.le_of_lt h1)
  unfold Placer.swapsOneRowBody
  rw [ew]
  exact bestSwap_ok hq (live _ h2) fun b hb => live b (hs b hb)

theorem runSwapsTwoRows_ok {s0 : State} {p : Placer} (h : SweepInv s0 p) {r1 r2 nb : Int} (hr1 : s0.validRow r1)
    (hr2 : s0.validRow r2) (hnb : 0 ≤ nb) : ∃ r, p.runSwapsTwoRows r1 r2 nb = .ok r ∧ SweepInv s0 r.1 := by
  refine loopOps_ok (fun q cc hcc hq => ?_) h
  have hm := List.of_mem_zip (a := cc.1) (b := cc.2) hcc
  obtain ⟨h0, h1⟩ := computeClosestIndexInRow_le _ _ _ _ hm.2
  obtain ⟨cands, ew, hs⟩ := window_ok hnb h0 h1
  unfold Placer.swapsTwoRowsBody
  rw [ew]
  exact bestSwap_ok hq (h.snapshot_live hr1 _ hm.1) fun b hb => h.snapshot_live hr2 b (hs b hb)

theorem runInsertsOneRow_ok {s0 : State} {p : Placer} (h : SweepInv s0 p) {row nb : Int} (hr : s0.validRow row)
    (hnb : 0 ≤ nb) : ∃ r, p.runInsertsOneRow row nb = .ok r ∧ SweepInv s0 r.1 := by
  refine (loopOps_ok (I := RowInv s0 (-1 :: p.pl.rowCells row) row) (fun q ic hic hq => ?_)
    ⟨h, h.snapshot_site hr⟩).imp fun r hr => ⟨hr.1, hr.2.sweep⟩
  obtain ⟨h0, h1, h2⟩ := mem_indexed_tail hic
  obtain ⟨cands, ew, hs⟩ := window_ok hnb h0 (Int.le_of_lt h1)
  unfold Placer.insertsOneRowBody
  rw [ew]
  exact bestInsert_ok hq (h.snapshot_live hr _ h2) hs

theorem runInsertsTwoRows_ok {s0 : State} {p : Placer} (h : SweepInv s0 p) {r1 r2 nb : Int} (hr1 : s0.validRow r1)
    (hr2 : s0.validRow r2) (hnb : 0 ≤ nb) : ∃ r, p.runInsertsTwoRows r1 r2 nb = .ok r ∧ SweepInv s0 r.1 := by
  refine (loopOps_ok (I := RowInv s0 (-1 :: p.pl.rowCells r2) r2) (fun q cc hcc hq => ?_)
    ⟨h, h.snapshot_site hr2⟩).imp fun r hr => ⟨hr.1, hr.2.sweep⟩
  have hm := List.of_mem_zip (a := cc.1) (b := cc.2) hcc
  obtain ⟨h0, h1⟩ := computeClosestIndexInRow_le _ _ _ _ hm.2
  obtain ⟨cands, ew, hs⟩ := window_ok hnb h0 h1
  unfold Placer.insertsTwoRowsBody
  rw [ew]
  exact bestInsert_ok hq (h.snapshot_live hr1 _ hm.1) hs

theorem runSwapsTwoRows_no_error {p : Placer} (h : Inv p.pl) {r1 r2 nb : Int} (hr1 : p.pl.validRow r1)
    (hr2 : p.pl.validRow r2) (hnb : 0 ≤ nb) :
    ∃ q ops, p.runSwapsTwoRows r1 r2 nb = .ok (q, ops) ∧ Inv q.pl ∧ q.pl.rows = p.pl.rows ∧
      SearchTrace p ops q := by
  obtain ⟨r, e, hi⟩ := runSwapsTwoRows_ok ⟨h, .refl _⟩ hr1 hr2 hnb
  exact ⟨r.1, r.2, e, hi.inv, hi.static.rows, runSwapsTwoRows_traced p r1 r2 nb r e⟩

theorem runSwaps_oneRowSweep_no_error {p : Placer} (h : Inv p.pl) {nb : Int} (hnb : 0 ≤ nb) :
    ∃ r, loopOps (fun q i => q.runSwapsOneRow i nb) p (intsUpTo p.pl.nRows) = .ok r ∧ SweepInv p.pl r.1 :=
  loopOps_ok (I := SweepInv p.pl) (fun _ i hi hq => runSwapsOneRow_ok hq ((mem_intsUpTo _ i).1 hi) hnb) ⟨h, .refl _⟩

theorem mem_insertDists {nbRows d : Int} (h : d ∈ Placer.insertDists nbRows) : 1 ≤ d := by
  unfold Placer.insertDists at h
  obtain ⟨k, _, rfl⟩ := List.mem_map.1 h
  have := Int.natCast_nonneg k
  simp only [Int.ofNat_eq_natCast]
  omega

theorem mem_insertPairs {n : Nat} {nbRows : Int} {ij : Int × Int}
    (h : ij ∈ Placer.insertPairsUp n nbRows ++ Placer.insertPairsDown n nbRows) :
    (0 ≤ ij.1 ∧ ij.1 < (n : Int)) ∧ (0 ≤ ij.2 ∧ ij.2 < (n : Int)) := by
  rcases List.mem_append.1 h with h | h
  · unfold Placer.insertPairsUp at h
    obtain ⟨d, hd, h⟩ := List.mem_flatMap.1 h
    obtain ⟨i, hi, rfl⟩ := List.mem_map.1 h
    obtain ⟨hi1, hi2⟩ := List.mem_filter.1 hi
    rw [mem_intsUpTo] at hi1
    have hd := Int.le_trans (by decide : (0 : Int) ≤ 1) (mem_insertDists hd)
    exact ⟨hi1, Int.add_nonneg hi1.1 hd, of_decide_eq_true hi2⟩
  · unfold Placer.insertPairsDown at h
    obtain ⟨d, hd, h⟩ := List.mem_flatMap.1 h
    obtain ⟨i, hi, rfl⟩ := List.mem_map.1 h
    obtain ⟨hi1, hi2⟩ := List.mem_filter.1 hi
    rw [List.mem_reverse, mem_intsUpTo] at hi1
    have hd := Int.le_trans (by decide : (0 : Int) ≤ 1) (mem_insertDists hd)
    exact ⟨hi1, of_decide_eq_true hi2, Int.lt_of_le_of_lt (Int.sub_le_self i hd) hi1.2⟩

theorem runInserts_no_error {p : Placer} (h : Inv p.pl) (nbRows : Int) {nb : Int} (hnb : 0 ≤ nb) :
    ∃ q ops, p.runInserts nbRows nb = .ok (q, ops) ∧ Inv q.pl ∧ q.pl.rows = p.pl.rows ∧
      SearchTrace p ops q := by
  have sweep : ∃ r, p.runInserts nbRows nb = .ok r ∧ SweepInv p.pl r.1 := by
    unfold Placer.runInserts
    refine andThen_ok (loopOps_ok (I := SweepInv p.pl)
      (fun _ i hi hq => runInsertsOneRow_ok hq ((mem_intsUpTo _ i).1 hi) hnb) ⟨h, .refl _⟩)
      fun q hq => loopOps_ok (fun _ ij hij hq' => ?_) hq
    have hb := mem_insertPairs hij
    exact runInsertsTwoRows_ok hq' (validRow_congr hq.static.rows.symm hb.1) (validRow_congr hq.static.rows.symm hb.2) hnb
  obtain ⟨r, e, hi⟩ := sweep
  exact ⟨r.1, r.2, e, hi.inv, hi.static.rows, runInserts_trace e⟩

/-- two movable cells and a fixed one in one row, one net (the instance of Properties/C05 `exC`) -/
def exSearch1 : Circuit :=
  { cells := [⟨2, 2, 0, 0, .N, false, false, .ANY⟩, ⟨3, 2, 4, 0, .N, false, false, .ANY⟩,
              ⟨1, 1, 12, 0, .N, true, false, .ANY⟩],
    nets := [⟨1, 0, [⟨0, 0, 0⟩, ⟨2, 0, 0⟩]⟩], rows := [⟨⟨0, 10, 0, 2⟩, .N⟩] }

/-- three movable cells in two stacked rows, two nets -/
def exSearch2 : Circuit :=
  { cells := [⟨2, 2, 0, 0, .N, false, false, .ANY⟩, ⟨3, 2, 4, 2, .N, false, false, .ANY⟩,
              ⟨1, 1, 12, 3, .N, true, false, .ANY⟩, ⟨2, 2, 6, 0, .N, false, false, .ANY⟩],
    nets := [⟨1, 0, [⟨0, 0, 0⟩, ⟨2, 0, 0⟩]⟩, ⟨1, 0, [⟨1, 0, 0⟩, ⟨3, 0, 0⟩]⟩],
    rows := [⟨⟨0, 10, 0, 2⟩, .N⟩, ⟨⟨0, 10, 2, 4⟩, .N⟩] }

/-- the pass `f` on the freshly constructed object of `c` returns the ghost list `ops` and an object of value `v` -/
def passIs (c : Circuit) (f : Placer → Pass) (ops : List Op) (v : Int) : Bool :=
  match Placer.init c with
  | .error _ => false
  | .ok p =>
    match f p with
    | .error _ => false
    | .ok r => r.2 == ops && r.1.value == v

theorem passIs_spec {c : Circuit} {f : Placer → Pass} {ops : List Op} {v : Int}
    (h : passIs c f ops v = true) : ∃ p q, Placer.init c = .ok p ∧ f p = .ok (q, ops) ∧ q.value = v := by
  unfold passIs at h
  split at h
  · cases h
  · rename_i p e0
    split at h
    · cases h
    · rename_i r e1
      simp only [Bool.and_eq_true, beq_iff_eq] at h
      exact ⟨p, r.1, e0, h.1 ▸ e1, h.2⟩

theorem exSearch1_runSwaps : passIs exSearch1 (·.runSwaps 1 1) [.swap 0 1] 9 = true := by decide +kernel

theorem exSearch1_runInserts : passIs exSearch1 (·.runInserts 1 1) [.insert 0 0 1] 5 = true := by decide +kernel

theorem exSearch2_runSwaps : passIs exSearch2 (·.runSwaps 1 1) [.swap 0 1] 14 = true := by decide +kernel

example : passIs exSearch1 (·.runSwaps 1 1) [.swap 0 1] 9 = true := exSearch1_runSwaps
example : passIs exSearch1 (·.runInserts 1 1) [.insert 0 0 1] 5 = true := exSearch1_runInserts
/-- two rows: the amplified two-row pass swaps across rows -/
example : passIs exSearch2 (·.runSwaps 1 1) [.swap 0 1] 14 = true := exSearch2_runSwaps
example : passIs exSearch2 (·.runSwapsTwoRows 0 1 2) [.swap 0 1, .swap 3 1] 11 = true := by decide +kernel
example : passIs exSearch2 (·.runInserts 1 1) [.insert 0 0 3, .insert 3 1 1] 10 = true := by decide +kernel
/-- a negative `nbNeighbours` is refused (ill-formed slice in the C++) -/
example : (match Placer.init exSearch1 with
    | .ok p => (match p.runSwaps 1 (-1) with
      | .error .guard => true
      | _ => false)
    | .error _ => false) = true := by decide +kernel

/-- `runSwaps_trace` is not vacuous -/
example : ∃ p q, Placer.init exSearch1 = .ok p ∧ SearchTrace p [.swap 0 1] q ∧ q.value = 9 := by
  obtain ⟨p, q, e0, e1, hv⟩ := passIs_spec exSearch1_runSwaps
  exact ⟨p, q, e0, runSwaps_trace e1, hv⟩

end ColoVerif.DetPlace
