import Lean.Meta.Tactic.Simp.RegisterCommand
/-- the lemmas by which `simp` runs a checked twin on values that fit (`Proofs/CheckedArith.lean`) -/
register_simp_attr checked
