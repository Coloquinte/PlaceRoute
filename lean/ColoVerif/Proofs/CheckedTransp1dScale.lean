import ColoVerif.Proofs.CheckedTransp1d
import ColoVerif.Proofs.F64
import ColoVerif.Model.Transp1dScale
/-
The positions `improveX/YTransport` feed to `Transportation1d` are within `2^56`: `factor ≤ 2^27`
(`1e8 / width ≤ 1e8 < 2^27` for `width ≥ 1`; the rounding of the `double` quotient is monotone and exact
on `2^27`) and `|target| ≤ 2^29`, so `|factor · target| ≤ 2^56`; a bound that is a power of two survives
the rounding to `float` (`f32'_abs_le_pow2`) and `std::round`.
Hence the scaled instance lies in `T1dDom` (`2^56 ≤ 2^60 - 1`) and `assignC_eq` applies.
-/
namespace ColoVerif.Transp1d
open ColoVerif.F64

theorem scaleFactor_bounds (width : Int) (hw : 1 ≤ width) :
    0 ≤ scaleFactor width ∧ scaleFactor width ≤ 134217728 := by
  have hwq : (1 : Rat) ≤ (width : Rat) := by exact_mod_cast hw
  have hpos : (0 : Rat) ≤ (100000000 : Rat) / (width : Rat) :=
    div_nonneg (by norm_num) (le_trans zero_le_one hwq)
  have hle : (100000000 : Rat) / (width : Rat) ≤ (2 : Rat) ^ (27 : Int) :=
    (div_le_iff₀ (lt_of_lt_of_le zero_lt_one hwq)).mpr
      (le_trans (by norm_num) (mul_le_mul_of_nonneg_left hwq (by norm_num)))
  unfold scaleFactor
  refine ⟨fround_nonneg (f64_nonneg hpos), ?_⟩
  have h1 := f64_mono hle
  rw [f64_pow2 (by norm_num)] at h1
  have h2 := f32'_abs_le_pow2 (k := 27) (by norm_num) (by rwa [abs_of_nonneg (f64_nonneg hpos)])
  exact (le_abs_self _).trans (h2.trans_eq (by norm_num))

/-- **Scaled positions are within `2^56`** for `width ≥ 1` and float coordinates within `2^29`. -/
theorem scalePos_bounds (width : Int) (hw : 1 ≤ width) (x : Rat) (hx : -536870912 ≤ x ∧ x ≤ 536870912) :
    -72057594037927936 ≤ scalePos (scaleFactor width) x ∧
      scalePos (scaleFactor width) x ≤ 72057594037927936 := by
  obtain ⟨f0, f1⟩ := scaleFactor_bounds width hw
  generalize scaleFactor width = f at *
  have habs : |f * x| ≤ (2 : Rat) ^ (56 : Int) := by
    rw [abs_mul, abs_of_nonneg f0]
    exact (mul_le_mul f1 (abs_le.mpr hx) (abs_nonneg x) (by norm_num)).trans_eq (by norm_num)
  have h := abs_le.mp (f32'_abs_le_pow2 (by norm_num) habs)
  have e56 : (2 : Rat) ^ (56 : Int) = 72057594037927936 := by norm_num
  rw [e56] at h
  unfold scalePos
  exact ⟨le_roundAway (n := -72057594037927936) (by push_cast; linarith [h.1]),
    roundAway_le (n := 72057594037927936) (by push_cast; linarith [h.2])⟩

/-- **The instance `improveX/YTransport` build lies in `T1dDom`**: `width ≥ 1`, float targets and
bin centres within `2^29` (the C07 domain gives bin centres within `2^22` and, after
`checkFinitePlacement`, targets within `2^29`), one `int` demand per cell, at least one bin, fewer
than `2^31 - 1` cells and bins, non-negative demands and capacities with totals at most `2^61 - 1`
(e.g. at most `2^30` cells of `int` demand, `sum_le_of_int`). -/
theorem scaledProblem_dom (width : Int) (hw : 1 ≤ width) (targets centres : List Rat)
    (demands caps : List Int)
    (ht : ∀ x ∈ targets, -536870912 ≤ x ∧ x ≤ 536870912)
    (hc : ∀ x ∈ centres, -536870912 ≤ x ∧ x ≤ 536870912)
    (hl1 : demands.length = targets.length) (hl2 : caps.length = centres.length)
    (hm : 0 < centres.length) (hn1 : targets.length < 2147483647) (hn2 : centres.length < 2147483647)
    (hs : ∀ x ∈ demands, 0 ≤ x) (hd : ∀ x ∈ caps, 0 ≤ x)
    (hss : demands.sum ≤ 2305843009213693951) (hds : caps.sum ≤ 2305843009213693951) :
    T1dDom (scaledProblem width targets centres demands caps) := by
  have hpos : ∀ l : List Rat, (∀ x ∈ l, -536870912 ≤ x ∧ x ≤ 536870912) →
      ∀ y ∈ l.map (scalePos (scaleFactor width)), -1152921504606846975 ≤ y ∧ y ≤ 1152921504606846975 := by
    intro l hl y hy
    obtain ⟨x, hx, rfl⟩ := List.mem_map.mp hy
    have := scalePos_bounds width hw x (hl x hx)
    omega
  exact ⟨by simpa [scaledProblem] using hl1, by simpa [scaledProblem] using hl2,
    by simpa [scaledProblem] using hm, by simpa [scaledProblem] using hn1,
    by simpa [scaledProblem] using hn2, hpos _ ht, hpos _ hc, hs, hd, hss, hds⟩

/-- `n` supplies of type `int`: the total is below `n · 2^31` -/
theorem sum_le_of_int (l : List Int) (h : ∀ x ∈ l, x ≤ 2147483647) : l.sum ≤ l.length * 2147483647 :=
  Int.mul_comm _ _ ▸ ListFacts.sum_le_mul 2147483647 l h

end ColoVerif.Transp1d
