import ColoVerif.Model.DetReorder
/-!
`std::next_permutation` as modelled in Model/DetReorder.lean (`nextPerm`): what a call does (`nextPerm_spec`).
When it returns true the number read off the range in base `B` (all elements in `[0, B)`) strictly increases
(`nextPerm_rank_lt`), hence at most `B ^ n` calls on a range of `n` elements: the fuel `permFuel` of the
`while (next_permutation(..))` loop is never exhausted (`permLoop_ind`).
-/
namespace ColoVerif.DetPlace

theorem swapRightmost_spec (a : Int) : ∀ (suf : List Int) (r : Int × List Int),
    swapRightmost a suf = some r → (r.1 :: r.2).Perm (a :: suf) ∧ a < r.1
  | [], r, e => by simp [swapRightmost] at e
  | h :: t, r, e => by
    unfold swapRightmost at e
    split at e
    · rename_i r' e'
      injection e with e; subst e
      have ih := swapRightmost_spec a t r' e'
      -- r'.1 :: h :: r'.2 ~ a :: h :: t
      exact ⟨((List.Perm.swap h r'.1 r'.2).trans (ih.1.cons h)).trans (List.Perm.swap a h t), ih.2⟩
    · split at e
      · rename_i hlt
        injection e with e; subst e
        exact ⟨List.Perm.swap a h t, hlt⟩
      · cases e

theorem swapRightmost_some (a h : Int) (suf : List Int) (hlt : a < h) : ∃ r, swapRightmost a (h :: suf) = some r := by
  unfold swapRightmost
  split
  · exact ⟨_, rfl⟩
  · simp [hlt]

/-- the scan from the right; `suf` is the non-increasing run already passed -/
theorem nextPermGo_spec : ∀ (rest suf : List Int), suf ≠ [] → suf.Pairwise (· ≥ ·) →
    (nextPermGo suf rest = none ∧ (rest.reverse ++ suf).Pairwise (· ≥ ·)) ∨
    ∃ pre a S b S', rest.reverse ++ suf = pre ++ a :: S ∧ nextPermGo suf rest = some (pre ++ b :: S') ∧
      a < b ∧ (b :: S').Perm (a :: S)
  | [], suf, _, hs => .inl ⟨by cases suf <;> rfl, by simpa using hs⟩
  | a :: rest, [], hne, _ => absurd rfl hne
  | a :: rest, h :: suf, _, hs => by
    simp only [List.reverse_cons, List.append_assoc, List.singleton_append]
    by_cases hlt : a < h
    · obtain ⟨r, er⟩ := swapRightmost_some a h suf hlt
      obtain ⟨hp, hr⟩ := swapRightmost_spec a (h :: suf) r er
      exact .inr ⟨rest.reverse, a, h :: suf, r.1, r.2.reverse, rfl, by simp [nextPermGo, hlt, er], hr,
        ((List.reverse_perm r.2).cons r.1).trans hp⟩
    · rw [show nextPermGo (h :: suf) (a :: rest) = nextPermGo (a :: h :: suf) rest by simp [nextPermGo, hlt]]
      refine nextPermGo_spec rest (a :: h :: suf) (List.cons_ne_nil _ _) (List.pairwise_cons.2 ⟨fun b hb => ?_, hs⟩)
      rcases List.mem_cons.1 hb with rfl | hb
      · omega
      · have := (List.pairwise_cons.1 hs).1 b hb
        omega

/-- `std::next_permutation`: false on a non-increasing range, which it reverses; otherwise true, and behind a
common prefix a larger element takes the pivot's place, followed by a rearrangement of the rest -/
theorem nextPerm_spec (l : List Int) :
    (nextPerm l = (false, l.reverse) ∧ l.Pairwise (· ≥ ·)) ∨
    ∃ pre a S b S', l = pre ++ a :: S ∧ nextPerm l = (true, pre ++ b :: S') ∧ a < b ∧ (b :: S').Perm (a :: S) := by
  unfold nextPerm
  cases hr : l.reverse with
  | nil => exact .inl ⟨by rw [List.reverse_eq_nil_iff.1 hr], by rw [List.reverse_eq_nil_iff.1 hr]; exact .nil⟩
  | cons x rest =>
    have h2 : rest.reverse ++ [x] = l := by rw [← List.reverse_cons, ← hr, List.reverse_reverse]
    rcases nextPermGo_spec rest [x] (List.cons_ne_nil _ _) (List.pairwise_singleton _ _) with
      ⟨e, hp⟩ | ⟨pre, a, S, b, S', e1, e2, h⟩
    · exact .inl ⟨by simp only [e], h2 ▸ hp⟩
    · exact .inr ⟨pre, a, S, b, S', h2 ▸ e1, by simp only [e2], h⟩

theorem nextPerm_perm (l : List Int) : (nextPerm l).2.Perm l := by
  rcases nextPerm_spec l with ⟨e, _⟩ | ⟨pre, a, S, b, S', e1, e2, _, hp⟩
  · rw [e]; exact List.reverse_perm l
  · rw [e2, e1]; exact hp.append_left pre

theorem nextPerm_mem {l : List Int} {c : Int} : c ∈ (nextPerm l).2 ↔ c ∈ l := (nextPerm_perm l).mem_iff

theorem nextPerm_length (l : List Int) : (nextPerm l).2.length = l.length := (nextPerm_perm l).length_eq

theorem nextPerm_false_sorted (l : List Int) (h : (nextPerm l).1 = false) : (nextPerm l).2.Pairwise (· ≤ ·) := by
  rcases nextPerm_spec l with ⟨e, hp⟩ | ⟨pre, a, S, b, S', _, e2, _⟩
  · rw [e, List.pairwise_reverse]; exact hp
  · rw [e2] at h; cases h

/-- on a strictly increasing range the loop ends where it started -/
theorem nextPerm_false_restores {l0 l : List Int} (h0 : l0.Pairwise (· < ·)) (hp : l.Perm l0)
    (h : (nextPerm l).1 = false) : (nextPerm l).2 = l0 := by
  apply List.Perm.eq_of_pairwise (le := (· ≤ ·))
  · intro a b _ _ h1 h2; omega
  · exact nextPerm_false_sorted l h
  · exact h0.imp (fun h => Int.le_of_lt h)
  · exact (nextPerm_perm l).trans hp

/-- the number a range spells in base `B` -/
def permRank (B : Nat) : List Int → Nat
  | [] => 0
  | c :: cs => c.toNat * B ^ cs.length + permRank B cs

/-- a smaller leading digit wins whatever follows -/
theorem digit_lt {d e P r : Nat} (hd : d < e) (hr : r < P) : d * P + r < e * P :=
  calc d * P + r < d * P + P := Nat.add_lt_add_left hr _
    _ = (d + 1) * P := (Nat.succ_mul _ _).symm
    _ ≤ e * P := Nat.mul_le_mul_right _ hd

theorem permRank_lt (B : Nat) : ∀ (l : List Int), (∀ c ∈ l, c.toNat < B) → permRank B l < B ^ l.length
  | [], _ => Nat.one_pos
  | c :: cs, h => by
    rw [List.length_cons, Nat.pow_succ, Nat.mul_comm (B ^ cs.length) B]
    exact digit_lt (h c (List.mem_cons_self ..)) (permRank_lt B cs fun d hd => h d (List.mem_cons_of_mem _ hd))

theorem permRank_pivot_lt (B : Nat) (S S' : List Int) (a b : Int) (hab : a < b) (ha : 0 ≤ a)
    (hlen : S'.length = S.length) (hS : ∀ c ∈ S, c.toNat < B) :
    ∀ pre : List Int, permRank B (pre ++ a :: S) < permRank B (pre ++ b :: S')
  | [] => by
    show a.toNat * B ^ S.length + permRank B S < b.toNat * B ^ S'.length + permRank B S'
    rw [hlen]
    exact Nat.lt_of_lt_of_le
      (digit_lt ((Int.toNat_lt_toNat (Int.lt_of_le_of_lt ha hab)).2 hab) (permRank_lt B S hS)) (Nat.le_add_right _ _)
  | c :: pre => by
    show c.toNat * B ^ (pre ++ a :: S).length + _ < c.toNat * B ^ (pre ++ b :: S').length + _
    rw [List.length_append, List.length_append, List.length_cons, List.length_cons, hlen]
    exact Nat.add_lt_add_left (permRank_pivot_lt B S S' a b hab ha hlen hS pre) _

theorem nextPerm_rank_lt (B : Nat) (l : List Int) (hl : ∀ c ∈ l, 0 ≤ c ∧ c.toNat < B) (h : (nextPerm l).1 = true) :
    permRank B l < permRank B (nextPerm l).2 := by
  rcases nextPerm_spec l with ⟨e, _⟩ | ⟨pre, a, S, b, S', e1, e2, hab, hp⟩
  · rw [e] at h; cases h
  · rw [e2]
    subst e1
    exact permRank_pivot_lt B S S' a b hab (hl a (by simp)).1 (by simpa using hp.length_eq)
      (fun c hc => (hl c (by simp [hc])).2) pre

/-- every element of the range is a digit in the base that `permFuel` takes -/
theorem lt_permFuel_base (l : List Int) : ∀ c ∈ l, c.toNat < l.foldl (fun m c => max m c.toNat) 0 + 1 := by
  have key : ∀ (l : List Int) (m : Nat), m ≤ l.foldl (fun m c => max m c.toNat) m ∧
      ∀ c ∈ l, c.toNat ≤ l.foldl (fun m c => max m c.toNat) m := by
    intro l
    induction l with
    | nil => intro m; exact ⟨Nat.le_refl _, fun _ hc => nomatch hc⟩
    | cons d ds ih =>
      intro m
      obtain ⟨h1, h2⟩ := ih (max m d.toNat)
      refine ⟨Nat.le_trans (Nat.le_max_left _ _) h1, fun c hc => ?_⟩
      rcases List.mem_cons.1 hc with rfl | hc
      · exact Nat.le_trans (Nat.le_max_right _ _) h1
      · exact h2 c hc
  exact fun c hc => Nat.lt_succ_of_le ((key l 0).2 c hc)

/-- Induction principle for `permLoop`.  `I` is an invariant of the states at the head of the loop
(it fixes the length `n` of `order_[j]` and bounds its elements by `B`); the body — set-up and the
recursive call — re-establishes it and hands `order_[j]` back as `next_permutation` left it.  Then,
started with enough fuel, the loop ends on a state satisfying `I` where `next_permutation` returned
false — never by running out of fuel. -/
theorem permLoop_ind {σ : Type} (S : Store σ) (s : State) (rec : RowReord σ → RowReord σ) (j : Nat)
    (I : RowReord σ → Prop) (B n : Nat)
    (hdig : ∀ rr, I rr → (rr.order.getD j []).length = n ∧ ∀ c ∈ rr.order.getD j [], 0 ≤ c ∧ c.toNat < B)
    (hstep : ∀ rr, I rr → (nextPerm (rr.order.getD j [])).1 = true →
      I (rec (setupRow S s j (nextPerm (rr.order.getD j [])).2 rr)) ∧
      (rec (setupRow S s j (nextPerm (rr.order.getD j [])).2 rr)).order.getD j [] = (nextPerm (rr.order.getD j [])).2) :
    ∀ (fuel : Nat) (rr : RowReord σ), I rr → B ^ n ≤ permRank B (rr.order.getD j []) + fuel →
      ∃ rr1, I rr1 ∧ (nextPerm (rr1.order.getD j [])).1 = false ∧
        permLoop S s rec j fuel rr = { rr1 with order := rr1.order.set j (nextPerm (rr1.order.getD j [])).2 } := by
  intro fuel
  induction fuel with
  | zero =>
    intro rr hI hf
    obtain ⟨hn, hd⟩ := hdig rr hI
    have := permRank_lt B (rr.order.getD j []) (fun c hc => (hd c hc).2)
    rw [hn] at this
    exact absurd hf (Nat.not_le_of_lt this)
  | succ fuel ih =>
    intro rr hI hf
    unfold permLoop
    by_cases hnp : (nextPerm (rr.order.getD j [])).1 = true
    · rw [if_pos hnp]
      obtain ⟨hI', ho⟩ := hstep rr hI hnp
      apply ih _ hI'
      rw [ho]
      have := nextPerm_rank_lt B (rr.order.getD j []) (hdig rr hI).2 hnp
      omega
    · rw [if_neg hnp]
      exact ⟨rr, hI, by simpa using hnp, rfl⟩

end ColoVerif.DetPlace
