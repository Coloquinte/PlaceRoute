import ColoVerif.Proofs.DetPlaceInv
/-
What a move of `DetPlace` leaves alone and what it writes.  `Static s t` holds along every history (`run_static`) and has
two halves.  `Frame` (C02 `ignored_frame`): widths stay, and a cell that is not optimised (width −1) keeps position and
orientation.  `Lg.Keep`: rows, number of cells and polarities stay, and an orientation is kept or is the known one a row
demands for the cell's polarity (`Lg` is the namespace of what C02 `inv_legal` needs along a history besides `Inv`).
`insert_positions` / `swap_positions`: the positions after a move are the ones `positionOnInsert` / `positionsOnSwap`
gave, which is what the optimiser evaluated (C05).
-/
namespace ColoVerif.DetPlace
open State

structure Frame (s t : State) : Prop where
  width : t.width = s.width
  ignored : ∀ d, s.width d = -1 → t.x d = s.x d ∧ t.y d = s.y d ∧ t.orient d = s.orient d

theorem Frame.refl (s : State) : Frame s s := ⟨rfl, fun _ _ => ⟨rfl, rfl, rfl⟩⟩

theorem Frame.trans {s t u : State} (a : Frame s t) (b : Frame t u) : Frame s u := by
  refine ⟨b.width.trans a.width, fun d hd => ?_⟩
  have h1 := a.ignored d hd
  have h2 := b.ignored d (by rw [a.width]; exact hd)
  exact ⟨h2.1.trans h1.1, h2.2.1.trans h1.2.1, h2.2.2.trans h1.2.2⟩

theorem validRow_congr {s t : State} (h : t.rows = s.rows) {r : Int} (hr : s.validRow r) : t.validRow r := by
  unfold validRow nRows at hr ⊢
  rw [h]; exact hr

theorem rowAt_congr {s t : State} (h : t.rows = s.rows) (r : Int) : t.rowAt r = s.rowAt r := by
  unfold rowAt; rw [h]

theorem rowMinX_congr {s t : State} (h : t.rows = s.rows) (r : Int) : t.rowMinX r = s.rowMinX r :=
  congrArg (·.rect.minX) (rowAt_congr h r)

theorem rowMaxX_congr {s t : State} (h : t.rows = s.rows) (r : Int) : t.rowMaxX r = s.rowMaxX r :=
  congrArg (·.rect.maxX) (rowAt_congr h r)

theorem rowY_congr {s t : State} (h : t.rows = s.rows) (r : Int) : t.rowY r = s.rowY r :=
  congrArg (·.rect.minY) (rowAt_congr h r)

theorem rowOrient_congr {s t : State} (h : t.rows = s.rows) (r : Int) : t.rowOrient r = s.rowOrient r :=
  congrArg (·.orient) (rowAt_congr h r)

theorem isRowAllowed_congr {s t : State} (h : t.rows = s.rows) (hp : t.pol = s.pol) (c r : Int) :
    t.isRowAllowed c r = s.isRowAllowed c r := by
  unfold isRowAllowed
  rw [rowOrient_congr h, hp]

namespace Lg

/-- `t` has the rows, the number of cells and the polarities of `s`; an orientation is either kept or
is the (known) orientation a row of `s` demands for the cell's polarity -/
structure Keep (s t : State) : Prop where
  rows : t.rows = s.rows
  nCells : t.nCells = s.nCells
  pol : t.pol = s.pol
  orient : ∀ d, t.orient d = s.orient d ∨
    ∃ r : Int, t.orient d = cellOrientationInRow (s.pol d) (s.rowOrient r) ∧ t.orient d ≠ Orient.UNKNOWN

theorem Keep.refl (s : State) : Keep s s := ⟨rfl, rfl, rfl, fun _ => Or.inl rfl⟩

theorem Keep.trans {s t u : State} (a : Keep s t) (b : Keep t u) : Keep s u := by
  obtain ⟨a1, a2, a3, a4⟩ := a
  obtain ⟨b1, b2, b3, b4⟩ := b
  refine ⟨b1.trans a1, b2.trans a2, b3.trans a3, fun d => ?_⟩
  rcases b4 d with e | ⟨r, e1, e2⟩
  · rw [e]; exact a4 d
  · right
    refine ⟨r, ?_, e2⟩
    rw [e1, a3, rowOrient_congr a1]

/-- a cell without polarity is never written: for ANY the table answers the keep marker UNKNOWN -/
theorem Keep.any {s t : State} (k : Keep s t) {d : Int} (hd : s.pol d = Polarity.ANY) : t.orient d = s.orient d :=
  (k.orient d).resolve_right fun ⟨r, e1, e2⟩ => e2 (by rw [e1, hd]; rfl)

theorem unplace_keep (s : State) (c : Int) : Keep s (s.unplace c) := ⟨rfl, rfl, rfl, fun _ => Or.inl rfl⟩

theorem place_keep {s t : State} {c r p x : Int} (e : s.place c r p x = .ok t) : Keep s t := by
  obtain ⟨rfl, -⟩ := place_ok e
  refine ⟨rfl, rfl, rfl, fun d => ?_⟩
  by_cases hd : d = c
  · subst hd
    show upd s.orient d (s.placedOrient d r) d = _ ∨ ∃ r' : Int, upd s.orient d (s.placedOrient d r) d = _ ∧
      upd s.orient d (s.placedOrient d r) d ≠ _
    rw [upd_same, placedOrient]
    split
    · exact Or.inr ⟨r, rfl, ‹_›⟩
    · exact Or.inl rfl
  · exact Or.inl (if_neg hd)

end Lg

structure Static (s t : State) : Prop extends Frame s t, Lg.Keep s t

theorem Static.refl (s : State) : Static s s := ⟨Frame.refl s, Lg.Keep.refl s⟩

theorem Static.trans {s t u : State} (a : Static s t) (b : Static t u) : Static s u :=
  ⟨a.toFrame.trans b.toFrame, a.toKeep.trans b.toKeep⟩

theorem unplace_static (s : State) (c : Int) : Static s (s.unplace c) :=
  ⟨⟨rfl, fun _ _ => ⟨rfl, rfl, rfl⟩⟩, Lg.unplace_keep s c⟩

theorem place_static {s t : State} {c r p x : Int} (hl : s.width c ≠ -1) (e : s.place c r p x = .ok t) :
    Static s t := by
  refine ⟨?_, Lg.place_keep e⟩
  obtain ⟨rfl, -⟩ := place_ok e
  refine ⟨rfl, fun d hd => ?_⟩
  have : d ≠ c := fun e' => hl (e' ▸ hd)
  exact ⟨if_neg this, if_neg this, if_neg this⟩

theorem shift_static {s t : State} {mv : List (Int × Int)} (e : s.shift mv = .ok t) : Static s t := by
  obtain ⟨f, rfl, hf, hmv⟩ := shift_ok e
  exact ⟨⟨rfl, fun d hd => ⟨hf d fun hmem => (hmv d hmem).1.2.2 hd, rfl, rfl⟩⟩, rfl, rfl, rfl, fun _ => Or.inl rfl⟩

theorem static_respects : Respects Static :=
  Respects.of_moves Static.refl Static.trans unplace_static place_static shift_static

theorem run_static {s t : State} {ops : List Op} (e : s.run ops = .ok t) : Static s t := static_respects.run e

theorem run_frame {s t : State} {ops : List Op} (e : s.run ops = .ok t) : Frame s t := (run_static e).toFrame

theorem place_row {s t : State} {c r p x : Int} (e : s.place c r p x = .ok t) (d : Int) :
    t.row d = if d = c then r else s.row d := by
  obtain ⟨rfl, -⟩ := place_ok e
  exact placeRaw_row s c r p x d

theorem insert_rows {s t : State} {c r p : Int} (e : s.insert c r p = .ok t) (d : Int) :
    t.row d = if d = c then r else s.row d := by
  rw [place_row (insert_ok e).2, unplace_row]
  split <;> rfl

theorem swap_rows {s t : State} {c1 c2 : Int} (e : s.swap c1 c2 = .ok t) :
    s.row c1 ≠ -1 ∧ s.row c2 ≠ -1 ∧ c1 ≠ c2 ∧
    ∀ d, t.row d = if d = c1 then s.row c2 else if d = c2 then s.row c1 else s.row d := by
  obtain ⟨hcan, a, b, pb, v, hab, -, e1, e2⟩ := swap_places e
  obtain ⟨r1, r2, h12, -⟩ := canSwap_true hcan
  refine ⟨r1, r2, h12, fun d => ?_⟩
  rw [place_row e2, place_row e1, unplace_row, unplace_row]
  rcases hab with ⟨rfl, rfl⟩ | ⟨rfl, rfl⟩
  · by_cases hd : d = a
    · rw [if_neg (hd ▸ h12), if_pos hd, if_pos hd]
    · by_cases hd2 : d = b
      · rw [if_pos hd2, if_neg hd, if_pos hd2]
      · simp only [if_neg hd, if_neg hd2]
  · -- the two tests come in the order of the statement; what `unplace` wrote lies under them
    by_cases hd : d = b
    · rw [if_pos hd, if_pos hd]
    · by_cases hd2 : d = a
      · rw [if_neg hd, if_pos hd2, if_neg hd, if_pos hd2]
      · simp only [if_neg hd, if_neg hd2]

theorem insert_positions {s t : State} {c r p : Int} (e : s.insert c r p = .ok t) :
    ∀ d, t.x d = (if d = c then (s.positionOnInsert c r p).1 else s.x d) ∧
         t.y d = (if d = c then (s.positionOnInsert c r p).2 else s.y d) := by
  obtain ⟨rfl, -⟩ := place_ok (insert_ok e).2
  exact fun d => ⟨placeRaw_x .., placeRaw_y ..⟩

private theorem ite_ite_swap {α : Type} {p q : Prop} [Decidable p] [Decidable q] (h : p → ¬q) (x y z : α) :
    (if q then y else if p then x else z) = if p then x else if q then y else z := by
  by_cases hp : p
  · rw [if_pos hp, if_neg (h hp), if_pos hp]
  · rw [if_neg hp, if_neg hp]

theorem swap_positions {s t : State} {c1 c2 : Int} (e : s.swap c1 c2 = .ok t) :
    ∀ d, t.x d = (if d = c1 then (s.positionsOnSwap c1 c2).1.1 else if d = c2 then (s.positionsOnSwap c1 c2).2.1 else s.x d) ∧
         t.y d = (if d = c1 then s.rowY (s.row c2) else if d = c2 then s.rowY (s.row c1) else s.y d) := by
  obtain ⟨hcan, a, b, pb, v, hab, -, e1, e2⟩ := swap_places e
  obtain ⟨-, -, h12, -⟩ := canSwap_true hcan
  obtain ⟨rfl, -⟩ := place_ok e1
  obtain ⟨rfl, -⟩ := place_ok e2
  intro d
  rw [placeRaw_x, placeRaw_x, placeRaw_y, placeRaw_y]
  -- `b` was written last: for `(a, b) = (c1, c2)` the two tests come in the other order
  rcases hab with ⟨rfl, rfl⟩ | ⟨rfl, rfl⟩
  · rw [if_pos rfl, if_neg (Ne.symm h12)]
    exact ⟨ite_ite_swap (fun e1 e2 => h12 (e1.symm.trans e2)) .., ite_ite_swap (fun e1 e2 => h12 (e1.symm.trans e2)) ..⟩
  · rw [if_neg (Ne.symm h12), if_pos rfl]
    exact ⟨rfl, rfl⟩

theorem validCell_congr {s t : State} (hn : t.nCells = s.nCells) {k : Int} (hk : s.validCell k) : t.validCell k := by
  unfold validCell at hk ⊢
  rw [hn]; exact hk

theorem Static.liveCell {s t : State} (k : Static s t) (c : Int) : t.liveCell c = s.liveCell c := by
  rw [Bool.eq_iff_iff, liveCell_iff, liveCell_iff]
  unfold validCell
  rw [k.nCells, k.width]

theorem unplaceAll_xy {s t : State} {cs : List Int} (e : s.unplaceAll cs = .ok t) : t.x = s.x ∧ t.y = s.y := by
  induction cs generalizing s with
  | nil => simp [unplaceAll] at e; subst e; exact ⟨rfl, rfl⟩
  | cons c cs ih =>
    unfold unplaceAll at e
    split at e
    · exact ih (s := s.unplace c) e
    · cases e

end ColoVerif.DetPlace
