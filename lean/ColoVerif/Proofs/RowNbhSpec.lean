import ColoVerif.Model.RowNbh
import ColoVerif.Proofs.InsertionSort
/-!
What `RowNeighbourhood` (Model/RowNbh.lean) returns: the rows listed above / below a row are distinct valid rows
that overlap it in x and lie strictly above / below (`scan_spec`); every row listed on any of the four sides of
row `i` is a valid row other than `i` (`build_spec`).
-/
namespace ColoVerif.DetPlace
namespace RowNbh
open ColoVerif

theorem sortBy_perm (lt : Entry → Entry → Bool) (l : List Entry) : (sortBy lt l).Perm l :=
  foldr_insert_perm (insertBy lt) (fun _ => rfl) (fun _ _ _ => ite_eq_or_eq ..) l

/-- the inner loop lists, in order, some of the later entries that pass the test -/
theorem scanFound_sublist (test : Rect → Bool) (nb : Int) : ∀ (l : List Entry) (found : Int),
    (scanFound test nb found l).Sublist ((l.filter fun e => test e.2).map (·.1))
  | [], _ => List.Sublist.slnil
  | e :: rest, found => by
    unfold scanFound
    by_cases ht : test e.2 = true
    · rw [if_pos ht, List.filter_cons_of_pos (p := fun e : Entry => test e.2) ht, List.map_cons]
      split
      · exact List.Sublist.cons_cons _ (List.nil_sublist _)
      · exact List.Sublist.cons_cons _ (scanFound_sublist test nb rest _)
    · rw [if_neg ht, List.filter_cons_of_neg (p := fun e : Entry => test e.2) ht]
      split
      · exact List.nil_sublist _
      · exact scanFound_sublist test nb rest _

/-- the outer loop: every assignment is made at an entry `e` of the list, from the entries after it -/
theorem scanAll_split (rel : Rect → Rect → Bool) (nb : Int) : ∀ (l : List Entry), ∀ kv ∈ scanAll rel nb l,
    ∃ pre e post, l = pre ++ e :: post ∧ kv.1 = e.1 ∧
      kv.2.Sublist ((post.filter fun e' => rel e'.2 e.2).map (·.1))
  | [], kv, h => nomatch h
  | e :: rest, kv, h => by
    unfold scanAll at h
    rcases List.mem_cons.1 h with rfl | h
    · exact ⟨[], e, rest, rfl, rfl, scanFound_sublist _ nb rest 0⟩
    · obtain ⟨pre, e', post, hl, h1, h2⟩ := scanAll_split rel nb rest kv h
      exact ⟨e :: pre, e', post, by rw [hl]; rfl, h1, h2⟩

theorem collect_at (n : Nat) (assoc : List (Int × List Int)) (r : Int) (h0 : 0 ≤ r) (h1 : r < n) :
    at_ (collect n assoc) r = ((assoc.find? fun kv => kv.1 == r).map (·.2)).getD [] := by
  unfold at_ collect State.intsUpTo
  rw [if_neg (by omega)]
  have e : r.toNat < n := by omega
  have e2 : Int.ofNat r.toNat = r := by simp only [Int.ofNat_eq_natCast]; omega
  simp only [List.getD_eq_getElem?_getD, List.getElem?_map, List.getElem?_range e, Option.map_some, Option.getD_some, e2]

/-- a non-empty `ret[r]` was assigned, for an index in range -/
theorem at_collect_cases (n : Nat) (assoc : List (Int × List Int)) (r : Int) :
    at_ (collect n assoc) r = [] ∨
    ((0 ≤ r ∧ r < (n : Int)) ∧ ∃ kv ∈ assoc, kv.1 = r ∧ at_ (collect n assoc) r = kv.2) := by
  by_cases hr : 0 ≤ r ∧ r < (n : Int)
  · rw [collect_at n assoc r hr.1 hr.2]
    cases hf : assoc.find? (fun kv => kv.1 == r) with
    | none => exact .inl rfl
    | some kv => exact .inr ⟨hr, kv, List.mem_of_find?_eq_some hf, beq_iff_eq.1 (List.find?_some (p := fun kv : Int × List Int => kv.1 == r) hf), rfl⟩
  · left
    unfold at_ collect
    split
    · rfl
    · rw [List.getD_eq_getElem?_getD, List.getElem?_eq_none (by simp [State.intsUpTo]; omega)]
      rfl

theorem entries_fst (rows : List Rect) : (entries rows).map (·.1) = (List.range' 0 rows.length).map Int.ofNat := by
  unfold entries
  rw [← List.zipIdx_map_snd 0 rows, List.map_map, List.map_map]
  rfl

theorem entries_nodup (rows : List Rect) : ((entries rows).map (·.1)).Nodup := by
  rw [entries_fst]
  unfold List.Nodup
  rw [List.pairwise_map]
  exact (List.nodup_range' (s := 0) (n := rows.length)).imp (fun hab e => hab (Int.ofNat.inj e))

/-- `e` pairs a valid row index with that row's rectangle -/
def EntOk (rs : List Rect) (e : Entry) : Prop :=
  0 ≤ e.1 ∧ e.1 < (rs.length : Int) ∧ e.2 = rectAt rs e.1

def Distinct (a b : Entry) : Prop := a.1 ≠ b.1

theorem entries_ok (rs : List Rect) : ∀ e ∈ entries rs, EntOk rs e := by
  intro e he
  obtain ⟨ri, hri, rfl⟩ := List.mem_map.1 he
  obtain ⟨_, h2, h3⟩ := List.mem_zipIdx (x := ri.1) (i := ri.2) hri
  have hlt : ri.2 < rs.length := by omega
  refine ⟨Int.natCast_nonneg _, Int.ofNat_lt.2 hlt, ?_⟩
  show ri.1 = rectAt rs (ri.2 : Int)
  unfold rectAt
  rw [if_neg (Int.not_lt.2 (Int.natCast_nonneg _)), Int.toNat_natCast, List.getD_eq_getElem?_getD,
    List.getElem?_eq_getElem hlt, h3]
  rfl

/-- `rowsAbove` / `rowsBelow` as built: the rows listed for row `i` are distinct valid rows other than `i` that
stand in relation `rel` to it -/
theorem scan_spec (rs : List Rect) (rel : Rect → Rect → Bool) (lt : Entry → Entry → Bool) (nb : Int) (i : Int) :
    (i :: at_ (collect rs.length (scanAll rel nb (sortBy lt (entries rs)))) i).Nodup ∧
    ∀ j ∈ at_ (collect rs.length (scanAll rel nb (sortBy lt (entries rs)))) i,
      (0 ≤ i ∧ i < (rs.length : Int)) ∧ (0 ≤ j ∧ j < (rs.length : Int)) ∧ rel (rectAt rs j) (rectAt rs i) = true := by
  rcases at_collect_cases rs.length (scanAll rel nb (sortBy lt (entries rs))) i with e | ⟨hi, kv, hkv, h1, e⟩
  · rw [e]; exact ⟨List.nodup_cons.2 ⟨List.not_mem_nil, List.nodup_nil⟩, nofun⟩
  · rw [e]
    obtain ⟨pre, e0, post, hl, hk1, hsub⟩ := scanAll_split rel nb _ kv hkv
    have P := sortBy_perm lt (entries rs)
    have ok : ∀ x ∈ e0 :: post, EntOk rs x := fun x hx =>
      entries_ok rs x (P.mem_iff.1 (by rw [hl]; exact List.mem_append_right _ hx))
    have nd : ((e0 :: post).map (·.1)).Nodup := by
      have := (P.map (·.1)).nodup_iff.2 (entries_nodup rs)
      rw [hl, List.map_append] at this
      exact (List.nodup_append.1 this).2.1
    have hi0 : e0.1 = i := hk1.symm.trans h1
    refine ⟨?_, fun j hj => ?_⟩
    · rw [← hi0]
      exact nd.sublist (List.Sublist.cons_cons _ (hsub.trans (List.filter_sublist.map _)))
    · obtain ⟨e', he', rfl⟩ := List.mem_map.1 (hsub.subset hj)
      obtain ⟨hm, hrel⟩ := List.mem_filter.1 he'
      have o' := ok e' (List.mem_cons_of_mem _ hm)
      have o0 := ok e0 List.mem_cons_self
      rw [o'.2.2, o0.2.2, hi0] at hrel
      exact ⟨hi, ⟨o'.1, o'.2.1⟩, hrel⟩

theorem entries_distinct (rs : List Rect) : (entries rs).Pairwise Distinct := by
  have := entries_nodup rs
  unfold List.Nodup at this
  rwa [List.pairwise_map] at this

theorem mem_sortBy (lt : Entry → Entry → Bool) (l : List Entry) (e : Entry) (h : e ∈ sortBy lt l) : e ∈ l :=
  (sortBy_perm lt l).mem_iff.1 h

theorem distinct_sortBy (lt : Entry → Entry → Bool) (l : List Entry) (h : l.Pairwise Distinct) :
    (sortBy lt l).Pairwise Distinct :=
  ((sortBy_perm lt l).pairwise_iff Ne.symm).2 h

theorem ite_false_eq_true {c : Prop} [Decidable c] {x : Bool} (h : (if c then false else x) = true) :
    ¬ c ∧ x = true := by
  split at h
  · cases h
  · exact ⟨‹_›, h⟩

theorem isAbove_overlap {r1 r2 : Rect} (h : isAbove r1 r2 = true) :
    r2.minY < r1.minY ∧ r2.minX < r1.maxX ∧ r1.minX < r2.maxX := by
  obtain ⟨h1, h⟩ := ite_false_eq_true h
  obtain ⟨h2, h⟩ := ite_false_eq_true h
  obtain ⟨h3, _⟩ := ite_false_eq_true h
  omega

theorem isBelow_overlap {r1 r2 : Rect} (h : isBelow r1 r2 = true) :
    r1.minY < r2.minY ∧ r2.minX < r1.maxX ∧ r1.minX < r2.maxX := by
  obtain ⟨h1, h⟩ := ite_false_eq_true h
  obtain ⟨h2, h⟩ := ite_false_eq_true h
  obtain ⟨h3, _⟩ := ite_false_eq_true h
  omega

/-- what a list `ret` of neighbour lists built by `scanAll` with relation `rel` satisfies -/
def ScanSpec (rs : List Rect) (rel : Rect → Rect → Bool) (v : List (List Int)) : Prop :=
  ∀ i j, j ∈ at_ v i → (0 ≤ i ∧ i < (rs.length : Int)) ∧ (0 ≤ j ∧ j < (rs.length : Int)) ∧
    rel (rectAt rs j) (rectAt rs i) = true

theorem scan_collect_spec (rs : List Rect) (rel : Rect → Rect → Bool) (lt : Entry → Entry → Bool) (nb : Int) :
    ScanSpec rs rel (collect rs.length (scanAll rel nb (sortBy lt (entries rs)))) :=
  fun i j hj => (scan_spec rs rel lt nb i).2 j hj

theorem collect_spec (n : Nat) (assoc : List (Int × List Int)) (r j : Int) (h : j ∈ at_ (collect n assoc) r) :
    ∃ kv ∈ assoc, kv.1 = r ∧ j ∈ kv.2 := by
  rcases at_collect_cases n assoc r with e | ⟨_, kv, hkv, h1, e⟩
  · rw [e] at h; cases h
  · exact ⟨kv, hkv, h1, e ▸ h⟩

theorem mem_keepFirstK {inds : List Int} {nb j : Int} (h : j ∈ keepFirstK inds nb) : j ∈ inds := by
  unfold keepFirstK at h
  split at h
  · exact h
  · exact List.mem_of_mem_take h

/-- `buildLeftFrom` / `buildRightFrom` sort a selection of the side candidates -/
theorem mem_sorted_filter {lt : Entry → Entry → Bool} {P : Int → Bool} {f : Int → Rect} {cands : List Int}
    {j : Int} (h : j ∈ (sortBy lt ((cands.filter P).map fun c => (c, f c))).map (·.1)) : j ∈ cands := by
  obtain ⟨e, he, rfl⟩ := List.mem_map.1 h
  obtain ⟨c, hc, rfl⟩ := List.mem_map.1 (mem_sortBy _ _ e he)
  exact (List.mem_filter.1 hc).1

theorem sideCandidates_spec {rs : List Rect} {below above : List (List Int)} (hb : ScanSpec rs isBelow below)
    (ha : ScanSpec rs isAbove above) {ind j : Int} (hind : 0 ≤ ind ∧ ind < (rs.length : Int))
    (h : j ∈ sideCandidates below above ind) :
    (0 ≤ j ∧ j < (rs.length : Int)) ∧
    (j = ind ∨ ((rectAt rs ind).minX < (rectAt rs j).maxX ∧ (rectAt rs j).minX < (rectAt rs ind).maxX)) := by
  unfold sideCandidates at h
  rcases List.mem_cons.1 h with h | h
  · rw [h]; exact ⟨hind, .inl rfl⟩
  · rcases List.mem_append.1 h with h | h
    · obtain ⟨_, hj, hrel⟩ := ha ind j h
      exact ⟨hj, .inr ⟨(isAbove_overlap hrel).2.1, (isAbove_overlap hrel).2.2⟩⟩
    · obtain ⟨_, hj, hrel⟩ := hb ind j h
      exact ⟨hj, .inr ⟨(isBelow_overlap hrel).2.1, (isBelow_overlap hrel).2.2⟩⟩

/-- the rows listed from the side candidates of entry `e'` for entry `e`, when the two rows are apart
in x: valid rows different from `e`'s -/
theorem sideCandidates_ne {rs : List Rect} {below above : List (List Int)} (hb : ScanSpec rs isBelow below)
    (ha : ScanSpec rs isAbove above) {e e' : Entry} (ok : EntOk rs e) (ok' : EntOk rs e') (hd : e.1 ≠ e'.1)
    (sep : e'.2.maxX ≤ e.2.minX ∨ e.2.maxX ≤ e'.2.minX) {j : Int} (hj : j ∈ sideCandidates below above e'.1) :
    (0 ≤ j ∧ j < (rs.length : Int)) ∧ j ≠ e.1 := by
  obtain ⟨hv, hc⟩ := sideCandidates_spec hb ha ⟨ok'.1, ok'.2.1⟩ hj
  refine ⟨hv, fun hh => ?_⟩
  rcases hc with e0 | hc
  · exact hd (hh.symm.trans e0)
  · rw [hh, ← ok.2.2, ← ok'.2.2] at hc
    omega

/-- what `rowsLeft_` / `rowsRight_` are assigned: consecutive entries of the `(minY, minX)` order that pass
`isLeft` (= `isRight` the other way round) are apart in x -/
theorem sideAssoc_spec {rs : List Rect} {below above : List (List Int)} (hb : ScanSpec rs isBelow below)
    (ha : ScanSpec rs isAbove above) (nb : Int) (l : List Entry) (hok : ∀ e ∈ l, EntOk rs e)
    (hd : l.Pairwise Distinct) :
    ∀ kv ∈ leftAssoc below above rs nb l ++ rightAssoc below above rs nb l, ∀ j ∈ kv.2,
      (0 ≤ j ∧ j < (rs.length : Int)) ∧ j ≠ kv.1 := by
  induction l with
  | nil => nofun
  | cons e1 l ih =>
    cases l with
    | nil => nofun
    | cons e2 rest =>
      have ih := List.forall_mem_append.1 (ih (fun e he => hok e (List.mem_cons_of_mem _ he)) (List.pairwise_cons.1 hd).2)
      have ok1 := hok e1 List.mem_cons_self
      have ok2 := hok e2 (List.mem_cons_of_mem _ List.mem_cons_self)
      have h12 : e1.1 ≠ e2.1 := (List.pairwise_cons.1 hd).1 e2 List.mem_cons_self
      refine List.forall_mem_append.2 ⟨?_, ?_⟩
      · unfold leftAssoc
        split
        · rename_i hleft
          exact List.forall_mem_cons.2 ⟨fun j hj => sideCandidates_ne hb ha ok2 ok1 h12.symm
            (.inl (of_decide_eq_true hleft)) (mem_sorted_filter (mem_keepFirstK hj)), ih.1⟩
        · exact ih.1
      · unfold rightAssoc
        split
        · rename_i hright
          exact List.forall_mem_cons.2 ⟨fun j hj => sideCandidates_ne hb ha ok1 ok2 h12
            (.inr (of_decide_eq_true hright)) (mem_sorted_filter (mem_keepFirstK hj)), ih.2⟩
        · exact ih.2

theorem build_spec (rs : List Rect) (nb : Int) (i j : Int)
    (h : j ∈ (build rs nb).rowsAbove i ∨ j ∈ (build rs nb).rowsBelow i ∨ j ∈ (build rs nb).rowsLeft i ∨
      j ∈ (build rs nb).rowsRight i) : (0 ≤ j ∧ j < (rs.length : Int)) ∧ j ≠ i := by
  have hb : ScanSpec rs isBelow (buildBelow rs nb) := scan_collect_spec rs isBelow orderBelow nb
  have ha : ScanSpec rs isAbove (buildAbove rs nb) := scan_collect_spec rs isAbove orderAbove nb
  have side := List.forall_mem_append.1 (sideAssoc_spec hb ha nb _
    (fun e he => entries_ok rs e (mem_sortBy _ _ e he)) (distinct_sortBy orderSide _ (entries_distinct rs)))
  have collected : ∀ {assoc : List (Int × List Int)},
      (∀ kv ∈ assoc, ∀ j ∈ kv.2, (0 ≤ j ∧ j < (rs.length : Int)) ∧ j ≠ kv.1) →
      j ∈ at_ (collect rs.length assoc) i → (0 ≤ j ∧ j < (rs.length : Int)) ∧ j ≠ i := fun hs hj => by
    obtain ⟨kv, hkv, h1, h2⟩ := collect_spec _ _ i j hj
    exact h1 ▸ hs kv hkv j h2
  rcases h with h | h | h | h
  · obtain ⟨_, hj, hrel⟩ := ha i j h
    refine ⟨hj, fun hh => ?_⟩
    rw [hh] at hrel
    have := (isAbove_overlap hrel).1
    omega
  · obtain ⟨_, hj, hrel⟩ := hb i j h
    refine ⟨hj, fun hh => ?_⟩
    rw [hh] at hrel
    have := (isBelow_overlap hrel).1
    omega
  · exact collected side.1 h
  · exact collected side.2 h

end RowNbh

/-- `{row} ∪ rowsAbove(row)`: distinct, valid -/
theorem rowsAbove_ok (rows : List Row) (nb : Int) (r : Int) :
    (r :: (RowNbh.ofRows rows nb).rowsAbove r).Nodup ∧
    ∀ j ∈ (RowNbh.ofRows rows nb).rowsAbove r, 0 ≤ j ∧ j < rows.length := by
  have h := RowNbh.scan_spec (rows.map (·.rect)) RowNbh.isAbove RowNbh.orderAbove nb r
  exact ⟨h.1, fun j hj => List.length_map (as := rows) _ ▸ (h.2 j hj).2.1⟩

end ColoVerif.DetPlace
