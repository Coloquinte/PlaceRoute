import ColoVerif.Model.DetPlace
/-
Every move of `DetPlace` (`unplace`, `place`, `insert`, `swap`, `shift`, and `step` / `run` that chain
them) preserves `Inv`.  The pointer surgery of `place` / `unplace` is covered, not abstracted: every
lemma is about the concrete doubly linked representation.  What organises the proofs is the notion of
a site `(r, p)` (`Site` below): under `Inv` the forward and the backward links name the same neighbours,
so `unplace` is a splice (whatever pointed at the cell points past it) and `placeRaw` its inverse.
`Respects` does the induction over `step` / `run` once, for any reflexive transitive relation on states:
preservation of `Inv` here, the frame `Static` and "a placed cell stays placed" in later files.
-/
namespace ColoVerif.DetPlace
open State

variable {s : State}

theorem Inv.link (h : Inv s) {c : Int} (hc : s.validCell c) : LinkOk s c :=
  Int.toNat_of_nonneg hc.1 ▸ h.linksOk c.toNat (Int.toNat_lt hc.1 |>.2 hc.2)
theorem Inv.cell (h : Inv s) {c : Int} (hc : s.validCell c) : CellOk s c :=
  Int.toNat_of_nonneg hc.1 ▸ h.cellsOk c.toNat (Int.toNat_lt hc.1 |>.2 hc.2)
theorem Inv.rowok (h : Inv s) {r : Int} (hr : s.validRow r) : RowOk s r :=
  Int.toNat_of_nonneg hr.1 ▸ h.rowsOk r.toNat (Int.toNat_lt hr.1 |>.2 hr.2)
theorem Inv.mk' (h1 : ∀ r : Int, s.validRow r → RowOk s r) (h2 : ∀ c : Int, s.validCell c → LinkOk s c)
    (h3 : ∀ c : Int, s.validCell c → CellOk s c) : Inv s :=
  ⟨fun r hr => h1 r ⟨Int.natCast_nonneg r, Int.ofNat_lt.2 hr⟩, fun c hc => h2 c ⟨Int.natCast_nonneg c, Int.ofNat_lt.2 hc⟩,
   fun c hc => h3 c ⟨Int.natCast_nonneg c, Int.ofNat_lt.2 hc⟩⟩

/-- the two ends of a row are tested independently, once they agree on whether the row is empty -/
theorem RowOk.of_ends {r : Int} (he : s.rowLast r = -1 ↔ s.rowFirst r = -1)
    (hf : s.rowFirst r ≠ -1 → s.validCell (s.rowFirst r) ∧ s.row (s.rowFirst r) = r ∧ s.pred (s.rowFirst r) = -1)
    (hl : s.rowLast r ≠ -1 → s.validCell (s.rowLast r) ∧ s.row (s.rowLast r) = r ∧ s.next (s.rowLast r) = -1) :
    RowOk s r :=
  ⟨he, fun a => have F := hf a; have L := hl (mt he.1 a); ⟨F.1, L.1, F.2.1, F.2.2, L.2.1, L.2.2⟩⟩

section
variable {c r : Int}

theorem LinkOk.unplaced (h : LinkOk s c) (hr : s.row c = -1) : s.pred c = -1 ∧ s.next c = -1 := h.2.1 hr
theorem LinkOk.ofPred (h : LinkOk s c) (hr : s.row c ≠ -1) (hq : s.pred c ≠ -1) :
    s.validCell (s.pred c) ∧ s.row (s.pred c) = s.row c ∧
      s.x (s.pred c) + s.width (s.pred c) ≤ s.x c ∧ s.next (s.pred c) = c := (h.2.2 hr).1 hq
theorem LinkOk.ofFirst (h : LinkOk s c) (hr : s.row c ≠ -1) (hq : s.pred c = -1) :
    s.rowFirst (s.row c) = c ∧ s.rowMinX (s.row c) ≤ s.x c := (h.2.2 hr).2.1 hq
theorem LinkOk.ofNext (h : LinkOk s c) (hr : s.row c ≠ -1) (hq : s.next c ≠ -1) :
    s.validCell (s.next c) ∧ s.row (s.next c) = s.row c ∧
      s.x c + s.width c ≤ s.x (s.next c) ∧ s.pred (s.next c) = c := (h.2.2 hr).2.2.1 hq
theorem LinkOk.ofLast (h : LinkOk s c) (hr : s.row c ≠ -1) (hq : s.next c = -1) :
    s.rowLast (s.row c) = c ∧ s.x c + s.width c ≤ s.rowMaxX (s.row c) := (h.2.2 hr).2.2.2 hq

/-- all that `LinkOk` says of the abscissas: a placed cell lies between its neighbours, or the ends of its row -/
theorem LinkOk.fits (h : LinkOk s c) (hr : s.row c ≠ -1) :
    s.boundaryBefore c ≤ s.x c ∧ s.x c + s.width c ≤ s.boundaryAfter c := by
  unfold boundaryBefore boundaryAfter
  constructor
  · split
    · exact (h.ofFirst hr ‹_›).2
    · exact (h.ofPred hr ‹_›).2.2.1
  · split
    · exact (h.ofLast hr ‹_›).2
    · exact (h.ofNext hr ‹_›).2.2.1

theorem LinkOk.setX (h : LinkOk s c) {f : Int → Int} (hf : s.row c ≠ -1 →
      boundaryBefore { s with x := f } c ≤ f c ∧ f c + s.width c ≤ boundaryAfter { s with x := f } c) :
    LinkOk { s with x := f } c := by
  refine ⟨h.1, h.2.1, fun hr => ?_⟩
  obtain ⟨B, A⟩ := hf hr
  unfold boundaryBefore at B
  unfold boundaryAfter at A
  exact ⟨fun a => have P := h.ofPred hr a; ⟨P.1, P.2.1, le_of_eq_of_le (if_neg a).symm B, P.2.2.2⟩,
    fun a => ⟨(h.ofFirst hr a).1, le_of_eq_of_le (if_pos a).symm B⟩,
    fun a => have N := h.ofNext hr a; ⟨N.1, N.2.1, le_of_le_of_eq A (if_neg a), N.2.2.2⟩,
    fun a => ⟨(h.ofLast hr a).1, le_of_le_of_eq A (if_pos a)⟩⟩

theorem validCell_ne {c : Int} (hc : s.validCell c) : c ≠ -1 := fun e => by have := hc.1; omega
theorem validRow_ne {r : Int} (hr : s.validRow r) : r ≠ -1 := fun e => by have := hr.1; omega

theorem Inv.placed_row (h : Inv s) (hc : s.validCell c) (hp : s.row c ≠ -1) : s.validRow (s.row c) :=
  have := (h.link hc).1; ⟨by omega, this.2⟩
theorem Inv.placed_width (h : Inv s) (hc : s.validCell c) (hp : s.row c ≠ -1) : 0 < s.width c :=
  have := h.cell hc; (this.1 (this.2 hp).1).2

theorem Inv.pred_lt (h : Inv s) (hc : s.validCell c) (hp : s.row c ≠ -1) (hq : s.pred c ≠ -1) :
    s.x (s.pred c) < s.x c := by
  have P := (h.link hc).ofPred hp hq
  have := h.placed_width P.1 (P.2.1 ▸ hp)
  omega

theorem Inv.pred_ne (h : Inv s) (hc : s.validCell c) (hp : s.row c ≠ -1) : s.pred c ≠ c := fun e => by
  have := h.pred_lt hc hp (by rw [e]; exact validCell_ne hc)
  rw [e] at this
  omega

end

/-- The site `(r, p)` is the gap of row `r` that follows the cell `p`, or that precedes the first cell when
`p = -1`; `siteNext r p` is the cell that closes it (or `-1`).  Under `Inv` the forward links (`rowFirst`,
`next`) and the backward links (`rowLast`, `pred`) describe the same lists, so either end names the site. -/
def Site (s : State) (r p : Int) : Prop := s.validRow r ∧ (p = -1 ∨ (s.validCell p ∧ s.row p = r))

section
variable {a b c r p : Int}

theorem Inv.next_eq_iff (h : Inv s) (ha : s.validCell a) (hb : s.validCell b) : s.next a = b ↔ s.pred b = a := by
  constructor
  · intro e
    have hp : s.row a ≠ -1 := fun hr => validCell_ne hb (e ▸ ((h.link ha).unplaced hr).2)
    exact e ▸ ((h.link ha).ofNext hp (e ▸ validCell_ne hb)).2.2.2
  · intro e
    have hp : s.row b ≠ -1 := fun hr => validCell_ne ha (e ▸ ((h.link hb).unplaced hr).1)
    exact e ▸ ((h.link hb).ofPred hp (e ▸ validCell_ne ha)).2.2.2

theorem Inv.next_ne (h : Inv s) (hc : s.validCell c) (hp : s.row c ≠ -1) : s.next c ≠ c :=
  fun e => h.pred_ne hc hp ((h.next_eq_iff hc hc).1 e)

theorem Inv.rowFirst_eq_iff (h : Inv s) (hr : s.validRow r) (hc : s.validCell c) :
    s.rowFirst r = c ↔ s.row c = r ∧ s.pred c = -1 := by
  constructor
  · intro e
    have := (h.rowok hr).2 (e ▸ validCell_ne hc)
    rw [e] at this
    exact ⟨this.2.2.1, this.2.2.2.1⟩
  · intro ⟨e1, e2⟩
    exact e1 ▸ ((h.link hc).ofFirst (e1 ▸ validRow_ne hr) e2).1

theorem Inv.rowLast_eq_iff (h : Inv s) (hr : s.validRow r) (hc : s.validCell c) :
    s.rowLast r = c ↔ s.row c = r ∧ s.next c = -1 := by
  constructor
  · intro e
    have R := h.rowok hr
    have := R.2 (fun hf => validCell_ne hc (e ▸ R.1.2 hf))
    rw [e] at this
    exact ⟨this.2.2.2.2.1, this.2.2.2.2.2⟩
  · intro ⟨e1, e2⟩
    exact e1 ▸ ((h.link hc).ofLast (e1 ▸ validRow_ne hr) e2).1

theorem Inv.site_pred (h : Inv s) (hc : s.validCell c) (hp : s.row c ≠ -1) : Site s (s.row c) (s.pred c) :=
  ⟨h.placed_row hc hp, (Decidable.em (s.pred c = -1)).imp_right fun hq =>
    have := (h.link hc).ofPred hp hq; ⟨this.1, this.2.1⟩⟩

theorem siteNext_head (s : State) (r : Int) : s.siteNext r (-1) = s.rowFirst r := rfl
theorem siteNext_cell (hp : p ≠ -1) : s.siteNext r p = s.next p := if_neg hp

theorem Inv.siteNext_eq_iff (h : Inv s) (hs : Site s r p) (hc : s.validCell c) :
    s.siteNext r p = c ↔ s.row c = r ∧ s.pred c = p := by
  obtain ⟨hr, rfl | ⟨hv, rfl⟩⟩ := hs
  · exact h.rowFirst_eq_iff hr hc
  · rw [siteNext_cell (validCell_ne hv), h.next_eq_iff hv hc]
    constructor
    · intro e
      have hp : s.row c ≠ -1 := fun hr => validCell_ne hv (e ▸ ((h.link hc).unplaced hr).1)
      exact ⟨e ▸ ((h.link hc).ofPred hp (e ▸ validCell_ne hv)).2.1.symm, e⟩
    · exact fun e => e.2

theorem Inv.siteNext_pred (h : Inv s) (hc : s.validCell c) (hp : s.row c ≠ -1) :
    s.siteNext (s.row c) (s.pred c) = c :=
  (h.siteNext_eq_iff (h.site_pred hc hp) hc).2 ⟨rfl, rfl⟩

theorem Inv.siteNext_eq_neg_one_iff (h : Inv s) (hs : Site s r p) : s.siteNext r p = -1 ↔ s.rowLast r = p := by
  obtain ⟨hr, rfl | ⟨hv, rfl⟩⟩ := hs
  · exact (h.rowok hr).1.symm
  · rw [siteNext_cell (validCell_ne hv), h.rowLast_eq_iff hr hv]
    exact ⟨fun e => ⟨rfl, e⟩, fun e => e.2⟩

theorem Inv.siteNext_valid (h : Inv s) (hs : Site s r p) (hn : s.siteNext r p ≠ -1) :
    s.validCell (s.siteNext r p) := by
  obtain ⟨hr, rfl | ⟨hv, rfl⟩⟩ := hs
  · exact ((h.rowok hr).2 hn).1
  · rw [siteNext_cell (validCell_ne hv)] at hn ⊢
    exact ((h.link hv).ofNext (validRow_ne hr) hn).1

theorem Site.of_cell (h : Inv s) {k : Int} (vk : s.validCell k) (pk : s.row k ≠ -1) : Site s (s.row k) k :=
  ⟨h.placed_row vk pk, .inr ⟨vk, rfl⟩⟩

theorem Inv.site_siteNext (h : Inv s) (hs : Site s r p) : Site s r (s.siteNext r p) :=
  ⟨hs.1, (Decidable.em (s.siteNext r p = -1)).imp_right fun hn =>
    ⟨h.siteNext_valid hs hn, ((h.siteNext_eq_iff hs (h.siteNext_valid hs hn)).1 rfl).1⟩⟩

theorem Inv.site_next (h : Inv s) {k : Int} (hs : Site s r k) (hk : k ≠ -1) : Site s r (s.next k) :=
  siteNext_cell (s := s) (r := r) hk ▸ h.site_siteNext hs

theorem Inv.site_rowFirst (h : Inv s) (hr : s.validRow r) : Site s r (s.rowFirst r) :=
  h.site_siteNext (p := -1) ⟨hr, .inl rfl⟩

theorem Inv.site_pred_of_site (h : Inv s) {k : Int} (hs : Site s r k) (hk : k ≠ -1) : Site s r (s.pred k) := by
  obtain ⟨vk, rk⟩ := hs.2.resolve_left hk
  exact rk ▸ h.site_pred vk (rk ▸ validRow_ne hs.1)

end

section
variable {c d r : Int}

theorem if_iff_congr {α : Type} {P Q : Prop} [Decidable P] [Decidable Q] (h : P ↔ Q) (a b : α) :
    (if P then a else b) = if Q then a else b :=
  ite_congr (propext h) (fun _ => rfl) fun _ => rfl

theorem unplace_row (s : State) (c d : Int) : (s.unplace c).row d = if d = c then -1 else s.row d := rfl

theorem unplaceAll_rows {s t : State} {cs : List Int} (e : s.unplaceAll cs = .ok t) (d : Int) :
    t.row d = if d ∈ cs then -1 else s.row d := by
  induction cs generalizing s with
  | nil => cases e; exact (if_neg List.not_mem_nil).symm
  | cons c cs ih =>
    unfold State.unplaceAll at e
    split at e
    · rw [ih e, unplace_row]
      by_cases h1 : d ∈ cs
      · rw [if_pos h1, if_pos (List.mem_cons_of_mem _ h1)]
      · by_cases h2 : d = c
        · rw [if_neg h1, if_pos h2, if_pos (h2 ▸ List.mem_cons_self)]
        · rw [if_neg h1, if_neg h2, if_neg fun m => (List.mem_cons.mp m).elim h2 h1]
    · cases e

theorem Site.unplace {p : Int} (hs : Site s r p) (hpc : p ≠ c) : Site (s.unplace c) r p :=
  ⟨hs.1, hs.2.imp_right fun ⟨v, e⟩ => ⟨v, (if_neg hpc).trans e⟩⟩

theorem Inv.unplace_pred (h : Inv s) (hc : s.validCell c) (hd : s.validCell d) (hdc : d ≠ c) :
    (s.unplace c).pred d = if s.pred d = c then s.pred c else s.pred d := by
  have e : (s.unplace c).pred d =
      if s.next c ≠ -1 ∧ d = s.next c then s.pred c else if d = c then -1 else s.pred d := rfl
  rw [e, if_neg hdc]
  exact if_iff_congr ⟨fun a => (h.next_eq_iff hc hd).1 a.2.symm, fun a =>
    have := (h.next_eq_iff hc hd).2 a; ⟨this ▸ validCell_ne hd, this.symm⟩⟩ _ _

theorem Inv.unplace_next (h : Inv s) (hc : s.validCell c) (hd : s.validCell d) (hdc : d ≠ c) :
    (s.unplace c).next d = if s.next d = c then s.next c else s.next d := by
  have e : (s.unplace c).next d =
      if d = c then -1 else if s.pred c ≠ -1 ∧ d = s.pred c then s.next c else s.next d := rfl
  rw [e, if_neg hdc]
  exact if_iff_congr ⟨fun a => (h.next_eq_iff hd hc).2 a.2.symm, fun a =>
    have := (h.next_eq_iff hd hc).1 a; ⟨this ▸ validCell_ne hd, this.symm⟩⟩ _ _

theorem Inv.unplace_rowFirst (h : Inv s) (hc : s.validCell c) (hr : s.validRow r) :
    (s.unplace c).rowFirst r = if s.rowFirst r = c then s.next c else s.rowFirst r := by
  have e : (s.unplace c).rowFirst r = if s.pred c = -1 ∧ r = s.row c then s.next c else s.rowFirst r := rfl
  rw [e]
  exact if_iff_congr ⟨fun a => (h.rowFirst_eq_iff hr hc).2 ⟨a.2.symm, a.1⟩, fun a =>
    have := (h.rowFirst_eq_iff hr hc).1 a; ⟨this.2, this.1.symm⟩⟩ _ _

theorem Inv.unplace_rowLast (h : Inv s) (hc : s.validCell c) (hr : s.validRow r) :
    (s.unplace c).rowLast r = if s.rowLast r = c then s.pred c else s.rowLast r := by
  have e : (s.unplace c).rowLast r = if s.next c = -1 ∧ r = s.row c then s.pred c else s.rowLast r := rfl
  rw [e]
  exact if_iff_congr ⟨fun a => (h.rowLast_eq_iff hr hc).2 ⟨a.2.symm, a.1⟩, fun a =>
    have := (h.rowLast_eq_iff hr hc).1 a; ⟨this.2, this.1.symm⟩⟩ _ _

/-- what ends before a cell of positive width ends before whatever begins after it -/
theorem le_across {a x w b : Int} (h1 : a ≤ x) (hw : 0 < w) (h2 : x + w ≤ b) : a ≤ b := by omega

theorem unplace_link (h : Inv s) (hc : s.validCell c) (hp : s.row c ≠ -1) (d : Int) (hd : s.validCell d) :
    LinkOk (s.unplace c) d := by
  have Lc := h.link hc
  have wc := h.placed_width hc hp
  by_cases hdc : d = c
  · subst hdc
    have e1 : (s.unplace d).row d = -1 := if_pos rfl
    have e2 : (s.unplace d).pred d = -1 := (if_neg fun a => h.next_ne hc hp a.2.symm).trans (if_pos rfl)
    have e3 : (s.unplace d).next d = -1 := if_pos rfl
    exact ⟨by rw [e1]; exact ⟨Int.le_refl _, by omega⟩, fun _ => ⟨e2, e3⟩, fun hr => absurd e1 hr⟩
  have Ld := h.link hd
  have rowOf : ∀ {q}, q ≠ c → (s.unplace c).row q = s.row q := fun hq => if_neg hq
  have cne := Ne.symm (validCell_ne hc)
  unfold LinkOk
  rw [rowOf hdc, h.unplace_pred hc hd hdc, h.unplace_next hc hd hdc]
  refine ⟨Ld.1, fun hr => ?_, fun hr => and_assoc.1 ⟨?_, ?_⟩⟩
  · have := Ld.unplaced hr
    rw [this.1, this.2, if_neg cne, if_neg cne]
    exact ⟨rfl, rfl⟩
  · by_cases hq : s.pred d = c
    · -- `d` followed `c`: it inherits the predecessor of `c`
      have hn : s.next c = d := (h.next_eq_iff hc hd).2 hq
      have Dp := Ld.ofPred hr (hq ▸ validCell_ne hc)
      rw [hq] at Dp
      rw [if_pos hq]
      refine ⟨fun hp' => ?_, fun hp' => ?_⟩
      · have Cp := Lc.ofPred hp hp'
        have pc : s.pred c ≠ c := h.pred_ne hc hp
        refine ⟨Cp.1, (rowOf pc).trans (Cp.2.1.trans Dp.2.1), le_across Cp.2.2.1 wc Dp.2.2.1, ?_⟩
        rw [h.unplace_next hc Cp.1 pc, if_pos Cp.2.2.2, hn]
      · have Cf := Lc.ofFirst hp hp'
        rw [← Dp.2.1, h.unplace_rowFirst hc (h.placed_row hc hp), if_pos Cf.1]
        exact ⟨hn, le_across Cf.2 wc Dp.2.2.1⟩
    · rw [if_neg hq]
      refine ⟨fun hp' => ?_, fun hp' => ?_⟩
      · have Dp := Ld.ofPred hr hp'
        refine ⟨Dp.1, (rowOf hq).trans Dp.2.1, Dp.2.2.1, ?_⟩
        rw [h.unplace_next hc Dp.1 hq, Dp.2.2.2, if_neg hdc]
      · have Df := Ld.ofFirst hr hp'
        rw [h.unplace_rowFirst hc (h.placed_row hd hr), if_neg (by rw [Df.1]; exact hdc)]
        exact Df
  · by_cases hq : s.next d = c
    · -- `d` preceded `c`: it inherits the successor of `c`
      have hn : s.pred c = d := (h.next_eq_iff hd hc).1 hq
      have Dn := Ld.ofNext hr (hq ▸ validCell_ne hc)
      rw [hq] at Dn
      rw [if_pos hq]
      refine ⟨fun hn' => ?_, fun hn' => ?_⟩
      · have Cn := Lc.ofNext hp hn'
        have nc : s.next c ≠ c := h.next_ne hc hp
        refine ⟨Cn.1, (rowOf nc).trans (Cn.2.1.trans Dn.2.1), le_across Dn.2.2.1 wc Cn.2.2.1, ?_⟩
        rw [h.unplace_pred hc Cn.1 nc, if_pos Cn.2.2.2, hn]
      · have Cl := Lc.ofLast hp hn'
        rw [← Dn.2.1, h.unplace_rowLast hc (h.placed_row hc hp), if_pos Cl.1]
        exact ⟨hn, le_across Dn.2.2.1 wc Cl.2⟩
    · rw [if_neg hq]
      refine ⟨fun hn' => ?_, fun hn' => ?_⟩
      · have Dn := Ld.ofNext hr hn'
        refine ⟨Dn.1, (rowOf hq).trans Dn.2.1, Dn.2.2.1, ?_⟩
        rw [h.unplace_pred hc Dn.1 hq, Dn.2.2.2, if_neg hdc]
      · have Dl := Ld.ofLast hr hn'
        rw [h.unplace_rowLast hc (h.placed_row hd hr), if_neg (by rw [Dl.1]; exact hdc)]
        exact Dl

theorem unplace_rowok (h : Inv s) (hc : s.validCell c) (hp : s.row c ≠ -1) (r : Int) (hr : s.validRow r) :
    RowOk (s.unplace c) r := by
  have Lc := h.link hc
  have R := h.rowok hr
  have cne := Ne.symm (validCell_ne hc)
  have rowOf : ∀ {q}, q ≠ c → (s.unplace c).row q = s.row q := fun hq => if_neg hq
  have F := h.rowFirst_eq_iff hr hc
  have L := h.rowLast_eq_iff hr hc
  refine RowOk.of_ends ?_ ?_ ?_
  · rw [h.unplace_rowFirst hc hr, h.unplace_rowLast hc hr]
    by_cases hf : s.rowFirst r = c
    · rw [if_pos hf]
      by_cases hl : s.rowLast r = c
      · -- `c` was alone in its row
        rw [if_pos hl]
        exact ⟨fun _ => (L.1 hl).2, fun _ => (F.1 hf).2⟩
      · rw [if_neg hl]
        exact ⟨fun a => absurd (hf ▸ R.1.1 a) cne.symm, fun a => absurd (L.2 ⟨(F.1 hf).1, a⟩) hl⟩
    · rw [if_neg hf]
      by_cases hl : s.rowLast r = c
      · rw [if_pos hl]
        exact ⟨fun a => absurd (F.2 ⟨(L.1 hl).1, a⟩) hf, fun a => absurd (hl ▸ R.1.2 a) cne.symm⟩
      · rw [if_neg hl]
        exact R.1
  · rw [h.unplace_rowFirst hc hr]
    by_cases hf : s.rowFirst r = c
    · -- `c` was the first: its successor becomes the first
      obtain ⟨rfl, hpc⟩ := F.1 hf
      rw [if_pos hf]
      intro hn
      have Cn := Lc.ofNext hp hn
      have nc := h.next_ne hc hp
      exact ⟨Cn.1, (rowOf nc).trans Cn.2.1, by rw [h.unplace_pred hc Cn.1 nc, if_pos Cn.2.2.2, hpc]⟩
    · rw [if_neg hf]
      intro a
      have Rf := R.2 a
      exact ⟨Rf.1, (rowOf hf).trans Rf.2.2.1, by rw [h.unplace_pred hc Rf.1 hf, Rf.2.2.2.1, if_neg cne]⟩
  · rw [h.unplace_rowLast hc hr]
    by_cases hl : s.rowLast r = c
    · -- `c` was the last: its predecessor becomes the last
      obtain ⟨rfl, hnc⟩ := L.1 hl
      rw [if_pos hl]
      intro hq
      have Cp := Lc.ofPred hp hq
      have pc := h.pred_ne hc hp
      exact ⟨Cp.1, (rowOf pc).trans Cp.2.1, by rw [h.unplace_next hc Cp.1 pc, if_pos Cp.2.2.2, hnc]⟩
    · rw [if_neg hl]
      intro a
      have Rf := R.2 (mt R.1.2 a)
      exact ⟨Rf.2.1, (rowOf hl).trans Rf.2.2.2.2.1, by rw [h.unplace_next hc Rf.2.1 hl, Rf.2.2.2.2.2, if_neg cne]⟩

theorem unplace_cellok (h : Inv s) (d : Int) (hd : s.validCell d) : CellOk (s.unplace c) d := by
  have Cd := h.cell hd
  refine ⟨Cd.1, fun hr => ?_⟩
  by_cases hdc : d = c
  · exact absurd (if_pos hdc) hr
  · have e : (s.unplace c).row d = s.row d := if_neg hdc
    rw [e] at hr ⊢
    exact Cd.2 hr

theorem unplace_inv (h : Inv s) (hc : s.validCell c) (hp : s.row c ≠ -1) : Inv (s.unplace c) :=
  Inv.mk' (fun r hr => unplace_rowok h hc hp r hr) (fun d hd => unplace_link h hc hp d hd)
    (fun d hd => unplace_cellok h d hd)

end

/-- what `place` needs beyond `canPlace`: the contract the optimiser respects -/
structure PlaceOk (s : State) (c r p : Int) : Prop where
  hc : s.validCell c
  unplaced : s.row c = -1
  live : s.width c ≠ -1
  hr : s.validRow r
  hp : p = -1 ∨ (s.validCell p ∧ s.row p = r)

section
variable {c r p x d : Int}

theorem PlaceOk.site (ok : PlaceOk s c r p) : Site s r p := ⟨ok.hr, ok.hp⟩

theorem PlaceOk.p_ne (ok : PlaceOk s c r p) : p ≠ c := by
  rintro rfl
  rcases ok.hp with e | ⟨-, e⟩
  · exact validCell_ne ok.hc e
  · exact validRow_ne ok.hr (e.symm.trans ok.unplaced)
theorem Inv.siteNext_ne (h : Inv s) (ok : PlaceOk s c r p) : s.siteNext r p ≠ c := fun e =>
  validRow_ne ok.hr (((h.siteNext_eq_iff ok.site ok.hc).1 e).1.symm.trans ok.unplaced)

theorem placeRaw_row (s : State) (c r p x d : Int) : (s.placeRaw c r p x).row d = if d = c then r else s.row d := rfl
theorem placeRaw_x (s : State) (c r p x d : Int) : (s.placeRaw c r p x).x d = if d = c then x else s.x d := rfl
theorem placeRaw_y (s : State) (c r p x d : Int) : (s.placeRaw c r p x).y d = if d = c then s.rowY r else s.y d := rfl

theorem placeRaw_pred_self (h : Inv s) (ok : PlaceOk s c r p) : (s.placeRaw c r p x).pred c = p :=
  (if_neg fun a => h.siteNext_ne ok a.2.symm).trans (if_pos rfl)
theorem placeRaw_next_self (s : State) (c r p x : Int) : (s.placeRaw c r p x).next c = s.siteNext r p := if_pos rfl
theorem placeRaw_pred_of_ne (hd : d ≠ -1) (hdc : d ≠ c) :
    (s.placeRaw c r p x).pred d = if d = s.siteNext r p then c else s.pred d := by
  have e : (s.placeRaw c r p x).pred d =
      if s.siteNext r p ≠ -1 ∧ d = s.siteNext r p then c else if d = c then p else s.pred d := rfl
  rw [e, if_neg hdc]
  exact if_iff_congr ⟨fun a => a.2, fun a => ⟨a ▸ hd, a⟩⟩ _ _
theorem placeRaw_next_of_ne (hd : d ≠ -1) (hdc : d ≠ c) :
    (s.placeRaw c r p x).next d = if d = p then c else s.next d := by
  have e : (s.placeRaw c r p x).next d =
      if d = c then s.siteNext r p else if p ≠ -1 ∧ d = p then c else s.next d := rfl
  rw [e, if_neg hdc]
  exact if_iff_congr ⟨fun a => a.2, fun a => ⟨a ▸ hd, a⟩⟩ _ _

theorem placeRaw_link (h : Inv s) (ok : PlaceOk s c r p)
    (hx1 : s.siteBegin r p ≤ x) (hx2 : x + s.width c ≤ s.siteEnd r p)
    (d : Int) (hd : s.validCell d) : LinkOk (s.placeRaw c r p x) d := by
  have S := ok.site
  have cne := validCell_ne ok.hc
  have pc := ok.p_ne
  have nc := h.siteNext_ne ok
  -- the cell that closes the site, and the one that opens it
  have N : ∀ {q}, q ≠ -1 → q = s.siteNext r p → s.validCell q ∧ s.row q = r ∧ s.pred q = p := by
    rintro q a rfl
    exact ⟨h.siteNext_valid S a, (h.siteNext_eq_iff S (h.siteNext_valid S a)).1 rfl⟩
  have P : ∀ {q}, q ≠ -1 → q = p → s.validCell q ∧ s.row q = r ∧ s.next q = s.siteNext r p := by
    rintro q a rfl
    exact ⟨(ok.hp.resolve_left a).1, (ok.hp.resolve_left a).2, (siteNext_cell a).symm⟩
  have rowOf : ∀ {q}, q ≠ c → (s.placeRaw c r p x).row q = s.row q := fun hq => if_neg hq
  have xOf : ∀ {q}, q ≠ c → (s.placeRaw c r p x).x q = s.x q := fun hq => if_neg hq
  have xc : (s.placeRaw c r p x).x c = x := if_pos rfl
  have placed_ne : ∀ {q}, s.row q ≠ -1 → q ≠ c := fun hq e => hq (e ▸ ok.unplaced)
  unfold LinkOk
  by_cases hdc : d = c
  · subst hdc
    have er : (s.placeRaw d r p x).row d = r := if_pos rfl
    rw [er, placeRaw_pred_self h ok, placeRaw_next_self, xc]
    refine ⟨⟨by have := ok.hr.1; omega, ok.hr.2⟩, fun a => absurd a (validRow_ne ok.hr),
      fun _ => ⟨fun a => ?_, fun a => ?_, fun a => ?_, fun a => ?_⟩⟩
    · have Pp := P a rfl
      rw [siteBegin, if_neg a] at hx1
      refine ⟨Pp.1, (rowOf pc).trans Pp.2.1, by rw [xOf pc]; exact hx1, ?_⟩
      rw [placeRaw_next_of_ne a pc, if_pos rfl]
    · rw [siteBegin, if_pos a] at hx1
      exact ⟨if_pos ⟨a, rfl⟩, hx1⟩
    · have Nn := N a rfl
      rw [siteEnd, if_neg a] at hx2
      refine ⟨Nn.1, (rowOf nc).trans Nn.2.1, by rw [xOf nc]; exact hx2, ?_⟩
      rw [placeRaw_pred_of_ne a nc, if_pos rfl]
    · rw [siteEnd, if_pos a] at hx2
      exact ⟨if_pos ⟨a, rfl⟩, hx2⟩
  have Ld := h.link hd
  have dne := validCell_ne hd
  rw [rowOf hdc, placeRaw_pred_of_ne dne hdc, placeRaw_next_of_ne dne hdc, xOf hdc]
  refine ⟨Ld.1, fun hr => ?_, fun hr => and_assoc.1 ⟨?_, ?_⟩⟩
  · -- an unplaced cell is neither end of the site
    have h1 : d ≠ s.siteNext r p := fun a => validRow_ne ok.hr ((N dne a).2.1.symm.trans hr)
    have h2 : d ≠ p := fun a => validRow_ne ok.hr ((P dne a).2.1.symm.trans hr)
    rw [if_neg h1, if_neg h2]
    exact Ld.unplaced hr
  · by_cases hq : d = s.siteNext r p
    · -- `d` closes the site: `c` becomes its predecessor
      have Nn := N dne hq
      rw [siteEnd, if_neg (hq ▸ dne), ← hq] at hx2
      rw [if_pos hq]
      refine ⟨fun _ => ⟨ok.hc, (if_pos rfl).trans Nn.2.1.symm, by rw [xc]; exact hx2, ?_⟩, fun a => absurd a cne⟩
      rw [placeRaw_next_self]
      exact hq.symm
    · rw [if_neg hq]
      refine ⟨fun a => ?_, fun a => ?_⟩
      · have Dp := Ld.ofPred hr a
        have qc : s.pred d ≠ c := placed_ne (by rw [Dp.2.1]; exact hr)
        refine ⟨Dp.1, (rowOf qc).trans Dp.2.1, by rw [xOf qc]; exact Dp.2.2.1, ?_⟩
        rw [placeRaw_next_of_ne a qc, if_neg ?_]
        · exact Dp.2.2.2
        · exact fun e => hq (Dp.2.2.2.symm.trans (P a e).2.2)
      · have Df := Ld.ofFirst hr a
        refine ⟨(if_neg fun e => hq ?_).trans Df.1, Df.2⟩
        rw [e.1, ← e.2, siteNext_head]
        exact Df.1.symm
  · by_cases hq : d = p
    · -- `d` opens the site: `c` becomes its successor
      subst hq
      have Pp := P dne rfl
      rw [siteBegin, if_neg dne] at hx1
      rw [if_pos rfl]
      refine ⟨fun _ => ⟨ok.hc, (if_pos rfl).trans Pp.2.1.symm, by rw [xc]; exact hx1, ?_⟩, fun a => absurd a cne⟩
      exact placeRaw_pred_self h ok
    · rw [if_neg hq]
      refine ⟨fun a => ?_, fun a => ?_⟩
      · have Dn := Ld.ofNext hr a
        have mc : s.next d ≠ c := placed_ne (by rw [Dn.2.1]; exact hr)
        refine ⟨Dn.1, (rowOf mc).trans Dn.2.1, by rw [xOf mc]; exact Dn.2.2.1, ?_⟩
        rw [placeRaw_pred_of_ne a mc, if_neg ?_]
        · exact Dn.2.2.2
        · exact fun e => hq (Dn.2.2.2.symm.trans (N a e).2.2)
      · have Dl := Ld.ofLast hr a
        refine ⟨(if_neg fun e => hq ?_).trans Dl.1, Dl.2⟩
        rw [← Dl.1, e.2]
        exact (h.siteNext_eq_neg_one_iff S).1 e.1

theorem placeRaw_rowok (h : Inv s) (ok : PlaceOk s c r p) (q : Int) (hq : s.validRow q) :
    RowOk (s.placeRaw c r p x) q := by
  have S := ok.site
  have cne := validCell_ne ok.hc
  have R := h.rowok hq
  have qne := validRow_ne hq
  have placed_ne : ∀ {d}, s.row d ≠ -1 → d ≠ c := fun hd e => hd (e ▸ ok.unplaced)
  have rowOf : ∀ {d}, d ≠ c → (s.placeRaw c r p x).row d = s.row d := fun hd => if_neg hd
  have rc : (s.placeRaw c r p x).row c = r := if_pos rfl
  have ef : (s.placeRaw c r p x).rowFirst q = if p = -1 ∧ q = r then c else s.rowFirst q := rfl
  have el : (s.placeRaw c r p x).rowLast q = if s.siteNext r p = -1 ∧ q = r then c else s.rowLast q := rfl
  refine RowOk.of_ends ?_ ?_ ?_
  · rw [ef, el]
    by_cases hF : p = -1 ∧ q = r
    · rw [if_pos hF]
      by_cases hL : s.siteNext r p = -1 ∧ q = r
      · rw [if_pos hL]
      · -- `c` becomes the first cell of a row that has others
        rw [if_neg hL]
        exact ⟨fun e => absurd ⟨by rw [hF.1, ← hF.2, siteNext_head]; exact R.1.1 e, hF.2⟩ hL, fun e => absurd e cne⟩
    · rw [if_neg hF]
      by_cases hL : s.siteNext r p = -1 ∧ q = r
      · -- `c` becomes the last cell, behind `p`
        rw [if_pos hL]
        refine ⟨fun e => absurd e cne, fun e => absurd ⟨?_, hL.2⟩ hF⟩
        rw [← (h.siteNext_eq_neg_one_iff S).1 hL.1, ← hL.2]
        exact R.1.2 e
      · rw [if_neg hL]
        exact R.1
  · rw [ef]
    by_cases hF : p = -1 ∧ q = r
    · rw [if_pos hF]
      exact fun _ => ⟨ok.hc, rc.trans hF.2.symm, (placeRaw_pred_self h ok).trans hF.1⟩
    · -- a first cell that stays first keeps its empty backward link
      rw [if_neg hF]
      intro a
      have Rf := R.2 a
      have fc : s.rowFirst q ≠ c := placed_ne (by rw [Rf.2.2.1]; exact qne)
      refine ⟨Rf.1, (rowOf fc).trans Rf.2.2.1, ?_⟩
      rw [placeRaw_pred_of_ne a fc, if_neg ?_]
      · exact Rf.2.2.2.1
      · intro e
        have Nn := (h.siteNext_eq_iff S Rf.1).1 e.symm
        exact hF ⟨Nn.2.symm.trans Rf.2.2.2.1, Rf.2.2.1.symm.trans Nn.1⟩
  · rw [el]
    by_cases hL : s.siteNext r p = -1 ∧ q = r
    · rw [if_pos hL]
      exact fun _ => ⟨ok.hc, rc.trans hL.2.symm, (placeRaw_next_self s c r p x).trans hL.1⟩
    · -- a last cell that stays last keeps its empty forward link
      rw [if_neg hL]
      intro a
      have Rf := R.2 (mt R.1.2 a)
      have lc : s.rowLast q ≠ c := placed_ne (by rw [Rf.2.2.2.2.1]; exact qne)
      refine ⟨Rf.2.1, (rowOf lc).trans Rf.2.2.2.2.1, ?_⟩
      rw [placeRaw_next_of_ne a lc, if_neg ?_]
      · exact Rf.2.2.2.2.2
      · intro e
        have hp1 : p ≠ -1 := by rw [← e]; exact a
        exact hL ⟨by rw [siteNext_cell hp1, ← e]; exact Rf.2.2.2.2.2,
          by rw [← Rf.2.2.2.2.1, e]; exact (ok.hp.resolve_left hp1).2⟩

theorem placeRaw_cellok (h : Inv s) (ok : PlaceOk s c r p) (hal : s.isRowAllowed c r = true)
    (d : Int) (hd : s.validCell d) : CellOk (s.placeRaw c r p x) d := by
  have Cd := h.cell hd
  unfold CellOk
  by_cases hdc : d = c
  · subst hdc
    have hal' : cellOrientationInRow (s.pol d) (s.rowOrient r) ≠ Orient.INVALID := by
      simpa [isRowAllowed] using hal
    have er : (s.placeRaw d r p x).row d = r := if_pos rfl
    have eo : (s.placeRaw d r p x).orient d = s.placedOrient d r := if_pos rfl
    have ey : (s.placeRaw d r p x).y d = s.rowY r := if_pos rfl
    have C1 := Cd.1 ok.live
    rw [er, eo, ey]
    refine ⟨fun _ => ⟨?_, C1.2⟩, fun _ => ⟨ok.live, hal', fun a => if_pos a, rfl⟩⟩
    unfold placedOrient
    split
    · exact hal'
    · exact C1.1
  · have er : (s.placeRaw c r p x).row d = s.row d := if_neg hdc
    have eo : (s.placeRaw c r p x).orient d = s.orient d := if_neg hdc
    have ey : (s.placeRaw c r p x).y d = s.y d := if_neg hdc
    rw [er, eo, ey]
    exact Cd

theorem place_ok {s t : State} {c r p x : Int} (e : s.place c r p x = .ok t) :
    t = s.placeRaw c r p x ∧ s.isRowAllowed c r = true ∧ s.siteBegin r p ≤ x ∧ x + s.width c ≤ s.siteEnd r p := by
  unfold place at e
  split at e
  · cases e
  · cases e
  rename_i hcan
  unfold canPlace at hcan
  split at hcan
  · cases hcan
  split at hcan
  · cases hcan
  rename_i p2
  cases e
  simp only [Except.ok.injEq, Bool.and_eq_true, decide_eq_true_eq] at hcan
  exact ⟨rfl, by simpa using p2, hcan.1, hcan.2⟩

theorem place_inv {s t : State} (h : Inv s) {c r p x : Int} (ok : PlaceOk s c r p)
    (e : s.place c r p x = .ok t) : Inv t := by
  obtain ⟨rfl, hal, h1, h2⟩ := place_ok e
  exact Inv.mk' (fun q hq => placeRaw_rowok h ok q hq) (fun d hd => placeRaw_link h ok h1 h2 d hd)
    (fun d hd => placeRaw_cellok h ok hal d hd)

end

theorem liveCell_iff (s : State) (c : Int) : s.liveCell c = true ↔ s.validCell c ∧ s.width c ≠ -1 := by
  simp [liveCell, isIgnored]
theorem isPlaced_iff (s : State) (c : Int) : s.isPlaced c = true ↔ s.row c ≠ -1 := by
  simp [isPlaced]
theorem siteOk_iff (s : State) (r p : Int) : s.siteOk r p = true ↔ Site s r p := by
  simp [siteOk, Site]

theorem canInsert_true {s : State} {c r p : Int} (h : s.canInsert c r p = .ok true) :
    s.row c ≠ -1 ∧ c ≠ p ∧ ¬ (s.row c = r ∧ s.pred c = p) ∧ s.isRowAllowed c r = true ∧
    s.siteEnd r p - s.siteBegin r p ≥ s.width c := by
  unfold canInsert at h
  split at h
  · cases h
  split at h
  · cases h
  split at h
  · cases h
  split at h
  · cases h
  rename_i p1 p2 p3 p4
  exact ⟨(isPlaced_iff s c).1 (by simpa using p1), p2, p3, by simpa using p4, by simpa using h⟩

theorem canSwap_true {s : State} {c1 c2 : Int} (h : s.canSwap c1 c2 = .ok true) :
    s.row c1 ≠ -1 ∧ s.row c2 ≠ -1 ∧ c1 ≠ c2 ∧ s.isRowAllowed c1 (s.row c2) = true ∧
    s.isRowAllowed c2 (s.row c1) = true ∧
    (s.pred c1 = c2 ∨ s.pred c2 = c1 ∨
      (s.boundaryAfter c2 - s.boundaryBefore c2 ≥ s.width c1 ∧ s.boundaryAfter c1 - s.boundaryBefore c1 ≥ s.width c2)) := by
  unfold canSwap at h
  split at h
  · cases h
  split at h
  · cases h
  split at h
  · cases h
  rename_i p1 p2 p3
  simp only [Bool.or_eq_true, Bool.not_eq_true', not_or, Bool.not_eq_false] at p1 p3
  refine ⟨(isPlaced_iff s c1).1 p1.1, (isPlaced_iff s c2).1 p1.2, p2, p3.1, p3.2, ?_⟩
  split at h
  · exact or_assoc.1 (Or.inl ‹_›)
  · exact Or.inr (Or.inr (by simpa using h))

theorem insert_ok {s t : State} {c r p : Int} (e : s.insert c r p = .ok t) :
    s.canInsert c r p = .ok true ∧ (s.unplace c).place c r p (s.positionOnInsert c r p).1 = .ok t := by
  unfold State.insert at e
  split at e
  · cases e
  · cases e
  · exact ⟨‹_›, e⟩

theorem insert_inv {s t : State} (h : Inv s) {c r p : Int} (hl : s.liveCell c = true) (hs : s.siteOk r p = true)
    (e : s.insert c r p = .ok t) : Inv t := by
  rw [liveCell_iff] at hl
  rw [siteOk_iff] at hs
  obtain ⟨hcan, e⟩ := insert_ok e
  obtain ⟨hpl, hcp, -⟩ := canInsert_true hcan
  exact place_inv (unplace_inv h hl.1 hpl)
    ⟨hl.1, if_pos rfl, hl.2, hs.1, (Site.unplace hs (Ne.symm hcp)).2⟩ e

theorem bind_ok {ε α β : Type} {x : Except ε α} {f : α → Except ε β} {b : β} (e : x.bind f = .ok b) :
    ∃ a, x = .ok a ∧ f a = .ok b := by
  cases x with
  | error e' => simp [Except.bind] at e
  | ok a => exact ⟨a, rfl, e⟩

/-- an accepted `swap` takes both cells out, places one of them (`a`) behind the old predecessor of the
other (`b`), and then `b` behind `a` if `b` preceded `a`, else behind the old predecessor of `a` -/
theorem swap_places {s t : State} {c1 c2 : Int} (e : s.swap c1 c2 = .ok t) :
    s.canSwap c1 c2 = .ok true ∧
    ∃ a b pb v, ((a = c1 ∧ b = c2) ∨ (a = c2 ∧ b = c1)) ∧
      ((s.pred a = b ∧ pb = a) ∨ (s.pred a ≠ b ∧ s.pred b ≠ a ∧ pb = s.pred a)) ∧
      ((s.unplace c1).unplace c2).place a (s.row b) (s.pred b)
        (if a = c1 then (s.positionsOnSwap c1 c2).1.1 else (s.positionsOnSwap c1 c2).2.1) = .ok v ∧
      v.place b (s.row a) pb
        (if b = c1 then (s.positionsOnSwap c1 c2).1.1 else (s.positionsOnSwap c1 c2).2.1) = .ok t := by
  unfold State.swap at e
  split at e
  · cases e
  · cases e
  rename_i hcan
  obtain ⟨-, -, h12, -⟩ := canSwap_true hcan
  have h21 := Ne.symm h12
  refine ⟨hcan, ?_⟩
  split at e
  · obtain ⟨v, e1, e2⟩ := bind_ok e
    exact ⟨c1, c2, c1, v, Or.inl ⟨rfl, rfl⟩, Or.inl ⟨‹_›, rfl⟩, by rw [if_pos rfl]; exact e1,
      by rw [if_neg h21]; exact e2⟩
  · split at e
    · obtain ⟨v, e1, e2⟩ := bind_ok e
      exact ⟨c2, c1, c2, v, Or.inr ⟨rfl, rfl⟩, Or.inl ⟨‹_›, rfl⟩, by rw [if_neg h21]; exact e1,
        by rw [if_pos rfl]; exact e2⟩
    · obtain ⟨v, e1, e2⟩ := bind_ok e
      exact ⟨c1, c2, s.pred c1, v, Or.inl ⟨rfl, rfl⟩, Or.inr ⟨‹_›, ‹_›, rfl⟩, by rw [if_pos rfl]; exact e1,
        by rw [if_neg h21]; exact e2⟩

theorem Inv.no_two_cycle {s : State} (h : Inv s) {c1 c2 : Int} (h1 : s.validCell c1) (h2 : s.validCell c2)
    (r1 : s.row c1 ≠ -1) (r2 : s.row c2 ≠ -1) (e1 : s.pred c1 = c2) : s.pred c2 ≠ c1 := fun e2 => by
  have a := h.pred_lt h1 r1 (e1 ▸ validCell_ne h2)
  have b := h.pred_lt h2 r2 (e2 ▸ validCell_ne h1)
  rw [e1] at a
  rw [e2] at b
  omega

theorem swap_inv {s t : State} (h : Inv s) {c1 c2 : Int} (hl1 : s.liveCell c1 = true) (hl2 : s.liveCell c2 = true)
    (e : s.swap c1 c2 = .ok t) : Inv t := by
  rw [liveCell_iff] at hl1 hl2
  obtain ⟨hcan, a, b, pb, v, hab, hpb, e1, e2⟩ := swap_places e
  obtain ⟨r1, r2, h12, -⟩ := canSwap_true hcan
  have i2 : Inv ((s.unplace c1).unplace c2) :=
    unplace_inv (unplace_inv h hl1.1 r1) hl2.1 (by rw [unplace_row, if_neg (Ne.symm h12)]; exact r2)
  -- whichever of the two is `a`: both are unplaced now, every other cell keeps its row
  have hl : (s.validCell a ∧ s.width a ≠ -1 ∧ s.row a ≠ -1) ∧ (s.validCell b ∧ s.width b ≠ -1 ∧ s.row b ≠ -1) ∧
      a ≠ b ∧ ((s.unplace c1).unplace c2).row a = -1 ∧ ((s.unplace c1).unplace c2).row b = -1 ∧
      ∀ d, d ≠ a → d ≠ b → ((s.unplace c1).unplace c2).row d = s.row d := by
    rcases hab with ⟨rfl, rfl⟩ | ⟨rfl, rfl⟩
    · exact ⟨⟨hl1.1, hl1.2, r1⟩, ⟨hl2.1, hl2.2, r2⟩, h12, (if_neg h12).trans (if_pos rfl), if_pos rfl,
        fun d n1 n2 => (if_neg n2).trans (if_neg n1)⟩
    · exact ⟨⟨hl2.1, hl2.2, r2⟩, ⟨hl1.1, hl1.2, r1⟩, Ne.symm h12, if_pos rfl, (if_neg h12).trans (if_pos rfl),
        fun d n1 n2 => (if_neg n1).trans (if_neg n2)⟩
  obtain ⟨⟨va, la, ra⟩, ⟨vb, lb, rb⟩, hne, ua, ub, keep⟩ := hl
  have pa := h.pred_ne va ra
  have nb : s.pred b ≠ a := by
    rcases hpb with ⟨e', -⟩ | ⟨-, n, -⟩
    · exact h.no_two_cycle va vb ra rb e'
    · exact n
  have iv := place_inv i2 ⟨va, ua, la, h.placed_row vb rb,
    (h.site_pred vb rb).2.imp_right fun ⟨w, e'⟩ => ⟨w, (keep _ nb (h.pred_ne vb rb)).trans e'⟩⟩ e1
  obtain ⟨rfl, -⟩ := place_ok e1
  refine place_inv iv ⟨vb, (if_neg (Ne.symm hne)).trans ub, lb, h.placed_row va ra, ?_⟩ e2
  rcases hpb with ⟨e', rfl⟩ | ⟨n, -, rfl⟩
  · -- `b` preceded `a`: both lie in the same row
    have := ((h.link va).ofPred ra (by rw [e']; exact validCell_ne vb)).2.1
    rw [e'] at this
    exact Or.inr ⟨va, (if_pos rfl).trans this⟩
  · exact (h.site_pred va ra).2.imp_right fun ⟨w, e'⟩ => ⟨w, ((if_neg pa).trans (keep _ pa n)).trans e'⟩

theorem setXs_eq (s : State) (mv : List (Int × Int)) :
    ∃ f : Int → Int, s.setXs mv = { s with x := f } ∧ ∀ d, d ∉ mv.map (·.1) → f d = s.x d := by
  induction mv generalizing s with
  | nil => exact ⟨s.x, rfl, fun _ _ => rfl⟩
  | cons m rest ih =>
    obtain ⟨c, v⟩ := m
    obtain ⟨f, e, hf⟩ := ih { s with x := upd s.x c v }
    refine ⟨f, by simpa [setXs] using e, ?_⟩
    intro d hd
    simp only [List.map_cons, List.mem_cons, not_or] at hd
    rw [hf d hd.2]
    simp [upd, hd.1]

theorem shift_ok {s t : State} {mv : List (Int × Int)} (e : s.shift mv = .ok t) :
    ∃ f : Int → Int, t = { s with x := f } ∧ (∀ d, d ∉ mv.map (·.1) → f d = s.x d) ∧
      ∀ d ∈ mv.map (·.1), (s.validCell d ∧ s.row d ≠ -1 ∧ s.width d ≠ -1) ∧
        boundaryBefore { s with x := f } d ≤ f d ∧ f d + s.width d ≤ boundaryAfter { s with x := f } d := by
  unfold shift at e
  split at e
  · rename_i hcond
    simp only [Bool.and_eq_true, List.all_eq_true] at hcond
    obtain ⟨f, ef, hf⟩ := setXs_eq s mv
    cases e
    refine ⟨f, ef, hf, List.forall_mem_map.2 fun m hm => ?_⟩
    have h1 := hcond.1.1 m hm
    have h2 := hcond.2 m hm
    rw [ef] at h2
    simp only [shiftCellOk, fitsInSite, isPlaced, isIgnored, Bool.and_eq_true, decide_eq_true_eq, bne_iff_ne,
      Bool.not_eq_true', beq_eq_false_iff_ne] at h1 h2
    exact ⟨⟨h1.1.1, h1.1.2, h1.2⟩, h2⟩
  · cases e

theorem shift_inv {s t : State} (h : Inv s) {mv : List (Int × Int)} (e : s.shift mv = .ok t) : Inv t := by
  obtain ⟨f, rfl, hf, hmv⟩ := shift_ok e
  refine Inv.mk' (fun r hr => h.rowok hr) (fun d hd => (h.link hd).setX fun hr => ?_) (fun d hd => h.cell hd)
  by_cases hm : d ∈ mv.map (·.1)
  · exact (hmv d hm).2
  -- a cell that stayed: towards a neighbour that moved, the test of `shift` on that neighbour is the inequality asked
  -- for; towards one that stayed, or towards the end of the row, the boundary is the old one
  have Ld := h.link hd
  have vd := validCell_ne hd
  rw [hf d hm]
  constructor
  · by_cases hm' : s.pred d ∈ mv.map (·.1)
    · obtain ⟨⟨vp, -⟩, -, A⟩ := hmv _ hm'
      have hq := validCell_ne vp
      simp only [boundaryAfter, (Ld.ofPred hr hq).2.2.2, if_neg vd, hf d hm] at A
      simp only [boundaryBefore, if_neg hq]
      exact A
    · simp only [boundaryBefore, hf _ hm']
      exact (Ld.fits hr).1
  · by_cases hm' : s.next d ∈ mv.map (·.1)
    · obtain ⟨⟨vn, -⟩, B, -⟩ := hmv _ hm'
      have hq := validCell_ne vn
      simp only [boundaryBefore, (Ld.ofNext hr hq).2.2.2, if_neg vd, hf d hm] at B
      simp only [boundaryAfter, if_neg hq]
      exact B
    · simp only [boundaryAfter, hf _ hm']
      exact (Ld.fits hr).2

theorem reorderWriteback_ok {s t : State} {cells : List Int} {regions : List Region}
    (e : s.reorderWriteback cells regions = .ok t) :
    ∃ u, s.unplaceAll cells = .ok u ∧ u.placeRegions regions = .ok t ∧ cells.all t.isPlaced = true := by
  unfold reorderWriteback at e
  split at e
  · cases e
  · split at e
    · cases e
    · split at e
      · cases e
        exact ⟨_, ‹_›, ‹_›, ‹_›⟩
      · cases e

/-- `reorderWriteback`, `step` and `run` only chain five moves (`place`, `insert`, `swap`, `shift`, `unplace`), each
behind the guard the model checks first; so a reflexive transitive relation that those respect holds between the
two ends of every history.  `Respects₀` has the four moves that leave no cell unplaced: it is for relations that
`unplace` breaks (`Lg.stays_respects`), which then treat the reorder write-back on its own (`hre` in `step`, `run`). -/
structure Respects₀ (R : State → State → Prop) : Prop where
  refl : ∀ s, R s s
  trans : ∀ {s t u}, R s t → R t u → R s u
  place : ∀ {s t c r p x}, s.liveCell c = true → s.isPlaced c = false → s.siteOk r p = true →
    s.place c r p x = .ok t → R s t
  insert : ∀ {s t c r p}, s.liveCell c = true → s.siteOk r p = true → s.insert c r p = .ok t → R s t
  swap : ∀ {s t c1 c2}, s.liveCell c1 = true → s.liveCell c2 = true → s.swap c1 c2 = .ok t → R s t
  shift : ∀ {s t mv}, s.shift mv = .ok t → R s t

structure Respects (R : State → State → Prop) : Prop extends Respects₀ R where
  unplace : ∀ {s c}, s.liveCell c = true → s.isPlaced c = true → R s (s.unplace c)

namespace Respects₀
variable {R : State → State → Prop} (H : Respects₀ R) {s t : State}
include H

theorem placeChain {r p : Int} {l : List (Int × Int)} (e : s.placeChain r p l = .ok t) : R s t := by
  induction l generalizing s p with
  | nil => cases e; exact H.refl _
  | cons m rest ih =>
    obtain ⟨c, v⟩ := m
    unfold State.placeChain at e
    split at e
    · rename_i hg
      simp only [Bool.and_eq_true, Bool.not_eq_true'] at hg
      split at e
      · cases e
      · exact H.trans (H.place hg.1.1 hg.1.2 hg.2 ‹_›) (ih e)
    · cases e

theorem placeRegions {gs : List Region} (e : s.placeRegions gs = .ok t) : R s t := by
  induction gs generalizing s with
  | nil => cases e; exact H.refl _
  | cons g gs ih =>
    unfold State.placeRegions at e
    split at e
    · cases e
    · exact H.trans (H.placeChain ‹_›) (ih e)

theorem step (hre : ∀ {s t cells regions}, s.reorderWriteback cells regions = .ok t → R s t) {op : Op}
    (e : s.step op = .ok t) : R s t := by
  cases op with
  | swap c1 c2 =>
    simp only [State.step] at e
    split at e
    · rename_i hg
      simp only [Bool.and_eq_true] at hg
      exact H.swap hg.1 hg.2 e
    · cases e
  | insert c r p =>
    simp only [State.step] at e
    split at e
    · rename_i hg
      simp only [Bool.and_eq_true] at hg
      exact H.insert hg.1 hg.2 e
    · cases e
  | shift mv => exact H.shift e
  | reorder cells regions => exact hre e

theorem run (hre : ∀ {s t cells regions}, s.reorderWriteback cells regions = .ok t → R s t) {ops : List Op}
    (e : s.run ops = .ok t) : R s t := by
  induction ops generalizing s with
  | nil => cases e; exact H.refl _
  | cons op ops ih =>
    unfold State.run at e
    split at e
    · cases e
    · exact H.trans (H.step hre ‹_›) (ih e)

end Respects₀

namespace Respects
variable {R : State → State → Prop} (H : Respects R) {s t : State}
include H

theorem unplaceAll {cs : List Int} (e : s.unplaceAll cs = .ok t) : R s t := by
  induction cs generalizing s with
  | nil => cases e; exact H.refl _
  | cons c cs ih =>
    unfold State.unplaceAll at e
    split at e
    · rename_i hg
      simp only [Bool.and_eq_true] at hg
      exact H.trans (H.unplace hg.1 hg.2) (ih e)
    · cases e

theorem reorder {cells : List Int} {regions : List Region} (e : s.reorderWriteback cells regions = .ok t) :
    R s t := by
  obtain ⟨u, eu, ev, -⟩ := reorderWriteback_ok e
  exact H.trans (H.unplaceAll eu) (H.placeRegions ev)

theorem step {op : Op} (e : s.step op = .ok t) : R s t := H.toRespects₀.step (fun e => H.reorder e) e

theorem run {ops : List Op} (e : s.run ops = .ok t) : R s t := H.toRespects₀.run (fun e => H.reorder e) e

end Respects

/-- `insert` and `swap` only chain `unplace` and `place` (of an optimised cell), so these two and `shift` are all a
relation has to respect -/
theorem Respects.of_moves {R : State → State → Prop} (refl : ∀ s, R s s) (trans : ∀ {s t u}, R s t → R t u → R s u)
    (unplace : ∀ s c, R s (s.unplace c))
    (place : ∀ {s t c r p x}, s.width c ≠ -1 → s.place c r p x = .ok t → R s t)
    (shift : ∀ {s t mv}, s.shift mv = .ok t → R s t) : Respects R where
  refl := refl
  trans := trans
  unplace _ _ := unplace _ _
  place hl _ _ e := place ((liveCell_iff _ _).1 hl).2 e
  insert hl _ e := trans (unplace _ _) (place (s := State.unplace _ _) ((liveCell_iff _ _).1 hl).2 (insert_ok e).2)
  swap {s _ c1 c2} hl1 hl2 e := by
    obtain ⟨-, a, b, pb, v, hab, -, e1, e2⟩ := swap_places e
    have hw : s.width a ≠ -1 ∧ s.width b ≠ -1 := by
      rcases hab with ⟨rfl, rfl⟩ | ⟨rfl, rfl⟩
      · exact ⟨((liveCell_iff _ _).1 hl1).2, ((liveCell_iff _ _).1 hl2).2⟩
      · exact ⟨((liveCell_iff _ _).1 hl2).2, ((liveCell_iff _ _).1 hl1).2⟩
    have hv : v.width = s.width := (place_ok e1).1 ▸ rfl
    exact trans (trans (unplace s c1) (unplace _ c2))
      (trans (place (s := (s.unplace c1).unplace c2) hw.1 e1) (place (hv ▸ hw.2) e2))
  shift := shift

theorem inv_respects : Respects fun s t => Inv s → Inv t where
  refl _ := id
  trans a b := b ∘ a
  unplace hl hp h := unplace_inv h ((liveCell_iff _ _).1 hl).1 ((isPlaced_iff _ _).1 hp)
  place {s _ c _ _ _} hl hu hs e h :=
    have hl := (liveCell_iff _ _).1 hl
    have hs := (siteOk_iff _ _ _).1 hs
    place_inv h ⟨hl.1, Decidable.not_not.1 fun a => Bool.false_ne_true (hu.symm.trans ((isPlaced_iff s c).2 a)),
      hl.2, hs.1, hs.2⟩ e
  insert hl hs e h := insert_inv h hl hs e
  swap h1 h2 e h := swap_inv h h1 h2 e
  shift e h := shift_inv h e

theorem step_inv {s t : State} (h : Inv s) {op : Op} (e : s.step op = .ok t) : Inv t := inv_respects.step e h

theorem run_inv {s t : State} (h : Inv s) {ops : List Op} (e : s.run ops = .ok t) : Inv t := inv_respects.run e h

end ColoVerif.DetPlace
