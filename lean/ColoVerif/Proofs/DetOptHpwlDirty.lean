import ColoVerif.Proofs.DetOptHpwlSync
/-!
`RowReordering` leaves the two incremental models at the positions of the last
enumerated leaf (`Placer.dirty`: arbitrary `updateCellPos` calls on registered cells).  `writeback`
repairs that: without improvement it tells the models the placement's positions of every registered
cell again and the object is *equal* to the one before the pass; with improvement every registered
cell is placed again and the result is the one obtained from clean models.
-/
namespace ColoVerif.DetPlace
open ColoVerif State

theorem dirty_syncX {c : Circuit} {D : Int → Prop} (dirt : List (Int × Int × Int)) : ∀ (p : Placer), SyncX c p D →
    (∀ m ∈ dirt, D m.1 ∧ p.pl.validCell m.1) → SyncX c (p.dirty dirt) D ∧ (p.dirty dirt).pl = p.pl := by
  induction dirt with
  | nil => exact fun p h _ => ⟨h, rfl⟩
  | cons m rest ih =>
    intro p h hd
    obtain ⟨hDk, hvk⟩ := hd m (List.mem_cons_self ..)
    exact ih (p.updateCellTo m.1 m.2.1 m.2.2) (h.updateCellTo hDk hvk _ _) fun m' hm => hd m' (List.mem_cons_of_mem _ hm)

theorem restore_syncX {c : Circuit} (cs : List Int) : ∀ (p : Placer) (D : Int → Prop), SyncX c p D →
    (∀ k ∈ cs, p.pl.validCell k) → SyncX c (p.restore cs) (fun d => D d ∧ d ∉ cs) ∧ (p.restore cs).pl = p.pl := by
  induction cs with
  | nil => exact fun p D h _ => ⟨h.mono fun d hd => ⟨hd, List.not_mem_nil⟩, rfl⟩
  | cons k rest ih =>
    intro p D h hv
    obtain ⟨hr, epl⟩ := ih (p.updateCell k) _ (h.updateCell (hv k (List.mem_cons_self ..)))
      (fun j hj => hv j (List.mem_cons_of_mem _ hj))
    exact ⟨hr.mono fun d hd => ⟨hd.1.1, fun hm => (List.mem_cons.1 hm).elim hd.1.2 hd.2⟩, epl⟩

/-- models that differ from those of `p` on the registered cells only: `writeback` without improvement
hands back `p` itself -/
theorem restore_eq {c : Circuit} {p p' : Placer} {cells : List Int} (h : Sync c p) (hX : SyncX c p' (· ∈ cells))
    (hpl : p'.pl = p.pl) (hv : ∀ k ∈ cells, p.pl.validCell k) : p'.restore cells = p := by
  obtain ⟨h2, e2⟩ := restore_syncX cells p' _ hX (fun k hk => by rw [hpl]; exact hv k hk)
  exact (h2.toSync fun d hd => hd.2 hd.1).unique h (e2.trans hpl)

theorem dirty_restore {c : Circuit} {p : Placer} {dirt : List (Int × Int × Int)} {cells : List Int} (h : Sync c p)
    (hd : ∀ m ∈ dirt, m.1 ∈ cells) (hv : ∀ k ∈ cells, p.pl.validCell k) : (p.dirty dirt).restore cells = p := by
  obtain ⟨h1, e1⟩ := dirty_syncX (D := (· ∈ cells)) dirt p (h.toX _) fun m hm => ⟨hd m hm, hv _ (hd m hm)⟩
  exact restore_eq h h1 e1 hv

/-- `writeback` with improvement gives the object that `writeback` from `p` gives: both runs have the
same placement component and both end in sync, so `Sync.unique` identifies them -/
theorem writeback_eq {c : Circuit} {p p' q : Placer} {cells : List Int} {regions : List Region} (h : Sync c p)
    (hX : SyncX c p' (· ∈ cells)) (hpl : p'.pl = p.pl) (e : p'.reorderWriteback cells regions = .ok q) :
    p.reorderWriteback cells regions = .ok q ∧ Sync c q := by
  have hq := reorderWriteback_syncX hX e
  have epl := Placer.reorderWriteback_pl p' cells regions
  rw [e, hpl, ← Placer.reorderWriteback_pl p] at epl
  obtain ⟨q', eq', hq'⟩ := map_eq_ok epl.symm
  rw [(reorderWriteback_sync h eq').1.unique hq hq'] at eq'
  exact ⟨eq', hq⟩

/-- `RowReordering::run` from models the enumeration left dirty on registered cells: the result is the one from
clean models, its placement is the keep-best decision for the real objective, the object is in sync again, and
without a better leaf it is the object before the pass -/
theorem reorderRun_spec {c : Circuit} {p q : Placer} (hs : Sync c p) {dirt : List (Int × Int × Int)} {cells : List Int}
    {leaves : List Leaf} (hd : ∀ m ∈ dirt, m.1 ∈ cells) (hv : ∀ k ∈ cells, p.pl.validCell k)
    (e : p.reorderRun dirt cells leaves = .ok q) :
    p.reorderRun [] cells leaves = .ok q ∧ p.pl.reorderDecision (circuitValue c) cells leaves = .ok q.pl ∧
    Sync c q ∧ ((keepBest p.value leaves none).2 = none → q = p) := by
  obtain ⟨h1, e1⟩ := dirty_syncX (D := (· ∈ cells)) dirt p (hs.toX _) fun m hm => ⟨hd m hm, hv _ (hd m hm)⟩
  unfold Placer.reorderRun at e ⊢
  unfold State.reorderDecision
  rw [← hs.value]
  cases hk : (keepBest p.value leaves none).2 with
  | none =>
    simp only [hk] at e ⊢
    rw [restore_eq hs h1 e1 hv] at e
    cases e
    exact ⟨congrArg _ (restore_eq hs (hs.toX _) rfl hv), rfl, hs, fun _ => rfl⟩
  | some leaf =>
    simp only [hk] at e ⊢
    obtain ⟨e', hq⟩ := writeback_eq hs h1 e1 e
    exact ⟨e', (reorderWriteback_sync hs e').2, hq, nofun⟩

end ColoVerif.DetPlace
