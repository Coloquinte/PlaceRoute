import ColoVerif.Proofs.TranspCert
import ColoVerif.Proofs.TranspSsp2Defs
/-
The successive-shortest-path solver model: what `add2?` does to entries, column sums and row sums; the stages
of a successful `sendStep` / `sendSource(src, sink, quantity)` (`sendSource3`); the invariant `Flow` (column
sums, row sums + remaining capacity, no negative entry) of every run.
-/
namespace ColoVerif.Transp

lemma updAt_eq_modify {α : Type} (f : α → α) : ∀ (l : List α) (i : Nat), updAt l i f = l.modify i f
  | [], _ => by simp [updAt]
  | _ :: _, 0 => by simp [updAt]
  | _ :: as, i + 1 => by simp [updAt, updAt_eq_modify f as i]

lemma getD_updAt {α : Type} (f : α → α) (d0 : α) (l : List α) (i k : Nat) :
    (updAt l i f).getD k d0 = if k = i ∧ i < l.length then f (l.getD i d0) else l.getD k d0 := by
  rw [updAt_eq_modify, List.getD_eq_getElem?_getD, List.getElem?_modify]
  by_cases e : i = k
  · subst e
    by_cases h : i < l.length
    · simp [h]
    · simp [h]
  · have e' : ¬ k = i := fun h => e h.symm
    simp [e, e']

lemma get2_add2 (a : Mat) (i j : Nat) (d : Int) (h : j < (a.getD i []).length) (i' j' : Nat) :
    get2 (add2 a i j d) i' j' = get2 a i' j' + (if i' = i ∧ j' = j then d else 0) := by
  have hi : i < a.length := by
    by_contra hc
    have : a.getD i [] = [] := by simp [List.getD_eq_getElem?_getD, Nat.not_lt.mp hc]
    rw [this] at h; simp at h
  unfold get2 add2
  rw [getD_updAt]
  by_cases e : i' = i
  · subst e
    rw [if_pos ⟨rfl, hi⟩]
    unfold addAt
    rw [getD_updAt]
    by_cases e2 : j' = j
    · subst e2
      rw [if_pos ⟨rfl, h⟩]; simp
    · rw [if_neg (fun hh => e2 hh.1)]; simp [e2]
  · rw [if_neg (fun hh => e hh.1)]; simp [e]

lemma get2_add2_row (a : Mat) (i j : Nat) (d : Int) (h : j < (a.getD i []).length) (j' : Nat) :
    get2 (add2 a i j d) i j' = get2 a i j' + (if j' = j then d else 0) := by
  rw [get2_add2 a i j d h]; simp

lemma add2?_eq_some {n m : Nat} {a a' : Mat} {i j : Nat} {d : Int} (h : add2? n m a i j d = some a') :
    a' = add2 a i j d ∧ i < n ∧ j < m ∧ j < (a.getD i []).length := by
  unfold add2? at h
  split at h
  · rename_i hc
    exact ⟨(Option.some.inj h).symm, hc⟩
  · exact absurd h (by simp)

lemma add2?_sums {n m : Nat} {a a' : Mat} {i j : Nat} {d : Int} (h : add2? n m a i j d = some a') :
    (∀ j', colSum a' n j' = colSum a n j' + (if j' = j then d else 0)) ∧
    (∀ i', rowSum a' m i' = rowSum a m i' + (if i' = i then d else 0)) := by
  obtain ⟨rfl, hi, hj, hl⟩ := add2?_eq_some h
  constructor
  · intro j'
    unfold colSum
    simp only [get2_add2 a i j d hl]
    by_cases e : j' = j
    · simp only [e, and_true, if_true, sumTo_add_ite, if_pos hi]
    · simp only [e, and_false, if_false, Int.add_zero]
  · intro i'
    unfold rowSum
    simp only [get2_add2 a i j d hl]
    by_cases e : i' = i
    · simp only [e, true_and, if_true, sumTo_add_ite, if_pos hj]
    · simp only [e, false_and, if_false, Int.add_zero]

lemma sendStep_ok_iff {p : Problem} {m : Int} {alloc : Mat} {qs : Queues} {snk1 snk2 sentSrc : Nat} {st : Step} :
    sendStep p m alloc qs snk1 snk2 sentSrc = .ok st ↔
    ∃ oldCost qs1 a1 newCost,
      movingCostQ qs snk1 snk2 = .ok oldCost ∧
      updateDestQueues p alloc qs snk1 sentSrc = .ok qs1 ∧
      sentSourceQ qs1 snk1 snk2 = .ok st.newSrc ∧
      add2? p.nbSinks p.nbSources alloc snk1 sentSrc m = some a1 ∧
      add2? p.nbSinks p.nbSources a1 snk1 st.newSrc (-m) = some st.alloc ∧
      st.queues = updateSinkQueues p st.alloc qs1 snk1 st.newSrc ∧
      movingCostQ st.queues snk1 snk2 = .ok newCost ∧
      st.costUp = decide (newCost > oldCost) := by
  constructor
  · intro h
    unfold sendStep at h
    split at h; · exact absurd h (by simp)
    split at h; · exact absurd h (by simp)
    split at h; · exact absurd h (by simp)
    split at h; · exact absurd h (by simp)
    split at h; · exact absurd h (by simp)
    split at h; · exact absurd h (by simp)
    rename_i h1 _ _ h2 _ _ h3 _ _ h4 _ _ h5 _ _ h6
    injection h with h; subst h
    exact ⟨_, _, _, _, h1, h2, h3, h4, h5, rfl, h6, rfl⟩
  · rintro ⟨oldCost, qs1, a1, newCost, h1, h2, h3, h4, h5, h6, h7, h8⟩
    obtain ⟨a2, q2, newSrc, up⟩ := st
    simp only at h3 h5 h6 h7 h8
    subst h6 h8
    unfold sendStep
    simp only [h1, h2, h3, h4, h5, h7]

lemma sendStep_ok {p : Problem} {m : Int} {alloc a1 a2 : Mat} {qs qs1 : Queues} {snk1 snk2 sentSrc newSrc : Nat}
    {oldCost newCost : Int}
    (h1 : movingCostQ qs snk1 snk2 = .ok oldCost)
    (h2 : updateDestQueues p alloc qs snk1 sentSrc = .ok qs1)
    (h3 : sentSourceQ qs1 snk1 snk2 = .ok newSrc)
    (h4 : add2? p.nbSinks p.nbSources alloc snk1 sentSrc m = some a1)
    (h5 : add2? p.nbSinks p.nbSources a1 snk1 newSrc (-m) = some a2)
    (h6 : movingCostQ (updateSinkQueues p a2 qs1 snk1 newSrc) snk1 snk2 = .ok newCost) :
    sendStep p m alloc qs snk1 snk2 sentSrc =
      .ok ⟨a2, updateSinkQueues p a2 qs1 snk1 newSrc, newSrc, decide (newCost > oldCost)⟩ :=
  sendStep_ok_iff.mpr ⟨_, _, _, _, h1, h2, h3, h4, h5, rfl, h6, rfl⟩

lemma sendStep_sums {p : Problem} {m : Int} {alloc : Mat} {qs : Queues} {snk1 snk2 sentSrc : Nat} {st : Step}
    (h : sendStep p m alloc qs snk1 snk2 sentSrc = .ok st) :
    (∀ j, colSum st.alloc p.nbSinks j + (if j = st.newSrc then m else 0)
        = colSum alloc p.nbSinks j + (if j = sentSrc then m else 0)) ∧
    (∀ i, rowSum st.alloc p.nbSources i = rowSum alloc p.nbSources i) := by
  obtain ⟨_, _, a1, _, _, _, _, h1, h2, _⟩ := sendStep_ok_iff.mp h
  obtain ⟨c1, r1⟩ := add2?_sums h1
  obtain ⟨c2, r2⟩ := add2?_sums h2
  constructor
  · intro j
    rw [c2 j, c1 j]
    split <;> split <;> omega
  · intro i
    rw [r2 i, r1 i]
    split <;> omega

/-- `sent j` units of source `j` are allocated so far, `remainingCapa_` is what is left of each capacity,
nothing is negative -/
structure Flow (p : Problem) (s : St) (sent : Nat → Int) : Prop where
  col : ∀ j, colSum s.alloc p.nbSinks j = sent j
  row : ∀ i, rowSum s.alloc p.nbSources i + s.remCapa.getD i 0 = p.capacity i
  rem : ∀ i, 0 ≤ s.remCapa.getD i 0
  nn : ∀ i j, 0 ≤ get2 s.alloc i j

lemma Flow.congr {p : Problem} {s : St} {sent sent' : Nat → Int} (h : Flow p s sent) (e : ∀ j, sent j = sent' j) :
    Flow p s sent' := ⟨fun j => (h.col j).trans (e j), h.row, h.rem, h.nn⟩

/-- a successful first walk with fuel left either stands at a root or has found a positive allocation of the
front source of `queues_[snk1][snk2]` and goes on from the parent `snk2` -/
lemma maxSentLoop_succ_eq_ok {alloc : Mat} {qs : Queues} {parent : List (Option Nat)} {fuel snk1 : Nat} {q ms : Int}
    {root : Nat} (h : maxSentLoop alloc qs parent (fuel + 1) snk1 q = .ok (ms, root)) :
    (parent.getD snk1 none = none ∧ ms = q ∧ root = snk1) ∨
    ∃ snk2 src, parent.getD snk1 none = some snk2 ∧ sentSourceQ qs snk1 snk2 = .ok src ∧
      0 < min q (get2 alloc snk1 src) ∧
      maxSentLoop alloc qs parent fuel snk2 (min q (get2 alloc snk1 src)) = .ok (ms, root) := by
  unfold maxSentLoop at h
  split at h
  · rename_i hp
    obtain ⟨rfl, rfl⟩ := Prod.mk.inj (Except.ok.inj h)
    exact Or.inl ⟨hp, rfl, rfl⟩
  · rename_i snk2 hp
    split at h; · cases h
    rename_i src hsrc
    split at h
    · rename_i hpos
      exact Or.inr ⟨snk2, src, hp, hsrc, hpos, h⟩
    · cases h

lemma maxSentLoop_eq_ok {alloc : Mat} {qs : Queues} {parent : List (Option Nat)} {fuel snk1 : Nat} {q ms : Int}
    {root : Nat} (h : maxSentLoop alloc qs parent fuel snk1 q = .ok (ms, root)) :
    ms ≤ q ∧ ∃ k, k < fuel ∧ depthIs parent k snk1 := by
  induction fuel generalizing snk1 q with
  | zero => simp [maxSentLoop] at h
  | succ fuel ih =>
    rcases maxSentLoop_succ_eq_ok h with ⟨hp, rfl, _⟩ | ⟨snk2, _, hp, _, _, h⟩
    · exact ⟨le_refl _, 0, by omega, hp⟩
    · obtain ⟨hle, k, hk, hd⟩ := ih h
      exact ⟨le_trans hle (min_le_left _ _), k + 1, by omega, snk2, hp, hd⟩

lemma finishSend_fields (p : Problem) (s : St) (queues : Queues) (root : Nat) (nu : Bool) (alloc : Mat)
    (remCapa : List Int) (m : Int) (s' : St) (m' : Int)
    (h : finishSend p s queues root nu alloc remCapa m = .ok (s', m')) :
    s'.alloc = alloc ∧ s'.remCapa = remCapa ∧ m' = m := by
  unfold finishSend at h
  simp only [] at h
  split at h
  · split at h; · exact absurd h (by simp)
    simp only [Except.ok.injEq, Prod.mk.injEq] at h
    obtain ⟨h1, h2⟩ := h; subst h1; exact ⟨rfl, rfl, h2.symm⟩
  · simp only [Except.ok.injEq, Prod.mk.injEq] at h
    obtain ⟨h1, h2⟩ := h; subst h1; exact ⟨rfl, rfl, h2.symm⟩

lemma sendSource3_eq_ok {p : Problem} {s s' : St} {src sink : Nat} {q m : Int}
    (h : sendSource3 p s src sink q = .ok (s', m)) :
    ∃ ms root w, maxSentLoop s.alloc s.queues s.parent (p.nbSinks + 1) sink q = .ok (ms, root) ∧
      m = min ms (s.remCapa.getD root 0) ∧ 0 < m ∧
      sendLoop p s.remCapa s.parent m (p.nbSinks + 1) s.alloc s.queues sink src false = .ok w ∧
      add2? p.nbSinks p.nbSources w.alloc w.root w.src m = some s'.alloc ∧ w.root < s.remCapa.length ∧
      s'.remCapa = s.remCapa.set w.root (s.remCapa.getD w.root 0 - m) := by
  unfold sendSource3 at h
  split at h; · exact absurd h (by simp)
  rename_i ms root hms
  split at h
  · rename_i hpos
    split at h; · exact absurd h (by simp)
    rename_i w hw
    split at h; · exact absurd h (by simp)
    rename_i alloc hadd
    split at h
    · rename_i hroot
      obtain ⟨rfl, er, rfl⟩ := finishSend_fields _ _ _ _ _ _ _ _ _ _ h
      exact ⟨ms, root, w, hms, rfl, hpos, hw, hadd, hroot, er⟩
    · exact absurd h (by simp)
  · exact absurd h (by simp)

lemma get2_zeroAlloc (p : Problem) (i j : Nat) : get2 p.zeroAlloc i j = 0 := by
  unfold get2 Problem.zeroAlloc
  rw [List.getD_eq_getElem?_getD (a := []), List.getElem?_replicate]
  split
  · exact ListFacts.getD_replicate ..
  · rfl

lemma initSt_flow (p : Problem) (hc : ∀ i, 0 ≤ p.capacity i) : Flow p (initSt p) (fun _ => 0) := by
  refine ⟨fun j => ?_, fun i => ?_, fun i => hc i, fun i j => by simp [initSt, get2_zeroAlloc]⟩
  · exact sumTo_eq_zero fun i _ => get2_zeroAlloc p i j
  · have : rowSum (initSt p).alloc p.nbSources i = 0 := sumTo_eq_zero fun j _ => get2_zeroAlloc p i j
    rw [this]; simp [initSt, Problem.capacity]

lemma count_cons_mul (f : Nat → Int) (a j : Nat) (L : List Nat) :
    (if j = a then f a else 0) + (L.count j : Int) * f j = ((a :: L).count j : Int) * f j := by
  rw [List.count_cons]
  by_cases e : j = a
  · subst e; simp; ring
  · have e' : ¬ a = j := fun hh => e hh.symm
    simp [e, e']

lemma count_sorted (p : Problem) (j : Nat) :
    (sortedSourcesByDemand p).count j = if j < p.nbSources then 1 else 0 := by
  unfold sortedSourcesByDemand
  rw [(List.mergeSort_perm _ _).count_eq, List.count_range]

end ColoVerif.Transp
