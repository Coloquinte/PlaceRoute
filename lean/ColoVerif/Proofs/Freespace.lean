import ColoVerif.Model.Freespace
import ColoVerif.Proofs.InsertionSort
/-
For C15.  `freeIntervals` clips the obstacles to the row (`cut`), sorts the intervals and sweeps them left to right.
Every interval `sweep` returns is a maximal run of uncovered columns (`FreeRun`, `sweep_runs`); the intervals come
strictly separated (`sweep_pairwise`) and cover every uncovered column (`sweep_complete`); `cut_some` / `obstructs_cut`
carry this from `Cov` to `Obstructs` (`freeIntervals_run`).  A stretch no obstacle touches lies in one interval
(`freeIntervals_cover`); hence what adding obstacles does (`freeIntervals_coarsen`, `freeIntervals_refine`).  Row level:
a free segment of a row with `minX ≤ maxX` is a non-empty piece of it that meets no obstacle with an interior
(`Row.freespace_seg`); segments of non-intersecting rows do not intersect (`Circuit.computeRows_disjoint`).
-/
namespace ColoVerif
namespace Freespace

/-- Obstacle `o`, read with min/max put in order on both axes (as boost does), touches column `x` of a row with
`row`'s y-range: it has positive height, its open y-range meets the row's, and `x` lies in its x-range. -/
def Obstructs (row o : Rect) (x : Int) : Prop :=
  min o.minY o.maxY < max o.minY o.maxY ∧ min o.minY o.maxY < row.maxY ∧ row.minY < max o.minY o.maxY ∧
  min o.minX o.maxX ≤ x ∧ x < max o.minX o.maxX

/-- lower / upper end of the row's x-range as the code reads it -/
def lo (row : Rect) : Int := min row.minX row.maxX
def hi (row : Rect) : Int := max row.minX row.maxX

/-- column `x` lies in one of the half-open intervals `cuts` -/
def Cov (cuts : List (Int × Int)) (x : Int) : Prop := ∃ iv ∈ cuts, iv.1 ≤ x ∧ x < iv.2

def SortedIv (l : List (Int × Int)) : Prop := l.Pairwise (fun p q => p.1 ≤ q.1)

theorem insertIv_cons (a b : Int × Int) (bs : List (Int × Int)) :
    (insertIv a (b :: bs) = b :: insertIv a bs ∧ b.1 ≤ a.1) ∨ (insertIv a (b :: bs) = a :: b :: bs ∧ a.1 ≤ b.1) :=
  if hc : a.1 ≤ b.1 then .inr ⟨if_pos hc, hc⟩ else .inl ⟨if_neg hc, Int.le_of_lt (Int.not_le.mp hc)⟩

theorem mem_sortIvs (j : Int × Int) (l : List (Int × Int)) : j ∈ sortIvs l ↔ j ∈ l :=
  (foldr_insert_perm insertIv (fun _ => rfl) (fun a b bs => (insertIv_cons a b bs).imp And.left And.left) l).mem_iff

theorem sorted_sortIvs (l : List (Int × Int)) : SortedIv (sortIvs l) :=
  foldr_insert_pairwise insertIv (fun p q => p.1 ≤ q.1) (fun _ _ _ => Int.le_trans) (fun _ => rfl) insertIv_cons l

theorem cov_sortIvs (l : List (Int × Int)) (x : Int) : Cov (sortIvs l) x ↔ Cov l x := by
  simp only [Cov, mem_sortIvs]

theorem sweep_nil (hi cur : Int) : sweep hi cur [] = if cur < hi then [(cur, hi)] else [] := by
  simp [sweep]

theorem sweep_cons (hi cur a b : Int) (rest : List (Int × Int)) :
    sweep hi cur ((a, b) :: rest) =
      if cur < a then (cur, a) :: sweep hi (max cur b) rest else sweep hi (max cur b) rest := by
  simp [sweep]

/-- `iv` is a maximal non-empty run of unblocked columns of `[lo, hi)` -/
structure FreeRun (blocked : Int → Prop) (lo hi : Int) (iv : Int × Int) : Prop where
  lo_le : lo ≤ iv.1
  lt : iv.1 < iv.2
  le_hi : iv.2 ≤ hi
  free : ∀ x, iv.1 ≤ x → x < iv.2 → ¬ blocked x
  left : iv.1 = lo ∨ blocked (iv.1 - 1)
  right : iv.2 = hi ∨ blocked iv.2

theorem FreeRun.congr {b b' : Int → Prop} {lo hi : Int} {iv : Int × Int} (h : FreeRun b lo hi iv)
    (h1 : ∀ x, lo ≤ x → x < hi → b' x → b x) (h2 : ∀ x, b x → b' x) : FreeRun b' lo hi iv :=
  ⟨h.lo_le, h.lt, h.le_hi,
    fun x x1 x2 hb => h.free x x1 x2 (h1 x (Int.le_trans h.lo_le x1) (Int.lt_of_lt_of_le x2 h.le_hi) hb),
    h.left.imp id (h2 _), h.right.imp id (h2 _)⟩

theorem FreeRun.apart {blocked : Int → Prop} {lo hi : Int} {iv : Int × Int} (run : FreeRun blocked lo hi iv)
    {a b : Int} (hab : a < b) (hb : ∀ x, a ≤ x → x < b → blocked x) : ¬ (iv.1 < b ∧ a < iv.2) := fun ⟨h1, h2⟩ =>
  run.free (max iv.1 a) (Int.le_max_left _ _) (Int.max_lt.mpr ⟨run.lt, h2⟩)
    (hb _ (Int.le_max_right _ _) (Int.max_lt.mpr ⟨h1, hab⟩))

theorem Cov.tail {c : Int × Int} {rest : List (Int × Int)} {x : Int} (h : Cov rest x) : Cov (c :: rest) x :=
  let ⟨j, hj, hx⟩ := h; ⟨j, List.mem_cons_of_mem _ hj, hx⟩

theorem cov_cons {c : Int × Int} {rest : List (Int × Int)} {x : Int} :
    Cov (c :: rest) x ↔ (c.1 ≤ x ∧ x < c.2) ∨ Cov rest x := by
  simp only [Cov, List.mem_cons, exists_eq_or_imp]

theorem sweep_runs (hi : Int) (cuts : List (Int × Int)) :
    ∀ cur, SortedIv cuts → (∀ iv ∈ cuts, iv.1 < iv.2 ∧ iv.2 ≤ hi) →
      ∀ iv ∈ sweep hi cur cuts, FreeRun (Cov cuts) cur hi iv := by
  induction cuts with
  | nil =>
    intro cur _ _ iv hiv
    rw [sweep_nil] at hiv
    split at hiv
    · rw [List.mem_singleton.mp hiv]
      refine ⟨Int.le_refl _, ‹_›, Int.le_refl _, fun _ _ _ hc => ?_, Or.inl rfl, Or.inl rfl⟩
      obtain ⟨_, hj, _⟩ := hc
      cases hj
    · cases hiv
  | cons c rest ih =>
    obtain ⟨a, b⟩ := c
    intro cur hs hb iv hiv
    obtain ⟨hab, hbh⟩ : a < b ∧ b ≤ hi := hb (a, b) List.mem_cons_self
    obtain ⟨hs1, hs2⟩ := List.pairwise_cons.mp hs
    -- a run of the rest, from `max cur b` on, is a run of the whole: it lies right of `[a, b)`
    have later : iv ∈ sweep hi (max cur b) rest → FreeRun (Cov ((a, b) :: rest)) cur hi iv := fun h => by
      have r := ih (max cur b) hs2 (fun iv h => hb iv (List.mem_cons_of_mem _ h)) iv h
      refine ⟨Int.le_trans (Int.le_max_left _ _) r.lo_le, r.lt, r.le_hi, fun x x1 x2 hc => ?_, ?_, r.right.imp id Cov.tail⟩
      · rcases cov_cons.mp hc with h | h
        · have := r.lo_le; simp only at h; omega
        · exact r.free x x1 x2 h
      · rcases r.left with e | e
        · by_cases hcb : b ≤ cur
          · left; omega
          · right; exact cov_cons.mpr (Or.inl (by simp only; omega))
        · exact Or.inr e.tail
    rw [sweep_cons] at hiv
    split at hiv
    · rcases List.mem_cons.mp hiv with rfl | h
      · refine ⟨Int.le_refl _, ‹_›, by simp only; omega, fun x _ x2 hc => ?_, Or.inl rfl,
          Or.inr (cov_cons.mpr (Or.inl ⟨Int.le_refl _, hab⟩))⟩
        rcases cov_cons.mp hc with h | ⟨j, hj, hj1, _⟩
        · simp only at h x2; omega
        · have := hs1 j hj; simp only at this x2; omega
      · exact later h
    · exact later hiv

theorem sweep_pairwise (hi : Int) (cuts : List (Int × Int)) :
    ∀ cur, SortedIv cuts → (∀ iv ∈ cuts, iv.1 < iv.2 ∧ iv.2 ≤ hi) →
      (sweep hi cur cuts).Pairwise (fun p q => p.2 < q.1) := by
  induction cuts with
  | nil =>
    intro cur _ _
    rw [sweep_nil]
    split <;> simp
  | cons c rest ih =>
    obtain ⟨a, b⟩ := c
    intro cur hs hb
    have hab : a < b := (hb (a, b) List.mem_cons_self).1
    have hs2 := (List.pairwise_cons.mp hs).2
    have hrest : ∀ iv ∈ rest, iv.1 < iv.2 ∧ iv.2 ≤ hi := fun iv h => hb iv (List.mem_cons_of_mem _ h)
    rw [sweep_cons]
    split
    · refine List.pairwise_cons.mpr ⟨fun q hq => ?_, ih _ hs2 hrest⟩
      have := (sweep_runs hi rest (max cur b) hs2 hrest q hq).lo_le
      simp only
      omega
    · exact ih _ hs2 hrest

theorem sweep_complete (hi : Int) (cuts : List (Int × Int)) :
    ∀ cur x, cur ≤ x → x < hi → ¬ Cov cuts x → ∃ iv ∈ sweep hi cur cuts, iv.1 ≤ x ∧ x < iv.2 := by
  induction cuts with
  | nil =>
    intro cur x h1 h2 _
    rw [sweep_nil]
    have : cur < hi := by omega
    simp [this]
    omega
  | cons c rest ih =>
    obtain ⟨a, b⟩ := c
    intro cur x h1 h2 hc
    have hc' : ¬ Cov rest x := fun h => hc h.tail
    have hab : ¬ (a ≤ x ∧ x < b) := fun h => hc (cov_cons.mpr (Or.inl h))
    rw [sweep_cons]
    by_cases hxa : x < a
    · have : cur < a := by omega
      simp only [this, if_true]
      exact ⟨(cur, a), by simp, by simp; omega⟩
    · have hxb : max cur b ≤ x := by omega
      obtain ⟨iv, hiv, h⟩ := ih (max cur b) x hxb h2 hc'
      split
      · exact ⟨iv, by simp [hiv], h⟩
      · exact ⟨iv, hiv, h⟩

theorem normalize_minX (r : Rect) : r.normalize.minX = min r.minX r.maxX := rfl
theorem normalize_maxX (r : Rect) : r.normalize.maxX = max r.minX r.maxX := rfl
theorem normalize_minY (r : Rect) : r.normalize.minY = min r.minY r.maxY := rfl
theorem normalize_maxY (r : Rect) : r.normalize.maxY = max r.minY r.maxY := rfl

theorem cut_eq_some (row o : Rect) (a b : Int) (hy : row.minY < row.maxY) :
    cut row.normalize o = some (a, b) ↔
      (min o.minX o.maxX < max o.minX o.maxX ∧ min o.minY o.maxY < max o.minY o.maxY ∧
       min o.minY o.maxY < row.maxY ∧ row.minY < max o.minY o.maxY ∧
       min o.minX o.maxX < hi row ∧ lo row < max o.minX o.maxX) ∧
      max (min o.minX o.maxX) (lo row) = a ∧ min (max o.minX o.maxX) (hi row) = b := by
  have hY0 : row.normalize.minY = row.minY := Int.min_eq_left (Int.le_of_lt hy)
  have hY1 : row.normalize.maxY = row.maxY := Int.max_eq_right (Int.le_of_lt hy)
  have hX0 : row.normalize.minX = lo row := rfl
  have hX1 : row.normalize.maxX = hi row := rfl
  unfold cut
  rw [hY0, hY1, hX0, hX1]
  rw [Option.ite_none_right_eq_some, Option.some.injEq, Prod.mk.injEq]

theorem lo_lt_hi (row : Rect) (hx : row.minX ≠ row.maxX) : lo row < hi row := by
  simp only [lo, hi]; omega

theorem cut_some (row o : Rect) (a b : Int) (hx : row.minX ≠ row.maxX) (hy : row.minY < row.maxY)
    (h : cut row.normalize o = some (a, b)) :
    lo row ≤ a ∧ a < b ∧ b ≤ hi row ∧ ∀ x, a ≤ x → x < b → Obstructs row o x := by
  obtain ⟨hc, rfl, rfl⟩ := (cut_eq_some row o a b hy).mp h
  have hlh := lo_lt_hi row hx
  simp only [Obstructs]
  generalize lo row = l at *
  generalize hi row = u at *
  generalize min o.minX o.maxX = x0 at *
  generalize max o.minX o.maxX = x1 at *
  generalize min o.minY o.maxY = y0 at *
  generalize max o.minY o.maxY = y1 at *
  refine ⟨by omega, by omega, by omega, ?_⟩
  intro x h1 h2
  omega

theorem obstructs_cut (row o : Rect) (x : Int) (hy : row.minY < row.maxY)
    (hx1 : lo row ≤ x) (hx2 : x < hi row) (h : Obstructs row o x) :
    ∃ a b, cut row.normalize o = some (a, b) ∧ a ≤ x ∧ x < b := by
  simp only [Obstructs] at h
  refine ⟨_, _, (cut_eq_some row o _ _ hy).mpr ⟨?_, rfl, rfl⟩, ?_, ?_⟩
  all_goals
    generalize lo row = l at *
    generalize hi row = u at *
    generalize min o.minX o.maxX = x0 at *
    generalize max o.minX o.maxX = x1 at *
    omega

theorem cov_cuts_obstructs (row : Rect) (obs : List Rect) (x : Int) (hx : row.minX ≠ row.maxX)
    (hy : row.minY < row.maxY)
    (h : Cov (obs.filterMap (cut row.normalize)) x) : ∃ o ∈ obs, Obstructs row o x := by
  obtain ⟨⟨a, b⟩, hiv, h1, h2⟩ := h
  obtain ⟨o, ho, hcut⟩ := List.mem_filterMap.mp hiv
  exact ⟨o, ho, (cut_some row o a b hx hy hcut).2.2.2 x h1 h2⟩

theorem obstructs_cov_cuts (row : Rect) (obs : List Rect) (x : Int) (hy : row.minY < row.maxY)
    (hx1 : lo row ≤ x) (hx2 : x < hi row) (o : Rect) (ho : o ∈ obs) (h : Obstructs row o x) :
    Cov (obs.filterMap (cut row.normalize)) x := by
  obtain ⟨a, b, hcut, h1, h2⟩ := obstructs_cut row o x hy hx1 hx2 h
  exact ⟨(a, b), List.mem_filterMap.mpr ⟨o, ho, hcut⟩, h1, h2⟩

theorem cuts_bounds (row : Rect) (obs : List Rect) (hx : row.minX ≠ row.maxX) (hy : row.minY < row.maxY) :
    ∀ iv ∈ sortIvs (obs.filterMap (cut row.normalize)), lo row ≤ iv.1 ∧ iv.1 < iv.2 ∧ iv.2 ≤ hi row := by
  intro iv hiv
  rw [mem_sortIvs] at hiv
  obtain ⟨o, _, hcut⟩ := List.mem_filterMap.mp hiv
  obtain ⟨h1, h2, h3, _⟩ := cut_some row o iv.1 iv.2 hx hy hcut
  exact ⟨h1, h2, h3⟩

theorem freeIntervals_eq (row : Rect) (obs : List Rect) :
    freeIntervals row obs =
      if row.minX ≠ row.maxX ∧ row.minY < row.maxY then
        sweep (hi row) (lo row) (sortIvs (obs.filterMap (cut row.normalize)))
      else [] := by
  simp only [freeIntervals, hi, lo]

theorem mem_freeIntervals {row : Rect} {obs : List Rect} {iv : Int × Int} (h : iv ∈ freeIntervals row obs) :
    (row.minX ≠ row.maxX ∧ row.minY < row.maxY) ∧
      iv ∈ sweep (hi row) (lo row) (sortIvs (obs.filterMap (cut row.normalize))) := by
  rw [freeIntervals_eq] at h
  split at h
  · exact ⟨‹_›, h⟩
  · simp at h

theorem freeIntervals_run {row : Rect} {obs : List Rect} {iv : Int × Int} (h : iv ∈ freeIntervals row obs) :
    row.minY < row.maxY ∧ FreeRun (fun x => ∃ o ∈ obs, Obstructs row o x) (lo row) (hi row) iv := by
  obtain ⟨hc, h⟩ := mem_freeIntervals h
  refine ⟨hc.2, (sweep_runs (hi row) _ (lo row) (sorted_sortIvs _)
    (fun iv h => (cuts_bounds row obs hc.1 hc.2 iv h).2) iv h).congr ?_ ?_⟩
  · rintro x x1 x2 ⟨o, ho, hob⟩
    exact (cov_sortIvs _ x).mpr (obstructs_cov_cuts row obs x hc.2 x1 x2 o ho hob)
  · exact fun x hcov => cov_cuts_obstructs row obs x hc.1 hc.2 ((cov_sortIvs _ x).mp hcov)

theorem freeIntervals_inside (row : Rect) (obs : List Rect) (iv : Int × Int) (h : iv ∈ freeIntervals row obs) :
    row.minY < row.maxY ∧ lo row ≤ iv.1 ∧ iv.1 < iv.2 ∧ iv.2 ≤ hi row :=
  let ⟨hy, r⟩ := freeIntervals_run h; ⟨hy, r.lo_le, r.lt, r.le_hi⟩

theorem freeIntervals_misses (row : Rect) (obs : List Rect) (iv : Int × Int)
    (h : iv ∈ freeIntervals row obs) (x : Int) (hx1 : iv.1 ≤ x) (hx2 : x < iv.2) (o : Rect) (ho : o ∈ obs) :
    ¬ Obstructs row o x :=
  fun hob => (freeIntervals_run h).2.free x hx1 hx2 ⟨o, ho, hob⟩

theorem freeIntervals_maximal (row : Rect) (obs : List Rect) (iv : Int × Int) (h : iv ∈ freeIntervals row obs) :
    (iv.1 = lo row ∨ ∃ o ∈ obs, Obstructs row o (iv.1 - 1)) ∧ (iv.2 = hi row ∨ ∃ o ∈ obs, Obstructs row o iv.2) :=
  ⟨(freeIntervals_run h).2.left, (freeIntervals_run h).2.right⟩

theorem freeIntervals_pairwise (row : Rect) (obs : List Rect) :
    (freeIntervals row obs).Pairwise (fun p q => p.2 < q.1) := by
  rw [freeIntervals_eq]
  split
  · rename_i hc
    exact sweep_pairwise (hi row) _ (lo row) (sorted_sortIvs _) (fun iv h => (cuts_bounds row obs hc.1 hc.2 iv h).2)
  · exact List.Pairwise.nil

theorem freeIntervals_complete (row : Rect) (obs : List Rect) (x : Int) (hy : row.minY < row.maxY)
    (hx1 : lo row ≤ x) (hx2 : x < hi row) (hfree : ∀ o ∈ obs, ¬ Obstructs row o x) :
    ∃ iv ∈ freeIntervals row obs, iv.1 ≤ x ∧ x < iv.2 := by
  rw [freeIntervals_eq]
  have hne : row.minX ≠ row.maxX := by simp only [lo, hi] at hx1 hx2; omega
  rw [if_pos ⟨hne, hy⟩]
  apply sweep_complete (hi row) _ (lo row) x hx1 hx2
  rw [cov_sortIvs]
  intro hc
  obtain ⟨o, ho, hob⟩ := cov_cuts_obstructs row obs x hne hy hc
  exact hfree o ho hob

theorem freeIntervals_cover (row : Rect) (obs : List Rect) (a b : Int) (hy : row.minY < row.maxY)
    (ha : lo row ≤ a) (hab : a < b) (hb : b ≤ hi row)
    (hfree : ∀ o ∈ obs, ∀ x, a ≤ x → x < b → ¬ Obstructs row o x) :
    ∃ iv ∈ freeIntervals row obs, iv.1 ≤ a ∧ b ≤ iv.2 := by
  obtain ⟨iv, hiv, a1, a2⟩ := freeIntervals_complete row obs a hy ha (by omega)
    (fun o ho => hfree o ho a (Int.le_refl _) hab)
  refine ⟨iv, hiv, a1, ?_⟩
  rcases (freeIntervals_maximal row obs iv hiv).2 with e | ⟨o, ho, hob⟩
  · omega
  · exact Int.not_lt.1 fun hlt => hfree o ho iv.2 (by omega) hlt hob

theorem freeIntervals_coarsen (row : Rect) (extra obs : List Rect) (iv' : Int × Int)
    (h : iv' ∈ freeIntervals row (extra ++ obs)) :
    ∃ iv ∈ freeIntervals row obs, iv.1 ≤ iv'.1 ∧ iv'.2 ≤ iv.2 := by
  obtain ⟨hy, h1, h2, h3⟩ := freeIntervals_inside row _ iv' h
  exact freeIntervals_cover row obs _ _ hy h1 h2 h3 fun o ho x hx1 hx2 =>
    freeIntervals_misses row _ iv' h x hx1 hx2 o (List.mem_append_right _ ho)

theorem freeIntervals_refine (row : Rect) (extra obs : List Rect) (iv : Int × Int)
    (h : iv ∈ freeIntervals row obs) (a b : Int) (ha : iv.1 ≤ a) (hab : a < b) (hb : b ≤ iv.2)
    (hfree : ∀ o ∈ extra, ∀ x, a ≤ x → x < b → ¬ Obstructs row o x) :
    ∃ iv' ∈ freeIntervals row (extra ++ obs), iv'.1 ≤ a ∧ b ≤ iv'.2 := by
  obtain ⟨hy, h1, h2, h3⟩ := freeIntervals_inside row _ iv h
  refine freeIntervals_cover row _ a b hy (by omega) hab (by omega) fun o ho x hx1 hx2 => ?_
  rcases List.mem_append.mp ho with ho | ho
  · exact hfree o ho x hx1 hx2
  · exact freeIntervals_misses row _ iv h x (by omega) (by omega) o ho

end Freespace

namespace Legalize

theorem intersects_true_iff (a o : Rect) :
    a.intersects o = true ↔ (a.minX < o.maxX ∧ o.minX < a.maxX ∧ a.minY < o.maxY ∧ o.minY < a.maxY) := by
  simp only [Rect.intersects, Bool.and_eq_true, decide_eq_true_eq, and_assoc]

theorem intersects_false_iff (a o : Rect) :
    a.intersects o = false ↔ ¬ (a.minX < o.maxX ∧ o.minX < a.maxX ∧ a.minY < o.maxY ∧ o.minY < a.maxY) := by
  rw [← intersects_true_iff, Bool.not_eq_true]

theorem intersects_comm (a o : Rect) : a.intersects o = o.intersects a := by
  rw [Bool.eq_iff_iff, intersects_true_iff, intersects_true_iff]
  constructor <;> exact fun ⟨h1, h2, h3, h4⟩ => ⟨h2, h1, h4, h3⟩

theorem miss_of_inside (a b c : Rect) (h1 : b.minX ≤ a.minX) (h2 : a.maxX ≤ b.maxX) (h3 : b.minY ≤ a.minY)
    (h4 : a.maxY ≤ b.maxY) (h : b.intersects c = false) : a.intersects c = false := by
  rw [intersects_false_iff] at *
  rintro ⟨i1, i2, i3, i4⟩
  exact h ⟨Int.lt_of_le_of_lt h1 i1, Int.lt_of_lt_of_le i2 h2, Int.lt_of_le_of_lt h3 i3, Int.lt_of_lt_of_le i4 h4⟩

end Legalize

theorem Row.mem_freespace (r : Row) (obs : List Rect) (s : Row) :
    s ∈ r.freespace obs ↔
      ∃ iv ∈ Freespace.freeIntervals r.rect obs, s = ⟨⟨iv.1, iv.2, r.rect.minY, r.rect.maxY⟩, r.orient⟩ := by
  simp only [Row.freespace, List.mem_map]
  constructor
  · rintro ⟨iv, h, rfl⟩; exact ⟨iv, h, rfl⟩
  · rintro ⟨iv, h, rfl⟩; exact ⟨iv, h, rfl⟩

section Rows
open Freespace Legalize

theorem Row.freespace_misses_normalize (r : Row) (obs : List Rect) (s : Row) (hs : s ∈ r.freespace obs)
    (o : Rect) (ho : o ∈ obs) (hox : o.normalize.minX < o.normalize.maxX)
    (hoy : o.normalize.minY < o.normalize.maxY) : s.rect.intersects o.normalize = false := by
  obtain ⟨iv, hiv, rfl⟩ := (Row.mem_freespace r obs s).mp hs
  refine (intersects_false_iff _ _).mpr fun ⟨i1, i2, i3, i4⟩ => ?_
  -- every column of the obstacle's x-range is touched
  exact (freeIntervals_run hiv).2.apart hox (fun x x1 x2 => ⟨o, ho, hoy, i4, i3, x1, x2⟩) ⟨i1, i2⟩

theorem Rect.normalize_of_le {o : Rect} (hx : o.minX ≤ o.maxX) (hy : o.minY ≤ o.maxY) : o.normalize = o := by
  simp only [Rect.normalize, Int.min_eq_left hx, Int.max_eq_right hx, Int.min_eq_left hy, Int.max_eq_right hy]

theorem Row.freespace_misses (r : Row) (obs : List Rect) (s : Row) (hs : s ∈ r.freespace obs)
    (o : Rect) (ho : o ∈ obs) (hox : o.minX < o.maxX) (hoy : o.minY < o.maxY) : s.rect.intersects o = false := by
  have e := Rect.normalize_of_le (Int.le_of_lt hox) (Int.le_of_lt hoy)
  exact e ▸ r.freespace_misses_normalize obs s hs o ho (e.symm ▸ hox) (e.symm ▸ hoy)

theorem Row.freespace_seg (r : Row) (obs : List Rect) (hw : r.rect.minX ≤ r.rect.maxX) (s : Row)
    (hs : s ∈ r.freespace obs) :
    (r.rect.minX ≤ s.rect.minX ∧ s.rect.minX < s.rect.maxX ∧ s.rect.maxX ≤ r.rect.maxX) ∧
    (s.rect.minY = r.rect.minY ∧ s.rect.maxY = r.rect.maxY ∧ s.orient = r.orient ∧ r.rect.minY < r.rect.maxY) ∧
    ∀ o ∈ obs, o.minX < o.maxX → o.minY < o.maxY → s.rect.intersects o = false := by
  obtain ⟨iv, hiv, rfl⟩ := (Row.mem_freespace r obs s).mp hs
  obtain ⟨hy, run⟩ := freeIntervals_run hiv
  have h1 := run.lo_le
  have h3 := run.le_hi
  rw [lo, Int.min_eq_left hw] at h1
  rw [hi, Int.max_eq_right hw] at h3
  exact ⟨⟨h1, run.lt, h3⟩, ⟨rfl, rfl, rfl, hy⟩, r.freespace_misses obs _ hs⟩

theorem Circuit.computeRows_seg (c : Circuit) (extra : List Rect) (hx : ∀ r ∈ c.rows, r.rect.minX ≤ r.rect.maxX)
    (s : Row) (hs : s ∈ c.computeRows extra) :
    ∃ r ∈ c.rows, (r.rect.minX ≤ s.rect.minX ∧ s.rect.minX < s.rect.maxX ∧ s.rect.maxX ≤ r.rect.maxX) ∧
      (s.rect.minY = r.rect.minY ∧ s.rect.maxY = r.rect.maxY ∧ s.orient = r.orient ∧ r.rect.minY < r.rect.maxY) := by
  obtain ⟨r, hr, hsr⟩ := List.mem_flatMap.mp hs
  exact ⟨r, hr, (r.freespace_seg _ (hx r hr) s hsr).1, (r.freespace_seg _ (hx r hr) s hsr).2.1⟩

/-- strictly separated inside a row (`freeIntervals_pairwise`), inside different rows otherwise -/
theorem flatMap_freespace_disjoint (rows : List Row) (obs : List Rect)
    (hp : rows.Pairwise (fun r s => r.rect.intersects s.rect = false))
    (hx : ∀ r ∈ rows, r.rect.minX ≤ r.rect.maxX) :
    (rows.flatMap fun r => r.freespace obs).Pairwise (fun a b => a.rect.intersects b.rect = false) := by
  refine List.pairwise_flatMap.mpr ⟨fun r _ => ?_, hp.imp_of_mem fun {r1 r2} hr1 hr2 hint a ha b hb => ?_⟩
  · simp only [Row.freespace]
    refine List.pairwise_map.mpr ((freeIntervals_pairwise r.rect _).imp fun {p q} hpq => ?_)
    exact (intersects_false_iff _ _).mpr fun h => Int.lt_irrefl _ (Int.lt_trans hpq h.2.1)
  · obtain ⟨⟨a1, _, a3⟩, ⟨a4, a5, _⟩, _⟩ := r1.freespace_seg _ (hx r1 hr1) a ha
    obtain ⟨⟨b1, _, b3⟩, ⟨b4, b5, _⟩, _⟩ := r2.freespace_seg _ (hx r2 hr2) b hb
    rw [intersects_false_iff] at hint ⊢
    rw [a4, a5, b4, b5]
    exact fun ⟨i1, i2, i3, i4⟩ => hint ⟨Int.lt_of_le_of_lt a1 (Int.lt_of_lt_of_le i1 b3),
      Int.lt_of_le_of_lt b1 (Int.lt_of_lt_of_le i2 a3), i3, i4⟩

theorem Circuit.computeRows_disjoint (c : Circuit) (extra : List Rect)
    (hp : c.rows.Pairwise (fun r s => r.rect.intersects s.rect = false))
    (hx : ∀ r ∈ c.rows, r.rect.minX ≤ r.rect.maxX) :
    (c.computeRows extra).Pairwise (fun a b => a.rect.intersects b.rect = false) :=
  flatMap_freespace_disjoint c.rows _ hp hx

theorem Circuit.rowHeight_some {c : Circuit} {H : Int} (h : Circuit.rowHeight c = some H) :
    c.rows ≠ [] ∧ ∀ r ∈ c.rows, r.rect.maxY = r.rect.minY + H := by
  unfold Circuit.rowHeight at h
  cases hr : c.rows with
  | nil => rw [hr] at h; cases h
  | cons r0 rs =>
    rw [hr] at h
    simp only at h
    split at h
    · rename_i hall
      simp only [Option.some.injEq, Rect.height] at h
      refine ⟨List.cons_ne_nil _ _, fun r hr' => ?_⟩
      rcases List.mem_cons.mp hr' with rfl | hr'
      · omega
      · have := List.all_eq_true.mp hall r hr'
        simp only [beq_iff_eq, Rect.height] at this
        omega
    · cases h

end Rows

/-- a cell that `computeRows` does not look at: movable, or flagged as a non-obstruction -/
def Cell.ignored (cl : Cell) : Prop := (cl.fixed && cl.obstruction) = false

/-- `l'` is obtained from `l` by inserting, deleting and changing ignored cells in any way -/
inductive SameUpToIgnored : List Cell → List Cell → Prop
  | nil : SameUpToIgnored [] []
  | keep (c : Cell) {l l' : List Cell} : SameUpToIgnored l l' → SameUpToIgnored (c :: l) (c :: l')
  | dropLeft {c : Cell} {l l' : List Cell} : c.ignored → SameUpToIgnored l l' → SameUpToIgnored (c :: l) l'
  | dropRight {c : Cell} {l l' : List Cell} : c.ignored → SameUpToIgnored l l' → SameUpToIgnored l (c :: l')

theorem SameUpToIgnored.filter_eq {l l' : List Cell} (h : SameUpToIgnored l l') :
    l.filter (fun cl => cl.fixed && cl.obstruction) = l'.filter (fun cl => cl.fixed && cl.obstruction) := by
  induction h with
  | nil => rfl
  | keep c _ ih => simp only [List.filter_cons]; split <;> simp [ih]
  | dropLeft hc _ ih => simp only [List.filter_cons, Cell.ignored] at *; simp [hc, ih]
  | dropRight hc _ ih => simp only [List.filter_cons, Cell.ignored] at *; simp [hc, ih]

theorem SameUpToIgnored.of_pointwise : ∀ (l l' : List Cell), l.length = l'.length →
    (∀ i, i < l.length → l.getD i default = l'.getD i default ∨
      ((l.getD i default).ignored ∧ (l'.getD i default).ignored)) → SameUpToIgnored l l'
  | [], [], _, _ => .nil
  | [], _ :: _, h, _ => by simp at h
  | _ :: _, [], h, _ => by simp at h
  | c :: l, c' :: l', hlen, h => by
    have ih := SameUpToIgnored.of_pointwise l l' (by simpa using hlen) (fun i hi => by
      have := h (i + 1) (by simp; omega)
      simpa using this)
    have h0 := h 0 (by simp)
    simp only [List.getD_cons_zero] at h0
    rcases h0 with rfl | ⟨h1, h2⟩
    · exact .keep c ih
    · exact .dropLeft h1 (.dropRight h2 ih)

theorem Circuit.obstacles_congr (c c' : Circuit) (h : SameUpToIgnored c.cells c'.cells) :
    c.obstacles = c'.obstacles := by
  simp only [Circuit.obstacles, h.filter_eq]

end ColoVerif
