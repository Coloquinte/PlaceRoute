import ColoVerif.Proofs.LegalizeAbacusLoop
import ColoVerif.Proofs.Freespace
import ColoVerif.Proofs.LegalizeFrame
/-
For C11: from the Abacus pass to `Legalizer::run`.  First the hypothesis on the ordering key (`KeyOrder`,
`KeyOrderSeg`): the key of `computeCellOrder` keeps the left-to-right order of non-overlapping cells of one row when
`0 ≤ orderingWidth ≤ 1` — strictly for the exact key, weakly under any monotone rounding that is exact on the data
of the two cells.  Then: with only row-high cells the Tetris pass does nothing, `remainingRows` are the free segments
themselves (`run_rowhigh`, also used by C01's trivial success), and `importLegalization` and `exportPlacement` write
the unchanged statuses back (`run_fixed`, `exportCells_final`).
-/
namespace ColoVerif.Legalize

theorem orderKey_id (ww wy wh : Rat) (c : LCell) :
    orderKey id ww wy wh c = (c.tx : Rat) + ww * (c.w : Rat) + wy * (c.ty : Rat) + wh * (c.h : Rat) := by
  simp only [orderKey, id, one_mul]

/-- with `0 ≤ ww ≤ 1` and widths `≥ 1`, `x + ww * w` increases strictly from a cell to one entirely to
its right: the difference is `(x2 - x1 - w1) + (1 - ww) * (w1 - 1) + ww * (w2 - 1) + 1` -/
theorem key_step {ww x1 w1 x2 w2 : Rat} (h0 : 0 ≤ ww) (h1 : ww ≤ 1) (hw1 : 1 ≤ w1) (hw2 : 1 ≤ w2)
    (hx : x1 + w1 ≤ x2) : x1 + ww * w1 < x2 + ww * w2 := by
  have p1 : 0 ≤ (1 - ww) * (w1 - 1) := mul_nonneg (sub_nonneg.2 h1) (sub_nonneg.2 hw1)
  have p2 : 0 ≤ ww * (w2 - 1) := mul_nonneg h0 (sub_nonneg.2 hw2)
  linarith

theorem orderKey_lt_exact (ww wy wh : Rat) (h0 : 0 ≤ ww) (h1 : ww ≤ 1) (c1 c2 : LCell)
    (hy : c1.ty = c2.ty) (hh : c1.h = c2.h) (hw1 : 0 < c1.w) (hw2 : 0 < c2.w) (hx : c1.tx + c1.w ≤ c2.tx) :
    orderKey id ww wy wh c1 < orderKey id ww wy wh c2 := by
  rw [orderKey_id, orderKey_id, hy, hh]
  have := key_step (x1 := c1.tx) (w1 := c1.w) (x2 := c2.tx) (w2 := c2.w) h0 h1 (by exact_mod_cast hw1)
    (by exact_mod_cast hw2) (by exact_mod_cast hx)
  exact add_lt_add_left (add_lt_add_left this _) _

/-- `rnd 1` is the constant `weightX = 1.0f` of `orderKey`; exactness on 0 and 1 also carries `0 ≤ ww ≤ 1` over
to `rnd ww`.  Only `≤`: rounding can merge two keys. -/
theorem orderKey_le_rounded (rnd : Rat → Rat) (hmono : ∀ a b, a ≤ b → rnd a ≤ rnd b)
    (r0 : rnd 0 = 0) (r1 : rnd 1 = 1) (ww wy wh : Rat) (h0 : 0 ≤ ww) (h1 : ww ≤ 1) (c1 c2 : LCell)
    (hy : c1.ty = c2.ty) (hh : c1.h = c2.h) (hw1 : 0 < c1.w) (hw2 : 0 < c2.w) (hx : c1.tx + c1.w ≤ c2.tx)
    (x1 : rnd (c1.tx : Rat) = c1.tx) (x2 : rnd (c2.tx : Rat) = c2.tx)
    (w1 : rnd (c1.w : Rat) = c1.w) (w2 : rnd (c2.w : Rat) = c2.w) :
    orderKey rnd ww wy wh c1 ≤ orderKey rnd ww wy wh c2 := by
  unfold orderKey
  rw [hy, hh, r1, x1, x2, w1, w2, one_mul, one_mul, x1, x2]
  have a0 : 0 ≤ rnd ww := by rw [← r0]; exact hmono _ _ h0
  have a1 : rnd ww ≤ 1 := by rw [← r1]; exact hmono _ _ h1
  have e1 : (0 : Rat) ≤ (c1.w : Rat) := by exact_mod_cast hw1.le
  have e2 : (0 : Rat) ≤ (c2.w : Rat) := by exact_mod_cast hw2.le
  have e3 : (c1.tx : Rat) + (c1.w : Rat) ≤ (c2.tx : Rat) := by exact_mod_cast hx
  -- the rounded width term of the left cell is at most its width, that of the right cell is not negative
  have b1 : rnd (rnd ww * (c1.w : Rat)) ≤ (c1.w : Rat) := by
    rw [← w1]
    apply hmono
    rw [w1]
    exact mul_le_of_le_one_left e1 a1
  have b2 : 0 ≤ rnd (rnd ww * (c2.w : Rat)) := by
    rw [← r0]
    exact hmono _ _ (mul_nonneg a0 e2)
  apply hmono
  apply add_le_add_left
  apply hmono
  apply add_le_add_left
  apply hmono
  exact (add_le_add_right b1 _).trans (e3.trans (le_add_of_nonneg_right b2))

open ColoVerif ColoVerif.RowLeg

/-- a well-formed free segment of height `H` -/
def GoodSeg (H : Int) (r : Row) : Prop :=
  r.rect.minX < r.rect.maxX ∧ r.rect.minY < r.rect.maxY ∧ r.rect.height = H

def RowsDisj (r s : Row) : Prop :=
  r.rect.minY = s.rect.minY → r.rect.maxX ≤ s.rect.minX ∨ s.rect.maxX ≤ r.rect.minX

theorem RowsDisj.symm {r s : Row} (h : RowsDisj r s) : RowsDisj s r := fun e => (h e.symm).symm

theorem freespace_nil (H : Int) (r : Row) (h : GoodSeg H r) : r.freespace [] = [r] := by
  obtain ⟨⟨x0, x1, y0, y1⟩, o⟩ := r
  obtain ⟨h1, h2, _⟩ := h
  have e : Freespace.freeIntervals ⟨x0, x1, y0, y1⟩ [] = [(x0, x1)] := by
    rw [Freespace.freeIntervals, if_pos ⟨Int.ne_of_lt h1, h2⟩]
    show Freespace.sweep (max x0 x1) (min x0 x1) [] = _
    rw [Freespace.sweep_nil, Int.min_eq_left (Int.le_of_lt h1), Int.max_eq_right (Int.le_of_lt h1), if_pos h1]
  rw [Row.freespace, e]
  rfl

theorem flatMap_self {α : Type} (f : α → List α) : ∀ (l : List α), (∀ r ∈ l, f r = [r]) → l.flatMap f = l
  | [], _ => rfl
  | x :: l, h => by
    rw [List.flatMap_cons, h x (by simp), flatMap_self f l (fun r hr => h r (by simp [hr]))]
    rfl

theorem placedRects_init : ∀ (cells : List LCell), placedRects cells (cells.map initPos) = []
  | [] => rfl
  | c :: cs => by simp [placedRects, initPos, placedRects_init cs]

theorem exportCells_final : ∀ (cells : List Cell),
    exportCells cells (((cells.filter fun cl => !cl.fixed).map fun cl =>
      (⟨cl.placedWidth, cl.placedHeight, cl.pol, cl.x, cl.y, cl.orient⟩ : LCell)).map finalPos) = cells
  | [] => rfl
  | cl :: cls => by
    by_cases hf : cl.fixed = true
    · simp only [exportCells, hf, if_true, List.filter_cons, Bool.not_true, Bool.false_eq_true, if_false]
      rw [exportCells_final cls]
    · have hf' : cl.fixed = false := by simpa using hf
      obtain ⟨w, h, x, y, o, f, ob, pl⟩ := cl
      simp only at hf'
      subst hf'
      simp only [exportCells, List.filter_cons, Bool.not_false, if_true, List.map_cons, Bool.false_eq_true,
        if_false, finalPos]
      rw [exportCells_final cls]

theorem exportCells_nil : ∀ (cells : List Cell), exportCells cells [] = cells
  | [] => rfl
  | cl :: cls => by
    unfold exportCells
    split <;> rw [exportCells_nil cls]

theorem map_cellAt_range (cells : List LCell) : (List.range cells.length).map (cellAt cells) = cells :=
  ListFacts.range_map_getD_id cells default

/-- what the ordering key has to guarantee: a cell entirely left of another one at the same y and of
the same height is visited first.  Holds for the exact key when `0 ≤ orderingWidth ≤ 1`
(`keyOrder_exact`). -/
def KeyOrder (rnd : Rat → Rat) (p : Params) (cells : List LCell) : Prop :=
  ∀ i j, i < cells.length → j < cells.length →
    (cellAt cells i).ty = (cellAt cells j).ty → (cellAt cells i).h = (cellAt cells j).h →
    0 < (cellAt cells i).w → 0 < (cellAt cells j).w →
    (cellAt cells i).tx + (cellAt cells i).w ≤ (cellAt cells j).tx →
    keyLt (orderKey rnd p.ow p.oy p.oh (cellAt cells i), i) (orderKey rnd p.ow p.oy p.oh (cellAt cells j), j) = true

/-- both cells lie inside the free segment `r` -/
def SameSeg (r : Row) (a b : LCell) : Prop :=
  r.rect.minY = a.ty ∧ r.rect.minX ≤ a.tx ∧ a.tx + a.w ≤ r.rect.maxX ∧ r.rect.minX ≤ b.tx ∧ b.tx + b.w ≤ r.rect.maxX

/-- the weaker form that is enough: only pairs of cells lying in one and the same free segment of `R`
have to be visited left to right (the order between cells of different segments is irrelevant) -/
def KeyOrderSeg (rnd : Rat → Rat) (p : Params) (R : List Row) (cells : List LCell) : Prop :=
  ∀ i j, i < cells.length → j < cells.length →
    (cellAt cells i).ty = (cellAt cells j).ty → (cellAt cells i).h = (cellAt cells j).h →
    0 < (cellAt cells i).w → 0 < (cellAt cells j).w →
    (cellAt cells i).tx + (cellAt cells i).w ≤ (cellAt cells j).tx →
    (∃ r ∈ R, SameSeg r (cellAt cells i) (cellAt cells j)) →
    keyLt (orderKey rnd p.ow p.oy p.oh (cellAt cells i), i) (orderKey rnd p.ow p.oy p.oh (cellAt cells j), j) = true

theorem KeyOrder.toSeg {rnd : Rat → Rat} {p : Params} {cells : List LCell} (h : KeyOrder rnd p cells) (R : List Row) :
    KeyOrderSeg rnd p R cells :=
  fun i j hi hj hy hh hw1 hw2 hx _ => h i j hi hj hy hh hw1 hw2 hx

theorem keyOrder_exact (p : Params) (h0 : 0 ≤ p.ow) (h1 : p.ow ≤ 1) (cells : List LCell) : KeyOrder id p cells := by
  intro i j _ _ hy hh hw1 hw2 hx
  have := orderKey_lt_exact p.ow p.oy p.oh h0 h1 _ _ hy hh hw1 hw2 hx
  simp [keyLt, this]

def NoOverlap (a b : LCell) : Prop := a.ty = b.ty → a.tx + a.w ≤ b.tx ∨ b.tx + b.w ≤ a.tx

theorem NoOverlap.symm {a b : LCell} (h : NoOverlap a b) : NoOverlap b a := fun e => (h e.symm).symm

/-- a cell sits in a free segment with the orientation it gets there -/
def CellInPlace (R : List Row) (H : Int) (c : LCell) : Prop :=
  c.h = H ∧ 0 < c.w ∧ c.torient ≠ Orient.INVALID ∧
  ∃ r ∈ R, r.rect.minY = c.ty ∧ r.rect.minX ≤ c.tx ∧ c.tx + c.w ≤ r.rect.maxX ∧
    (cellOrientationInRow c.pol r.orient = Orient.UNKNOWN ∨ cellOrientationInRow c.pol r.orient = c.torient)

theorem getOrientation_fixed (S : List Row) (c : LCell) (k : Nat)
    (h : cellOrientationInRow c.pol (rowAt S k).orient = Orient.UNKNOWN ∨
      cellOrientationInRow c.pol (rowAt S k).orient = c.torient) :
    getOrientation S c k = c.torient := by
  unfold getOrientation
  rcases h with h | h
  · rw [if_pos h]
  · rw [h]; split
    · rfl
    · rfl

theorem idemOK_of (rnd : Rat → Rat) (p : Params) (R : List Row) (H : Int) (cells : List LCell)
    (hgood : ∀ r ∈ R, GoodSeg H r) (hdisj : R.Pairwise RowsDisj) (hcells : ∀ c ∈ cells, CellInPlace R H c)
    (hnoov : cells.Pairwise NoOverlap) (hkey : KeyOrderSeg rnd p R cells) :
    IdemOK (sortRows (sortRows R)) H
      ((computeCellOrder rnd p.ow p.oy p.oh cells).map (cellAt cells)) := by
  have hperm : (sortRows (sortRows R)).Perm R := (sortRows_perm _).trans (sortRows_perm R)
  have hord := computeCellOrder_perm rnd p.ow p.oy p.oh cells
  have hlt : ∀ j ∈ computeCellOrder rnd p.ow p.oy p.oh cells, j < cells.length :=
    fun j hj => List.mem_range.mp (hord.mem_iff.mp hj)
  refine ⟨sortRows_sorted _, fun r hr => (hgood r (hperm.mem_iff.mp hr)).2.2,
    fun k1 k2 hk1 hk2 hne => ListFacts.pairwise_getD_of_ne RowsDisj.symm
      ((hperm.pairwise_iff RowsDisj.symm).mpr hdisj) default hk1 hk2 hne, ?_, ?_⟩
  · intro c hc
    obtain ⟨j, hj, rfl⟩ := List.mem_map.mp hc
    obtain ⟨a1, a2, a3, r, hr, b⟩ := hcells _ (cellAt_mem cells j (hlt j hj))
    obtain ⟨k, hk, rfl⟩ := ListFacts.exists_getD_of_mem default (hperm.mem_iff.mpr hr)
    exact ⟨a1, a2, a3, k, hk, b.1, b.2.1, b.2.2.1, getOrientation_fixed _ _ k b.2.2.2⟩
  · rw [List.pairwise_map]
    refine ((computeCellOrder_sorted rnd p.ow p.oy p.oh cells).and
      (hord.nodup_iff.mpr List.nodup_range)).imp_of_mem ?_
    intro i j hi hj hab k hk hsi hsj
    have li := hlt i hi
    have lj := hlt j hj
    have hy : (cellAt cells i).ty = (cellAt cells j).ty := hsi.1.symm.trans hsj.1
    -- two distinct cells of one segment do not overlap; were `j` the left one, its key would come first
    refine (ListFacts.pairwise_getD_of_ne NoOverlap.symm hnoov default li lj hab.2 hy).resolve_right
      fun h => hab.1 ?_
    obtain ⟨ai, wi, _⟩ := hcells _ (cellAt_mem cells i li)
    obtain ⟨aj, wj, _⟩ := hcells _ (cellAt_mem cells j lj)
    exact hkey j i lj li hy.symm (aj.trans ai.symm) wj wi h
      ⟨_, hperm.mem_iff.mp (rowAt_mem _ k hk), hsj.1, hsj.2.1, hsj.2.2.1, hsi.2.1, hsi.2.2.1⟩

/-- With only row-high cells the Tetris pass selects nothing, `remainingRows` are the segments themselves and the
Abacus pass gets every cell: `Legalizer::run` is `abacusRun`, `importLegalization` and `checkAllPlaced`. -/
theorem run_rowhigh (rnd : Rat → Rat) (p : Params) {R : List Row} {H : Int} {cells : List LCell}
    (hgood : ∀ r ∈ R, GoodSeg H r) (hh : ∀ c ∈ cells, c.h = H) (hne : R = [] → cells = []) :
    run rnd p (Base.mk' R cells) =
      match abacusRun (sortRows R) ((computeCellOrder rnd p.ow p.oy p.oh cells).map (cellAt cells)) with
      | .error e => .error e
      | .ok ps =>
        if (importPos (computeCellOrder rnd p.ow p.oy p.oh cells) ps (cells.map initPos)).all (·.placed) = true then
          .ok ⟨sortRows R, cells, importPos (computeCellOrder rnd p.ow p.oy p.oh cells) ps (cells.map initPos)⟩
        else .error .notAllPlaced := by
  have hperm := sortRows_perm R
  have hord := computeCellOrder_perm rnd p.ow p.oy p.oh cells
  unfold run
  simp only [Base.mk']
  generalize computeCellOrder rnd p.ow p.oy p.oh cells = order at hord ⊢
  cases hS : sortRows R with
  | nil =>
    obtain rfl : R = [] := List.length_eq_zero_iff.mp (by rw [← hperm.length_eq, hS]; rfl)
    obtain rfl := hne rfl
    obtain rfl : order = [] := List.length_eq_zero_iff.mp hord.length_eq
    rfl
  | cons r0 rs =>
    have hr0 : r0.rect.height = H := (hgood r0 (hperm.mem_iff.mp (by rw [hS]; exact List.mem_cons_self))).2.2
    have hlt : ∀ j ∈ order, j < cells.length := fun j hj => List.mem_range.mp (hord.mem_iff.mp hj)
    have hj : ∀ j ∈ order, (cellAt cells j).h = H := fun j hj => hh _ (cellAt_mem cells j (hlt j hj))
    have htet : tetrisSel ⟨r0 :: rs, cells, cells.map initPos⟩ H order = [] := by
      unfold tetrisSel
      rw [List.filter_eq_nil_iff]
      intro j hj'
      simp [hj j hj']
    have hrem : Base.remainingRows ⟨r0 :: rs, cells, cells.map initPos⟩ = sortRows R := by
      unfold Base.remainingRows
      simp only [placedRects_init]
      rw [← hS]
      exact flatMap_self _ _ (fun r hr => freespace_nil H r (hgood r (hperm.mem_iff.mp hr)))
    have hsel : abacusSel ⟨r0 :: rs, cells, cells.map initPos⟩ H order = order := by
      unfold abacusSel
      rw [List.filter_eq_self]
      intro j hj'
      simp [hj j hj', posAt_init cells j]
    have e1 : runTetris ⟨r0 :: rs, cells, cells.map initPos⟩ order = .ok ⟨r0 :: rs, cells, cells.map initPos⟩ := by
      unfold runTetris
      simp only [rowHeight?, List.head?_cons, Option.map_some, hr0]
      rw [htet]
      rfl
    rw [e1]
    simp only [runAbacus, rowHeight?, List.head?_cons, Option.map_some, hr0]
    rw [hsel, hrem, ← hS]
    cases abacusRun (sortRows R) (order.map (cellAt cells)) with
    | error e => rfl
    | ok ps =>
      simp only [checkAllPlaced]
      by_cases hall : (importPos order ps (cells.map initPos)).all (·.placed) = true
      · simp only [hall, if_true]
      · simp only [hall, if_false, Bool.false_eq_true]

/-- The rows are sorted once by `Base.mk'` and again by `Abacus.init`, hence `sortRows (sortRows R)` in `idemOK_of`. -/
theorem run_fixed (rnd : Rat → Rat) (p : Params) (R : List Row) (H : Int) (cells : List LCell)
    (hgood : ∀ r ∈ R, GoodSeg H r) (hdisj : R.Pairwise RowsDisj) (hcells : ∀ c ∈ cells, CellInPlace R H c)
    (hnoov : cells.Pairwise NoOverlap) (hkey : KeyOrderSeg rnd p R cells) :
    run rnd p (Base.mk' R cells) = .ok ⟨sortRows R, cells, cells.map finalPos⟩ := by
  have hord := computeCellOrder_perm rnd p.ow p.oy p.oh cells
  rw [run_rowhigh rnd p hgood (fun c hc => (hcells c hc).1) (by
      rintro rfl
      cases cells with
      | nil => rfl
      | cons c cs => obtain ⟨_, _, _, r, hr, _⟩ := hcells c List.mem_cons_self; cases hr),
    abacusRun_fixed (sortRows R) H _ (idemOK_of rnd p R H cells hgood hdisj hcells hnoov hkey)]
  generalize computeCellOrder rnd p.ow p.oy p.oh cells = order at hord
  have hplaced : ∀ q ∈ (order.map (cellAt cells)).map finalPos, q.placed = true := by
    intro q hq
    obtain ⟨_, _, rfl⟩ := List.mem_map.mp hq
    rfl
  have hzip : ∀ o ∈ order.zip ((order.map (cellAt cells)).map finalPos), o.2 = finalPos (cellAt cells o.1) := by
    intro o ho
    obtain ⟨i, hi⟩ := List.mem_iff_getElem?.mp ho
    obtain ⟨h1, h2⟩ := List.getElem?_zip_eq_some.mp hi
    rw [List.map_map, List.getElem?_map, h1] at h2
    exact (Option.some.inj h2).symm
  have hP : importPos order ((order.map (cellAt cells)).map finalPos) (cells.map initPos) = cells.map finalPos := by
    apply List.ext_getElem
    · rw [importPos_len]; simp
    · intro m h1 h2
      have hm : m < cells.length := by simpa using h2
      have := importPos_inv (fun j v => v = finalPos (cellAt cells j)) order _ (cells.map initPos)
        (by rw [List.length_map, List.length_map]) hplaced hzip m
        (by simpa using hm) (Or.inr (hord.mem_iff.mpr (List.mem_range.mpr hm)))
      rw [← posAt_eq_getElem _ m h1, this, cellAt_eq_getElem cells m hm, List.getElem_map]
  simp only [hP]
  simp [finalPos]

end ColoVerif.Legalize
