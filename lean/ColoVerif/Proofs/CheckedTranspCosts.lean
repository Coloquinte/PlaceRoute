import ColoVerif.Proofs.TranspFloat
import ColoVerif.Proofs.TranspFloatC07
import ColoVerif.Proofs.CheckedTranspRun
/-
For C07 `transp_costs_fit`, the floating-point side: `costsFromIntegers` maps every matrix of finite non-negative
`float` costs to fixed-point costs in `[0, 2^29]` (so the conversion `double → int` is defined and
`3·cost < INT_MAX`), and `DensityLegalizer::distance` is non-negative; hence the transportation that `reoptimize`
builds is in the domain of `assignC_eq` (Proofs/CheckedTranspRun.lean).  Then: the `float` costs themselves are
finite on the C07 domain (`reoptCostsC_finite`).
-/
namespace ColoVerif.Transp
open ColoVerif.Checked ColoVerif.F64

/-- `|fixed c| ≤ 2^29` on the domain (`fcFixed_bounds`), so every `double → int` conversion is defined -/
theorem costsFromIntegersC_ok (fc : List (List Rat)) (h : FloatCostsOk fc) (hn1 : 1 ≤ fc.length) :
    costsFromIntegersC fc = .ok (costsFromFloats fc) := by
  unfold costsFromIntegersC costsFromFloats scaleRows
  rw [maxValOf_eq, convFactor_eq]
  refine mapC_ok _ _ fc fun r hr => mapC_ok _ _ r fun c hc => ?_
  obtain ⟨lo, hi, _⟩ := fcFixed_bounds _ _ (fcMaxVal_pos fc) (fcMaxVal_le_fltMax h) hn1 h.rows c
    (h.lower r hr c hc) ((fcMaxVal_spec fc).2.1 r hr c hc)
  exact chk32_between ⟨lo, hi⟩

lemma rabs_nonneg (q : Rat) : 0 ≤ rabs q := by
  unfold rabs; split <;> linarith

lemma rmax_nonneg_left {a b : Rat} (h : 0 ≤ a) : 0 ≤ rmax a b := h.trans (fcMax2_ge_left a b)

lemma fin32_nonneg {site : String} {q v : Rat} (h : fin32 site q = .ok v) (hq : 0 ≤ q) : 0 ≤ v := by
  unfold fin32 at h
  split at h
  · simp only [Except.ok.injEq] at h; rw [← h]; exact f32'_nonneg hq
  · simp at h

lemma andThen_eq_ok {α β : Type} {x : Except Fault α} {f : α → Except Fault β} {b : β}
    (h : andThen x f = .ok b) : ∃ a, x = .ok a ∧ f a = .ok b := by
  unfold andThen at h
  cases x with
  | error e => simp at h
  | ok a => exact ⟨a, rfl, h⟩

lemma normC_nonneg (m : CostModel) (x y v : Rat) (h : normC m x y = .ok v) : 0 ≤ v := by
  cases m <;> simp only [normC] at h
  · exact fin32_nonneg h (add_nonneg (rabs_nonneg x) (rabs_nonneg y))
  · obtain ⟨xx, _, h⟩ := andThen_eq_ok h
    obtain ⟨yy, _, h⟩ := andThen_eq_ok h
    obtain ⟨s, _, h⟩ := andThen_eq_ok h
    simp only [Except.ok.injEq] at h
    rw [← h]; exact f32sqrt_nonneg s
  · simp only [Except.ok.injEq] at h
    rw [← h]; exact rmax_nonneg_left (rabs_nonneg x)
  · obtain ⟨z, _, h⟩ := andThen_eq_ok h
    exact fin32_nonneg h (mul_self_nonneg z)
  · obtain ⟨xx, hx, h⟩ := andThen_eq_ok h
    obtain ⟨yy, hy, h⟩ := andThen_eq_ok h
    exact fin32_nonneg h (add_nonneg (fin32_nonneg hx (mul_self_nonneg x)) (fin32_nonneg hy (mul_self_nonneg y)))
  · exact fin32_nonneg h (mul_self_nonneg _)

/-- a finite `DensityLegalizer::distance` is a non-negative `float` not above `FLT_MAX` (every cost model; penalty
factor `≥ 0`, as `RoughLegalizationParameters::check` enforces) -/
theorem distanceC_range (m : CostModel) (qf x y v : Rat) (hq : 0 ≤ qf) (h : distanceC m qf x y = .ok v) :
    0 ≤ v ∧ v ≤ fltMax := by
  unfold distanceC at h
  obtain ⟨d, hd, h⟩ := andThen_eq_ok h
  obtain ⟨qd, hqd, h⟩ := andThen_eq_ok h
  obtain ⟨f, hf, h⟩ := andThen_eq_ok h
  have d0 := normC_nonneg m x y d hd
  have qd0 := fin32_nonneg hqd (mul_nonneg hq d0)
  have f0 := fin32_nonneg hf (by linarith)
  refine ⟨fin32_nonneg h (mul_nonneg d0 f0), ?_⟩
  unfold fin32 at h
  split at h
  · rename_i hle
    simp only [Except.ok.injEq] at h
    rw [← h]
    unfold rabs at hle
    split at hle <;> linarith
  · simp at h

theorem binCellCostC_range (m : CostModel) (qf bx bY cx cy v : Rat) (hq : 0 ≤ qf)
    (h : binCellCostC m qf bx bY cx cy = .ok v) : 0 ≤ v ∧ v ≤ fltMax := by
  unfold binCellCostC at h
  obtain ⟨dx, _, h⟩ := andThen_eq_ok h
  obtain ⟨dy, _, h⟩ := andThen_eq_ok h
  exact distanceC_range m qf dx dy v hq h

theorem reoptCostsC_range (m : CostModel) (qf : Rat) (bins cells : List (Rat × Rat)) (fc : List (List Rat))
    (hq : 0 ≤ qf) (h : reoptCostsC m qf bins cells = .ok fc) :
    fc.length = bins.length ∧ ∀ r, r ∈ fc → ∀ c, c ∈ r → 0 ≤ c ∧ c ≤ fltMax := by
  unfold reoptCostsC at h
  constructor
  · simpa using (congrArg List.length (mapC_eq_ok _ bins fc h)).symm
  · intro r hr c hc
    obtain ⟨b, _, hb⟩ := mapC_mem _ bins fc h r hr
    obtain ⟨cell, _, hcell⟩ := mapC_mem _ cells r hb c hc
    exact binCellCostC_range m qf b.1 b.2 cell.1 cell.2 c hq hcell

lemma check_sizes (p : Problem) (h : p.check = true) : p.costs.length = p.nbSinks := by
  unfold Problem.check at h
  simp only [Bool.and_eq_true] at h
  obtain ⟨⟨⟨⟨⟨_, _⟩, h3⟩, _⟩, _⟩, _⟩ := h
  simpa using h3

lemma assignDom_of (caps dems : List Int) (costs : Mat)
    (hchk : (Problem.make caps dems costs).check = true) (hlen : 1 ≤ costs.length)
    (hcost : ∀ i j, 0 ≤ get2 costs i j ∧ get2 costs i j ≤ 536870912)
    (hcapQ : caps.sum ≤ Qmax) (hdemQ : dems.sum ≤ Qmax) : AssignDom (Problem.make caps dems costs) := by
  have im : intMax = 2147483647 := rfl
  refine ⟨hchk, ?_, fun i j _ _ => ?_, fun i j _ _ => (hcost i j).1, hcapQ, hdemQ⟩
  · have := check_sizes _ hchk
    have e : (Problem.make caps dems costs).costs = costs := rfl
    rw [e] at this
    omega
  · have := hcost i j
    show 3 * get2 costs i j < intMax ∧ -intMax < 3 * get2 costs i j
    omega

lemma assignDomOk_iff (p : Problem) : assignDomOk p = true ↔ AssignDom p := by
  unfold assignDomOk
  simp only [Bool.and_eq_true, decide_eq_true_eq, allTo_iff, costBoundOk_iff]
  exact ⟨fun ⟨⟨⟨⟨⟨h1, h2⟩, h3⟩, h4⟩, h5⟩, h6⟩ => ⟨h1, h2, h3, fun i j hi hj => h4 i hi j hj, h5, h6⟩,
    fun h => ⟨⟨⟨⟨⟨h.chk, h.sinks⟩, h.cb⟩, fun i hi j hj => h.cnn i j hi hj⟩, h.capQ⟩, h.demQ⟩⟩

/-- `reoptimize`'s transportation up to the solver run: for every matrix of finite non-negative `float` costs
(what `DensityLegalizer::distance` delivers, `reoptCostsC_range`) with at least one and at most `2^31` rows, and
quantities whose totals are at most `2^61`: `costsFromIntegers` is defined, and then either `check()` throws
`std::runtime_error`, or the problem is in the domain `assignDomOk` of the checked
`increaseCapacity(); solve(); toAssignment()` (`assignC_eq`), whose assignment is returned. -/
theorem reoptTransportC_no_fault (asr : Bool) (caps dems : List Int) (fc : List (List Rat))
    (hn1 : 1 ≤ fc.length) (hn : fc.length ≤ 2147483648)
    (hc : ∀ r, r ∈ fc → ∀ c, c ∈ r → 0 ≤ c ∧ c ≤ fltMax)
    (hcapQ : caps.sum ≤ Qmax) (hdemQ : dems.sum ≤ Qmax) :
    ∃ costs, costsFromIntegersC fc = .ok costs ∧
      (((Problem.make caps dems costs).check = false ∧ reoptTransportC asr caps dems fc = .ok .throwRuntimeError) ∨
       ((Problem.make caps dems costs).check = true ∧ assignDomOk (Problem.make caps dems costs) = true ∧
         ∀ a, assignC asr (Problem.make caps dems costs) = .ok a →
           reoptTransportC asr caps dems fc = .ok (.assignment a))) := by
  have hok := floatCostsOk_of_nonneg fc hn hc
  have hcosts := costsFromIntegersC_ok fc hok hn1
  refine ⟨_, hcosts, ?_⟩
  unfold reoptTransportC
  rw [hcosts]
  simp only []
  cases hchk : (Problem.make caps dems (costsFromFloats fc)).check with
  | false => left; exact ⟨rfl, by simp⟩
  | true =>
    right
    have hd := assignDom_of caps dems _ hchk (by simpa [costsFromFloats, scaleRows] using hn1)
      (fun i j => ⟨costsFromFloats_nonneg fc (fun r hr c hc' => (hc r hr c hc').1) i j, (costsFromFloats_range fc hok i j).2⟩)
      hcapQ hdemQ
    refine ⟨rfl, (assignDomOk_iff _).mpr hd, fun a ha => ?_⟩
    simp only [if_true]
    rw [ha]

/- The `float` costs of `reoptimize` are finite on the C07 domain.  Magnitudes are tracked as powers
of two (`Mag k x`): binary32 rounding does not cross a power of two (`Mag.f32`), so sums and products
only add to the exponent (`Mag.add`, `Mag.mul`), and everything up to `2^127` is finite (`Mag.fin32`).
The side conditions on the exponents are closed terms and are decided (`by decide` as default argument). -/

lemma rabs_eq_abs (q : Rat) : rabs q = |q| := by
  unfold rabs
  split
  · exact (abs_of_neg ‹_›).symm
  · exact (abs_of_nonneg (not_lt.mp ‹_›)).symm

lemma rabs_le_of {q B : Rat} (h1 : -B ≤ q) (h2 : q ≤ B) : rabs q ≤ B := by
  rw [rabs_eq_abs]; exact abs_le.mpr ⟨h1, h2⟩

structure Mag (k : Int) (x : Rat) : Prop where
  le : |x| ≤ (2 : Rat) ^ k

namespace Mag
variable {k j : Int} {x y : Rat}

theorem mono (h : Mag k x) (hk : k ≤ j := by decide) : Mag j x := ⟨h.le.trans (z2_le hk)⟩

theorem zero (k : Int) : Mag k 0 := ⟨abs_zero.trans_le (z2_pos k).le⟩

theorem one : Mag 0 1 := ⟨by rw [abs_one, zpow_zero]⟩

theorem neg (h : Mag k x) : Mag k (-x) := ⟨(abs_neg x).trans_le h.le⟩

theorem add (hx : Mag k x) (hy : Mag k y) : Mag (k + 1) (x + y) := ⟨z2_abs_add_le hx.le hy.le⟩

theorem mul (hx : Mag k x) (hy : Mag j y) : Mag (k + j) (x * y) := ⟨z2_abs_mul_le hx.le hy.le⟩

theorem f32 (h : Mag k x) (hk : -149 ≤ k := by decide) : Mag k (f32' x) := ⟨f32'_abs_le_pow2 hk h.le⟩

theorem rabs (h : Mag k x) : Mag k (rabs x) := ⟨by rw [rabs_eq_abs, abs_abs]; exact h.le⟩

theorem rmax (hx : Mag k x) (hy : Mag k y) : Mag k (rmax x y) := by
  unfold Transp.rmax; split <;> assumption

theorem fin32 (h : Mag k x) (hk0 : -149 ≤ k := by decide) (hk : k ≤ 127 := by decide) {site : String} :
    fin32 site x = .ok (f32' x) := by
  unfold Transp.fin32
  rw [if_pos]
  rw [rabs_eq_abs]
  exact (h.f32 hk0).le.trans ((z2_le hk).trans (by unfold fltMax; norm_num))

end Mag

/-- the models to which `GlobalPlacer` applies the quadratic penalty (`place_global.cpp`: L1, L2, LInf) -/
def CostModel.linear : CostModel → Bool
  | .L1 | .L2 | .LInf => true
  | _ => false

lemma normC_finite (m : CostModel) (x y : Rat) (hx : Mag 31 x) (hy : Mag 31 y) :
    ∃ d, normC m x y = .ok d ∧ Mag (if m.linear then 35 else 64) d := by
  have hs := hx.rabs.add hy.rabs
  have hxx := hx.mul hx
  have hyy := hy.mul hy
  have hss := hxx.f32.add hyy.f32
  have hz := hx.rabs.rmax hy.rabs
  cases m
  · -- L1
    exact ⟨_, hs.fin32, hs.f32.mono⟩
  · -- L2: `sqrtf` of at most `2^63 ≤ (2^32)²` is at most `8·2^32`
    have hq := f32sqrt_le (B := (2 : Rat) ^ (32 : Int))
      (f32'_nonneg (add_nonneg (f32'_nonneg (mul_self_nonneg x)) (f32'_nonneg (mul_self_nonneg y)))) (by norm_num)
      (((le_abs_self _).trans hss.f32.le).trans (by rw [← z2_add]; exact z2_le (by decide)))
    refine ⟨_, ?_, ⟨(abs_of_nonneg (f32sqrt_nonneg _)).trans_le (hq.trans (by norm_num [CostModel.linear]))⟩⟩
    simp only [normC, andThen, hxx.fin32, hyy.fin32, hss.fin32]
  · -- LInf
    exact ⟨_, rfl, hz.mono⟩
  · -- L1Squared
    have hzz := hs.f32.mul hs.f32
    exact ⟨_, by simp only [normC, andThen, hs.fin32, hzz.fin32], hzz.f32.mono⟩
  · -- L2Squared
    exact ⟨_, by simp only [normC, andThen, hxx.fin32, hyy.fin32, hss.fin32], hss.f32.mono⟩
  · -- LInfSquared
    have hzz := hz.mul hz
    exact ⟨_, hzz.fin32, hzz.f32.mono⟩

/-- `d·(1 + q·d)` for `d ≤ 2^k` and `q·d ≤ 2^j`: the last product is at most `2^(k+j+1)` -/
lemma distanceC_finite (m : CostModel) (qf x y d : Rat) (hd : normC m x y = .ok d) {k j : Int}
    (hk : 0 ≤ k) (hj : 0 ≤ j) (hkj : k + (j + 1) ≤ 127)
    (dB : Mag k d) (hq : Mag j (qf * d)) : ∃ v, distanceC m qf x y = .ok v := by
  have hf := (Mag.one.mono hj).add (hq.f32 (by omega))
  have hdf := dB.mul (hf.f32 (by omega))
  unfold distanceC
  simp only [andThen, hd, hq.fin32 (by omega) (by omega), hf.fin32 (by omega) (by omega)]
  exact ⟨_, hdf.fin32 (by omega) hkj⟩

/-- No `float` of `reoptimize`'s cost evaluation overflows to infinity on the C07 domain: bin centres and cell
targets of magnitude at most `2^30` (the placement area is within `2^22`; `checkFinitePlacement` in
`place_global.cpp` rejects positions beyond `2^28`, which keeps the targets below `2^29`), penalty factor in `[0, 1]`
for the L1 / L2 / LInf models and `0` for the squared ones, as `GlobalPlacer` sets it. -/
theorem binCellCostC_finite (m : CostModel) (qf bx bY cx cy : Rat)
    (hq0 : 0 ≤ qf) (hq1 : qf ≤ 1) (hq : m.linear = false → qf = 0)
    (hbx : rabs bx ≤ 1073741824) (hby : rabs bY ≤ 1073741824)
    (hcx : rabs cx ≤ 1073741824) (hcy : rabs cy ≤ 1073741824) :
    ∃ v, binCellCostC m qf bx bY cx cy = .ok v := by
  have h30 : (1073741824 : Rat) = (2 : Rat) ^ (30 : Int) := by norm_num
  rw [rabs_eq_abs, h30] at hbx hby hcx hcy
  have hdx := (Mag.mk hbx).add (Mag.mk hcx).neg
  have hdy := (Mag.mk hby).add (Mag.mk hcy).neg
  rw [← sub_eq_add_neg] at hdx hdy
  obtain ⟨d, hd, dB⟩ := normC_finite m _ _ hdx.f32 hdy.f32
  unfold binCellCostC
  simp only [andThen, hdx.fin32, hdy.fin32]
  cases hl : m.linear with
  | true =>
    rw [hl, if_pos rfl] at dB
    have hqf : Mag 0 qf := ⟨by rw [abs_of_nonneg hq0, zpow_zero]; exact hq1⟩
    exact distanceC_finite m qf _ _ d hd (by decide) (by decide) (by decide) dB (hqf.mul dB)
  | false =>
    rw [hl, if_neg Bool.false_ne_true] at dB
    refine distanceC_finite m qf _ _ d hd (by decide) (le_refl 0) (by decide) dB ?_
    rw [hq hl, zero_mul]
    exact Mag.zero 0

theorem reoptCostsC_finite (m : CostModel) (qf : Rat) (bins cells : List (Rat × Rat))
    (hq0 : 0 ≤ qf) (hq1 : qf ≤ 1) (hq : m.linear = false → qf = 0)
    (hb : ∀ b, b ∈ bins → rabs b.1 ≤ 1073741824 ∧ rabs b.2 ≤ 1073741824)
    (hc : ∀ c, c ∈ cells → rabs c.1 ≤ 1073741824 ∧ rabs c.2 ≤ 1073741824) :
    ∃ fc, reoptCostsC m qf bins cells = .ok fc := by
  unfold reoptCostsC
  apply mapC_total
  intro b hb'
  apply mapC_total
  intro c hc'
  exact binCellCostC_finite m qf b.1 b.2 c.1 c.2 hq0 hq1 hq (hb b hb').1 (hb b hb').2 (hc c hc').1 (hc c hc').2

end ColoVerif.Transp
