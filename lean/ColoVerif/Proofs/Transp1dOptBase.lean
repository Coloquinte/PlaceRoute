import ColoVerif.Proofs.Transp1dOptKkt
/-
Base of the optimality proof (C14).  The cost `|u i - v j|` on a sorted instance: Monge property
(`cs_monge`), monotone on both sides of its minimum and quasi-convex in the sink
(`iabs_mono_left`, `iabs_mono_right`, `cs_quasi`); when a source overlaps a sink (`ov_pos_iff`).
The sink functions `sigL`/`sigR` of the optimality conditions: for non-decreasing `D` they are
adjoint to `D` (`t ≤ sigL y ↔ D t < y`, `t ≤ sigR y ↔ D t ≤ y`), and on the integer axis the right
derivative at `x` is the left derivative at `x + 1` (`sigR_eq_sigL`, `tR_eq`).
-/
namespace ColoVerif.Transp1d

theorem iabs_mono_right (a x y : Int) (hax : a ≤ x) (hxy : x ≤ y) :
    iabs (a - x) ≤ iabs (a - y) := by
  have h1 := le_iabs (a - y)
  have e1 := iabs_cases (a - x)
  omega

theorem iabs_mono_left (a x y : Int) (hya : y ≤ a) (hxy : x ≤ y) :
    iabs (a - y) ≤ iabs (a - x) := by
  have h1 := le_iabs (a - x)
  have e1 := iabs_cases (a - y)
  omega

theorem iabs_right_of_le (a x y : Int) (hxy : x < y) (h : iabs (a - x) ≤ iabs (a - y)) :
    a ≤ y := by
  have h1 := le_iabs (a - x)
  have e1 := iabs_cases (a - y)
  omega

theorem iabs_left_of_le (a x y : Int) (hxy : x < y) (h : iabs (a - y) ≤ iabs (a - x)) :
    x ≤ a := by
  have h1 := le_iabs (a - y)
  have e1 := iabs_cases (a - x)
  omega

theorem iabs_quasi (a x y z : Int) (hxy : x ≤ y) (hyz : y ≤ z) :
    iabs (a - y) ≤ max (iabs (a - x)) (iabs (a - z)) := by
  have h1 := le_iabs (a - x)
  have h2 := le_iabs (a - z)
  have e1 := iabs_cases (a - y)
  omega

theorem iabs_tri (x y z : Int) : iabs (x - z) ≤ iabs (y - z) + iabs (x - y) :=
  (show y - z + (x - y) = x - z by omega) ▸ iabs_add_le (y - z) (x - y)

theorem cs_monge (sv : Solver) (si : SortedInst sv) (i i' j j' : Nat) (hi : i ≤ i')
    (hi' : i' < sv.u.length) (hj : j ≤ j') (hj' : j' < sv.v.length) :
    cs sv i j + cs sv i' j' ≤ cs sv i j' + cs sv i' j :=
  iabs_monge _ _ _ _ (sorted_getD _ si.us i i' hi hi') (sorted_getD _ si.vs j j' hj hj')

theorem cs_quasi (sv : Solver) (si : SortedInst sv) (k t t' t'' : Nat) (h1 : t ≤ t') (h2 : t' ≤ t'')
    (h3 : t'' < sv.v.length) : cs sv k t' ≤ max (cs sv k t) (cs sv k t'') :=
  iabs_quasi _ _ _ _ (sorted_getD _ si.vs t t' h1 (by omega)) (sorted_getD _ si.vs t' t'' h2 h3)

theorem ov_pos_iff (sv : Solver) (p : List Int) (i j : Nat) :
    0 < ov sv p i j ↔ lo sv p i < sv.D.getD (j + 1) 0 ∧ sv.D.getD j 0 < hi sv p i ∧
      lo sv p i < hi sv p i ∧ sv.D.getD j 0 < sv.D.getD (j + 1) 0 := by
  have pos : ∀ x : Int, 0 < max 0 x ↔ 0 < x := fun x => by omega
  unfold ov
  rw [pos, Int.sub_pos, Int.max_lt, Int.lt_min, Int.lt_min]
  constructor
  · rintro ⟨⟨a, b⟩, c, d⟩; exact ⟨b, c, a, d⟩
  · rintro ⟨b, c, a, d⟩; exact ⟨⟨a, b⟩, c, d⟩

theorem cntLe_eq_cntLt (D : List Int) (y : Int) (t : Nat) : cntLe D y t = cntLt D (y + 1) t := by
  induction t with
  | zero => rfl
  | succ t ih => simp only [cntLe, cntLt, ih, Int.lt_add_one_iff]

theorem sigR_eq_sigL (sv : Solver) (y : Int) : sigR sv y = sigL sv (y + 1) :=
  cntLe_eq_cntLt sv.D y sv.v.length

/-- for non-decreasing `D` the sink ends below `y` are an initial segment, so their number
`cntLt D y m` is at least `t` exactly when the `t`-th one is below `y` -/
theorem le_cntLt_iff (D : List Int) (y : Int) (m : Nat)
    (Dmono : ∀ a b, a ≤ b → b ≤ m → D.getD a 0 ≤ D.getD b 0) :
    cntLt D y m ≤ m ∧ ∀ t, 0 < t → t ≤ m → (t ≤ cntLt D y m ↔ D.getD t 0 < y) := by
  induction m with
  | zero => exact ⟨Nat.le_refl _, fun t h0 h1 => absurd h0 (Nat.not_lt.mpr h1)⟩
  | succ m ih =>
    obtain ⟨hle, hiff⟩ := ih fun a b hab hb => Dmono a b hab (Nat.le_succ_of_le hb)
    rw [cntLt]
    by_cases h : D.getD (m + 1) 0 < y
    · rw [if_pos h]
      -- the first `m` ends are below `y` as well
      have hm : m ≤ cntLt D y m := by
        cases m with
        | zero => exact Nat.zero_le _
        | succ m =>
          exact (hiff _ (Nat.succ_pos m) (Nat.le_refl _)).mpr
            (Int.lt_of_le_of_lt (Dmono _ _ (Nat.le_succ _) (Nat.le_refl _)) h)
      exact ⟨Nat.succ_le_succ hle, fun t _ h1 =>
        ⟨fun _ => Int.lt_of_le_of_lt (Dmono t (m + 1) h1 (Nat.le_refl _)) h,
          fun _ => Nat.le_trans h1 (Nat.succ_le_succ hm)⟩⟩
    · rw [if_neg h, Nat.add_zero]
      refine ⟨Nat.le_succ_of_le hle, fun t h0 h1 => ?_⟩
      rcases Nat.eq_or_lt_of_le h1 with ht | ht
      · rw [ht]
        exact ⟨fun hc => absurd (Nat.le_trans hc hle) (Nat.not_succ_le_self m), fun hc => absurd hc h⟩
      · exact hiff t h0 (Nat.le_of_lt_succ ht)

section
variable (sv : Solver) (Dmono : ∀ a b, a ≤ b → b ≤ sv.v.length → sv.D.getD a 0 ≤ sv.D.getD b 0)
include Dmono

theorem le_sigL_iff (y : Int) (t : Nat) (h0 : 0 < t) (ht : t ≤ sv.v.length) :
    t ≤ sigL sv y ↔ sv.D.getD t 0 < y := (le_cntLt_iff sv.D y _ Dmono).2 t h0 ht

theorem le_sigR_iff (y : Int) (t : Nat) (h0 : 0 < t) (ht : t ≤ sv.v.length) :
    t ≤ sigR sv y ↔ sv.D.getD t 0 ≤ y := by
  rw [sigR_eq_sigL, le_sigL_iff sv Dmono _ t h0 ht, Int.lt_add_one_iff]

theorem sigL_le_iff (y : Int) (t : Nat) (ht : t < sv.v.length) :
    sigL sv y ≤ t ↔ y ≤ sv.D.getD (t + 1) 0 := by
  rw [← Nat.lt_succ_iff, ← Nat.not_le, le_sigL_iff sv Dmono y (t + 1) (Nat.succ_pos t) ht, Int.not_lt]

theorem le_sigL_of_lt (y : Int) (t : Nat) (ht : t ≤ sv.v.length) (h : sv.D.getD t 0 < y) :
    t ≤ sigL sv y := by
  cases t with
  | zero => exact Nat.zero_le _
  | succ t => exact (le_sigL_iff sv Dmono y _ (Nat.succ_pos t) ht).mpr h

theorem sigL_lt_of_le (y : Int) (t : Nat) (h0 : 0 < t) (ht : t ≤ sv.v.length)
    (h : y ≤ sv.D.getD t 0) : sigL sv y < t :=
  Nat.lt_of_not_le fun hle => Int.not_lt.mpr h ((le_sigL_iff sv Dmono y t h0 ht).mp hle)

theorem le_sigR_of_le (y : Int) (t : Nat) (ht : t ≤ sv.v.length) (h : sv.D.getD t 0 ≤ y) :
    t ≤ sigR sv y := by
  rw [sigR_eq_sigL]
  exact le_sigL_of_lt sv Dmono _ t ht (Int.lt_add_one_iff.mpr h)

theorem sigR_lt_of_lt (y : Int) (t : Nat) (h0 : 0 < t) (ht : t ≤ sv.v.length)
    (h : y < sv.D.getD t 0) : sigR sv y < t := by
  rw [sigR_eq_sigL]
  exact sigL_lt_of_le sv Dmono _ t h0 ht h

theorem sigL_spec (y : Int) (h0 : sv.D.getD 0 0 < y) (h1 : y ≤ sv.D.getD sv.v.length 0) :
    sigL sv y < sv.v.length ∧ sv.D.getD (sigL sv y) 0 < y ∧ y ≤ sv.D.getD (sigL sv y + 1) 0 := by
  have hlt : sigL sv y < sv.v.length := sigL_lt_of_le sv Dmono y _
    (Nat.pos_of_ne_zero fun e => by rw [e] at h1; omega) (Nat.le_refl _) h1
  refine ⟨hlt, ?_, Int.not_lt.mp fun h => Nat.not_succ_le_self _ (le_sigL_of_lt sv Dmono y _ hlt h)⟩
  by_cases hs : sigL sv y = 0
  · rw [hs]; exact h0
  · exact (le_sigL_iff sv Dmono y _ (Nat.pos_of_ne_zero hs) (Nat.le_of_lt hlt)).mp (Nat.le_refl _)

theorem sigR_spec (y : Int) (h0 : sv.D.getD 0 0 ≤ y) (h1 : y < sv.D.getD sv.v.length 0) :
    sigR sv y < sv.v.length ∧ sv.D.getD (sigR sv y) 0 ≤ y ∧ y < sv.D.getD (sigR sv y + 1) 0 := by
  rw [sigR_eq_sigL]
  have ⟨a, b, c⟩ := sigL_spec sv Dmono (y + 1) (Int.lt_add_one_iff.mpr h0) h1
  exact ⟨a, Int.lt_add_one_iff.mp b, c⟩

theorem sigL_eq (y : Int) (t : Nat) (ht : t < sv.v.length) (h1 : sv.D.getD t 0 < y)
    (h2 : y ≤ sv.D.getD (t + 1) 0) : sigL sv y = t :=
  Nat.le_antisymm (Nat.le_of_lt_succ (sigL_lt_of_le sv Dmono y (t + 1) (Nat.succ_pos t) ht h2))
    (le_sigL_of_lt sv Dmono y t (Nat.le_of_lt ht) h1)

theorem sigR_eq (y : Int) (t : Nat) (ht : t < sv.v.length) (h1 : sv.D.getD t 0 ≤ y)
    (h2 : y < sv.D.getD (t + 1) 0) : sigR sv y = t := by
  rw [sigR_eq_sigL]
  exact sigL_eq sv Dmono (y + 1) t ht (Int.lt_add_one_iff.mpr h1) h2

end

theorem sigL_monotone (sv : Solver) (y y' : Int) (h : y ≤ y') : sigL sv y ≤ sigL sv y' := by
  unfold sigL
  induction sv.v.length with
  | zero => exact Nat.le_refl _
  | succ t ih =>
    rw [cntLt, cntLt]
    by_cases h1 : sv.D.getD (t + 1) 0 < y
    · rw [if_pos h1, if_pos (Int.lt_of_lt_of_le h1 h)]; exact Nat.succ_le_succ ih
    · rw [if_neg h1]; exact Nat.le_trans ih (Nat.le_add_right _ _)

theorem sigR_monotone (sv : Solver) (y y' : Int) (h : y ≤ y') : sigR sv y ≤ sigR sv y' := by
  rw [sigR_eq_sigL, sigR_eq_sigL]
  exact sigL_monotone sv _ _ (by omega)

theorem sigL_le_sigR (sv : Solver) (y : Int) : sigL sv y ≤ sigR sv y := by
  rw [sigR_eq_sigL]
  exact sigL_monotone sv y (y + 1) (by omega)

theorem tR_eq (sv : Solver) (k : Nat) (x : Int) : tR sv k x = - tL sv k (x + 1) := by
  unfold tR tL
  rw [sigR_eq_sigL, sigR_eq_sigL, Int.add_assoc, Int.add_assoc]
  omega

end ColoVerif.Transp1d
