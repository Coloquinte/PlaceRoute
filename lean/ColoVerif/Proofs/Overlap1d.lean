/-
The length `ov1 a b lo hi` of `[a,b] ∩ [lo,hi]`: additive when `[lo,hi]` is cut (`ov1_add`), zero when the two
intervals do not meet, `b - a` when `[lo,hi]` spans `[a,b]`, and the number of unit cells of `[lo,hi]` inside `[a,b]`
(`ov1_count`).  Core Lean only, no imports, so that any topic that measures overlaps of intervals can use it.
-/
namespace ColoVerif

/-- length of `[a,b] ∩ [lo,hi]` -/
def ov1 (a b lo hi : Int) : Int := max 0 (min b hi - max a lo)

theorem ov1_add (a b : Int) {lo mid hi : Int} (h1 : lo ≤ mid) (h2 : mid ≤ hi) :
    ov1 a b lo hi = ov1 a b lo mid + ov1 a b mid hi := by
  unfold ov1
  rcases Int.le_total mid a with h | h
  · rw [Int.max_eq_left h, Int.max_eq_left (Int.le_trans h1 h)]
    have : min b mid - a ≤ 0 := Int.sub_nonpos_of_le (Int.le_trans (Int.min_le_right b mid) h)
    rw [Int.max_eq_left this, Int.zero_add]
  · rcases Int.le_total b mid with h' | h'
    · rw [Int.min_eq_left h', Int.min_eq_left (Int.le_trans h' h2)]
      have : b - max a mid ≤ 0 := Int.sub_nonpos_of_le (Int.le_trans h' (Int.le_max_right a mid))
      rw [Int.max_eq_left this, Int.add_zero]
    · have hl : max a lo ≤ mid := Int.max_le.2 ⟨h, h1⟩
      have hr : mid ≤ min b hi := Int.le_min.2 ⟨h', h2⟩
      rw [Int.min_eq_right h', Int.max_eq_right h, Int.max_eq_right (Int.sub_nonneg_of_le hl),
        Int.max_eq_right (Int.sub_nonneg_of_le hr), Int.max_eq_right (Int.sub_nonneg_of_le (Int.le_trans hl hr))]
      generalize max a lo = l
      generalize min b hi = r
      omega

theorem ov1_self (a b t : Int) : ov1 a b t t = 0 := by
  have := ov1_add a b (Int.le_refl t) (Int.le_refl t)
  omega

theorem ov1_span {a b lo hi : Int} (h1 : lo ≤ a) (hab : a ≤ b) (h2 : b ≤ hi) : ov1 a b lo hi = b - a := by
  rw [ov1, Int.min_eq_left h2, Int.max_eq_left h1, Int.max_eq_right (Int.sub_nonneg_of_le hab)]

theorem inter_extent_nonneg {a b lo hi : Int} (hab : a ≤ b) (hlh : lo ≤ hi) (h1 : a < hi) (h2 : lo < b) :
    0 ≤ min b hi - max a lo :=
  Int.sub_nonneg_of_le (Int.max_le.2 ⟨Int.le_min.2 ⟨hab, Int.le_of_lt h1⟩, Int.le_min.2 ⟨Int.le_of_lt h2, hlh⟩⟩)

theorem ov1_of_meet {a b lo hi : Int} (hab : a ≤ b) (hlh : lo ≤ hi) (h1 : a < hi) (h2 : lo < b) :
    ov1 a b lo hi = min b hi - max a lo :=
  Int.max_eq_right (inter_extent_nonneg hab hlh h1 h2)

theorem ov1_of_not_meet {a b lo hi : Int} (h : hi ≤ a ∨ b ≤ lo) : ov1 a b lo hi = 0 := by
  refine Int.max_eq_left (Int.sub_nonpos_of_le ?_)
  rcases h with h | h
  · exact Int.le_trans (Int.min_le_right b hi) (Int.le_trans h (Int.le_max_left a lo))
  · exact Int.le_trans (Int.min_le_left b hi) (Int.le_trans h (Int.le_max_right a lo))

theorem ov1_unit (a b t : Int) : ov1 a b t (t + 1) = if a ≤ t ∧ t < b then 1 else 0 := by
  split
  · rename_i h
    rw [ov1, Int.min_eq_right (Int.add_one_le_of_lt h.2), Int.max_eq_right h.1]
    omega
  · rename_i h
    rcases Decidable.not_and_iff_not_or_not.1 h with h | h
    · exact ov1_of_not_meet (Or.inl (Int.add_one_le_of_lt (Int.not_le.1 h)))
    · exact ov1_of_not_meet (Or.inr (Int.not_lt.1 h))

theorem ov1_count (a b lo : Int) (n : Nat) :
    ov1 a b lo (lo + n) = ((List.range n).map fun k : Nat => if a ≤ lo + k ∧ lo + k < b then (1 : Int) else 0).sum := by
  induction n with
  | zero => rw [Int.natCast_zero, Int.add_zero, ov1_self]; rfl
  | succ n ih =>
    rw [List.range_succ, List.map_append, List.sum_append, ← ih, Int.natCast_succ, ← Int.add_assoc,
      ov1_add a b (mid := lo + n) (Int.le_add_of_nonneg_right (Int.natCast_nonneg n)) (Int.le_add_of_nonneg_right Int.one_nonneg),
      ov1_unit]
    simp only [List.map_cons, List.map_nil, List.sum_cons, List.sum_nil, Int.add_zero]

end ColoVerif
