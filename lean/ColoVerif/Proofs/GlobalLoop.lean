import ColoVerif.Model.LegacyGlobalLoop
import Mathlib.Tactic.Linarith
import Mathlib.Tactic.Ring
/-
The control loop of `GlobalPlacer::run` (`Model/GlobalLoop.lean`).  Everything about `loopWith` (the bounds
`LoopBounds` on iterations and callbacks, the trail of the loop variables) is proved for an arbitrary stop test, so
that it applies to the current loop and to the legacy one (`Model/LegacyGlobalLoop.lean`).  The classifier
`driftOutOfBox` works in units of the average cell length; `inBox_of_not_drift` scales by a positive `avgLen` to the
box `InBox` of the loop variables themselves.  `legacy_loop_all`: with `ub = lb = 0` the legacy gap test never
fires, so unless the distance test does, the legacy loop runs out its fuel.
-/
namespace ColoVerif.GlobalLoop

theorem okPrefix_le (ok : Nat → Bool) (n : Nat) : okPrefix ok n ≤ n := by
  induction n with
  | zero => simp [okPrefix]
  | succ n ih =>
    unfold okPrefix
    split
    · omega
    · split <;> omega

theorem okPrefix_all (ok : Nat → Bool) (n : Nat) (h : ∀ i, i < n → ok i = true) : okPrefix ok n = n := by
  induction n with
  | zero => rfl
  | succ n ih =>
    have e := ih (fun i hi => h i (by omega))
    unfold okPrefix
    rw [e]
    simp [h n (by omega)]

theorem length_eq_counts (l : List Ev) : l.length = l.count .lb + l.count .ub + l.count .pu := by
  induction l with
  | nil => rfl
  | cons e t ih =>
    rw [List.length_cons, List.count_cons, List.count_cons, List.count_cons, ih]
    cases e <;> simp only [reduceCtorEq, beq_self_eq_true, beq_iff_eq, if_true, if_false] <;> omega

/-- the callbacks of one iteration after a negative stop test, `k` of its inner solves having succeeded -/
theorem count_iteration (evs : List Ev) (b : Bool) (k : Nat) :
    (evs ++ [Ev.ub] ++ puEvs b ++ List.replicate k Ev.lb).count .ub = evs.count .ub + 1 ∧
    (evs ++ [Ev.ub] ++ puEvs b ++ List.replicate k Ev.lb).count .lb = evs.count .lb + k ∧
    (evs ++ [Ev.ub] ++ puEvs b ++ List.replicate k Ev.lb).count .pu ≤ evs.count .pu + 1 := by
  cases b <;> simp [puEvs, List.count_append, List.count_replicate]

/-- what `loopWith` guarantees from a state `s` at iteration `j` with `fuel` iterations left -/
def LoopBounds (p : Params) (fuel j : Nat) (s : St) (r : Result) : Prop :=
  r.iterations ≤ j + fuel ∧ r.updates ≤ r.iterations ∧
  r.events.count .ub ≤ s.events.count .ub + fuel + 1 ∧
  r.events.count .lb ≤ s.events.count .lb + fuel * p.nbInner ∧
  r.events.count .pu ≤ s.events.count .pu + fuel

variable (stop : Rat → Rat → Rat → Option StopReason) (R : Rounding) (p : Params) (o : Oracle)

theorem advance_throw (j : Nat) (s : St)
    (hk : okPrefix (o.lbOk j) p.nbInner < p.nbInner) :
    advance R p o j s = .inr (throwAt s (s.events ++ [.ub] ++ puEvs (decide (o.dist j < s.pud)) ++
      List.replicate (okPrefix (o.lbOk j) p.nbInner) .lb) (j + 1) j) := by
  simp [advance, hk]

theorem advance_cont (j : Nat) (s : St)
    (hk : ¬ okPrefix (o.lbOk j) p.nbInner < p.nbInner) : advance R p o j s = .inl (nextSt R p o j s) := by
  simp [advance, hk]

theorem loopWith_succ_stop (fuel j : Nat) (s : St) (r : StopReason) (h : stop s.lb (o.ub j) (o.dist j) = some r) :
    loopWith stop R p o (fuel + 1) j s = finish s [.ub] (.stop r) (j + 1) j := by
  rw [loopWith, h]

theorem loopWith_succ_throw (fuel j : Nat) (s : St) (h : stop s.lb (o.ub j) (o.dist j) = none)
    (hk : okPrefix (o.lbOk j) p.nbInner < p.nbInner) :
    loopWith stop R p o (fuel + 1) j s = throwAt s (s.events ++ [.ub] ++ puEvs (decide (o.dist j < s.pud)) ++
      List.replicate (okPrefix (o.lbOk j) p.nbInner) .lb) (j + 1) j := by
  rw [loopWith, h, advance_throw R p o j s hk]

theorem loopWith_succ_cont (fuel j : Nat) (s : St) (h : stop s.lb (o.ub j) (o.dist j) = none)
    (hk : ¬ okPrefix (o.lbOk j) p.nbInner < p.nbInner) :
    loopWith stop R p o (fuel + 1) j s = loopWith stop R p o fuel (j + 1) (nextSt R p o j s) := by
  rw [loopWith, h, advance_cont R p o j s hk]

theorem loopWith_bounds (fuel j : Nat) (s : St) : LoopBounds p fuel j s (loopWith stop R p o fuel j s) := by
  induction fuel generalizing j s with
  | zero => simp [LoopBounds, loopWith, finish, List.count_append]
  | succ fuel ih =>
    cases hst : stop s.lb (o.ub j) (o.dist j) with
    | some r =>
      rw [loopWith_succ_stop stop R p o fuel j s r hst]
      simp [LoopBounds, finish, List.count_append]
    | none =>
      have hmul : (fuel + 1) * p.nbInner = fuel * p.nbInner + p.nbInner := Nat.succ_mul _ _
      by_cases hk : okPrefix (o.lbOk j) p.nbInner < p.nbInner
      · rw [loopWith_succ_throw stop R p o fuel j s hst hk]
        obtain ⟨h1, h2, h3⟩ := count_iteration s.events (decide (o.dist j < s.pud)) (okPrefix (o.lbOk j) p.nbInner)
        simp only [LoopBounds, throwAt]
        omega
      · rw [loopWith_succ_cont stop R p o fuel j s hst hk]
        obtain ⟨h1, h2, h3⟩ := count_iteration s.events (decide (o.dist j < s.pud)) p.nbInner
        have := ih (j + 1) (nextSt R p o j s)
        simp only [LoopBounds, nextSt] at this ⊢
        omega

theorem trail_snoc {j : Nat} {s : St} (ht : s.trail = (List.range j).map (varsAfter R p o))
    (hv : s.vars = varsAfter R p o j) : s.trail ++ [s.vars] = (List.range (j + 1)).map (varsAfter R p o) := by
  rw [List.range_succ, List.map_append, ht, hv]; rfl

theorem loopWith_trail (fuel j : Nat) (s : St) (ht : s.trail = (List.range j).map (varsAfter R p o))
    (hv : s.vars = varsAfter R p o j) :
    (loopWith stop R p o fuel j s).trail =
      (List.range ((loopWith stop R p o fuel j s).updates + 1)).map (varsAfter R p o) := by
  induction fuel generalizing j s with
  | zero => exact trail_snoc R p o ht hv
  | succ fuel ih =>
    cases hst : stop s.lb (o.ub j) (o.dist j) with
    | some r => rw [loopWith_succ_stop stop R p o fuel j s r hst]; exact trail_snoc R p o ht hv
    | none =>
      by_cases hk : okPrefix (o.lbOk j) p.nbInner < p.nbInner
      · rw [loopWith_succ_throw stop R p o fuel j s hst hk]; exact trail_snoc R p o ht hv
      · rw [loopWith_succ_cont stop R p o fuel j s hst hk]
        exact ih _ _ (trail_snoc R p o ht hv) (by show updateVars R p s.vars = _; rw [hv]; rfl)

theorem varsAfter_exact (k : Nat) :
    varsAfter Rounding.exact p o k = ⟨penaltyAfter p k, cutoffAfter p o.avgLen k, approxAfter p o.avgLen k⟩ := by
  induction k with
  | zero =>
    simp [varsAfter, initVars, mulFD, Rounding.exact, penaltyAfter, cutoffAfter, approxAfter]
  | succ k ih =>
    rw [varsAfter, ih]
    simp only [updateVars, mulFD, Rounding.exact, penaltyAfter, cutoffAfter, approxAfter, Vars.mk.injEq]
    refine ⟨?_, ?_, ?_⟩ <;> ring

theorem cutoffAfter_scale (a : Rat) (k : Nat) : cutoffAfter p a k = a * cutoffAfter p 1 k := by
  simp only [cutoffAfter]; ring

theorem approxAfter_scale (a : Rat) (k : Nat) : approxAfter p a k = a * approxAfter p 1 k := by
  simp only [approxAfter]; ring

theorem inBox_of_not_drift (a : Rat) (ha : 0 < a) (k : Nat) (h : driftOutOfBox p k = false) :
    InBox a ⟨penaltyAfter p k, cutoffAfter p a k, approxAfter p a k⟩ := by
  simp only [driftOutOfBox, Bool.or_eq_false_iff, decide_eq_false_iff_not, not_lt, not_le] at h
  obtain ⟨⟨⟨⟨⟨h1, h2⟩, h3⟩, h4⟩, h5⟩, h6⟩ := h
  rw [cutoffAfter_scale p a k, approxAfter_scale p a k]
  refine ⟨?_, ?_, ?_, h4, ?_, ?_⟩
  · exact mul_le_mul_of_nonneg_left h1 (le_of_lt ha)
  · exact mul_le_mul_of_nonneg_left h2 (le_of_lt ha)
  · exact mul_le_mul_of_nonneg_left h3 (le_of_lt ha)
  · show a * penaltyAfter p k < 18446744073709551616 * (a * cutoffAfter p 1 k)
    rw [mul_left_comm]
    exact mul_lt_mul_of_pos_left h5 ha
  · show a * cutoffAfter p 1 k < 16777216 * (a * penaltyAfter p k)
    rw [mul_left_comm]
    exact mul_lt_mul_of_pos_left h6 ha

theorem runWith_ok (hinit : ∀ i, i ≤ p.nbInitialSteps → o.initOk i = true) :
    runWith stop R p o = loopWith stop R p o (p.maxNbSteps - p.nbInitialSteps) 0 (initSt R p o) := by
  unfold runWith
  rw [okPrefix_all o.initOk (p.nbInitialSteps + 1) (fun i hi => hinit i (by omega))]
  simp

theorem runWith_trail (hinit : ∀ i, i ≤ p.nbInitialSteps → o.initOk i = true) :
    (runWith stop R p o).trail = (List.range ((runWith stop R p o).updates + 1)).map (varsAfter R p o) := by
  rw [runWith_ok stop R p o hinit]
  exact loopWith_trail stop R p o _ 0 _ rfl rfl

theorem runWith_bounds :
    LoopBounds p (p.maxNbSteps - p.nbInitialSteps) 0 (initSt R p o) (runWith stop R p o) := by
  unfold runWith
  split
  · have := okPrefix_le o.initOk (p.nbInitialSteps + 1)
    simp [LoopBounds, initSt, List.count_replicate]
    omega
  · exact loopWith_bounds stop R p o _ 0 _

theorem legacy_loop_all (hR : R.f 0 = 0)
    (hub : ∀ j, o.ub j = 0) (hlb : ∀ j, o.lb j = 0) (hd : ∀ j, ¬ o.dist j < distTol R p o)
    (hok : ∀ j i, o.lbOk j i = true) (fuel j : Nat) (s : St) (hs : s.lb = 0) :
    (loopWith (legacyStopTest R p o) R p o fuel j s).exit = .stepLimit ∧
    (loopWith (legacyStopTest R p o) R p o fuel j s).updates = j + fuel := by
  induction fuel generalizing j s with
  | zero => simp [loopWith, finish]
  | succ fuel ih =>
    have hstop : legacyStopTest R p o s.lb (o.ub j) (o.dist j) = none := by
      simp [legacyStopTest, gapLt, hub j, hs, hR, hd j]
    have hk : ¬ okPrefix (o.lbOk j) p.nbInner < p.nbInner := by
      rw [okPrefix_all (o.lbOk j) p.nbInner (fun i _ => hok j i)]; omega
    rw [loopWith_succ_cont _ R p o fuel j s hstop hk]
    have := ih (j + 1) (nextSt R p o j s)
      (by show (if p.nbInner = 0 then s.lb else o.lb j) = 0; split <;> simp [hs, hlb j])
    refine ⟨this.1, ?_⟩
    rw [this.2]; omega

end ColoVerif.GlobalLoop
