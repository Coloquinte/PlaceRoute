import ColoVerif.Model.IncrNetChecked
import ColoVerif.Proofs.CheckedArith
import ColoVerif.Proofs.IncrNetTopology
/-
No-fault theorems for the checked `IncrNetModel` (C07): on the domain `Model.DomC` every checked function
returns `.ok` of the unbounded model's result, and the domain is preserved; beyond it the twin faults
(examples at the end).
-/
namespace ColoVerif.IncrNet
open ColoVerif ColoVerif.Checked Model

theorem minMaxLoopC_ok (cp : List Int) : ∀ (ps : List Pin1) (mn mx : Int),
    (∀ p ∈ ps, fitsInt32 (cp.getD p.1 0 + p.2)) →
    minMaxLoopC cp ps mn mx =
      .ok ((ps.map fun p => cp.getD p.1 0 + p.2).foldl (fun a v => min v a) mn,
           (ps.map fun p => cp.getD p.1 0 + p.2).foldl (fun a v => max v a) mx)
  | [], _, _, _ => rfl
  | p :: ps, mn, mx, h => by
    have hp := h p (by simp)
    simp only [minMaxLoopC, addI32, chk32_ok hp, List.map_cons, List.foldl_cons]
    exact minMaxLoopC_ok cp ps _ _ (fun q hq => h q (by simp [hq]))

/-- positions within ±2^23 and pin offsets within ±2^24 (defaults of `getD` are 0) -/
structure Model.InputsOk (m : Model) : Prop where
  pos : ∀ i, -8388608 ≤ m.cellPos.getD i 0 ∧ m.cellPos.getD i 0 ≤ 8388608
  off : ∀ i, -16777216 ≤ m.netPinOffsets.getD i 0 ∧ m.netPinOffsets.getD i 0 ≤ 16777216

theorem netPinPositions_bounds (m : Model) (net : Nat) (h : m.InputsOk) :
    ∀ x ∈ m.netPinPositions net, -25165824 ≤ x ∧ x ≤ 25165824 := by
  intro x hx
  unfold netPinPositions netPins at hx
  rw [List.map_map] at hx
  obtain ⟨j, _, rfl⟩ := List.mem_map.mp hx
  have h1 := h.off (m.netLimits.getD net 0 + j)
  have h2 := h.pos (m.pinCell net j)
  show -25165824 ≤ m.cellPos.getD (m.pinCell net j) 0 + m.netPinOffsets.getD (m.netLimits.getD net 0 + j) 0 ∧
    m.cellPos.getD (m.pinCell net j) 0 + m.netPinOffsets.getD (m.netLimits.getD net 0 + j) 0 ≤ 25165824
  omega

theorem netPinPositions_length (m : Model) (net : Nat) : (m.netPinPositions net).length = m.nbNetPins net := by
  simp [netPinPositions, netPins]

/-- an empty net returns the sentinels in both models -/
theorem computeNetMinMaxPosC_ok (m : Model) (net : Nat) (h : m.InputsOk) :
    m.computeNetMinMaxPosC net = .ok (m.computeNetMinMaxPos net) := by
  have hb := netPinPositions_bounds m net h
  have hb' : ∀ p ∈ m.netPins net, fitsInt32 (m.cellPos.getD p.1 0 + p.2) := fun p hp =>
    between_mono (hb (m.cellPos.getD p.1 0 + p.2) (by unfold netPinPositions; exact List.mem_map.mpr ⟨p, hp, rfl⟩))
  unfold computeNetMinMaxPosC
  rw [minMaxLoopC_ok m.cellPos (m.netPins net) intMax intMin hb']
  show Except.ok ((m.netPinPositions net).foldl (fun a v => min v a) intMax,
      (m.netPinPositions net).foldl (fun a v => max v a) intMin) = _
  unfold computeNetMinMaxPos
  cases hl : m.netPinPositions net with
  | nil => rfl
  | cons x xs =>
    have hx := hb x (hl ▸ List.mem_cons_self)
    rw [C09.sentinel_min x xs _ intMax (Int.le_trans hx.2 (by decide)),
      C09.sentinel_max x xs _ intMin (Int.le_trans (by decide) hx.1)]

/-- the pair stored for a non-empty net lies within the ±2^25 of `DomC.mm` (in fact within 2^23 + 2^24) -/
theorem computeNetMinMaxPos_bounds (m : Model) (net : Nat) (h : m.InputsOk) (hne : 0 < m.nbNetPins net) :
    -33554432 ≤ (m.computeNetMinMaxPos net).1 ∧ (m.computeNetMinMaxPos net).1 ≤ (m.computeNetMinMaxPos net).2 ∧
      (m.computeNetMinMaxPos net).2 ≤ 33554432 := by
  have hl : m.netPinPositions net ≠ [] := fun h0 => by
    rw [← netPinPositions_length, h0] at hne; exact absurd hne (by decide)
  exact C09.lmin_lmax_within intMax intMin _ hl fun x hx => between_mono (netPinPositions_bounds m net h x hx)

/-- The C07 domain of an `IncrNetModel`: every cell position within ±2^23, every pin offset
within ±2^24, no empty net (`check()` demands it; `addNet` drops nets with fewer than two
pins), at most 2^31 nets, one stored pair per net, each within ±2^25 and ordered, and the
stored value is the sum of the stored extents (`computeValue()`).  Defaults of `getD` are 0,
so the pointwise bounds are statements about the entries. -/
structure Model.DomC (m : Model) : Prop where
  pos : ∀ i, -8388608 ≤ m.cellPos.getD i 0 ∧ m.cellPos.getD i 0 ≤ 8388608
  off : ∀ i, -16777216 ≤ m.netPinOffsets.getD i 0 ∧ m.netPinOffsets.getD i 0 ≤ 16777216
  nonempty : ∀ net, net < m.nbNets → 0 < m.nbNetPins net
  nets : m.nbNets ≤ 2147483648
  len : m.netMinMaxPos.length = m.nbNets
  mm : ∀ net, net < m.nbNets →
    -33554432 ≤ (m.netMinMaxPos.getD net (0, 0)).1 ∧
    (m.netMinMaxPos.getD net (0, 0)).1 ≤ (m.netMinMaxPos.getD net (0, 0)).2 ∧
    (m.netMinMaxPos.getD net (0, 0)).2 ≤ 33554432
  val : m.value = m.computeValue

theorem Model.DomC.inputsOk {m : Model} (h : m.DomC) : m.InputsOk := ⟨h.pos, h.off⟩

/-- at most 2^31 nets, each of extent at most 2^26: `value ≤ 2^57` -/
theorem Model.DomC.value_bound {m : Model} (h : m.DomC) : 0 ≤ m.value ∧ m.value ≤ 144115188075855872 := by
  have hk : ∀ v ∈ (List.range m.nbNets).map fun net =>
      (m.netMinMaxPos.getD net (0, 0)).2 - (m.netMinMaxPos.getD net (0, 0)).1, 0 ≤ v ∧ v ≤ 67108864 :=
    List.forall_mem_map.mpr fun k hk => by have := h.mm k (List.mem_range.mp hk); omega
  have h0 := ListFacts.sum_nonneg_int _ fun v hv => (hk v hv).1
  have h1 := ListFacts.sum_le_mul 67108864 _ fun v hv => (hk v hv).2
  rw [List.length_map, List.length_range, ← computeValue, ← h.val] at h1
  rw [← computeValue, ← h.val] at h0
  have hn := h.nets
  omega

theorem recomputeNetC_ok (m : Model) (net : Nat) (hd : m.DomC) (hn : net < m.nbNets) :
    m.recomputeNetC net = .ok (m.recomputeNet net) ∧ (m.recomputeNet net).DomC := by
  have hc := computeNetMinMaxPosC_ok m net hd.inputsOk
  have hb' := computeNetMinMaxPos_bounds m net hd.inputsOk (hd.nonempty net hn)
  have ho := hd.mm net hn
  have hv := hd.value_bound
  obtain ⟨e1, o0, o1⟩ := extentI32_ok ho (by decide)
  obtain ⟨e2, n0, n1⟩ := extentI32_ok hb' (by decide)
  constructor
  · simp only [recomputeNetC, hc, checked, e1, e2, chk32_between (sub_between ⟨n0, n1⟩ ⟨o0, o1⟩),
      chk64_between (add_between hv ⟨Int.sub_le_sub n0 o1, Int.sub_le_sub n1 o0⟩), recomputeNet]
  · refine ⟨hd.pos, hd.off, hd.nonempty, hd.nets, ?_, ?_, ?_⟩
    · show (m.netMinMaxPos.set net (m.computeNetMinMaxPos net)).length = m.nbNets
      rw [List.length_set]; exact hd.len
    · exact fun k hk => ListFacts.getD_set_prop (fun p : Int × Int => -33554432 ≤ p.1 ∧ p.1 ≤ p.2 ∧ p.2 ≤ 33554432)
        k (0, 0) hb' (hd.mm k hk)
    · have hp : Partial m (fun _ => True) := ⟨hd.len, fun _ _ h => absurd trivial h, hd.val⟩
      exact (recompute_partial m _ net hn hp).2.2

theorem recomputeLoopC_ok : ∀ (ns : List Nat) (m : Model), m.DomC → (∀ n ∈ ns, n < m.nbNets) →
    recomputeLoopC ns m = .ok (ns.foldl recomputeNet m) ∧ (ns.foldl recomputeNet m).DomC
  | [], _, hd, _ => ⟨rfl, hd⟩
  | n :: ns, m, hd, h => by
    obtain ⟨e, hd'⟩ := recomputeNetC_ok m n hd (h n (by simp))
    have ih := recomputeLoopC_ok ns (m.recomputeNet n) hd' (fun k hk => h k (by simp [hk]))
    simp only [recomputeLoopC, e, List.foldl_cons]
    exact ih

theorem setPos_DomC (m : Model) (cell : Nat) (pos : Int) (hd : m.DomC)
    (hp : -8388608 ≤ pos ∧ pos ≤ 8388608) : (m.setPos cell pos).DomC :=
  ⟨fun i => ListFacts.getD_set_prop (fun v => -8388608 ≤ v ∧ v ≤ 8388608) i 0 hp (hd.pos i), hd.off, hd.nonempty,
    hd.nets, hd.len, hd.mm, hd.val⟩

/-- `hnets` (every net index stored for the cell is a net) is part of `check()` -/
theorem updateCellPosC_ok (m : Model) (cell : Nat) (pos : Int) (hd : m.DomC)
    (hp : -8388608 ≤ pos ∧ pos ≤ 8388608) (hnets : ∀ n ∈ m.cellNetList cell, n < m.nbNets) :
    m.updateCellPosC cell pos = .ok (m.updateCellPos cell pos) ∧ (m.updateCellPos cell pos).DomC :=
  recomputeLoopC_ok (m.cellNetList cell) (m.setPos cell pos) (setPos_DomC m cell pos hd hp) hnets

theorem allMinMaxLoopC_ok (m : Model) (h : m.InputsOk) :
    ∀ ns : List Nat, allMinMaxLoopC m ns = .ok (ns.map m.computeNetMinMaxPos)
  | [] => rfl
  | n :: ns => by
    simp only [allMinMaxLoopC, computeNetMinMaxPosC_ok m n h, allMinMaxLoopC_ok m h ns, List.map_cons]

theorem valueLoopC_ok (mm : List (Int × Int)) : ∀ (ns : List Nat) (acc : Int),
    (∀ n ∈ ns, -33554432 ≤ (mm.getD n (0, 0)).1 ∧ (mm.getD n (0, 0)).1 ≤ (mm.getD n (0, 0)).2 ∧
      (mm.getD n (0, 0)).2 ≤ 33554432) →
    0 ≤ acc → acc + ns.length * 67108864 ≤ 9223372036854775807 →
    valueLoopC mm ns acc = .ok (acc + (ns.map fun n => (mm.getD n (0, 0)).2 - (mm.getD n (0, 0)).1).sum)
  | [], acc, _, _, _ => by simp [valueLoopC]
  | n :: ns, acc, h, h0, hb => by
    have hn := h n (by simp)
    simp only [List.length_cons] at hb
    have ih := valueLoopC_ok mm ns (acc + ((mm.getD n (0, 0)).2 - (mm.getD n (0, 0)).1))
      (fun k hk => h k (by simp [hk])) (by omega) (by omega)
    simp (disch := omega) only [valueLoopC, checked, ih, List.map_cons, List.sum_cons, Int.add_assoc]

theorem computeValueC_ok (m : Model)
    (hmm : ∀ net, net < m.nbNets →
      -33554432 ≤ (m.netMinMaxPos.getD net (0, 0)).1 ∧
      (m.netMinMaxPos.getD net (0, 0)).1 ≤ (m.netMinMaxPos.getD net (0, 0)).2 ∧
      (m.netMinMaxPos.getD net (0, 0)).2 ≤ 33554432)
    (hn : m.nbNets ≤ 2147483648) : m.computeValueC = .ok m.computeValue := by
  have h := valueLoopC_ok m.netMinMaxPos (List.range m.nbNets) 0
    (fun n hn => hmm n (List.mem_range.mp hn)) (by omega) (by simp only [List.length_range]; omega)
  unfold computeValueC computeValue
  rw [h, Int.zero_add]

theorem Model.DomC.of_inv (m : Model) (h : m.InputsOk)
    (hne : ∀ net, net < m.nbNets → 0 < m.nbNetPins net) (hn : m.nbNets ≤ 2147483648)
    (hinv : Inv m) : m.DomC := by
  refine ⟨h.pos, h.off, hne, hn, hinv.1, ?_, hinv.2.2⟩
  intro net hnet
  rw [hinv.2.1 net hnet (fun f => f)]
  exact computeNetMinMaxPos_bounds m net h (hne net hnet)

theorem finalizeC_ok (m : Model) (h : m.InputsOk)
    (hne : ∀ net, net < m.nbNets → 0 < m.nbNetPins net) (hn : m.nbNets ≤ 2147483648) :
    m.finalizeC = .ok m.finalize ∧ m.finalize.DomC := by
  have hd : m.finalize.DomC := Model.DomC.of_inv m.finalize ⟨h.pos, h.off⟩ hne hn (finalize_inv m)
  have e1 : m.finalizeCsr.computeAllMinMaxPosC = .ok m.finalizeCsr.computeAllMinMaxPos :=
    allMinMaxLoopC_ok m.finalizeCsr ⟨h.pos, h.off⟩ _
  refine ⟨?_, hd⟩
  simp only [finalizeC, e1,
    computeValueC_ok { m.finalizeCsr with netMinMaxPos := m.finalizeCsr.computeAllMinMaxPos } hd.mm hn]
  rw [finalize_eq]

theorem buildC_of_addNet_ok (K : Nat) (Ls : List (List Pin1)) (pos : List Int) (hn : Ls.length ≤ 2147483648)
    (hpos : ∀ x ∈ pos, -8388608 ≤ x ∧ x ≤ 8388608)
    (hoff : ∀ l ∈ Ls, ∀ p ∈ l, -16777216 ≤ p.2 ∧ p.2 ≤ 16777216) :
    (Ls.foldl Builder.addNet (Builder.new K)).buildC pos = .ok ((Ls.foldl Builder.addNet (Builder.new K)).build pos) ∧
      ((Ls.foldl Builder.addNet (Builder.new K)).build pos).DomC := by
  have hb := builder_repr K Ls
  generalize Ls.foldl Builder.addNet (Builder.new K) = b at hb ⊢
  have hr : Repr (b.initModel pos) (kept Ls) := hb
  refine finalizeC_ok (b.initModel pos)
    ⟨ListFacts.forall_getD hpos (by decide),
      ListFacts.forall_getD (l := b.netPinOffsets) (P := fun x => -16777216 ≤ x ∧ x ≤ 16777216) ?_ (by decide)⟩ ?_ ?_
  · intro x hx
    obtain ⟨p, hp, rfl⟩ := List.mem_map.mp (hb.2.2 ▸ hx)
    obtain ⟨l, hl, hpl⟩ := List.mem_flatten.mp hp
    exact hoff l (List.mem_filter.mp hl).1 p hpl
  · intro net hnet
    have := List.length_pos_iff.mpr (hr.netPins_ne_nil net hnet)
    simpa [netPins] using this
  · rw [hr.nbNets]; exact Nat.le_trans (List.length_filter_le _ _) hn

section
variable (site : String) (off : Cell → Pin → Int) (pos : Cell → Int) (c : Circuit) (cells : List Nat)

theorem fixedPositionsC_ok (n : Net)
    (h : ∀ p ∈ n.pins, fitsInt32 (pos (c.cell p.cell) + off (c.cell p.cell) p)) :
    fixedPositionsC site off pos c cells n.pins = .ok (fixedPositions off pos c cells n) := by
  unfold fixedPositions
  generalize n.pins = ps at h ⊢
  induction ps with
  | nil => rfl
  | cons p ps ih =>
    have ih := ih fun q hq => h q (List.mem_cons_of_mem _ hq)
    have hp := h p List.mem_cons_self
    cases hc : cellIndex cells p.cell with
    | some k => simp only [fixedPositionsC, List.filterMap_cons, hc, ih]
    | none => simp only [fixedPositionsC, List.filterMap_cons, hc, addI32, chk32_ok hp, ih]

theorem reducedNetC_ok (n : Net)
    (h : ∀ p ∈ n.pins, fitsInt32 (pos (c.cell p.cell) + off (c.cell p.cell) p)) :
    reducedNetC site off pos c cells n = .ok (reducedNet off pos c cells n) := by
  simp only [reducedNetC, fixedPositionsC_ok site off pos c cells n h, reducedNet]

theorem addNetsC_ok :
    ∀ (ns : List Net) (b : Builder),
    (∀ n ∈ ns, ∀ p ∈ n.pins, fitsInt32 (pos (c.cell p.cell) + off (c.cell p.cell) p)) →
    addNetsC site off pos c cells ns b = .ok (ns.foldl (fun b n => b.addNet (reducedNet off pos c cells n)) b)
  | [], _, _ => rfl
  | n :: ns, b, h => by
    have e := reducedNetC_ok site off pos c cells n (h n (by simp))
    have ih := addNetsC_ok ns (b.addNet (reducedNet off pos c cells n))
      (fun k hk => h k (by simp [hk]))
    simp only [addNetsC, e, ih, List.foldl_cons]

/-- every pin offset of a reduced net is a circuit pin offset (≤ 2^23) or an absolute position of
a fixed pin (≤ 2^22 + 2^23) -/
theorem reducedNet_off (n : Net)
    (hpos : ∀ i, -4194304 ≤ pos (c.cell i) ∧ pos (c.cell i) ≤ 4194304)
    (hoff : ∀ p ∈ n.pins, -8388608 ≤ off (c.cell p.cell) p ∧ off (c.cell p.cell) p ≤ 8388608) :
    ∀ q ∈ reducedNet off pos c cells n, -16777216 ≤ q.2 ∧ q.2 ≤ 16777216 := by
  intro q hq
  rcases mem_reducedNet off pos c cells n q hq with ⟨p, hp, k, _, rfl⟩ | ⟨_, p, hp, _, he⟩
  · have := hoff p hp
    show -16777216 ≤ off (c.cell p.cell) p ∧ off (c.cell p.cell) p ≤ 16777216
    omega
  · have h1 := hoff p hp
    have h2 := hpos p.cell
    rw [he]; unfold absPos
    omega

/-- `xTopology/yTopology(circuit, cells)` on the C07 domain: coordinates within ±2^22, pin offsets within
±2^23, at most 2^31 nets -/
theorem topologySiteC_ok
    (hpos : ∀ i, -4194304 ≤ pos (c.cell i) ∧ pos (c.cell i) ≤ 4194304)
    (hoff : ∀ n ∈ c.nets, ∀ p ∈ n.pins, -8388608 ≤ off (c.cell p.cell) p ∧ off (c.cell p.cell) p ≤ 8388608)
    (hn : c.nets.length ≤ 2147483648) :
    topologySiteC site off pos c cells = .ok (topology off pos c cells) ∧ (topology off pos c cells).DomC := by
  have e1 := addNetsC_ok site off pos c cells c.nets (Builder.new (cells.length + 1))
    (fun n hn p hp => between_mono (add_between (hpos p.cell) (hoff n hn p hp)))
  have e1' : addNetsC site off pos c cells c.nets (Builder.new (cells.length + 1)) =
      .ok ((reducedNets off pos c cells).foldl Builder.addNet (Builder.new (cells.length + 1))) := by
    rw [e1]; unfold reducedNets; rw [List.foldl_map]
  have e2 := buildC_of_addNet_ok (cells.length + 1) (reducedNets off pos c cells) (topoPos pos c cells)
    (by unfold reducedNets; rw [List.length_map]; exact hn)
    (by
      intro x hx
      unfold topoPos at hx
      rcases List.mem_append.mp hx with hx | hx
      · obtain ⟨i, _, rfl⟩ := List.mem_map.mp hx
        exact between_mono (hpos i)
      · have : x = 0 := by simpa using hx
        omega)
    (by
      intro l hl
      unfold reducedNets at hl
      obtain ⟨n, hn', rfl⟩ := List.mem_map.mp hl
      exact reducedNet_off off pos c cells n hpos (hoff n hn'))
  rw [topology_eq]
  simp only [topologySiteC, e1']
  exact e2

end

def runC : List (Nat × Int) → Model → Except Fault Model
  | [], m => .ok m
  | o :: ops, m =>
    match m.updateCellPosC o.1 o.2 with
    | .error f => .error f
    | .ok m' => runC ops m'

/-- `WF` holds of every finalized model (`finalize_wf`) -/
theorem runC_ok : ∀ (ops : List (Nat × Int)) (m : Model), m.DomC → WF m →
    (∀ o ∈ ops, -8388608 ≤ o.2 ∧ o.2 ≤ 8388608) →
    runC ops m = .ok (run m ops) ∧ (run m ops).DomC
  | [], _, hd, _, _ => ⟨rfl, hd⟩
  | o :: ops, m, hd, hwf, h => by
    obtain ⟨e, hd'⟩ := updateCellPosC_ok m o.1 o.2 hd (h o (by simp)) fun n hn => (hwf.mem_cellNetList.mp hn).1
    have ih := runC_ok ops (m.updateCellPos o.1 o.2) hd' (hwf.update o.1 o.2) (fun k hk => h k (by simp [hk]))
    simp only [runC, e]
    exact ih

/-- one net with the single pin (cell 0, offset 1), cell 0 at `INT_MAX` -/
def overflowWitness : Model :=
  { cellPos := [2147483647], netLimits := [0, 1], netCells := [0], netPinOffsets := [1]
    cellLimits := [0, 1], cellNets := [0], cellPinOffsets := [1], netMinMaxPos := [(1, 1)], value := 0 }

example : overflowWitness.computeNetMinMaxPosC 0 =
    .error (.intOverflow "computeNetMinMaxPos: cellPos_[c] + netPinOffset") := rfl

example : ({ overflowWitness with cellPos := [0] } : Model).updateCellPosC 0 2147483647 =
    .error (.intOverflow "computeNetMinMaxPos: cellPos_[c] + netPinOffset") := rfl

/-- an empty net (`netLimits_ = [0, 0]`): `computeValue()` evaluates `INT_MIN - INT_MAX` in `int` -/
example : (Builder.mk 1 [0, 0] [] []).buildC [0] =
    .error (.intOverflow "computeValue: minMaxPos.second - minMaxPos.first") := rfl

/-- a fixed pin at `x + offset > INT_MAX` -/
example : xTopologyC ⟨[⟨1, 1, 2147483647, 0, .N, true, false, default⟩], [⟨1, 0, [⟨0, 1, 0⟩]⟩], []⟩ [] =
    .error (.intOverflow "xTopology: circuit.x(cell) + offset") := rfl

example : ((Builder.new 2).addNet [(0, 0), (1, 5)]).buildC [10, 20] =
    .ok (((Builder.new 2).addNet [(0, 0), (1, 5)]).build [10, 20]) := by decide

/-- `buildC_of_addNet_ok` / `DomC` are not vacuous -/
example : (([[(0, 0), (1, 5)]].foldl Builder.addNet (Builder.new 2)).build [10, 20]).DomC :=
  (buildC_of_addNet_ok 2 [[(0, 0), (1, 5)]] [10, 20] (by decide) (by decide) (by decide)).2

end ColoVerif.IncrNet
