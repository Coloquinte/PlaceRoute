import ColoVerif.Model.IspdText
import ColoVerif.Proofs.AsciiToList
/-
Base lemmas for the text level of C20: characters, `strip`/`split`, `int()`/`float()` on the strings
that `operator<<` produces.  Lemmas that mainly serve as steps to the next one are in the sub-namespace `Base`.
-/
namespace ColoVerif.Ispd.Text
open ColoVerif ColoVerif.Ispd

/-- no character of `t` is a separator -/
def Free (p : Char → Bool) (t : Line) : Prop := ∀ c ∈ t, p c = false

theorem free_of_all {p : Char → Bool} {t : Line} (h : t.all (fun c => !p c) = true) : Free p t := by
  intro c hc
  have := List.all_eq_true.1 h c hc
  simpa using this

theorem isDig_of_isDigit {c : Char} (h : c.isDigit = true) : isDig c = true := by
  simp only [Char.isDigit, Bool.and_eq_true, decide_eq_true_eq, ge_iff_le, UInt32.le_iff_toNat_le] at h
  simp only [isDig, Char.toNat, Bool.and_eq_true, decide_eq_true_eq]
  exact h

theorem isWs_of_isDig {c : Char} (h : isDig c = true) : isWs c = false := by
  unfold isDig at h
  unfold isWs
  generalize c.toNat = n at *
  simp only [Bool.and_eq_true, decide_eq_true_eq] at h
  simp only [Bool.or_eq_false_iff, Bool.and_eq_false_iff, beq_eq_false_iff_ne, decide_eq_false_iff_not]
  omega

theorem isWsC_of_isDig {c : Char} (h : isDig c = true) : isWsC c = false := by
  by_cases hc : c = ':'
  · subst hc; revert h; decide
  · simp [isWsC, isWs_of_isDig h, hc]

theorem isWsC_of_isWs {c : Char} (h : isWs c = true) : isWsC c = true := by
  simp [isWsC, h]

theorem Free.ws {t : Line} (h : Free isWsC t) : Free isWs t := by
  intro c hc
  have := h c hc
  simp only [isWsC, Bool.or_eq_false_iff] at this
  exact this.1

theorem Base.free_append {p : Char → Bool} {a b : Line} (ha : Free p a) (hb : Free p b) : Free p (a ++ b) := by
  intro c hc
  rcases List.mem_append.1 hc with h | h
  · exact ha c h
  · exact hb c h

theorem Base.free_cons {p : Char → Bool} {c : Char} {b : Line} (hc : p c = false) (hb : Free p b) : Free p (c :: b) := by
  intro d hd
  rcases List.mem_cons.1 hd with rfl | h
  · exact hc
  · exact hb d h

theorem Base.free_nil {p : Char → Bool} : Free p [] := by
  intro c hc; cases hc

theorem Base.free_mono {p : Char → Bool} {a b : Line} (hb : Free p b) (h : ∀ c ∈ a, c ∈ b) : Free p a :=
  fun c hc => hb c (h c hc)

open Base

theorem showNat_ne_nil (n : Nat) : showNat n ≠ [] := by
  intro h
  have := Nat.length_toDigits_pos (b := 10) (n := n)
  unfold showNat at h
  rw [h] at this
  simp at this

theorem showNat_isDig (n : Nat) : ∀ c ∈ showNat n, isDig c = true := by
  intro c hc
  exact isDig_of_isDigit (Nat.isDigit_of_mem_toDigits (by decide) (by decide) hc)

theorem Base.free_showNat (n : Nat) : Free isWsC (showNat n) :=
  fun c hc => isWsC_of_isDig (showNat_isDig n c hc)

theorem showInt_ne_nil (i : Int) : showInt i ≠ [] := by
  unfold showInt
  split
  · simp
  · exact showNat_ne_nil _

theorem showInt_free (i : Int) : Free isWsC (showInt i) := by
  unfold showInt
  split
  · exact free_cons (by decide) (free_showNat _)
  · exact free_showNat _

theorem Base.natGo_digits (ds : Line) : ∀ acc, (∀ c ∈ ds, isDig c = true) →
    natGo acc ds = some (ds.foldl (fun a c => a * 10 + digitVal c) acc) := by
  induction ds with
  | nil => intro acc _; rfl
  | cons c cs ih =>
    intro acc h
    have hc := h c (List.mem_cons_self)
    unfold natGo
    simp only [hc, if_true, List.foldl_cons]
    exact ih _ (fun d hd => h d (List.mem_cons_of_mem _ hd))

theorem Base.digitVal_digitChar {n : Nat} (h : n < 10) : digitVal (Nat.digitChar n) = n := by
  unfold digitVal
  exact Nat.toNat_digitChar_sub_48_of_lt_ten h

theorem Base.digitsNat_showNat (n : Nat) : digitsNat (showNat n) = n := by
  unfold digitsNat showNat
  induction n using Nat.strongRecOn with
  | _ n ih =>
    rw [Nat.toDigits_eq_if (by decide)]
    split
    · rename_i h
      simp [digitVal_digitChar h]
    · rename_i h
      rw [List.foldl_append, ih (n / 10) (by omega)]
      simp only [List.foldl_cons, List.foldl_nil]
      rw [digitVal_digitChar (Nat.mod_lt _ (by decide))]
      omega

theorem Base.pyNat_digits {ds : Line} (hne : ds ≠ []) (h : ∀ c ∈ ds, isDig c = true) :
    pyNat ds = some (digitsNat ds) := by
  cases ds with
  | nil => exact absurd rfl hne
  | cons c cs =>
    have hc := h c (List.mem_cons_self)
    simp only [pyNat, hc, if_true]
    rw [natGo_digits cs _ (fun d hd => h d (List.mem_cons_of_mem _ hd))]
    simp [digitsNat]

theorem Base.showNat_head (n : Nat) : ∃ c cs, showNat n = c :: cs ∧ (c == '-') = false ∧ (c == '+') = false := by
  cases h : showNat n with
  | nil => exact absurd h (showNat_ne_nil n)
  | cons c cs =>
    have hc : isDig c = true := showNat_isDig n c (by rw [h]; exact List.mem_cons_self)
    exact ⟨c, cs, rfl, beq_eq_false_iff_ne.2 (by rintro rfl; exact absurd hc (by decide)),
      beq_eq_false_iff_ne.2 (by rintro rfl; exact absurd hc (by decide))⟩

theorem pyNat_showNat (n : Nat) : pyNat (showNat n) = some n := by
  rw [pyNat_digits (showNat_ne_nil n) (showNat_isDig n), digitsNat_showNat]

theorem pyIntCore_showInt (i : Int) : pyIntCore (showInt i) = some i := by
  unfold showInt
  split
  · rename_i h
    simp only [pyIntCore, beq_self_eq_true, if_true, pyNat_showNat]
    simp only [Option.bind_eq_bind, Option.bind_some, Option.pure_def, Option.map_some, Option.some.injEq]
    omega
  · rename_i h
    obtain ⟨c, cs, hs, h1, h2⟩ := showNat_head i.toNat
    have hp := pyNat_showNat i.toNat
    rw [hs] at hp ⊢
    simp only [pyIntCore, h1, h2, hp]
    simp only [Bool.false_eq_true, ↓reduceIte, Option.pure_def, Option.bind_eq_bind, Option.bind_some,
      Int.ofNat_toNat, Option.map_some, Option.some.injEq]
    omega

theorem lstrip_ws {w : Char} (hw : isWs w = true) (l : Line) : lstrip (w :: l) = lstrip l := by
  simp [lstrip, hw]

theorem lstrip_nonws {c : Char} (hc : isWs c = false) (l : Line) : lstrip (c :: l) = c :: l := by
  simp [lstrip, hc]

theorem Base.rstrip_cons_of_ne {c : Char} {l : Line} (h : rstrip l ≠ []) : rstrip (c :: l) = c :: rstrip l := by
  rw [rstrip]
  cases hr : rstrip l with
  | nil => exact absurd hr h
  | cons d ds => simp

theorem Base.rstrip_cons_nonws {c : Char} (l : Line) (h : isWs c = false) : rstrip (c :: l) = c :: rstrip l := by
  rw [rstrip]
  simp [h]

theorem Base.rstrip_of_free {t : Line} (hf : Free isWs t) : rstrip t = t := by
  induction t with
  | nil => rfl
  | cons c cs ih =>
    rw [rstrip_cons_nonws _ (hf c List.mem_cons_self), ih (fun d hd => hf d (List.mem_cons_of_mem _ hd))]

theorem Base.rstrip_append_free (a : Line) {t : Line} (hne : t ≠ []) (hf : Free isWs t) : rstrip (a ++ t) = a ++ t := by
  induction a with
  | nil => exact rstrip_of_free hf
  | cons c a ih =>
    rw [List.cons_append, rstrip_cons_of_ne (by rw [ih]; simp [hne]), ih]

theorem Base.lstrip_of_free {t : Line} (hf : Free isWs t) : lstrip t = t := by
  cases t with
  | nil => rfl
  | cons c cs => exact lstrip_nonws (hf c List.mem_cons_self) cs

theorem strip_of_free {t : Line} (hf : Free isWs t) : strip t = t := by
  unfold strip
  rw [lstrip_of_free hf, rstrip_of_free hf]

theorem pyInt_showInt (i : Int) : pyInt (showInt i) = .ok i := by
  unfold pyInt
  rw [strip_of_free (showInt_free i).ws, pyIntCore_showInt]
  rfl

theorem fmtG6_ne_nil (k : Int) : fmtG6 k ≠ [] := by
  unfold fmtG6
  intro h
  have hb := (List.append_eq_nil_iff.1 h).2
  split at hb
  · exact showNat_ne_nil _ (List.append_eq_nil_iff.1 hb).1
  · simp only at hb
    split at hb
    · exact showNat_ne_nil _ hb
    · simp at hb

theorem Base.mem_stripZeros {c : Char} {l : Line} (h : c ∈ stripZeros l) : c ∈ l := by
  unfold stripZeros at h
  rw [List.mem_reverse] at h
  have := (List.dropWhile_sublist (fun x => x == '0') (l := l.reverse)).subset h
  exact List.mem_reverse.1 this

theorem Base.free_twoDigits (n : Nat) : Free isWsC (twoDigits n) := by
  unfold twoDigits
  split
  · exact free_cons (by decide) (free_showNat _)
  · exact free_showNat _

theorem fmtG6_free (k : Int) : Free isWsC (fmtG6 k) := by
  unfold fmtG6
  apply free_append
  · split
    · exact free_cons (by decide) free_nil
    · exact free_nil
  · split
    · apply free_append (free_showNat _)
      split
      · exact free_cons (by decide) (free_cons (by decide) free_nil)
      · exact free_nil
    · simp only
      split
      · exact free_showNat _
      · apply free_append
        · apply free_append
          · apply free_append
            · exact free_mono (free_showNat (round6 k.natAbs)) (fun c hc => List.mem_of_mem_take hc)
            · split
              · exact free_nil
              · apply free_cons (by decide)
                exact free_mono (free_showNat (round6 k.natAbs))
                  (fun c hc => List.mem_of_mem_drop (List.mem_of_mem_take (mem_stripZeros hc)))
          · exact free_cons (by decide) (free_cons (by decide) free_nil)
        · exact free_twoDigits _

theorem Base.dropWhile_all (p : Char → Bool) (l : Line) (h : ∀ x ∈ l, p x = true) : l.dropWhile p = [] := by
  simpa using List.dropWhile_append_of_pos (l₂ := []) h

theorem Base.digitsNat_snoc (ds : Line) (c : Char) :
    digitsNat (ds ++ [c]) = digitsNat ds * 10 + digitVal c := by
  unfold digitsNat
  rw [List.foldl_append]
  rfl

/-- a literal in fixed notation: digits `ds`, then a tail `t` (a fractional part `.fs`, or nothing)
that ends it -/
theorem Base.pyFloatAbs_fixed {ds t fs : Line} (hne : ds ≠ []) (hd : ∀ c ∈ ds, isDig c = true)
    (ht : t.takeWhile isDig = []) (ht' : t.dropWhile isDig = t) (hf : fracPart t = (fs, [])) :
    pyFloatAbs (ds ++ t) = some ((digitsNat (ds ++ fs) : Rat) / ((10 ^ fs.length : Nat) : Rat)) := by
  unfold pyFloatAbs
  rw [List.takeWhile_append_of_pos hd, List.dropWhile_append_of_pos hd, ht, ht', List.append_nil, hf]
  cases ds with
  | nil => exact absurd rfl hne
  | cons c cs => rfl

/-- `float` reads `ds` and `ds.5` as the half-integers they denote -/
theorem Base.pyFloatAbs_halves {ds : Line} (hne : ds ≠ []) (hd : ∀ c ∈ ds, isDig c = true) {b : Nat}
    (hb : b < 2) :
    pyFloatAbs (ds ++ (if b = 1 then ['.', '5'] else []))
      = some (((2 * digitsNat ds + b : Nat) : Rat) / 2) := by
  obtain rfl | rfl : b = 0 ∨ b = 1 := by omega
  · rw [pyFloatAbs_fixed (fs := []) hne hd (by decide) (by decide) (by decide), List.append_nil]
    simp only [List.length_nil, Nat.pow_zero, Nat.add_zero, Rat.natCast_mul, Rat.natCast_ofNat]
    congr 1
    grind
  · rw [pyFloatAbs_fixed (fs := ['5']) hne hd (by decide) (by decide) (by decide), digitsNat_snoc,
      show digitVal '5' = 5 by decide]
    simp only [List.length_singleton, Nat.pow_one, Rat.natCast_add, Rat.natCast_mul, Rat.natCast_ofNat]
    congr 1
    grind

theorem pyFloat_fmtG6 (k : Int) (h : k.natAbs < 200000) : pyFloat (fmtG6 k) = .ok (fmt6 k) := by
  -- `k.natAbs = 2 * (k.natAbs / 2) + k.natAbs % 2`, and the remainder says whether `.5` is printed
  have habs : pyFloatAbs (showNat (k.natAbs / 2) ++ (if k.natAbs % 2 = 1 then ['.', '5'] else []))
      = some ((k.natAbs : Rat) / 2) := by
    rw [pyFloatAbs_halves (showNat_ne_nil _) (showNat_isDig _) (Nat.mod_lt _ (by decide)),
      digitsNat_showNat, Nat.div_add_mod]
  unfold pyFloat fmt6
  rw [strip_of_free (fmtG6_free k).ws, if_pos h]
  unfold fmtG6
  rw [if_pos h]
  by_cases hk : k < 0
  · rw [if_pos hk, show (k : Rat) = -(k.natAbs : Rat) by
      rw [← Rat.intCast_natCast, ← Rat.intCast_neg]; congr 1; omega]
    simp only [List.cons_append, List.nil_append, pyFloatCore, beq_self_eq_true, if_true, habs,
      Option.map_some]
    rw [Rat.div_def, Rat.div_def, Rat.neg_mul]
    rfl
  · rw [if_neg hk, List.nil_append, show (k : Rat) = (k.natAbs : Rat) by
      rw [← Rat.intCast_natCast]; congr 1; omega]
    obtain ⟨c, cs, hs, h1, h2⟩ := showNat_head (k.natAbs / 2)
    rw [hs, List.cons_append] at habs ⊢
    simp only [pyFloatCore, h1, h2, habs]
    rfl

theorem splitBy_nil (p : Char → Bool) : splitBy p [] = [] := rfl

theorem Base.splitGo_nil (p : Char → Bool) (acc : Line) :
    splitGo p acc [] = if acc.isEmpty then [] else [acc.reverse] := by
  rw [splitGo]

theorem Base.splitGo_sep (p : Char → Bool) {w : Char} (hw : p w = true) (acc rest : Line) :
    splitGo p acc (w :: rest) =
      if acc.isEmpty then splitGo p [] rest else acc.reverse :: splitGo p [] rest := by
  rw [splitGo, if_pos hw]

theorem Base.splitGo_nonsep (p : Char → Bool) {c : Char} (hc : p c = false) (acc rest : Line) :
    splitGo p acc (c :: rest) = splitGo p (c :: acc) rest := by
  rw [splitGo]; simp [hc]

theorem Base.splitGo_free (p : Char → Bool) {t : Line} (hf : Free p t) (rest : Line) :
    ∀ acc, splitGo p acc (t ++ rest) = splitGo p (t.reverse ++ acc) rest := by
  induction t with
  | nil => intro acc; rfl
  | cons c cs ih =>
    intro acc
    rw [List.cons_append, splitGo_nonsep p (hf c List.mem_cons_self),
      ih (fun d hd => hf d (List.mem_cons_of_mem _ hd))]
    simp

theorem Base.splitGo_append_sep (p : Char → Bool) {w : Char} (hw : p w = true) (a b : Line) :
    ∀ acc, splitGo p acc (a ++ w :: b) = splitGo p acc a ++ splitGo p [] b := by
  induction a with
  | nil =>
    intro acc
    rw [List.nil_append, splitGo_sep p hw, splitGo_nil]
    cases acc <;> rfl
  | cons c a ih =>
    intro acc
    rw [List.cons_append]
    by_cases hc : p c = true
    · rw [splitGo_sep p hc, splitGo_sep p hc, ih]
      cases acc <;> rfl
    · rw [splitGo_nonsep p (by simpa using hc), splitGo_nonsep p (by simpa using hc), ih]

theorem splitBy_append_sep (p : Char → Bool) {w : Char} (hw : p w = true) (a b : Line) :
    splitBy p (a ++ w :: b) = splitBy p a ++ splitBy p b :=
  splitGo_append_sep p hw a b []

theorem splitBy_sep (p : Char → Bool) {w : Char} (hw : p w = true) (rest : Line) :
    splitBy p (w :: rest) = splitBy p rest :=
  splitBy_append_sep p hw [] rest

theorem splitBy_append (p : Char → Bool) (a b : Line) (h : a.getLast?.any p = true ∨ b.head?.any p = true) :
    splitBy p (a ++ b) = splitBy p a ++ splitBy p b := by
  rcases h with h | h
  · rcases List.eq_nil_or_concat a with rfl | ⟨a', w, rfl⟩
    · cases h
    · rw [List.concat_eq_append, List.getLast?_concat] at h
      rw [List.concat_eq_append, List.append_assoc, List.singleton_append, splitBy_append_sep p h,
        splitBy_append_sep p h, splitBy_nil, List.append_nil]
  · cases b with
    | nil => cases h
    | cons w b => rw [splitBy_append_sep p h, splitBy_sep p h]

theorem head?_any_append {p : Char → Bool} {K : Line} (h : K.head?.any p = true) (R : Line) :
    (K ++ R).head?.any p = true := by
  cases K with
  | nil => cases h
  | cons c K => exact h

theorem splitBy_tok_end (p : Char → Bool) {t : Line} (hne : t ≠ []) (hf : Free p t) : splitBy p t = [t] := by
  unfold splitBy
  have := splitGo_free p hf [] []
  rw [List.append_nil, List.append_nil] at this
  rw [this, splitGo_nil]
  cases t with
  | nil => exact absurd rfl hne
  | cons c cs => simp

theorem splitBy_tok (p : Char → Bool) {t : Line} (hne : t ≠ []) (hf : Free p t) {w : Char} (hw : p w = true)
    (rest : Line) : splitBy p (t ++ w :: rest) = t :: splitBy p rest := by
  rw [splitBy_append_sep p hw, splitBy_tok_end p hne hf]
  rfl

/-- a token with an optional closed tail `T` (a separator, then what splits into `S`) -/
theorem splitBy_tok_opt (p : Char → Bool) {t : Line} (hne : t ≠ []) (hf : Free p t) (b : Bool) {T : Line} {S : List Line}
    (hT : T.head?.any p = true ∧ splitBy p T = S) :
    splitBy p (t ++ (if b then T else [])) = t :: (if b then S else []) := by
  cases b
  · simp [splitBy_tok_end p hne hf]
  · simp only [if_true]
    rw [splitBy_append p t T (Or.inr hT.1), splitBy_tok_end p hne hf, hT.2]
    rfl

theorem Base.splitGo_lstrip (p : Char → Bool) (hp : ∀ c, isWs c = true → p c = true) (l : Line) :
    splitGo p [] (lstrip l) = splitGo p [] l := by
  induction l with
  | nil => rfl
  | cons c cs ih =>
    by_cases hc : isWs c = true
    · rw [lstrip_ws hc, ih, splitGo_sep p (hp c hc)]; rfl
    · rw [lstrip_nonws (by simpa using hc)]

theorem Base.splitGo_rstrip (p : Char → Bool) (hp : ∀ c, isWs c = true → p c = true) (l : Line) :
    ∀ acc, splitGo p acc (rstrip l) = splitGo p acc l := by
  induction l with
  | nil => intro acc; rfl
  | cons c cs ih =>
    intro acc
    rw [rstrip]
    split
    · rename_i h
      simp only [Bool.and_eq_true, List.isEmpty_iff] at h
      have ih' : ∀ acc, splitGo p acc cs = splitGo p acc [] := by
        intro acc; rw [← ih acc, h.1]
      rw [splitGo_sep p (hp c h.2), ih', splitGo_nil, splitGo_nil]
      rfl
    · by_cases hc : p c = true
      · rw [splitGo_sep p hc, splitGo_sep p hc, ih]
      · have hc' : p c = false := by simpa using hc
        rw [splitGo_nonsep p hc', splitGo_nonsep p hc', ih]

theorem splitBy_strip (p : Char → Bool) (hp : ∀ c, isWs c = true → p c = true) (l : Line) :
    splitBy p (strip l) = splitBy p l := by
  unfold splitBy strip
  rw [splitGo_rstrip p hp, splitGo_lstrip p hp]

theorem Base.splitGo_map (p q : Char → Bool) (f : Char → Char) (hp : ∀ c, p (f c) = q c) (hf : ∀ c, q c = false → f c = c)
    (l : Line) : ∀ acc, splitGo p acc (l.map f) = splitGo q acc l := by
  induction l with
  | nil => intro acc; rfl
  | cons c cs ih =>
    intro acc
    rw [List.map_cons]
    cases hc : q c
    · rw [splitGo_nonsep p (by rw [hp, hc]), hf c hc, splitGo_nonsep q hc, ih]
    · rw [splitGo_sep p (by rw [hp, hc]), splitGo_sep q hc, ih]

/-- `line.replace(":", " ").split()` = split at white space and colons -/
theorem split_replaceColon (l : Line) : split (replaceColon l) = splitBy isWsC l := by
  refine splitGo_map isWs isWsC _ (fun c => ?_) (fun c hc => ?_) l []
  · by_cases h : c = ':'
    · subst h; decide
    · simp [isWsC, h]
  · simp only [isWsC, Bool.or_eq_false_iff] at hc
    simp only [hc.2]
    rfl

theorem strip_isEmpty (l : Line) : (strip l).isEmpty = (lstrip l).isEmpty := by
  unfold strip
  cases h : lstrip l with
  | nil => rfl
  | cons c r =>
    have hc := List.head?_dropWhile_not isWs l
    rw [show l.dropWhile isWs = c :: r from h] at hc
    rw [rstrip_cons_nonws _ (by simpa using hc)]
    rfl

theorem Base.isPrefixOf_rstrip (Q : Line) (hQ : Free isWs Q) (x : Line) :
    Q.isPrefixOf (rstrip x) = Q.isPrefixOf x := by
  induction x generalizing Q with
  | nil => rfl
  | cons c cs ih =>
    cases Q with
    | nil => simp
    | cons q qs =>
      have hq := hQ q List.mem_cons_self
      rw [rstrip]
      split
      · rename_i h
        simp only [Bool.and_eq_true] at h
        have : (q == c) = false := by
          by_cases e : q = c
          · subst e; rw [hq] at h; exact absurd h.2 (by decide)
          · simp [e]
        simp [List.isPrefixOf, this]
      · simp only [List.isPrefixOf_cons_cons]
        rw [ih qs (fun d hd => hQ d (List.mem_cons_of_mem _ hd))]

theorem startsWith_strip (P : String) (hP : Free isWs P.toList) (l : Line) :
    startsWith P (strip l) = startsWith P (lstrip l) := by
  unfold startsWith strip
  exact isPrefixOf_rstrip _ hP _

theorem Base.isPrefixOf_map (f : Char → Char) (Q : Line) (hQ : ∀ q ∈ Q, ∀ c, (q == f c) = (q == c)) (l : Line) :
    Q.isPrefixOf (l.map f) = Q.isPrefixOf l := by
  induction l generalizing Q with
  | nil => rfl
  | cons c cs ih =>
    cases Q with
    | nil => simp
    | cons q qs =>
      rw [List.map_cons, List.isPrefixOf_cons_cons, List.isPrefixOf_cons_cons, hQ q List.mem_cons_self,
        ih qs fun d hd => hQ d (List.mem_cons_of_mem _ hd)]

theorem startsWith_replaceColon (P : String) (hP : ∀ c ∈ P.toList, c ≠ ':' ∧ c ≠ ' ') (l : Line) :
    startsWith P (replaceColon l) = startsWith P l := by
  refine isPrefixOf_map _ _ (fun q hq c => ?_) l
  by_cases h : c = ':'
  · simp [h, beq_eq_false_iff_ne.2 (hP q hq).1, beq_eq_false_iff_ne.2 (hP q hq).2]
  · simp [h]

theorem Base.isPrefixOf_append_of_le (Q a b : Line) (h : Q.length ≤ a.length) :
    Q.isPrefixOf (a ++ b) = Q.isPrefixOf a := by
  rw [Bool.eq_iff_iff, List.isPrefixOf_iff_prefix, List.isPrefixOf_iff_prefix]
  exact ⟨fun hp => List.prefix_of_prefix_length_le hp (List.prefix_append a b) h, fun hp => hp.trans (List.prefix_append a b)⟩

theorem startsWith_append_of_le (P : String) (a b : Line) (h : P.toList.length ≤ a.length) :
    startsWith P (a ++ b) = startsWith P a := by
  unfold startsWith
  exact isPrefixOf_append_of_le _ _ _ h

theorem cellName_toList (i : Nat) : (cellName i).toList = cellTok i := by
  simp [cellName, cellTok, showNat, String.toList_append, Nat.repr]

theorem ofList_cellTok (i : Nat) : String.ofList (cellTok i) = cellName i := by
  rw [← cellName_toList, String.ofList_toList]

theorem cellTok_ne_nil (i : Nat) : cellTok i ≠ [] := by
  simp [cellTok]

theorem cellTok_free (i : Nat) : Free isWsC (cellTok i) :=
  free_cons (by decide) (free_showNat i)

theorem netTok_ne_nil (i : Nat) : netTok i ≠ [] := by
  simp [netTok]

theorem netTok_free (i : Nat) : Free isWsC (netTok i) :=
  free_cons (by decide) (free_showNat i)

theorem orient_ne_nil (o : Orient) : (orientToString o).toList ≠ [] := by
  rw [toList_eq_toListA]
  cases o <;> decide +kernel

theorem orient_free (o : Orient) : Free isWsC (orientToString o).toList :=
  free_of_all (by rw [toList_eq_toListA]; cases o <;> decide +kernel)
end ColoVerif.Ispd.Text
