import ColoVerif.Proofs.LegalizeLegalBase
import Mathlib.Tactic.Ring
/-
From `Legalizer::run` (`run_spec`) to `Circuit::legalize` (`legalizeWith_legal`, which is C01 `legalize_legal`).
`exportPlacement` writes the placed statuses back over the movable cells, in their order.  Only movable cells change, so
`computeRows` of the result is that of the input (`export_computeRows`), and a cell written back covers the rectangle of
its status (`updCell_placement`): a `Legal` state with every cell placed exports to a legal circuit.  `DomL`/`LegalL` are
verbatim copies of `C01.Dom`/`C01.Legal` (Properties/C01.lean ties them by `rfl`); `DomC`/`LegalC` are the forms the
statements of C11 and of `legalizeWith_trivial` take.
-/
namespace ColoVerif.Legalize
open ColoVerif

def DomL (c : Circuit) : Prop :=
  0 < (Circuit.rowHeight c).getD 0 ∧
  (∀ cl ∈ c.cells, cl.fixed = false →
    0 < cl.placedWidth ∧ 0 < cl.placedHeight ∧ cl.placedHeight % (Circuit.rowHeight c).getD 0 = 0 ∧
    (cl.pol ≠ Polarity.ANY → cl.orient.isTurn = false)) ∧
  c.rows.Pairwise (fun r s => r.rect.intersects s.rect = false) ∧
  (∀ r ∈ c.rows, r.rect.minX < r.rect.maxX ∧ r.orient.isTurn = false)

def LegalL (c : Circuit) : Prop :=
  (∀ H, Circuit.rowHeight c = some H → ∀ cl ∈ c.cells, cl.fixed = false →
    ∀ k : Int, 0 ≤ k → k * H < cl.placedHeight →
      ∃ r ∈ c.computeRows, r.rect.minY = cl.y + k * H ∧ r.rect.minX ≤ cl.x ∧ cl.x + cl.placedWidth ≤ r.rect.maxX) ∧
  (c.cells.filter fun cl => !cl.fixed).Pairwise fun a b => a.placement.intersects b.placement = false

/-- the C01 domain with `∃ H`, `∃ k` instead of `getD`/`%` (the conclusion of `domL_spelled`); it drops `C01.Dom`'s
"rows unturned", which idempotence does not need -/
def DomC (c : Circuit) : Prop :=
  (∃ H, 0 < H ∧ Circuit.rowHeight c = some H ∧
    ∀ cl ∈ c.cells, cl.fixed = false → 0 < cl.placedWidth ∧ ∃ k : Int, 0 < k ∧ cl.placedHeight = k * H) ∧
  c.rows.Pairwise (fun r s => r.rect.intersects s.rect = false) ∧
  (∀ r ∈ c.rows, r.rect.minX < r.rect.maxX) ∧
  (∀ cl ∈ c.cells, cl.fixed = false → cl.pol ≠ Polarity.ANY → cl.orient.isTurn = false)

/-- the statement's legality (verbatim `C01.Legal`): bottom edge on a row boundary, every row-high
strip inside one free segment of `computeRows`, no two movable cells intersect -/
def LegalC (c : Circuit) : Prop :=
  (∀ H, Circuit.rowHeight c = some H → ∀ cl ∈ c.cells, cl.fixed = false →
    ∀ k : Int, 0 ≤ k → k * H < cl.placedHeight →
      ∃ r ∈ c.computeRows, r.rect.minY = cl.y + k * H ∧ r.rect.minX ≤ cl.x ∧ cl.x + cl.placedWidth ≤ r.rect.maxX) ∧
  (c.cells.filter fun cl => !cl.fixed).Pairwise fun a b => a.placement.intersects b.placement = false

theorem hk_eq_mul (H : Int) : ∀ k : Nat, hk H k = (k : Int) * H
  | 0 => by simp [hk]
  | k + 1 => by
    simp only [hk, hk_eq_mul H k]
    push_cast
    ring

theorem levels_mem (H : Int) : ∀ (k : Nat) (y : Int) (j : Nat), j < k → y + (j : Int) * H ∈ levels H k y := by
  intro k
  induction k with
  | zero => intro _ _ h; cases h
  | succ k ih =>
    intro y j h
    cases j with
    | zero =>
      rw [Int.natCast_zero, Int.zero_mul, Int.add_zero]
      exact List.mem_cons_self
    | succ j =>
      rw [Int.natCast_succ, Int.add_mul, Int.one_mul, ← Int.add_assoc, Int.add_right_comm]
      exact List.mem_cons_of_mem _ (ih (y + H) j (Nat.lt_of_succ_lt_succ h))

/-- `inside` with the strips counted by an integer, as `LegalL` counts them -/
theorem Sits.strip {H : Int} {rows : List Row} {c : LCell} {p : Pos} (hs : Sits H rows c p) (hH : 0 < H) {k : Nat}
    (hk1 : 1 ≤ k) (hh : c.h = hk H k) (j : Int) (h0 : 0 ≤ j) (hj : j * H < c.h) :
    ∃ r ∈ rows, r.rect.minY = p.y + j * H ∧ r.rect.minX ≤ p.x ∧ p.x + c.w ≤ r.rect.maxX := by
  rw [hh, hk_eq_mul] at hj
  have hy := levels_mem H k p.y j.toNat ((Int.toNat_lt h0).mpr (Int.lt_of_mul_lt_mul_right hj (Int.le_of_lt hH)))
  rw [Int.toNat_of_nonneg h0] at hy
  exact hs.inside k hh hk1 _ hy

theorem exists_hk (H h : Int) (hH : 0 < H) (hh : 0 < h) (hm : h % H = 0) : ∃ k : Nat, 1 ≤ k ∧ h = hk H k := by
  have hd : H ∣ h := Int.dvd_of_emod_eq_zero hm
  have hq : 0 < h / H := Int.ediv_pos_of_pos_of_dvd hh (Int.le_of_lt hH) hd
  refine ⟨(h / H).toNat, by omega, ?_⟩
  rw [hk_eq_mul, Int.toNat_of_nonneg (Int.le_of_lt hq)]
  exact (Int.ediv_mul_cancel hd).symm

theorem dom_rowHeight (c : Circuit) (hd : DomL c) :
    Circuit.rowHeight c = some ((Circuit.rowHeight c).getD 0) := by
  have h := hd.1
  cases hr : Circuit.rowHeight c with
  | none => rw [hr] at h; simp at h
  | some H => rfl

theorem rowsOK_rows (c : Circuit) (hd : DomL c) : RowsOK ((Circuit.rowHeight c).getD 0) c.rows :=
  ⟨(Circuit.rowHeight_some (dom_rowHeight c hd)).2, fun r hr => (hd.2.2.2 r hr).1, fun r hr => (hd.2.2.2 r hr).2, hd.2.2.1⟩

theorem dom_rowsOK (c : Circuit) (hd : DomL c) : RowsOK ((Circuit.rowHeight c).getD 0) c.computeRows :=
  (rowsOK_rows c hd).freespace _

theorem domL_spelled (c : Circuit) (hd : DomL c) : DomC c := by
  refine ⟨⟨_, hd.1, dom_rowHeight c hd, ?_⟩, hd.2.2.1, fun r hr => (hd.2.2.2 r hr).1,
    fun cl hcl hf => (hd.2.1 cl hcl hf).2.2.2⟩
  intro cl hcl hf
  obtain ⟨h1, h2, h3, _⟩ := hd.2.1 cl hcl hf
  obtain ⟨k, hk1, hhk⟩ := exists_hk _ _ hd.1 h2 h3
  refine ⟨h1, (k : Int), by omega, ?_⟩
  rw [hhk, hk_eq_mul]

def toLCell (cl : Cell) : LCell := ⟨cl.placedWidth, cl.placedHeight, cl.pol, cl.x, cl.y, cl.orient⟩

theorem movable_eq (c : Circuit) : movable c = (c.cells.filter fun cl => !cl.fixed).map toLCell := rfl

theorem movable_length (c : Circuit) : (movable c).length = (c.cells.filter fun cl => !cl.fixed).length :=
  List.length_map _

theorem movable_getElem? {c : Circuit} {m : Nat} {cl : Cell} (h : (c.cells.filter fun cl => !cl.fixed)[m]? = some cl) :
    (movable c)[m]? = some (toLCell cl) := by
  rw [movable_eq, List.getElem?_map, h]
  rfl

theorem dom_cellsOK (c : Circuit) (hd : DomL c) : CellsOK ((Circuit.rowHeight c).getD 0) (movable c) := by
  intro c0 hc0
  rw [movable_eq] at hc0
  obtain ⟨cl, hcl, rfl⟩ := List.mem_map.mp hc0
  simp only [List.mem_filter, Bool.not_eq_true'] at hcl
  obtain ⟨h1, h2, h3, h4⟩ := hd.2.1 cl hcl.1 hcl.2
  exact ⟨h1, exists_hk _ _ hd.1 h2 h3, h4⟩

/-- what `exportPlacement` does to one movable cell -/
def updCell (cl : Cell) (p : Pos) : Cell :=
  if p.placed then { cl with x := p.x, y := p.y, orient := p.orient } else cl

theorem updCell_fixed (cl : Cell) (p : Pos) : (updCell cl p).fixed = cl.fixed := by
  unfold updCell; split <;> rfl

/-- a status placed on an unturned segment keeps the cell's turn status, so the exported cell covers the status's
rectangle -/
theorem updCell_placement {r : Row} {cl : Cell} {q : Pos} (hpl : q.placed = true) (hr : r.orient.isTurn = false)
    (hpol : cl.pol ≠ Polarity.ANY → cl.orient.isTurn = false) (hs : SegOrient r (toLCell cl) q) :
    (updCell cl q).placement = rectOf (toLCell cl) q := by
  have hturn : q.orient.isTurn = cl.orient.isTurn := by
    rw [hs.2.2.2.1]
    exact orientFor_turn _ _ hr hpol
  simp only [updCell, hpl, if_true, Cell.placement, Cell.placedWidth, Cell.placedHeight, hturn, rectOf, toLCell]

theorem exportCells_filter (cells : List Cell) (P : List Pos)
    (hlen : P.length = (cells.filter fun cl => !cl.fixed).length) :
    (exportCells cells P).filter (fun cl => !cl.fixed) = List.zipWith updCell (cells.filter fun cl => !cl.fixed) P := by
  fun_induction exportCells cells P with
  | case1 => rfl
  | case2 cl cls P hf ih =>
    rw [List.filter_cons_of_neg (by rw [hf]; decide)] at hlen ⊢
    rw [List.filter_cons_of_neg (by rw [hf]; decide)]
    exact ih hlen
  | case3 cl cls hf ih =>
    rw [List.filter_cons_of_pos (by simpa using hf)] at hlen
    cases hlen
  | case4 cl cls hf p ps ih =>
    have hf' : cl.fixed = false := by simpa using hf
    rw [List.filter_cons_of_pos (by rw [hf']; rfl)] at hlen
    show List.filter _ (updCell cl p :: exportCells cls ps) = _
    rw [List.filter_cons_of_pos (by rw [updCell_fixed, hf']; rfl), List.filter_cons_of_pos (by rw [hf']; rfl),
      ih (Nat.succ.inj hlen)]
    rfl

theorem exportCells_sameUpTo (cells : List Cell) (P : List Pos) : SameUpToIgnored cells (exportCells cells P) := by
  fun_induction exportCells cells P with
  | case1 => exact SameUpToIgnored.nil
  | case2 cl cls P hf ih => exact SameUpToIgnored.keep cl ih
  | case3 cl cls hf ih => exact SameUpToIgnored.keep cl ih
  | case4 cl cls hf p ps ih =>
    -- a movable cell is ignored by `obstacles`, whatever its position
    have hf' : cl.fixed = false := by simpa using hf
    refine SameUpToIgnored.dropLeft (by simp [Cell.ignored, hf']) (SameUpToIgnored.dropRight ?_ ih)
    show (updCell cl p).ignored
    simp [Cell.ignored, updCell_fixed, hf']

theorem export_computeRows (b : Base) (c : Circuit) : (exportPlacement b c).computeRows = c.computeRows := by
  have h := Circuit.obstacles_congr c (exportPlacement b c) (exportCells_sameUpTo c.cells b.pos)
  simp only [Circuit.computeRows, ← h]
  rfl

theorem legalizeWith_run (rnd : Rat → Rat) (p : Params) (c c' : Circuit) (hd : DomL c)
    (h : legalizeWith rnd p c = .ok c') :
    ∃ b : Base, c' = exportPlacement b c ∧ b.pos.all (·.placed) = true ∧
      Legal ((Circuit.rowHeight c).getD 0) c.computeRows (movable c) b.pos := by
  obtain ⟨_, b1, b2, h1, h2, hall, rfl⟩ := legalizeWith_ok rnd p c c' h
  exact ⟨b2, rfl, hall, run_spec _ hd.1 _ (dom_rowsOK c hd) _ (dom_cellsOK c hd) _ b1 b2 h1 h2⟩

theorem exportPlacement_legal (c : Circuit) (hd : DomL c) (b : Base) (hall : b.pos.all (·.placed) = true)
    (hleg : Legal ((Circuit.rowHeight c).getD 0) c.computeRows (movable c) b.pos) : LegalL (exportPlacement b c) := by
  obtain ⟨hlen, hcl, hdis⟩ := hleg
  have hL := dom_cellsOK c hd
  -- the `m`-th movable cell of the result covers the rectangle of the `m`-th status, which is placed
  have key : ∀ (m : Nat) (cl' : Cell), ((exportCells c.cells b.pos).filter fun cl => !cl.fixed)[m]? = some cl' →
      (posAt b.pos m).placed = true ∧ cl'.placement = cellRect (movable c) b.pos m := by
    intro m cl' hm
    rw [exportCells_filter _ _ (hlen.trans (movable_length c)), List.getElem?_zipWith_eq_some] at hm
    obtain ⟨cl, q, hcm, hpm, rfl⟩ := hm
    have hcm' := movable_getElem? hcm
    have hq : posAt b.pos m = q := ListFacts.getD_of_getElem? hpm
    have hc : cellAt (movable c) m = toLCell cl := ListFacts.getD_of_getElem? hcm'
    have hpl : q.placed = true := List.all_eq_true.mp hall q (List.mem_of_getElem? hpm)
    rw [cellRect, hq, hc]
    obtain ⟨r, hr, hso⟩ := (hcl m (hq ▸ hpl)).seg
    rw [hq, hc] at hso
    exact ⟨hpl, updCell_placement hpl ((dom_rowsOK c hd).unturned r hr) (hL _ (List.mem_of_getElem? hcm')).2.2 hso⟩
  constructor
  · intro H hrh cl' hmem hfix kk hk0 hlt
    obtain rfl : (Circuit.rowHeight c).getD 0 = H := congrArg (·.getD 0) hrh
    have hmF : cl' ∈ (exportCells c.cells b.pos).filter fun cl => !cl.fixed :=
      List.mem_filter.mpr ⟨hmem, congrArg (!·) hfix⟩
    obtain ⟨m, hm⟩ := List.mem_iff_getElem?.mp hmF
    obtain ⟨hpl, e⟩ := key m cl' hm
    obtain ⟨ex, ew, ey, eh⟩ := Rect.mk.inj e
    obtain ⟨_, ⟨k, hk1, hhk⟩, _⟩ := hL _ (cellAt_mem _ m (hlen ▸ posAt_placed_lt hpl))
    rw [ey] at eh
    obtain ⟨r, hr, a1, a2, a3⟩ := (hcl m hpl).strip hd.1 hk1 hhk kk hk0 (Int.add_left_cancel eh ▸ hlt)
    rw [export_computeRows, ey, ew, ex]
    exact ⟨r, hr, a1, a2, a3⟩
  · show ((exportCells c.cells b.pos).filter fun cl => !cl.fixed).Pairwise _
    rw [List.pairwise_iff_getElem]
    intro i j hi hj hij
    obtain ⟨hp1, e1⟩ := key i _ (List.getElem?_eq_getElem hi)
    obtain ⟨hp2, e2⟩ := key j _ (List.getElem?_eq_getElem hj)
    rw [e1, e2]
    exact hdis i j (Nat.ne_of_lt hij) hp1 hp2

theorem legalizeWith_legal (rnd : Rat → Rat) (p : Params) (c c' : Circuit) (hd : DomL c)
    (h : legalizeWith rnd p c = .ok c') : LegalL c' := by
  obtain ⟨b, rfl, hall, hleg⟩ := legalizeWith_run rnd p c c' hd h
  exact exportPlacement_legal c hd b hall hleg

end ColoVerif.Legalize
