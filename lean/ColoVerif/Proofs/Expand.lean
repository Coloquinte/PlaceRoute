import ColoVerif.Model.Expand
import ColoVerif.Proofs.ListFacts
import Mathlib.Tactic.Linarith
import Mathlib.Tactic.Ring
/-
C18 over `Rat` (`Model/Expand.lean`).  `expandCellsToDensity`: the carried missing area makes the loop exact,
new movable area + final carried area = initial carried area + what the cells aimed at (`area_identity`), and the
carried area stays in `[0, h)`; the upper end, and that a factor at least 1 makes no cell below the cap narrower,
hold whatever the signs of cap and carried area (`carry_spec`).  `expandCellsByFactor`: the expanded area is affine in the factors
(`expandedArea_adjust`) and `capRatio` is the fraction that lands it on `maxDensity * rowArea` (`capRatio_mul`).
`Pointwise`, `FrameCell`, `scaleWidths`, `fracArea`, `cellExpansion_spec` and the `regionMax` lemmas are stated so
that the rounded model (`Proofs/ExpandF*.lean`, second half of `Properties/C18.lean`) uses them too.
-/
namespace ColoVerif
namespace Expand

theorem truncRat_eq_floor (q : Rat) (h : 0 ≤ q) : truncRat q = q.floor := by
  have hn : 0 ≤ q.num := Rat.num_nonneg.mpr h
  rw [truncRat, Rat.floor_def, Int.tdiv_eq_ediv_of_nonneg hn]

theorem truncRat_le (q : Rat) (h : 0 ≤ q) : (truncRat q : Rat) ≤ q := by
  rw [truncRat_eq_floor q h]; exact Rat.floor_le q

theorem truncRat_mono {a b : Rat} (ha : 0 ≤ a) (hab : a ≤ b) : truncRat a ≤ truncRat b := by
  rw [truncRat_eq_floor a ha, truncRat_eq_floor b (le_trans ha hab)]
  exact Rat.floor_monotone hab

theorem lt_truncRat_add_one (q : Rat) (h : 0 ≤ q) : q < (truncRat q : Rat) + 1 := by
  rw [truncRat_eq_floor q h]
  have := Rat.lt_floor_add_one q
  simpa [Rat.intCast_add] using this

theorem le_truncRat (w : Int) (q : Rat) (hq : 0 ≤ q) (h : (w : Rat) ≤ q) : w ≤ truncRat q := by
  rw [truncRat_eq_floor q hq]; exact Rat.le_floor_iff.mpr h

theorem truncRat_nonneg (q : Rat) (h : 0 ≤ q) : 0 ≤ truncRat q := by
  apply le_truncRat 0 q h; simpa using h

/-- `b` is `a` except possibly for its width, and is `a` itself when `a` is fixed -/
def FrameCell (a b : Cell) : Prop := b = { a with w := b.w } ∧ (a.fixed = true → b = a)

theorem FrameCell.refl (a : Cell) : FrameCell a a := ⟨rfl, fun _ => rfl⟩

/-- both expansion loops replace the width of an active cell and keep the others -/
theorem FrameCell.ite_active (cl : Cell) (w : Int) :
    FrameCell cl (if active cl then { cl with w := w } else cl) := by
  split
  · rename_i ha
    exact ⟨rfl, fun hf => by simp [active, hf] at ha⟩
  · exact FrameCell.refl cl

/-- `l'` is as long as `l` and `R` relates their cells at every index (`Circuit.cell` reads `default` beyond
the end) -/
def Pointwise (R : Cell → Cell → Prop) (l l' : List Cell) : Prop :=
  l'.length = l.length ∧ ∀ i, R (l.getD i default) (l'.getD i default)

theorem Pointwise.refl {R : Cell → Cell → Prop} (hR : ∀ a, R a a) (l : List Cell) : Pointwise R l l :=
  ⟨rfl, fun _ => hR _⟩

theorem Pointwise.cons {R : Cell → Cell → Prop} {a b : Cell} {l l' : List Cell} (h : R a b)
    (ht : Pointwise R l l') : Pointwise R (a :: l) (b :: l') :=
  ⟨congrArg (· + 1) ht.1, fun i => by
    cases i with
    | zero => exact h
    | succ i => exact ht.2 i⟩

theorem frame_expandCells (f cap : Rat) : ∀ (l : List Cell) (m : Rat), Pointwise FrameCell l (expandCells f cap m l)
  | [], _ => .refl FrameCell.refl _
  | cl :: rest, _ => .cons (FrameCell.ite_active cl _) (frame_expandCells f cap rest _)

/-- `regionMax` is the supremum, in a linear order, of `acc` and the factors of the intersecting regions: the bounds
below, that it is attained, and that only the set of regions matters are all read off this -/
theorem le_regionMax_iff (place : Rect) (x : Rat) : ∀ (m : List (Rect × Rat)) (acc : Rat),
    x ≤ regionMax place acc m ↔ x ≤ acc ∨ ∃ r e, (r, e) ∈ m ∧ r.intersects place = true ∧ x ≤ e
  | [], acc => by simp [regionMax]
  | (r', e') :: rest, acc => by
    rw [regionMax, le_regionMax_iff place x rest]
    simp only [List.mem_cons, Prod.mk.injEq, or_and_right, exists_or, and_assoc, exists_and_left, exists_eq_left]
    split <;> rename_i hi
    · simp only [le_max_iff, hi, true_and, or_assoc]
    · simp only [hi, Bool.false_eq_true, false_and, false_or]

theorem regionMax_ge_acc (place : Rect) (m : List (Rect × Rat)) (acc : Rat) : acc ≤ regionMax place acc m :=
  (le_regionMax_iff place acc m acc).mpr (Or.inl le_rfl)

theorem regionMax_ge_mem (place : Rect) (m : List (Rect × Rat)) (acc : Rat) (r : Rect) (e : Rat)
    (h : (r, e) ∈ m) (hi : r.intersects place = true) : e ≤ regionMax place acc m :=
  (le_regionMax_iff place e m acc).mpr (Or.inr ⟨r, e, h, hi, le_rfl⟩)

theorem regionMax_attained (place : Rect) (m : List (Rect × Rat)) (acc : Rat) :
    regionMax place acc m = acc ∨ ∃ r e, (r, e) ∈ m ∧ r.intersects place = true ∧ regionMax place acc m = e :=
  ((le_regionMax_iff place _ m acc).mp le_rfl).imp (fun h => le_antisymm h (regionMax_ge_acc place m acc))
    fun ⟨r, e, hm, hi, h⟩ => ⟨r, e, hm, hi, le_antisymm h (regionMax_ge_mem place m acc r e hm hi)⟩

theorem regionMax_mono (place : Rect) {l₁ l₂ : List (Rect × Rat)} (h : l₁ ⊆ l₂) (acc : Rat) :
    regionMax place acc l₁ ≤ regionMax place acc l₂ :=
  (le_regionMax_iff place _ l₂ acc).mpr (((le_regionMax_iff place _ l₁ acc).mp le_rfl).imp_right
    fun ⟨r, e, hm, hi, hx⟩ => ⟨r, e, h hm, hi, hx⟩)

theorem mem_expansionMapWith (F : Rat → Rat) (cmap : List (Rect × Rat)) (r : Rect) (e : Rat) :
    (r, e) ∈ ((cmap.filter fun rc => decide (rc.2 > 1)).map fun rc => (rc.1, F rc.2)) ↔
      ∃ cg, (r, cg) ∈ cmap ∧ cg > 1 ∧ e = F cg := by
  simp only [List.mem_map, List.mem_filter, decide_eq_true_eq]
  constructor
  · rintro ⟨⟨r', cg⟩, ⟨hm, hc⟩, heq⟩
    obtain ⟨rfl, rfl⟩ := Prod.mk.inj heq
    exact ⟨cg, hm, hc, rfl⟩
  · rintro ⟨cg, hm, hc, rfl⟩
    exact ⟨(r, cg), ⟨hm, hc⟩, rfl⟩

theorem mem_expansionMap (cmap : List (Rect × Rat)) (fp pf : Rat) (r : Rect) (e : Rat) :
    (r, e) ∈ expansionMap cmap fp pf ↔ ∃ cg, (r, cg) ∈ cmap ∧ cg > 1 ∧ e = (cg - 1) * pf + fp + 1 :=
  mem_expansionMapWith (fun cg => (cg - 1) * pf + fp + 1) cmap r e

/-- `computeCellExpansion` for a map `M` that holds the factor `F cg` of every congested region of `cmap` and a
rejection test `P`: it throws exactly on `P`; otherwise 1 for a fixed cell, else the maximum of 1 and the factors
of the regions it intersects -/
theorem cellExpansion_spec (c : Circuit) (cmap M : List (Rect × Rat)) (F : Rat → Rat)
    (hM : ∀ r e, (r, e) ∈ M ↔ ∃ cg, (r, cg) ∈ cmap ∧ cg > 1 ∧ e = F cg) (P : Prop) [Decidable P] :
    ((if P then none else some (c.cells.map fun cl => if cl.fixed then 1 else regionMax cl.placement 1 M)) = none
      ↔ P) ∧
    ∀ l, (if P then none else some (c.cells.map fun cl => if cl.fixed then 1 else regionMax cl.placement 1 M))
        = some l →
      l.length = c.cells.length ∧
      ∀ i, i < c.cells.length →
        ((c.cell i).fixed = true → l.getD i 1 = 1) ∧
        ((c.cell i).fixed = false →
          1 ≤ l.getD i 1 ∧
          (∀ r cg, (r, cg) ∈ cmap → cg > 1 → r.intersects (c.cell i).placement = true → F cg ≤ l.getD i 1) ∧
          (l.getD i 1 = 1 ∨ ∃ r cg, (r, cg) ∈ cmap ∧ cg > 1 ∧ r.intersects (c.cell i).placement = true ∧
            l.getD i 1 = F cg)) := by
  refine ⟨by split <;> simp_all, fun l hl => ?_⟩
  split at hl
  · simp at hl
  obtain rfl := Option.some.inj hl
  refine ⟨by simp, fun i hi => ?_⟩
  rw [ListFacts.getD_map_of_lt _ default 1 hi, ← Circuit.cell]
  constructor
  · intro hf; simp [hf]
  · intro hf
    simp only [hf, Bool.false_eq_true, if_false]
    refine ⟨regionMax_ge_acc _ _ _, fun r cg hm hc hint => ?_, ?_⟩
    · exact regionMax_ge_mem _ _ _ r _ ((hM r _).mpr ⟨cg, hm, hc, rfl⟩) hint
    · rcases regionMax_attained (c.cell i).placement M 1 with h | ⟨r, e, hm, hint, he⟩
      · exact Or.inl h
      · obtain ⟨cg, hcm, hc, rfl⟩ := (hM r e).mp hm
        exact Or.inr ⟨r, cg, hcm, hc, hint, he⟩

/-- the carry loop only adds columns and leaves less than `h`, whatever the sign of the carried area; what it
leaves is non-negative when the carried area is -/
theorem carry_spec (h : Int) (m1 : Rat) (hh : 0 < h) :
    0 ≤ carryCount h m1 ∧ m1 - (carryCount h m1 : Rat) * (h : Rat) < (h : Rat) ∧
    (0 ≤ m1 → 0 ≤ m1 - (carryCount h m1 : Rat) * (h : Rat)) := by
  have hq : (0 : Rat) < (h : Rat) := by exact_mod_cast hh
  unfold carryCount
  split
  · rename_i hlt
    simpa using hlt
  · rename_i hge
    have h3 := (le_div_iff₀ hq).mp (Rat.floor_le (m1 / (h : Rat)))
    have h4 := (div_lt_iff₀ hq).mp (Rat.lt_floor_add_one (m1 / (h : Rat)))
    push_cast at h4
    exact ⟨Rat.le_floor_iff.mpr (by simpa using div_nonneg (hq.le.trans (not_lt.mp hge)) hq.le), by linarith,
      fun _ => by linarith⟩

theorem step_identity (f cap m : Rat) (cl : Cell) :
    (cl.h : Rat) * (newWidth f cap m cl : Rat) + newMissing f cap m cl = m + (cl.h : Rat) * fracW f cap cl := by
  simp only [newWidth, newMissing, missingAdd]
  push_cast
  ring

theorem active_iff (cl : Cell) : active cl = true ↔ cl.fixed = false ∧ 0 < cl.h ∧ 0 < cl.w := by
  simp [active, and_assoc]

theorem fracW_le (f cap : Rat) (cl : Cell) : fracW f cap cl ≤ (cl.w : Rat) * f := by
  unfold fracW; split
  · rename_i h; exact le_of_lt h
  · exact le_refl _

theorem fracW_ind {P : Rat → Prop} (f cap : Rat) (cl : Cell) (hcap : P cap) (hsw : P ((cl.w : Rat) * f)) :
    P (fracW f cap cl) := by
  unfold fracW
  split <;> assumption

theorem newMissing_bounds (f cap m : Rat) (cl : Cell) (hf : 0 ≤ f) (hcap : 0 ≤ cap) (hm : 0 ≤ m)
    (ha : active cl = true) : 0 ≤ newMissing f cap m cl ∧ newMissing f cap m cl < (cl.h : Rat) := by
  obtain ⟨_, hh, hw⟩ := (active_iff cl).mp ha
  obtain ⟨_, hlt, h0⟩ := carry_spec cl.h (missingAdd f cap m cl) hh
  have h1 := truncRat_le _ (fracW_ind f cap cl hcap (mul_nonneg (by exact_mod_cast hw.le) hf))
  exact ⟨h0 (add_nonneg hm (mul_nonneg (by exact_mod_cast hh.le) (sub_nonneg.mpr h1))), hlt⟩

theorem stepMissing_nonneg (f cap m : Rat) (cl : Cell) (hf : 0 ≤ f) (hcap : 0 ≤ cap) (hm : 0 ≤ m) :
    0 ≤ stepMissing f cap m cl := by
  unfold stepMissing; split
  · rename_i ha; exact (newMissing_bounds f cap m cl hf hcap hm ha).1
  · exact hm

theorem finalMissing_nonneg (f cap : Rat) (hf : 0 ≤ f) (hcap : 0 ≤ cap) :
    ∀ (l : List Cell) (m : Rat), 0 ≤ m → 0 ≤ finalMissing f cap m l
  | [], _, hm => hm
  | cl :: rest, m, hm => finalMissing_nonneg f cap hf hcap rest _ (stepMissing_nonneg f cap m cl hf hcap hm)

theorem finalMissing_lt (f cap : Rat) (H : Int) :
    ∀ (l : List Cell) (m : Rat), m < (H : Rat) → (∀ cl ∈ l, active cl = true → cl.h ≤ H) →
      finalMissing f cap m l < (H : Rat)
  | [], _, h1, _ => h1
  | cl :: rest, m, h1, hH => by
    refine finalMissing_lt f cap H rest _ ?_ (fun c hc => hH c (by simp [hc]))
    unfold stepMissing; split
    · rename_i ha
      exact lt_of_lt_of_le (carry_spec cl.h _ ((active_iff cl).mp ha).2.1).2.1 (by exact_mod_cast hH cl (by simp) ha)
    · exact h1

theorem movableArea_cons (cl : Cell) (l : List Cell) :
    movableArea (cl :: l) = (if cl.fixed then 0 else cl.w * cl.h) + movableArea l := by
  unfold movableArea
  simp only [List.filter_cons]
  split <;> rename_i h
  · simp at h; simp [h, cellArea]
  · simp at h; simp [h]

theorem movableArea_nil : movableArea [] = 0 := rfl

/-- what the loop aims at when `fw cl` is the fractional width it wants for an active cell `cl`: `h * fw` for
active cells, the old area for the other movable cells -/
def fracArea (fw : Cell → Rat) : List Cell → Rat
  | [] => 0
  | cl :: l => (if cl.fixed then 0 else if active cl then (cl.h : Rat) * fw cl
                else ((cl.w * cl.h : Int) : Rat)) + fracArea fw l

theorem area_identity (f cap : Rat) : ∀ (l : List Cell) (m : Rat),
    (movableArea (expandCells f cap m l) : Rat) + finalMissing f cap m l = m + fracArea (fracW f cap) l
  | [], m => by simp [expandCells, finalMissing, fracArea, movableArea_nil]
  | cl :: rest, m => by
    have ih := area_identity f cap rest (stepMissing f cap m cl)
    simp only [expandCells, finalMissing, fracArea, movableArea_cons]
    unfold stepCell stepMissing at *
    by_cases ha : active cl = true
    · have hid := step_identity f cap m cl
      simp only [ha, if_true, ((active_iff cl).mp ha).1, Bool.false_eq_true, if_false] at ih ⊢
      push_cast
      linarith
    · have ha' : active cl = false := by simpa using ha
      simp only [ha', Bool.false_eq_true, if_false] at ih ⊢
      push_cast
      linarith

/-- the domain of the quantitative theorems: movable cells have non-negative sizes -/
def NonnegSizes (l : List Cell) : Prop := ∀ cl ∈ l, cl.fixed = false → 0 ≤ cl.w ∧ 0 ≤ cl.h

theorem NonnegSizes.tail {cl : Cell} {l : List Cell} (h : NonnegSizes (cl :: l)) : NonnegSizes l :=
  fun c hc => h c (List.mem_cons_of_mem _ hc)

theorem NonnegSizes.area_nonneg {cl : Cell} {l : List Cell} (h : NonnegSizes (cl :: l)) (hfx : ¬ cl.fixed = true) :
    (0 : Rat) ≤ (cellArea cl : Rat) := by
  obtain ⟨hw, hh⟩ := h cl (by simp) (by simpa using hfx)
  unfold cellArea
  exact_mod_cast mul_nonneg hw hh

theorem NonnegSizes.inactive_area_zero {cl : Cell} {l : List Cell} (h : NonnegSizes (cl :: l))
    (hfx : ¬ cl.fixed = true) (ha : ¬ active cl = true) : (cl.w : Rat) * (cl.h : Rat) = 0 := by
  have hfx' : cl.fixed = false := by simpa using hfx
  obtain ⟨hw, hh⟩ := h cl (by simp) hfx'
  have : ¬ (0 < cl.h ∧ 0 < cl.w) := fun hp => ha ((active_iff cl).mpr ⟨hfx', hp⟩)
  have : cl.h = 0 ∨ cl.w = 0 := by omega
  rcases this with h0 | h0 <;> simp [h0]

/-- the aim is monotone in the fractional widths (an active cell has a positive height) -/
theorem fracArea_mono {fw gw : Cell → Rat} : ∀ (l : List Cell),
    (∀ cl ∈ l, active cl = true → fw cl ≤ gw cl) → fracArea fw l ≤ fracArea gw l
  | [], _ => le_rfl
  | cl :: rest, h => by
    have ih := fracArea_mono rest (fun c hc => h c (List.mem_cons_of_mem _ hc))
    simp only [fracArea]
    split_ifs with hfx ha
    · linarith
    · have hh : (0 : Rat) ≤ (cl.h : Rat) := by exact_mod_cast ((active_iff cl).mp ha).2.1.le
      linarith [mul_le_mul_of_nonneg_left (h cl (by simp) ha) hh]
    · linarith

/-- the inactive movable cells keep their area, which is 0 on `NonnegSizes` -/
theorem fracArea_scale (k : Rat) : ∀ (l : List Cell), NonnegSizes l →
    fracArea (fun cl => (cl.w : Rat) * k) l = k * (movableArea l : Rat)
  | [], _ => by simp [fracArea, movableArea_nil]
  | cl :: rest, hn => by
    have ih := fracArea_scale k rest hn.tail
    simp only [fracArea, movableArea_cons]
    push_cast
    split_ifs with hfx ha
    · linarith
    · linarith
    · rw [hn.inactive_area_zero hfx ha]; linarith

theorem expandCells_area_le (f cap : Rat) (hf : 0 ≤ f) (hcap : 0 ≤ cap) (l : List Cell) (hsz : NonnegSizes l) :
    (movableArea (expandCells f cap 0 l) : Rat) ≤ f * (movableArea l : Rat) := by
  have hid := area_identity f cap l 0
  have hle := (fracArea_mono l fun cl _ _ => fracW_le f cap cl).trans_eq (fracArea_scale f l hsz)
  have hnn := finalMissing_nonneg f cap hf hcap l 0 le_rfl
  linarith

/-- `H` is any bound on the active heights; a capped cell aims at less than `w * f`, hence `hnocap` -/
theorem expandCells_area_gt (f cap : Rat) (l : List Cell) (hsz : NonnegSizes l)
    (hnocap : ∀ cl ∈ l, active cl = true → (cl.w : Rat) * f ≤ cap) (H : Int) (hH : 0 < H)
    (hHb : ∀ cl ∈ l, active cl = true → cl.h ≤ H) :
    f * (movableArea l : Rat) - (H : Rat) < (movableArea (expandCells f cap 0 l) : Rat) := by
  have hid := area_identity f cap l 0
  have hge := (fracArea_scale f l hsz).symm.trans_le (fracArea_mono (gw := fracW f cap) l fun cl hcl ha => by
    unfold fracW; rw [if_neg (not_lt.mpr (hnocap cl hcl ha))])
  have hfin := finalMissing_lt f cap H l 0 (by exact_mod_cast hH) hHb
  linarith

theorem maxRowWidth_nonneg (rows : List Row) : 0 ≤ maxRowWidth rows := by
  rw [maxRowWidth, ← List.foldl_map (f := fun r : Row => r.rect.width) (g := max)]
  exact ListFacts.le_foldl_max _ 0

theorem widthCap_nonneg (c : Circuit) {maxExp : Rat} (hx : 0 ≤ maxExp) : 0 ≤ widthCap c maxExp :=
  mul_nonneg (by exact_mod_cast maxRowWidth_nonneg c.rows) hx

theorem factor_ge_one (c : Circuit) (target margin : Rat) (hA : 0 < movableArea c.cells)
    (hR : 0 < rowPlacementArea c margin) (hn : ¬ densityNoop c target margin) :
    1 ≤ densityFactor c target margin := by
  have hd : 0 < (movableArea c.cells : Rat) / (rowPlacementArea c margin : Rat) :=
    div_pos (by exact_mod_cast hA) (by exact_mod_cast hR)
  have hlt : (movableArea c.cells : Rat) / (rowPlacementArea c margin : Rat) < target :=
    not_le.mp (fun h => hn (Or.inr (Or.inr h)))
  unfold densityFactor
  exact (le_div_iff₀ hd).mpr (by rw [one_mul]; exact hlt.le)

theorem stepCell_not_narrower (f cap m : Rat) (cl : Cell) (hf : 1 ≤ f) (hw : (cl.w : Rat) ≤ cap) :
    cl.w ≤ (stepCell f cap m cl).w := by
  unfold stepCell
  split
  · rename_i ha
    obtain ⟨_, hh, hw0⟩ := (active_iff cl).mp ha
    have hwq : (0 : Rat) ≤ (cl.w : Rat) := by exact_mod_cast hw0.le
    have hk := (carry_spec cl.h (missingAdd f cap m cl) hh).1
    have hfr : (cl.w : Rat) ≤ fracW f cap cl := fracW_ind f cap cl hw (le_mul_of_one_le_right hwq hf)
    have ht := le_truncRat cl.w (fracW f cap cl) (le_trans hwq hfr) hfr
    simp only [newWidth]
    omega
  · exact le_refl _

theorem expandCells_not_narrower (f cap : Rat) (hf : 1 ≤ f) : ∀ (l : List Cell) (m : Rat),
    Pointwise (fun a b => (a.w : Rat) ≤ cap → a.w ≤ b.w) l (expandCells f cap m l)
  | [], _ => .refl (fun _ _ => le_refl _) _
  | cl :: rest, m => .cons (stepCell_not_narrower f cap m cl hf) (expandCells_not_narrower f cap hf rest _)

/-- `applyFactors` for an arbitrary new-width function `g`: the exact and the compiled `expandCellsByFactor`
differ only in `g` -/
def scaleWidths (g : Int → Rat → Int) : List Cell → List Rat → List Cell
  | cl :: cells, e :: es => (if cl.fixed then cl else { cl with w := g cl.w e }) :: scaleWidths g cells es
  | cells, _ => cells

theorem applyFactors_eq : ∀ (l : List Cell) (es : List Rat),
    applyFactors l es = scaleWidths (fun w e => truncRat ((w : Rat) * e)) l es
  | [], _ => by simp [applyFactors, scaleWidths]
  | _ :: _, [] => rfl
  | cl :: rest, e :: es => by simp only [applyFactors, scaleWidths, applyFactors_eq rest es]

theorem scaleWidths_pointwise {R : Cell → Cell → Prop} (g : Int → Rat → Int) (hR : ∀ a, R a a) :
    ∀ (l : List Cell) (es : List Rat),
      (∀ cl ∈ l, cl.fixed = false → ∀ e ∈ es, R cl { cl with w := g cl.w e }) → Pointwise R l (scaleWidths g l es)
  | [], _, _ => by simpa [scaleWidths] using Pointwise.refl hR []
  | _ :: _, [], _ => .refl hR _
  | cl :: rest, e :: es, h => .cons (by
      split
      · exact hR cl
      · rename_i hfx
        exact h cl (by simp) (by simpa using hfx) e (by simp))
      (scaleWidths_pointwise g hR rest es
        (fun c hc hfx x hx => h c (List.mem_cons_of_mem _ hc) hfx x (List.mem_cons_of_mem _ hx)))

theorem scaleWidths_frame (g : Int → Rat → Int) (l : List Cell) (es : List Rat) :
    Pointwise FrameCell l (scaleWidths g l es) :=
  scaleWidths_pointwise g FrameCell.refl l es (fun _ _ hfx _ _ => ⟨rfl, fun h => by simp [hfx] at h⟩)

theorem scaleWidths_area_le (g : Int → Rat → Int) (K : Rat) : ∀ (l : List Cell) (es : List Rat), NonnegSizes l →
    l.length = es.length →
    (∀ cl ∈ l, cl.fixed = false → ∀ e ∈ es, (g cl.w e : Rat) ≤ K * ((cl.w : Rat) * e)) →
    (movableArea (scaleWidths g l es) : Rat) ≤ K * expandedArea l es
  | [], [], _, _, _ => by simp [scaleWidths, expandedArea, movableArea_nil]
  | [], _ :: _, _, h, _ => by simp at h
  | _ :: _, [], _, h, _ => by simp at h
  | cl :: rest, e :: es, hn, hlen, hK => by
    have ih := scaleWidths_area_le g K rest es hn.tail (by simpa using hlen)
      (fun c hc hfx x hx => hK c (List.mem_cons_of_mem _ hc) hfx x (List.mem_cons_of_mem _ hx))
    simp only [scaleWidths, expandedArea, movableArea_cons, cellArea]
    split_ifs with hfx
    · push_cast; linarith
    · have hfx' : cl.fixed = false := by simpa using hfx
      have hhq : (0 : Rat) ≤ (cl.h : Rat) := by exact_mod_cast (hn cl (by simp) hfx').2
      have h1 := mul_le_mul_of_nonneg_right (hK cl (by simp) hfx' e (by simp)) hhq
      push_cast
      linarith

theorem frame_applyFactors (l : List Cell) (es : List Rat) : Pointwise FrameCell l (applyFactors l es) :=
  applyFactors_eq l es ▸ scaleWidths_frame _ l es

theorem applyFactors_not_narrower (l : List Cell) (es : List Rat) (he : ∀ e ∈ es, 1 ≤ e) :
    Pointwise (fun a b => 0 ≤ a.w → a.w ≤ b.w) l (applyFactors l es) := by
  rw [applyFactors_eq]
  refine scaleWidths_pointwise _ (fun _ _ => le_refl _) l es (fun cl _ _ e hem hw => ?_)
  have hwq : (0 : Rat) ≤ (cl.w : Rat) := by exact_mod_cast hw
  have h2 : (cl.w : Rat) ≤ (cl.w : Rat) * e := le_mul_of_one_le_right hwq (he e hem)
  exact le_truncRat cl.w _ (le_trans hwq h2) h2

theorem applyFactors_area_le (l : List Cell) (es : List Rat) (hn : NonnegSizes l) (he : ∀ e ∈ es, 0 ≤ e)
    (hlen : l.length = es.length) : (movableArea (applyFactors l es) : Rat) ≤ expandedArea l es := by
  have := scaleWidths_area_le (fun w e => truncRat ((w : Rat) * e)) 1 l es hn hlen (fun cl hcl hfx e hem => by
    rw [one_mul]
    exact truncRat_le _ (mul_nonneg (by exact_mod_cast (hn cl hcl hfx).1) (he e hem)))
  rwa [one_mul, ← applyFactors_eq] at this

theorem expandCellsByFactor_eq_some {c c' : Circuit} {efs : List Rat} {maxD margin ret : Rat}
    (h : expandCellsByFactor c efs maxD margin = some (c', ret)) :
    c.cells.length = efs.length ∧
    (c' = c ∨ (density c margin < maxD ∧ c' = { c with
      cells := applyFactors c.cells (effectiveFactors c efs maxD margin (expandedArea c.cells efs)) })) := by
  unfold expandCellsByFactor at h
  split at h
  · simp at h
  · rename_i hvalid
    have hlen : c.cells.length = efs.length := by
      have : ¬ efs.length ≠ c.cells.length := fun hh => hvalid (Or.inl hh)
      simp at this; exact this.symm
    simp only [Option.some.injEq] at h
    unfold byFactorWith at h
    refine ⟨hlen, ?_⟩
    split at h
    · exact Or.inl (Prod.mk.inj h).1.symm
    · split at h
      · exact Or.inl (Prod.mk.inj h).1.symm
      · rename_i hdens
        exact Or.inr ⟨not_le.mp hdens, (Prod.mk.inj h).1.symm⟩

/-- in the adjusted branch the ratio is non-negative, so factors at least 1 stay at least 1 -/
theorem effectiveFactors_ge_one (c : Circuit) (efs : List Rat) (maxD margin : Rat) (hd : density c margin < maxD)
    (he : ∀ e ∈ efs, 1 ≤ e) : ∀ e ∈ effectiveFactors c efs maxD margin (expandedArea c.cells efs), 1 ≤ e := by
  unfold effectiveFactors
  split
  · rename_i hadj
    intro e' he'
    obtain ⟨e, hem, rfl⟩ := List.mem_map.mp he'
    have hρ : 0 ≤ capRatio c maxD margin (expandedArea c.cells efs) :=
      div_nonneg (sub_nonneg.mpr hd.le) (sub_nonneg.mpr (le_trans hd.le (le_of_lt hadj)))
    exact le_add_of_nonneg_right (mul_nonneg (sub_nonneg.mpr (he e hem)) hρ)
  · exact he

/-- the ratio is chosen so that the adjusted factors aim exactly at `maxDensity * rowArea` -/
theorem capRatio_mul (c : Circuit) (maxD margin E : Rat) (hR : (rowPlacementArea c margin : Rat) ≠ 0)
    (hx : E / (rowPlacementArea c margin : Rat) - density c margin ≠ 0) :
    capRatio c maxD margin E * (E - (movableArea c.cells : Rat)) =
      maxD * (rowPlacementArea c margin : Rat) - (movableArea c.cells : Rat) := by
  have hER : E - (movableArea c.cells : Rat) =
      (E / (rowPlacementArea c margin : Rat) - density c margin) * (rowPlacementArea c margin : Rat) := by
    unfold density; rw [sub_mul, div_mul_cancel₀ _ hR, div_mul_cancel₀ _ hR]
  unfold capRatio
  rw [hER, ← mul_assoc, div_mul_cancel₀ _ hx]
  unfold density
  rw [sub_mul, div_mul_cancel₀ _ hR]

/-- the expanded area is affine in the factors: with `e ↦ 1 + (e - 1)·ρ` it moves from the movable area
towards the expanded area by the fraction `ρ` -/
theorem expandedArea_adjust (ρ : Rat) : ∀ (l : List Cell) (es : List Rat), l.length = es.length →
    expandedArea l (es.map (adjust ρ)) = (movableArea l : Rat) + ρ * (expandedArea l es - (movableArea l : Rat))
  | [], [], _ => by simp [expandedArea, movableArea_nil]
  | [], _ :: _, h => by simp at h
  | _ :: _, [], h => by simp at h
  | cl :: rest, e :: es, hlen => by
    have ih := expandedArea_adjust ρ rest es (by simpa using hlen)
    simp only [List.map_cons, expandedArea, movableArea_cons, ih, cellArea, adjust]
    split_ifs <;> push_cast <;> ring

theorem expandedArea_map_le (K : Rat) (f g : Rat → Rat) : ∀ (l : List Cell) (es : List Rat), NonnegSizes l →
    (∀ e ∈ es, f e ≤ K * g e) → expandedArea l (es.map f) ≤ K * expandedArea l (es.map g)
  | [], _, _, _ => by simp [expandedArea]
  | _ :: _, [], _, _ => by simp [expandedArea]
  | cl :: rest, e :: es, hn, hfg => by
    have ih := expandedArea_map_le K f g rest es hn.tail (fun x h => hfg x (List.mem_cons_of_mem _ h))
    simp only [List.map_cons, expandedArea]
    split_ifs with hfx
    · linarith
    · have := mul_le_mul_of_nonneg_right (hfg e (by simp)) (hn.area_nonneg hfx)
      linarith

theorem expandedArea_nonneg (l : List Cell) (es : List Rat) (hn : NonnegSizes l) (he : ∀ e ∈ es, 0 ≤ e) :
    0 ≤ expandedArea l es := by
  -- `E ≤ 2·E`, from `e ≤ 2·e`
  have := expandedArea_map_le 2 id id l es hn (fun e h => show e ≤ 2 * e by linarith [he e h])
  rw [List.map_id] at this
  linarith

end Expand
end ColoVerif
