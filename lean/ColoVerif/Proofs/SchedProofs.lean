import ColoVerif.Model.Sched
/-
For C08: two threads that can both move commute (`stepCore_diamond`: their steps do not conflict, and neither
disables the other), so a step that can be taken now can be taken first (`runCore_move_front`) and all complete
linearisations of a protocol that passes the decidable check `diamondOn` end in the same state
(`complete_runs_agree`), for every value domain.  The check looks at program counters only.
-/
namespace ColoVerif.Sched
open ColoVerif.Gen.Async

section apply
variable {V : Type} [Inhabited V] (f : Step → Loc → List V → V) (locs : List Loc)

theorem applyStep_length (A : Access) (s : Step) (st : List V) (h : st.length = locs.length) :
    (applyStep f locs A s st).length = locs.length := by
  simp [applyStep, h]

theorem rd_applyStep (A : Access) (s : Step) (st : List V) (h : st.length = locs.length) (l : Loc)
    (hw : l ∉ A.writes) : rd locs (applyStep f locs A s st) l = rd locs st l := by
  unfold rd applyStep
  simp only [List.getD_eq_getElem?_getD, List.getElem?_map]
  by_cases hl : l ∈ locs
  · have hi : locs.idxOf l < locs.length := List.idxOf_lt_length_of_mem hl
    have hi' : locs.idxOf l < st.length := h ▸ hi
    have hz : (locs.zip st)[locs.idxOf l]? = some (l, st[locs.idxOf l]) := by
      rw [List.getElem?_zip_eq_some]
      exact ⟨by rw [List.getElem?_eq_getElem hi, List.getElem_idxOf hi], List.getElem?_eq_getElem hi'⟩
    rw [hz, List.getElem?_eq_getElem hi']
    simp [hw]
  · rw [List.idxOf_eq_length hl, List.getElem?_eq_none (by simp [h]), List.getElem?_eq_none (by omega)]
    rfl

theorem map_rd_applyStep (A : Access) (s : Step) (st : List V) (h : st.length = locs.length) (rs : List Loc)
    (hd : ∀ r ∈ rs, r ∉ A.writes) : rs.map (rd locs (applyStep f locs A s st)) = rs.map (rd locs st) :=
  List.map_congr_left fun r hr => rd_applyStep f locs A s st h r (hd r hr)

theorem getElem_applyStep (A : Access) (s : Step) (st : List V) (i : Nat) (h1 : i < (applyStep f locs A s st).length)
    (h2 : i < locs.length) (h3 : i < st.length) :
    (applyStep f locs A s st)[i] = if locs[i] ∈ A.writes then f s locs[i] (A.reads.map (rd locs st)) else st[i] := by
  simp [applyStep]

theorem applyStep_comm (A B : Access) (s t : Step) (st : List V) (h : st.length = locs.length)
    (hc : conflict A B = false) :
    applyStep f locs B t (applyStep f locs A s st) = applyStep f locs A s (applyStep f locs B t st) := by
  simp only [conflict, Bool.or_eq_false_iff, List.any_eq_false, Bool.or_eq_true, not_or, Bool.not_eq_true,
    List.contains_eq_mem, decide_eq_false_iff_not] at hc
  obtain ⟨hA, hB⟩ := hc
  have lA := applyStep_length f locs A s st h
  have lB := applyStep_length f locs B t st h
  apply List.ext_getElem
  · rw [applyStep_length f locs B t _ lA, applyStep_length f locs A s _ lB]
  · intro i h1 h2
    have hi : i < locs.length := by rwa [applyStep_length f locs B t _ lA] at h1
    rw [getElem_applyStep f locs B t _ i h1 hi (by omega), getElem_applyStep f locs A s _ i h2 hi (by omega),
      getElem_applyStep f locs A s st i (by omega) hi (by omega), getElem_applyStep f locs B t st i (by omega) hi (by omega),
      map_rd_applyStep f locs A s st h B.reads fun r hr hw => (hA r hw).2 hr,
      map_rd_applyStep f locs B t st h A.reads fun r hr hw => hB r hw hr]
    by_cases ha : locs[i] ∈ A.writes
    · simp [ha, (hA _ ha).1]
    · simp [ha]

end apply

def prog (F : Facts) : Tid → List Step
  | .main => mainProg F
  | .task t => taskProg t

def Pcs.of (p : Pcs) : Tid → Nat
  | .main => p.m
  | .task t => p.task t

def Pcs.adv (p : Pcs) : Tid → Pcs
  | .main => { p with m := p.m + 1 }
  | .task t => p.bump t

/-- what a thread waits for: a task for its launch, `get t` for the end of task `t` -/
def ready (F : Facts) (p : Pcs) : Tid → Step → Bool
  | .main, s => joinOk p s
  | .task t, _ => launched F p t

section pcs
variable (F : Facts) (p : Pcs)

theorem nextStep_iff (a : Tid) (sa : Step × Pcs) : nextStep F p a = some sa ↔
    (prog F a)[p.of a]? = some sa.1 ∧ ready F p a sa.1 = true ∧ p.adv a = sa.2 := by
  obtain ⟨s, q⟩ := sa
  cases a with
  | main =>
    simp only [nextStep, prog, Pcs.of, ready, Pcs.adv]
    cases (mainProg F)[p.m]? with
    | none => simp
    | some s' =>
      by_cases hj : joinOk p s' = true
      · simp only [hj, if_true, Option.some.injEq, Prod.mk.injEq]
        exact ⟨fun ⟨h1, h2⟩ => ⟨h1, h1 ▸ hj, h2⟩, fun ⟨h1, _, h2⟩ => ⟨h1, h2⟩⟩
      · simp only [hj, if_false, Option.some.injEq, reduceCtorEq, false_iff]
        rintro ⟨rfl, h, _⟩; exact hj h
  | task u =>
    simp only [nextStep, prog, Pcs.of, ready, Pcs.adv]
    by_cases hl : launched F p u = true <;> cases (taskProg u)[p.task u]? <;>
      simp only [hl, if_true, if_false, Option.some.injEq, Prod.mk.injEq, reduceCtorEq, false_and, and_false, true_and]

theorem of_adv_ne {a b : Tid} (h : a ≠ b) : (p.adv a).of b = p.of b := by
  rcases a with _ | _ | _ <;> rcases b with _ | _ | _ <;> first | rfl | exact absurd rfl h

theorem adv_comm (a b : Tid) : (p.adv a).adv b = (p.adv b).adv a := by
  rcases a with _ | _ | _ <;> rcases b with _ | _ | _ <;> rfl

/-- a thread that can move can still move after another one has (a `get u` that can be taken means that task `u`
has finished, so `u` is not the task that moved) -/
theorem ready_adv {a b : Tid} (h : a ≠ b) {s s' : Step} (ha : (prog F a)[p.of a]? = some s') (hb : ready F p b s = true) :
    ready F (p.adv a) b s = true := by
  cases b with
  | main =>
    cases a with
    | main => exact absurd rfl h
    | task u =>
      cases s with
      | get v =>
        simp only [ready, joinOk, Pcs.adv] at hb ⊢
        by_cases hv : v = u
        · subst hv
          simp only [prog, Pcs.of, show p.task v = 2 by simpa using hb] at ha
          cases v <;> simp [taskProg] at ha
        · rw [show (p.bump u).task v = p.task v from of_adv_ne p fun e => hv (Tid.task.inj e).symm]
          exact hb
      | _ => rfl
  | task v =>
    cases a with
    | main =>
      simp only [ready, launched, Pcs.adv, List.contains_iff_mem] at hb ⊢
      rw [List.take_add_one]
      exact List.mem_append_left _ hb
    | task u => cases u <;> exact hb

theorem nextStep_diamond (a b : Tid) (hab : a ≠ b) (sa sb : Step × Pcs)
    (ha : nextStep F p a = some sa) (hb : nextStep F p b = some sb) :
    ∃ q, nextStep F sa.2 b = some (sb.1, q) ∧ nextStep F sb.2 a = some (sa.1, q) := by
  obtain ⟨pa, ra, ea⟩ := (nextStep_iff F p a sa).mp ha
  obtain ⟨pb, rb, eb⟩ := (nextStep_iff F p b sb).mp hb
  rw [← ea, ← eb]
  exact ⟨(p.adv a).adv b,
    (nextStep_iff F _ b _).mpr ⟨by rw [of_adv_ne p hab]; exact pb, ready_adv F p hab pa rb, rfl⟩,
    (nextStep_iff F _ a _).mpr ⟨by rw [of_adv_ne p (Ne.symm hab)]; exact pa, ready_adv F p (Ne.symm hab) pb ra, adv_comm p b a⟩⟩

theorem terminated_nextStep (h : terminated F p = true) (t : Tid) : nextStep F p t = none := by
  simp only [terminated, Bool.and_eq_true, beq_iff_eq] at h
  obtain ⟨⟨hm, hx⟩, hy⟩ := h
  cases t with
  | main => simp [nextStep, hm]
  | task u => cases u <;> simp [nextStep, Pcs.task, hx, hy, taskProg]

end pcs

/-- `R` is closed under steps, and wherever two threads can both move their steps do not conflict -/
def diamondOn (F : Facts) (R : List Pcs) : Bool :=
  R.all fun p => tids.all fun a => match nextStep F p a with
    | none => true
    | some sa => R.contains sa.2 && tids.all fun b => a == b || match nextStep F p b with
      | none => true
      | some sb => !conflict (access F sa.1) (access F sb.1)

theorem mem_tids (t : Tid) : t ∈ tids := by
  rcases t with _ | _ | _ <;> simp [tids]

theorem diamondOn_spec {F : Facts} {R : List Pcs} (h : diamondOn F R = true) {p : Pcs} (hp : p ∈ R) {a : Tid}
    {sa : Step × Pcs} (ha : nextStep F p a = some sa) :
    sa.2 ∈ R ∧ ∀ b sb, a ≠ b → nextStep F p b = some sb → conflict (access F sa.1) (access F sb.1) = false := by
  simp only [diamondOn, List.all_eq_true] at h
  have h1 := h p hp a (mem_tids a)
  rw [ha] at h1
  simp only [Bool.and_eq_true, List.contains_iff_mem, List.all_eq_true] at h1
  refine ⟨h1.1, fun b sb hab hb => ?_⟩
  have h2 := h1.2 b (mem_tids b)
  rw [hb] at h2
  simpa [hab] using h2

section core
variable {V : Type} [Inhabited V] (F : Facts) (f : Step → Loc → List V → V)

/-- `stepCfg` on a configuration without its trace (two linearisations never agree on the trace) -/
def stepCore (c : Pcs × List V) (t : Tid) : Option (Pcs × List V) :=
  (nextStep F c.1 t).map fun sp => (sp.2, applyStep f (allLocs F) (access F sp.1) sp.1 c.2)

def runCore : List Tid → Pcs × List V → Option (Pcs × List V)
  | [], c => some c
  | t :: ts, c => (stepCore F f c t).bind (runCore ts)

theorem runSched_core : ∀ (s : List Tid) (c : Cfg V),
    (runSched F f s c).map (fun c => (c.p, c.st)) = runCore F f s (c.p, c.st) := by
  intro s
  induction s with
  | nil => intro c; rfl
  | cons t ts ih =>
    intro c
    simp only [runSched, runCore, stepCfg, stepCore]
    cases nextStep F c.p t with
    | none => rfl
    | some sp => exact ih _

/-- the counters are in `R` and the state has one value per location -/
def Good (R : List Pcs) (c : Pcs × List V) : Prop := c.1 ∈ R ∧ c.2.length = (allLocs F).length

variable {F f} {R : List Pcs} (hR : diamondOn F R = true)
include hR

theorem stepCore_good {c ca : Pcs × List V} {a : Tid} (hc : Good F R c) (ha : stepCore F f c a = some ca) :
    Good F R ca := by
  unfold stepCore at ha
  cases hn : nextStep F c.1 a with
  | none => rw [hn] at ha; cases ha
  | some sa =>
    rw [hn] at ha
    cases ha
    exact ⟨(diamondOn_spec hR hc.1 hn).1, applyStep_length f _ _ _ _ hc.2⟩

theorem stepCore_diamond {c ca cb : Pcs × List V} {a b : Tid} (hc : Good F R c) (hab : a ≠ b)
    (ha : stepCore F f c a = some ca) (hb : stepCore F f c b = some cb) :
    ∃ d, stepCore F f ca b = some d ∧ stepCore F f cb a = some d := by
  unfold stepCore at ha hb
  cases hna : nextStep F c.1 a with
  | none => rw [hna] at ha; cases ha
  | some sa =>
    cases hnb : nextStep F c.1 b with
    | none => rw [hnb] at hb; cases hb
    | some sb =>
      rw [hna] at ha; rw [hnb] at hb
      cases ha; cases hb
      obtain ⟨q, h1, h2⟩ := nextStep_diamond F c.1 a b hab sa sb hna hnb
      refine ⟨(q, applyStep f (allLocs F) (access F sb.1) sb.1 (applyStep f (allLocs F) (access F sa.1) sa.1 c.2)), ?_, ?_⟩
      · simp only [stepCore, h1, Option.map_some]
      · simp only [stepCore, h2, Option.map_some]
        rw [applyStep_comm f _ _ _ _ _ _ hc.2 ((diamondOn_spec hR hc.1 hna).2 b sb hab hnb)]

/-- a step that can be taken now can be taken first: it commutes with every step of the other threads that a
complete schedule takes before it -/
theorem runCore_move_front : ∀ (s : List Tid) (c : Pcs × List V), Good F R c → ∀ (a : Tid) (ca d : Pcs × List V),
    stepCore F f c a = some ca → runCore F f s c = some d → terminated F d.1 = true →
    ∃ s', runCore F f s' ca = some d := by
  intro s
  induction s with
  | nil =>
    intro c _ a ca d ha hd ht
    cases hd
    unfold stepCore at ha
    rw [terminated_nextStep F _ ht a] at ha
    cases ha
  | cons b s ih =>
    intro c hc a ca d ha hd ht
    simp only [runCore] at hd
    cases hb : stepCore F f c b with
    | none => rw [hb] at hd; cases hd
    | some cb =>
      rw [hb] at hd
      by_cases hab : a = b
      · subst hab
        rw [ha] at hb
        cases hb
        exact ⟨s, hd⟩
      · obtain ⟨e, h1, h2⟩ := stepCore_diamond hR hc hab ha hb
        obtain ⟨s', hs'⟩ := ih cb (stepCore_good hR hc hb) a e d h2 hd ht
        exact ⟨b :: s', by simp only [runCore, h1]; exact hs'⟩

theorem runCore_confluent : ∀ (s1 s2 : List Tid) (c d1 d2 : Pcs × List V), Good F R c →
    runCore F f s1 c = some d1 → runCore F f s2 c = some d2 → terminated F d1.1 = true → terminated F d2.1 = true →
    d1 = d2 := by
  intro s1
  induction s1 with
  | nil =>
    intro s2 c d1 d2 _ h1 h2 t1 _
    cases h1
    cases s2 with
    | nil => cases h2; rfl
    | cons b s =>
      simp only [runCore, stepCore, terminated_nextStep F _ t1 b] at h2
      cases h2
  | cons a s1 ih =>
    intro s2 c d1 d2 hc h1 h2 t1 t2
    simp only [runCore] at h1
    cases ha : stepCore F f c a with
    | none => rw [ha] at h1; cases h1
    | some ca =>
      rw [ha] at h1
      obtain ⟨s', hs'⟩ := runCore_move_front hR s2 c hc a ca d2 ha h2 t2
      exact ih s' ca d1 d2 (stepCore_good hR hc ha) h1 hs' t1 t2

end core

/-- **Schedule independence for any protocol**: if `R` holds the initial program counters and passes `diamondOn`,
all complete linearisations end in the same state - for every value domain, every meaning of the steps, every
initial state. -/
theorem complete_runs_agree {V : Type} [Inhabited V] (F : Facts) (R : List Pcs) (h0 : ⟨0, 0, 0⟩ ∈ R)
    (hR : diamondOn F R = true) (f : Step → Loc → List V → V) (σ : Loc → V) (s1 s2 : List Tid) (c1 c2 : Cfg V)
    (h1 : runSched F f s1 (initCfg F σ) = some c1) (h2 : runSched F f s2 (initCfg F σ) = some c2)
    (t1 : terminated F c1.p = true) (t2 : terminated F c2.p = true) : c1.st = c2.st := by
  have e1 := runSched_core F f s1 (initCfg F σ)
  have e2 := runSched_core F f s2 (initCfg F σ)
  rw [h1] at e1; rw [h2] at e2
  exact congrArg Prod.snd (runCore_confluent hR s1 s2 _ _ _ ⟨h0, by simp [initCfg]⟩ e1.symm e2.symm t1 t2)

theorem explore_sound (F : Facts) : ∀ (n : Nat) (c c' : Cfg Val), c' ∈ explore F n c →
    ∃ s, runSched F symF s c = some c' := by
  intro n
  induction n with
  | zero => intro c c' h; simp only [explore, List.mem_singleton] at h; exact ⟨[], by rw [h]; rfl⟩
  | succ n ih =>
    intro c c' h
    simp only [explore, List.mem_cons, List.mem_flatMap] at h
    rcases h with rfl | ⟨t, _, h⟩
    · exact ⟨[], rfl⟩
    · cases hs : stepCfg F symF c t with
      | none => rw [hs] at h; cases h
      | some c1 =>
        rw [hs] at h
        obtain ⟨s, hr⟩ := ih c1 c' h
        exact ⟨t :: s, by simp only [runSched, hs, hr]⟩

/-- which schedules are enabled, and the program counters they lead to, do not depend on the values -/
theorem runSched_pcs {V W : Type} [Inhabited V] [Inhabited W] (F : Facts) (f : Step → Loc → List V → V)
    (g : Step → Loc → List W → W) : ∀ (s : List Tid) (c : Cfg V) (c' : Cfg W), c.p = c'.p →
    (runSched F f s c).map (·.p) = (runSched F g s c').map (·.p) := by
  intro s
  induction s with
  | nil => intro c c' h; simp [runSched, h]
  | cons t ts ih =>
    intro c c' h
    simp only [runSched, stepCfg, h]
    cases nextStep F c'.p t with
    | none => rfl
    | some sp => exact ih _ _ rfl

/-- if every complete linearisation of one step ends in the sequential schedule's state, consecutive steps, each under
its own schedule, end in the state of as many sequential steps -/
theorem lbSteps_canon {V : Type} [Inhabited V] {F : Facts} {f : Step → Loc → List V → V}
    (h : ∀ σ s c, runSched F f s (initCfg F σ) = some c → terminated F c.p = true → c.st = canonState F f σ) :
    ∀ (scheds : List (List Tid)) (σ τ : Loc → V), lbSteps F f scheds σ = some τ → τ = canonIter F f scheds.length σ
  | [], _, _, e => (Option.some.inj e).symm
  | s :: ss, σ, τ, e => by
    unfold lbSteps lbStep at e
    split at e
    · rename_i τ1 h1
      split at h1
      · split at h1
        · cases h1
          rw [h σ s _ ‹_› ‹_›] at e
          exact lbSteps_canon h ss _ τ e
        · cases h1
      · cases h1
    · cases e

section canon
variable {V : Type} [Inhabited V] (F : Facts)
  (hs : (runSched F symF (canonSched F) (symInit F)).map (fun c => terminated F c.p) = some true)
include hs

/-- if the sequential schedule is a complete linearisation on symbolic values, it is one for every value domain
(`runSched_pcs`) -/
theorem canonSched_complete (f : Step → Loc → List V → V) (σ : Loc → V) :
    ∃ c, runSched F f (canonSched F) (initCfg F σ) = some c ∧ terminated F c.p = true := by
  have e := congrArg (Option.map (terminated F)) (runSched_pcs F f symF (canonSched F) (initCfg F σ) (symInit F) rfl)
  rw [Option.map_map, Option.map_map] at e
  exact Option.map_eq_some_iff.mp (e.trans hs)

variable (R : List Pcs) (h0 : ⟨0, 0, 0⟩ ∈ R) (hR : diamondOn F R = true)
include h0 hR

theorem complete_run_canon (f : Step → Loc → List V → V) (σ : Loc → V) (s : List Tid) (c : Cfg V)
    (h : runSched F f s (initCfg F σ) = some c) (ht : terminated F c.p = true) : c.st = canonState F f σ := by
  obtain ⟨cc, hcc, htc⟩ := canonSched_complete F hs f σ
  rw [canonState, hcc]
  exact complete_runs_agree F R h0 hR f σ s _ c cc h hcc ht htc

theorem explored_runs_canon : ∀ c ∈ completeRuns F, c.st = canonSymState F := by
  intro c hc
  obtain ⟨hm, ht⟩ := List.mem_filter.mp hc
  obtain ⟨s, hr⟩ := explore_sound F _ _ _ hm
  rw [complete_run_canon F hs R h0 hR symF Val.init s c hr ht, canonSymState, canonState, symInit]
  -- the same `match` compiled twice: equal case by case only
  cases runSched F symF (canonSched F) (initCfg F Val.init) <;> rfl

end canon

/-- the program counters the exhaustive walk reaches (its states are not looked at) -/
def reachPcs (F : Facts) : List Pcs := ((explore F (totalSteps F) (symInit F)).map (·.p)).eraseDups

theorem facts_diamond : ⟨0, 0, 0⟩ ∈ reachPcs facts ∧ diamondOn facts (reachPcs facts) = true := by decide +kernel

end ColoVerif.Sched
