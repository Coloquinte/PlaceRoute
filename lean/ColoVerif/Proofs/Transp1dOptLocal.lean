import ColoVerif.Proofs.Transp1dOptBase
/-
Local ⇒ global for the dual certificate (C14).  `LocalCert` (neighbouring sinks, guarded by
`0 < ov i j`) implies `GlobCert` only for strictly increasing sink positions
(`localCert_glob_strict`: Monge property of `|u i - v j|` + monotone support `supp_mono`); when two
neighbouring sinks share a position, the nearer one hides the cheaper sink behind it
(`localCert_not_glob`).  `IvCert` / `ivCertOk` guard by `lo i < D (j+1)` ("source `i` starts before
sink `j` ends") and `D (j+1) < hi i` ("source `i` ends after sink `j+1` starts") instead; this
implies `GlobCert` with only `D` monotone (`ivCert_glob`) and accepts exactly the price vectors that
`GlobCert` accepts (`globCert_iv`).
-/
namespace ColoVerif.Transp1d

theorem locCertOk_iff (sv : Solver) (p : List Int) (be : List Int) :
    locCertOk sv p be = true ↔ LocalCert sv p (fun j => be.getD j 0) := by
  simp only [locCertOk, Bool.and_eq_true, allBelow_iff, decide_eq_true_eq, ovP_eq]
  constructor
  · rintro ⟨⟨h1, h2⟩, h3⟩
    exact ⟨h1, h2, fun i j hi hj => of_decide_eq_true (h3 i hi j (by omega)).1,
      fun i j hi hj => of_decide_eq_true (h3 i hi j (by omega)).2⟩
  · intro h
    exact ⟨⟨h.nn, h.sat⟩, fun i hi j hj =>
      ⟨decide_eq_true (h.right i j hi (by omega)), decide_eq_true (h.left i j hi (by omega))⟩⟩

theorem step_up_of_later (sv : Solver) (si : SortedInst sv) (be : Nat → Int) (k k' j : Nat)
    (hkk : k ≤ k') (hk' : k' < sv.u.length) (hj : j + 1 < sv.v.length)
    (h : cs sv k' j + be j ≤ cs sv k' (j + 1) + be (j + 1)) :
    cs sv k j + be j ≤ cs sv k (j + 1) + be (j + 1) := by
  have hm := cs_monge sv si k k' j (j + 1) hkk hk' (Nat.le_succ j) hj
  omega

theorem step_down_of_earlier (sv : Solver) (si : SortedInst sv) (be : Nat → Int) (k' k j : Nat)
    (hkk : k' ≤ k) (hk : k < sv.u.length) (hj : j + 1 < sv.v.length)
    (h : cs sv k' (j + 1) + be (j + 1) ≤ cs sv k' j + be j) :
    cs sv k (j + 1) + be (j + 1) ≤ cs sv k j + be j := by
  have hm := cs_monge sv si k' k j (j + 1) hkk hk (Nat.le_succ j) hj
  omega

theorem ov_nonneg (sv : Solver) (p : List Int) (i j : Nat) : 0 ≤ ov sv p i j :=
  Int.le_max_left 0 _

theorem supp_mono (sv : Solver) (p : List Int) (geo : Geo sv p) (k k' b j' : Nat)
    (hk : k < sv.u.length) (hj' : j' < sv.v.length) (hb : b < j')
    (h1 : 0 < ov sv p k b) (h2 : 0 < ov sv p k' j') : k ≤ k' := by
  apply Nat.le_of_not_lt
  intro hc
  have h3 := geo.ord k' k hc hk
  have h4 := geo.Dmono (b + 1) j' hb (Nat.le_of_lt hj')
  have h5 := ((ov_pos_iff sv p k b).mp h1).1
  have h6 := ((ov_pos_iff sv p k' j').mp h2).2.1
  omega

theorem fillP_zero (sv : Solver) (p : List Int) (j n : Nat)
    (h : ∀ i, i < n → ¬ 0 < ov sv p i j) : fillP sv p j n = 0 := by
  induction n with
  | zero => rfl
  | succ n ih =>
    have h1 := h n (Nat.lt_succ_self n)
    have h3 := ov_nonneg sv p n j
    rw [fillP, ovP_eq, ih fun i hi => h i (Nat.lt_succ_of_lt hi)]
    omega

theorem empty_price (sv : Solver) (p : List Int) (be : Nat → Int)
    (hnn : ∀ j, j < sv.v.length → 0 ≤ be j)
    (hsat : ∀ j, j < sv.v.length → 0 < be j →
      fillP sv p j sv.u.length = sv.D.getD (j + 1) 0 - sv.D.getD j 0)
    (hD : ∀ j, j < sv.v.length → sv.D.getD j 0 < sv.D.getD (j + 1) 0)
    (j : Nat) (hj : j < sv.v.length) (he : ∀ i, i < sv.u.length → ¬ 0 < ov sv p i j) :
    be j = 0 := by
  have h0 := hnn j hj
  apply Classical.byContradiction
  intro hne
  have h1 := hsat j hj (by omega)
  rw [fillP_zero sv p j _ he] at h1
  have h2 := hD j hj
  omega

section
variable (sv : Solver) (si : SortedInst sv) (p : List Int) (geo : Geo sv p)
  (be : Nat → Int) (h : LocalCert sv p be)
  (hD : ∀ j, j < sv.v.length → sv.D.getD j 0 < sv.D.getD (j + 1) 0)
  (hvs : ∀ j, j + 1 < sv.v.length → sv.v.getD j 0 < sv.v.getD (j + 1) 0)
include si geo h hD hvs

theorem right_step (k b : Nat) (hk : k < sv.u.length) (hov : 0 < ov sv p k b) :
    ∀ j, b ≤ j → j + 1 < sv.v.length → cs sv k j + be j ≤ cs sv k (j + 1) + be (j + 1) := by
  intro j hbj
  induction j, hbj using Nat.le_induction with
  | base => exact fun hj1 => h.right k b hk hj1 hov
  | succ j hbj ih =>
    intro hj2
    have hj1 : j + 1 < sv.v.length := Nat.lt_of_succ_lt hj2
    by_cases he : ∃ i, i < sv.u.length ∧ 0 < ov sv p i (j + 1)
    · -- a source that overlaps sink `j + 1` is a later one: its local condition carries over (Monge)
      obtain ⟨k', hk', hov'⟩ := he
      exact step_up_of_later sv si be k k' (j + 1)
        (supp_mono sv p geo k k' b (j + 1) hk hj1 (Nat.lt_succ_of_le hbj) hov hov') hk' hj2
        (h.right k' (j + 1) hk' hj2 hov')
    · -- an empty sink has price `0`, so by the step before it the bare cost went up from `j` to
      -- `j + 1`: then `u k ≤ v (j + 1)`, and the bare cost goes up again
      have hz := empty_price sv p be h.nn h.sat hD (j + 1) hj1 fun i hi h0 => he ⟨i, hi, h0⟩
      have ih := ih hj1
      have hn := h.nn j (Nat.lt_of_succ_lt hj1)
      rw [hz] at ih ⊢
      have hu : sv.u.getD k 0 ≤ sv.v.getD (j + 1) 0 :=
        iabs_right_of_le _ _ _ (hvs j hj1) (by unfold cs at ih; omega)
      exact Int.add_le_add (iabs_mono_right _ _ _ hu (Int.le_of_lt (hvs (j + 1) hj2)))
        (h.nn (j + 1 + 1) hj2)

/-- mirror image of `right_step` -/
theorem left_step (k b : Nat) (hk : k < sv.u.length) (hb : b < sv.v.length) (hov : 0 < ov sv p k b) :
    ∀ j, j < b → cs sv k (j + 1) + be (j + 1) ≤ cs sv k j + be j := by
  intro j hjb
  replace hjb : j + 1 ≤ b := hjb
  generalize hj' : j + 1 = j' at hjb
  induction hjb using Nat.decreasingInduction generalizing j with
  | self => subst hj'; exact h.left k j hk hb hov
  | of_succ j' hlt ih =>
    subst hj'
    have ih := ih (j + 1) rfl
    have hj2 : j + 1 + 1 < sv.v.length := Nat.lt_of_le_of_lt hlt hb
    have hj1 : j + 1 < sv.v.length := Nat.lt_of_succ_lt hj2
    by_cases he : ∃ i, i < sv.u.length ∧ 0 < ov sv p i (j + 1)
    · obtain ⟨k', hk', hov'⟩ := he
      exact step_down_of_earlier sv si be k' k j
        (supp_mono sv p geo k' k (j + 1) b hk' hb hlt hov' hov) hk hj1 (h.left k' j hk' hj1 hov')
    · have hz := empty_price sv p be h.nn h.sat hD (j + 1) hj1 fun i hi h0 => he ⟨i, hi, h0⟩
      have hn := h.nn (j + 1 + 1) hj2
      rw [hz] at ih ⊢
      have hu : sv.v.getD (j + 1) 0 ≤ sv.u.getD k 0 :=
        iabs_left_of_le _ _ _ (hvs (j + 1) hj2) (by unfold cs at ih; omega)
      exact Int.add_le_add (iabs_mono_left _ _ _ hu (Int.le_of_lt (hvs j hj1)))
        (h.nn j (Nat.lt_of_succ_lt hj1))

end

/-- without `hvs` (STRICTLY increasing sink positions) the statement is false: `localCert_not_glob` -/
theorem localCert_glob_strict (sv : Solver) (si : SortedInst sv) (p : List Int) (geo : Geo sv p)
    (be : Nat → Int) (h : LocalCert sv p be)
    (hD : ∀ j, j < sv.v.length → sv.D.getD j 0 < sv.D.getD (j + 1) 0)
    (hvs : ∀ j, j + 1 < sv.v.length → sv.v.getD j 0 < sv.v.getD (j + 1) 0) :
    GlobCert sv p be := by
  refine ⟨h.nn, h.sat, fun i j j' hi hj hj' hov => ?_⟩
  by_cases hjj : j ≤ j'
  · exact le_of_step_up (fun t => cs sv i t + be t) j j' hjj fun t h1 h2 =>
      right_step sv si p geo be h hD hvs i j hi hov t h1 (by omega)
  · exact le_of_step_down (fun t => cs sv i t + be t) j' j (by omega) fun t _ h2 =>
      left_step sv si p geo be h hD hvs i j hi hj hov t h2

/-- one source at position 0, sinks at positions 0, 1, 1, unit widths -/
def cexSv : Solver := mkSolver [0] [0, 1, 1] [1] [1, 1, 1]

/-- `localCert_glob_strict` without `hvs` is false: the source sits in the last sink (`p = [2]`), all
prices are 0; sink 1 (same position as sink 2) hides the free sink 0 from the local check. -/
theorem localCert_not_glob :
    SortedInst cexSv ∧ Geo cexSv [2] ∧
    (∀ j, j < cexSv.v.length → cexSv.D.getD j 0 < cexSv.D.getD (j + 1) 0) ∧
    LocalCert cexSv [2] (fun j => ([0, 0, 0] : List Int).getD j 0) ∧
    ¬ GlobCert cexSv [2] (fun j => ([0, 0, 0] : List Int).getD j 0) := by
  have wf : cexSv.WF := ⟨rfl, rfl, rfl, rfl⟩
  have hD : ∀ j, j < cexSv.v.length → cexSv.D.getD j 0 < cexSv.D.getD (j + 1) 0 := by decide
  refine ⟨⟨wf, by decide, by decide, by decide, by decide, rfl, rfl⟩, ⟨wf, rfl, by decide, ?_, ?_⟩, hD,
    (locCertOk_iff cexSv [2] [0, 0, 0]).mp (by decide), ?_⟩
  · intro i i' h1 h2
    exact absurd (Nat.lt_one_iff.mp h2) (Nat.ne_of_gt (Nat.zero_lt_of_lt h1))
  · exact step_mono _ _ hD
  · intro h
    have := h.opt 0 2 0 (by decide) (by decide) (by decide) (by decide)
    revert this
    decide

/-- `ivCertOk` (Model/Transp1dLocal.lean) as a Prop over price functions -/
structure IvCert (sv : Solver) (p : List Int) (be : Nat → Int) : Prop where
  nn : ∀ j, j < sv.v.length → 0 ≤ be j
  sat : ∀ j, j < sv.v.length → 0 < be j →
    fillP sv p j sv.u.length = sv.D.getD (j + 1) 0 - sv.D.getD j 0
  right : ∀ i j, i < sv.u.length → j + 1 < sv.v.length → lo sv p i < sv.D.getD (j + 1) 0 →
    cs sv i j + be j ≤ cs sv i (j + 1) + be (j + 1)
  left : ∀ i j, i < sv.u.length → j + 1 < sv.v.length → sv.D.getD (j + 1) 0 < hi sv p i →
    cs sv i (j + 1) + be (j + 1) ≤ cs sv i j + be j

theorem ivCertOk_iff (sv : Solver) (p : List Int) (be : List Int) :
    ivCertOk sv p be = true ↔ IvCert sv p (fun j => be.getD j 0) := by
  simp only [ivCertOk, Bool.and_eq_true, allBelow_iff, decide_eq_true_eq, loP_eq, hiP_eq]
  constructor
  · rintro ⟨⟨h1, h2⟩, h3⟩
    exact ⟨h1, h2, fun i j hi hj => of_decide_eq_true (h3 i hi j (by omega)).1,
      fun i j hi hj => of_decide_eq_true (h3 i hi j (by omega)).2⟩
  · intro h
    exact ⟨⟨h.nn, h.sat⟩, fun i hi j hj =>
      ⟨decide_eq_true (h.right i j hi (by omega)), decide_eq_true (h.left i j hi (by omega))⟩⟩

theorem ivCert_local (sv : Solver) (p : List Int) (be : Nat → Int) (h : IvCert sv p be) :
    LocalCert sv p be :=
  ⟨h.nn, h.sat,
    fun i j hi hj hov => h.right i j hi hj ((ov_pos_iff sv p i j).mp hov).1,
    fun i j hi hj hov => h.left i j hi hj ((ov_pos_iff sv p i (j + 1)).mp hov).2.1⟩

theorem ivCert_glob (sv : Solver) (p : List Int)
    (hDm : ∀ a b, a ≤ b → b ≤ sv.v.length → sv.D.getD a 0 ≤ sv.D.getD b 0)
    (be : Nat → Int) (h : IvCert sv p be) : GlobCert sv p be := by
  refine ⟨h.nn, h.sat, fun i j j' hi hj hj' hov => ?_⟩
  obtain ⟨hlo, hhi, _, _⟩ := (ov_pos_iff sv p i j).mp hov
  by_cases hjj : j ≤ j'
  · -- every sink from `j` on ends right of the start of source `i`
    exact le_of_step_up (fun t => cs sv i t + be t) j j' hjj fun t h1 h2 =>
      h.right i t hi (by omega)
        (Int.lt_of_lt_of_le hlo (hDm (j + 1) (t + 1) (Nat.succ_le_succ h1) (by omega)))
  · -- every sink up to `j` starts left of the end of source `i`
    exact le_of_step_down (fun t => cs sv i t + be t) j' j (by omega) fun t h1 h2 =>
      h.left i t hi (by omega) (Int.lt_of_le_of_lt (hDm (t + 1) j h2 (Nat.le_of_lt hj)) hhi)

/-- `ivCertOk` rejects nothing that `GlobCert` accepts -/
theorem globCert_iv (sv : Solver) (si : SortedInst sv) (p : List Int) (geo : Geo sv p)
    (be : Nat → Int) (h : GlobCert sv p be)
    (hD : ∀ j, j < sv.v.length → sv.D.getD j 0 < sv.D.getD (j + 1) 0)
    (hin : ∀ i, i < sv.u.length →
      sv.D.getD 0 0 ≤ lo sv p i ∧ hi sv p i ≤ sv.D.getD sv.v.length 0) :
    IvCert sv p be := by
  refine ⟨h.nn, h.sat, fun i j hi hj hlo => ?_, fun i j hi hj hhi => ?_⟩
  · -- a sink `b ≤ j` that source `i` overlaps
    have hj0 : j < sv.v.length := Nat.lt_of_succ_lt hj
    obtain ⟨hbm, hb1, hb2⟩ := sigR_spec sv geo.Dmono (lo sv p i) (hin i hi).1
      (Int.lt_of_lt_of_le hlo (geo.Dmono (j + 1) _ (Nat.le_of_lt hj) (Nat.le_refl _)))
    have hbj := Nat.le_of_lt_succ
      (sigR_lt_of_lt sv geo.Dmono _ (j + 1) (Nat.succ_pos j) (Nat.le_of_lt hj) hlo)
    generalize sigR sv (lo sv p i) = b at hbm hb1 hb2 hbj
    have hlh := geo.lohi i hi
    have hov : 0 < ov sv p i b :=
      (ov_pos_iff sv p i b).mpr ⟨hb2, Int.lt_of_le_of_lt hb1 hlh, hlh, hD b hbm⟩
    rcases Nat.lt_or_eq_of_le hbj with hlt | heq
    · by_cases he : ∃ k, k < sv.u.length ∧ 0 < ov sv p k j
      · obtain ⟨k, hk, hovk⟩ := he
        have hik := supp_mono sv p geo i k b j hi hj0 hlt hov hovk
        exact step_up_of_later sv si be i k j hik hk hj (h.opt k j (j + 1) hk hj0 hj hovk)
      · have hz := empty_price sv p be h.nn h.sat hD j hj0 fun k hk h0 => he ⟨k, hk, h0⟩
        -- sink `j` is free and costs source `i` no more than the dearer of `b` and `j + 1`
        rw [hz, Int.add_zero]
        exact Int.le_trans
          (cs_quasi sv si i b j (j + 1) hbj (Nat.le_succ j) hj)
          (Int.max_le.mpr
            ⟨Int.le_trans (Int.le_add_of_nonneg_right (h.nn b hbm)) (h.opt i b (j + 1) hi hbm hj hov),
              Int.le_add_of_nonneg_right (h.nn (j + 1) hj)⟩)
    · subst heq
      exact h.opt i b (b + 1) hi hbm hj hov
  · -- a sink `b ≥ j + 1` that source `i` overlaps
    have hj0 : j < sv.v.length := Nat.lt_of_succ_lt hj
    obtain ⟨hbm, hb1, hb2⟩ := sigL_spec sv geo.Dmono (Transp1d.hi sv p i)
      (Int.lt_of_le_of_lt (geo.Dmono 0 (j + 1) (Nat.zero_le _) (Nat.le_of_lt hj)) hhi) (hin i hi).2
    have hbj := le_sigL_of_lt sv geo.Dmono _ (j + 1) (Nat.le_of_lt hj) hhi
    generalize sigL sv (Transp1d.hi sv p i) = b at hbm hb1 hb2 hbj
    have hlh := geo.lohi i hi
    have hov : 0 < ov sv p i b :=
      (ov_pos_iff sv p i b).mpr ⟨Int.lt_of_lt_of_le hlh hb2, hb1, hlh, hD b hbm⟩
    rcases Nat.lt_or_eq_of_le hbj with hlt | heq
    · by_cases he : ∃ k, k < sv.u.length ∧ 0 < ov sv p k (j + 1)
      · obtain ⟨k, hk, hovk⟩ := he
        have hki := supp_mono sv p geo k i (j + 1) b hk hbm hlt hovk hov
        exact step_down_of_earlier sv si be k i j hki hi hj (h.opt k (j + 1) j hk hj hj0 hovk)
      · have hz := empty_price sv p be h.nn h.sat hD (j + 1) hj fun k hk h0 => he ⟨k, hk, h0⟩
        rw [hz, Int.add_zero]
        exact Int.le_trans
          (cs_quasi sv si i j (j + 1) b (Nat.le_succ j) hbj hbm)
          (Int.max_le.mpr
            ⟨Int.le_add_of_nonneg_right (h.nn j hj0),
              Int.le_trans (Int.le_add_of_nonneg_right (h.nn b hbm)) (h.opt i b j hi hbm hj0 hov)⟩)
    · subst heq
      exact h.opt i (j + 1) j hi hj hj0 hov

/-- on the tie instance the interval-guarded check rejects what the neighbours-only check accepted -/
example : locCertOk cexSv [2] [0, 0, 0] = true ∧ ivCertOk cexSv [2] [0, 0, 0] = false := by decide

/-- non-vacuity of `ivCert_glob`, `globCert_iv`: the source of `cexSv` in its own sink (`p = [0]`).  (Not of
`localCert_glob_strict`: the sinks of `cexSv` are not strictly increasing.) -/
example : ivCertOk cexSv [0] [0, 0, 0] = true ∧ locCertOk cexSv [0] [0, 0, 0] = true := by decide

end ColoVerif.Transp1d
