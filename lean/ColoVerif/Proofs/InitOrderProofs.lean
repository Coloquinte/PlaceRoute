import ColoVerif.Model.InitOrder
import ColoVerif.Gen.InitTable
/-
Soundness of the definite-initialisation walk of `Model/InitOrder.lean` with respect to a trace semantics of the
events: if the walk over an event list ends without an early read and without getting stuck, then in EVERY
execution of the list (any choice at every `alt`, any number of - possibly interrupted - runs of every `opaque`
block, calls expanded) every read of a member is preceded by a write of that member.  At the end: what the Boolean
`tableOk` accepts, and its evaluation on the generated table.
-/
namespace ColoVerif.InitOrder

/-- what an execution does to the members of the object -/
inductive Act where
  | r (m : Nat)
  | w (m : Nat)
deriving Repr, DecidableEq

/-- how the execution of a block ends: at its end, by `return`, or by throw / break / continue -/
inductive Out where
  | norm | retd | stopd
deriving Repr, DecidableEq

/-- `Exec fns evs t o`: the block `evs` can perform the trace `t` and end in the way `o`.
`opaque` blocks run zero or more times; a run that ends by `stop` (break / continue / a caught throw) or normally
may be followed by another run or by the rest of the enclosing block (this over-approximates loops, and a throw
that really propagates further produces a prefix of one of these traces). -/
inductive Exec (fns : List Fn) : List Ev → List Act → Out → Prop where
  | nil : Exec fns [] [] .norm
  | read {m rest t o} : Exec fns rest t o → Exec fns (.read m :: rest) (.r m :: t) o
  | write {m rest t o} : Exec fns rest t o → Exec fns (.write m :: rest) (.w m :: t) o
  | ret {rest} : Exec fns (.ret :: rest) [] .retd
  | stop {rest} : Exec fns (.stop :: rest) [] .stopd
  | callDone {f fn rest t1 o1 t2 o} : nth fns f = some fn → Exec fns fn.events t1 o1 → o1 ≠ .stopd →
      Exec fns rest t2 o → Exec fns (.call f :: rest) (t1 ++ t2) o
  | callStop {f fn rest t1} : nth fns f = some fn → Exec fns fn.events t1 .stopd →
      Exec fns (.call f :: rest) t1 .stopd
  | altL {a b rest t1 t2 o} : Exec fns a t1 .norm → Exec fns rest t2 o → Exec fns (.alt a b :: rest) (t1 ++ t2) o
  | altLExit {a b rest t1 o1} : Exec fns a t1 o1 → o1 ≠ .norm → Exec fns (.alt a b :: rest) t1 o1
  | altR {a b rest t1 t2 o} : Exec fns b t1 .norm → Exec fns rest t2 o → Exec fns (.alt a b :: rest) (t1 ++ t2) o
  | altRExit {a b rest t1 o1} : Exec fns b t1 o1 → o1 ≠ .norm → Exec fns (.alt a b :: rest) t1 o1
  | opaqueDone {body rest t o} : Exec fns rest t o → Exec fns (.opaque body :: rest) t o
  | opaqueIter {body rest t1 o1 t2 o} : Exec fns body t1 o1 → o1 ≠ .retd →
      Exec fns (.opaque body :: rest) t2 o → Exec fns (.opaque body :: rest) (t1 ++ t2) o
  | opaqueRet {body rest t1} : Exec fns body t1 .retd → Exec fns (.opaque body :: rest) t1 .retd

/-- members written so far, after the trace `t` -/
def after : List Nat → List Act → List Nat
  | W, [] => W
  | W, .r _ :: t => after W t
  | W, .w m :: t => after (m :: W) t

/-- every read in `t` is of a member written before (in `W` or earlier in `t`) -/
def good : List Nat → List Act → Prop
  | _, [] => True
  | W, .r m :: t => m ∈ W ∧ good W t
  | W, .w m :: t => good (m :: W) t

theorem after_append (t1 t2 : List Act) : ∀ W, after W (t1 ++ t2) = after (after W t1) t2 := by
  induction t1 with
  | nil => intro W; rfl
  | cons a t ih => intro W; cases a <;> simp [after, ih]

theorem good_append (t1 t2 : List Act) : ∀ W, good W (t1 ++ t2) ↔ good W t1 ∧ good (after W t1) t2 := by
  induction t1 with
  | nil => intro W; simp [good, after]
  | cons a t ih => intro W; cases a <;> simp [good, after, ih, and_assoc]

theorem sub_after (t : List Act) : ∀ W, W ⊆ after W t := by
  induction t with
  | nil => exact fun W => List.Subset.refl W
  | cons a t ih =>
    intro W
    cases a with
    | r k => exact ih W
    | w k => exact fun m h => ih (k :: W) (List.mem_cons_of_mem _ h)

/-! The walk's sets are lists with their own membership test; below they are compared by `⊆`: the set `d` of the walk
is *covered* by the members `W` really written when `d ⊆ W`. -/

theorem mem_iff {m : Nat} : ∀ {l : List Nat}, mem m l = true ↔ m ∈ l
  | [] => by simp [mem]
  | x :: xs => by
    rw [List.mem_cons, ← mem_iff (l := xs)]
    simp only [mem, Bool.or_eq_true, beq_iff_eq]
    exact or_congr_left eq_comm

theorem inter_sub (a b : List Nat) : inter a b ⊆ a ∧ inter a b ⊆ b :=
  ⟨fun _ h => (List.mem_filter.mp h).1, fun _ h => mem_iff.mp (List.mem_filter.mp h).2⟩

/-- the walk's set `d` stands for a reached point and is covered by the members `W` really written -/
def Cov (W : List Nat) (d : DSet) : Prop := ∃ x, d = some x ∧ x ⊆ W

theorem Cov.meet_left {W : List Nat} {a : DSet} (h : Cov W a) (b : DSet) : Cov W (meet a b) := by
  obtain ⟨x, rfl, h⟩ := h
  cases b with
  | none => exact ⟨x, rfl, h⟩
  | some b => exact ⟨inter x b, rfl, (inter_sub x b).1.trans h⟩

theorem Cov.meet_right {W : List Nat} {b : DSet} (h : Cov W b) (a : DSet) : Cov W (meet a b) := by
  obtain ⟨x, rfl, h⟩ := h
  cases a with
  | none => exact ⟨x, rfl, h⟩
  | some a => exact ⟨inter a x, rfl, (inter_sub a x).2.trans h⟩

/-- no early read recorded and not stuck -/
def St.ok (s : St) : Prop := s.stuck = false ∧ s.bad = []

/-- a read after which the walk is still clean is of a member in the set, and changes nothing -/
theorem step1_read {s : St} {d : List Nat} {m : Nat} (h : (step1 s d (.read m)).ok) :
    mem m d = true ∧ step1 s d (.read m) = s := by
  simp only [step1] at h ⊢
  split at h
  · exact ⟨‹_›, if_pos ‹_›⟩
  · exact absurd h.2 (by simp)

theorem fuel_pos {fns : List Fn} {fuel : Nat} {e : Ev} {rest : List Ev} {s : St}
    (h : (run fns fuel (e :: rest) s).ok) : ∃ n, fuel = n + 1 := by
  cases fuel with
  | zero => exact absurd h.1 (by simp [run])
  | succ n => exact ⟨n, rfl⟩

theorem run_ok (fns : List Fn) (fuel : Nat) (evs : List Ev) (s : St) : (run fns fuel evs s).ok → s.ok := by
  fun_induction run fns fuel evs s with
  | case1 | case3 | case4 => exact id
  | case2 | case5 => exact fun h => absurd h.1 (by simp)
  | case6 fuel rest s d hc f fn hf r ih1 ih2 => exact fun h => ih1 (ih2 h)
  | case7 fuel rest s d hc a b ra rb ih1 ih2 ih3 => exact fun h => ih1 (ih2 (ih3 h))
  | case8 fuel rest s d hc body r ih1 ih2 => exact fun h => ih1 (ih2 h)
  | case9 fuel rest s d hc e _ _ _ ih =>
    intro h
    cases e with
    | read m => exact (step1_read (ih h)).2 ▸ ih h
    | _ => exact ih h

/-- `run_ok` in the form in which the walk hands `bad` and `stuck` of a sub-walk `r` on to the rest of the block -/
theorem run_ok_of {fns : List Fn} {fuel : Nat} {evs : List Ev} {c e : DSet} {r : St}
    (h : (run fns fuel evs ⟨c, e, r.bad, r.stuck⟩).ok) : r.ok := run_ok fns fuel evs ⟨c, e, r.bad, r.stuck⟩ h

theorem step1_exits {s : St} {d W : List Nat} {e : Ev} (h : Cov W s.exits) : Cov W (step1 s d e).exits := by
  cases e with
  | read m => simp only [step1]; split <;> exact h
  | ret => exact h.meet_left _
  | _ => exact h

/-- once a `ret` has contributed to `exits`, the set only shrinks -/
theorem run_exits (fns : List Fn) {W : List Nat} (fuel : Nat) (evs : List Ev) (s : St) :
    Cov W s.exits → Cov W (run fns fuel evs s).exits := by
  fun_induction run fns fuel evs s with
  | case1 | case2 | case3 | case4 | case5 => exact id
  | case6 fuel rest s d hc f fn hf r ih1 ih2 => exact ih2
  | case7 fuel rest s d hc a b ra rb ih1 ih2 ih3 => exact fun h => ih3 (h.meet_left _)
  | case8 fuel rest s d hc body r ih1 ih2 => exact fun h => ih2 (h.meet_left _)
  | case9 fuel rest s d hc e _ _ _ ih => exact fun h => ih (step1_exits h)

theorem run_nil (fns : List Fn) (fuel : Nat) (s : St) : run fns fuel [] s = s := by
  cases fuel <;> rfl

theorem run_none_exits (fns : List Fn) (fuel : Nat) (evs : List Ev) (s : St) (h : s.cur = none) :
    (run fns fuel evs s).exits = s.exits := by
  cases fuel <;> cases evs <;> simp [run, h]

theorem write_sub {d W : List Nat} (h : d ⊆ W) (m : Nat) : (if mem m d then d else m :: d) ⊆ m :: W := by
  split
  · exact fun k hk => List.mem_cons_of_mem _ (h hk)
  · exact List.cons_subset_cons m h

/-- the three things the walk guarantees about one execution -/
def Concl (W : List Nat) (t : List Act) (o : Out) (s' : St) : Prop :=
  good W t ∧ (o = .norm → Cov (after W t) s'.cur) ∧ (o = .retd → Cov (after W t) s'.exits)

theorem Concl.append {W t1 t2 o s'} (h1 : good W t1) (h2 : Concl (after W t1) t2 o s') : Concl W (t1 ++ t2) o s' := by
  unfold Concl
  rw [after_append, good_append]
  exact ⟨⟨h1, h2.1⟩, h2.2⟩

/-- **Soundness of the walk.**  If the walk over `evs` from a state whose set is covered by the members really
written so far (`W`) ends without early read and without getting stuck, then for every execution of `evs`:
every read is of a member written before; if the execution reaches the end of the block, the walk's final set
is covered by what has been written; if it ends in `return`, the walk's `exits` set is. -/
theorem exec_sound (fns : List Fn) {evs : List Ev} {t : List Act} {o : Out} (h : Exec fns evs t o) :
    ∀ (fuel : Nat) (s : St) (W : List Nat), Cov W s.cur → (run fns fuel evs s).ok →
      Concl W t o (run fns fuel evs s) := by
  induction h
  case nil =>
    intro fuel s W hcur _
    rw [run_nil]
    exact ⟨trivial, fun _ => hcur, nofun⟩
  case opaqueIter body rest t1 o1 t2 o _ _ _ ih1 ih2 =>
    intro fuel s W ⟨d, hc, hcov⟩ hok
    obtain ⟨fuel, rfl⟩ := fuel_pos hok
    have hok' := hok
    simp only [run, hc] at hok'
    have c1 := ih1 fuel _ W ⟨d, rfl, hcov⟩ (run_ok_of hok')
    exact Concl.append c1.1 (ih2 (fuel + 1) s _ ⟨d, hc, hcov.trans (sub_after t1 W)⟩ hok)
  all_goals
    intro fuel s W ⟨d, hc, hcov⟩ hok
    obtain ⟨fuel, rfl⟩ := fuel_pos hok
    simp only [run, hc] at hok ⊢
    -- a sub-block (callee, branch, loop body) is walked from the current set
    have sub : Cov W (some d) := ⟨d, rfl, hcov⟩
  case read m rest t o _ ih =>
    obtain ⟨hm, hs⟩ := step1_read (run_ok _ _ _ _ hok)
    rw [hs] at hok ⊢
    have := ih fuel s W ⟨d, hc, hcov⟩ hok
    exact ⟨⟨hcov (mem_iff.mp hm), this.1⟩, this.2⟩
  case write m rest t o _ ih => exact ih fuel _ (m :: W) ⟨_, rfl, write_sub hcov m⟩ hok
  case ret rest =>
    refine ⟨trivial, nofun, fun _ => ?_⟩
    rw [run_none_exits _ _ _ _ rfl]
    exact sub.meet_right _
  case stop rest => exact ⟨trivial, nofun, nofun⟩
  case callDone f fn rest t1 o1 t2 o hf _ hne _ ih1 ih2 =>
    simp only [hf] at hok ⊢
    have c1 := ih1 fuel _ W sub (run_ok_of hok)
    -- the walk goes on from the meet of the callee's final set and its `exits`: one of them is covered
    refine Concl.append c1.1 (ih2 fuel _ _ ?_ hok)
    cases o1 with
    | norm => exact (c1.2.1 rfl).meet_left _
    | retd => exact (c1.2.2 rfl).meet_right _
    | stopd => exact absurd rfl hne
  case callStop f fn rest t1 hf _ ih1 =>
    simp only [hf] at hok
    exact ⟨(ih1 fuel _ W sub (run_ok_of hok)).1, nofun, nofun⟩
  case altL a b rest t1 t2 o _ _ ih1 ih2 =>
    have c1 := ih1 fuel _ W sub (run_ok_of (run_ok_of hok))
    exact Concl.append c1.1 (ih2 fuel _ _ ((c1.2.1 rfl).meet_left _) hok)
  case altLExit a b rest t1 o1 _ hne ih1 =>
    have c1 := ih1 fuel _ W sub (run_ok_of (run_ok_of hok))
    exact ⟨c1.1, fun ho => absurd ho hne, fun ho => run_exits fns fuel rest _ (((c1.2.2 ho).meet_left _).meet_right _)⟩
  case altR a b rest t1 t2 o _ _ ih1 ih2 =>
    have c1 := ih1 fuel _ W sub (run_ok_of hok)
    exact Concl.append c1.1 (ih2 fuel _ _ ((c1.2.1 rfl).meet_right _) hok)
  case altRExit a b rest t1 o1 _ hne ih1 =>
    have c1 := ih1 fuel _ W sub (run_ok_of hok)
    exact ⟨c1.1, fun ho => absurd ho hne, fun ho => run_exits fns fuel rest _ (((c1.2.2 ho).meet_right _).meet_right _)⟩
  case opaqueDone body rest t o _ ih => exact ih fuel _ W sub hok
  case opaqueRet body rest t1 _ ih1 =>
    have c1 := ih1 fuel _ W sub (run_ok_of hok)
    exact ⟨c1.1, nofun, fun _ => run_exits fns fuel rest _ ((c1.2.2 rfl).meet_right _)⟩

theorem ok_of_clean {s : St} (h : clean s = true) : s.ok := by
  simp only [clean, Bool.and_eq_true, List.isEmpty_iff, Bool.not_eq_true'] at h
  exact ⟨h.2, h.1⟩

theorem walk_sound (t : Table) (evs : List Ev) (h : clean (walk t evs) = true) :
    ∀ tr o, Exec t.fns evs tr o → good [] tr :=
  fun _ _ hex => (exec_sound t.fns hex fuel0 start [] ⟨[], rfl, List.nil_subset _⟩ (ok_of_clean h)).1

/-- a member the walk reports as definitely written by function `f` is written in every execution of `f` that
returns (normally or by `return`), and `f` reads no member of the object before writing it -/
theorem definitelyWrites_sound (t : Table) (f m : Nat) (h : definitelyWrites t f m = true) :
    ∀ tr, Exec t.fns [.call f] tr .norm → m ∈ after [] tr ∧ good [] tr := by
  intro tr hex
  simp only [definitelyWrites, afterFn, Bool.and_eq_true] at h
  have c := exec_sound t.fns hex fuel0 start [] ⟨[], rfl, List.nil_subset _⟩ (ok_of_clean h.1)
  obtain ⟨d', hd', hcov⟩ := c.2.1 rfl
  have h2 := h.2
  simp only [walk] at h2
  rw [hd'] at h2
  exact ⟨hcov (mem_iff.mp h2), c.1⟩

/-- What `tableOk` accepts: a well-formed table whose `ctorInit` column is the walk's verdict, in which a member is
initialised by every constructor or else every construction site of its class is a listed lifecycle, and whose
lifecycles the walk passes. -/
theorem tableOk_spec {t : Table} (h : tableOk t = true) :
    tableWf t = true ∧
    (∀ c ∈ t.classes, ∀ v ∈ c.members, v.ctorInit = ctorVerdict t c.ctors v.id) ∧
    (∀ c ∈ t.classes, ∀ v ∈ c.members, ctorVerdict t c.ctors v.id = true ∨
      (weak c = true ∧ (t.lifecycles.filter (fun l => l.cls == c.name)).length = c.sites)) ∧
    (∀ l ∈ t.lifecycles, (walk t l.events).bad = [] ∧ (walk t l.events).stuck = false) := by
  simp only [tableOk, Bool.and_eq_true, List.all_eq_true, classVerdictsOk, beq_iff_eq, lifecycleOk, clean,
    List.isEmpty_iff, Bool.not_eq_true'] at h
  obtain ⟨⟨hwf, hv⟩, hl⟩ := h
  refine ⟨hwf, hv, fun c hc v hm => ?_, hl⟩
  simp only [tableWf, Bool.and_eq_true, List.all_eq_true, Bool.or_eq_true, Bool.not_eq_true', beq_iff_eq] at hwf
  rw [← hv c hc v hm]
  cases hci : v.ctorInit with
  | true => exact Or.inl rfl
  | false =>
    have hw : weak c = true := List.any_eq_true.mpr ⟨v, hm, by simp [hci]⟩
    exact Or.inr ⟨hw, (hwf.1.1.2 c hc).resolve_left (by simp [hw])⟩

theorem tableOk_exec {t : Table} (h : tableOk t = true) :
    ∀ l ∈ t.lifecycles, ∀ tr o, Exec t.fns l.events tr o → good [] tr := fun l hl =>
  walk_sound t l.events (by simp [clean, (tableOk_spec h).2.2.2 l hl])

theorem tableOk_ctor {t : Table} (h : tableOk t = true) : ∀ c ∈ t.classes, ∀ v ∈ c.members, v.ctorInit = true →
    ∀ f ∈ c.ctors, ∀ tr, Exec t.fns [.call f] tr .norm → v.id ∈ after [] tr ∧ good [] tr := by
  intro c hc v hv hci f hf
  have h1 := (tableOk_spec h).2.1 c hc v hv
  simp only [hci, ctorVerdict, Bool.true_eq, Bool.and_eq_true, List.all_eq_true] at h1
  exact definitelyWrites_sound t f v.id (h1.2 f hf)

/-- the one evaluation over the generated table (`Gen/InitTable.lean`); `tableOk_spec` says what it means -/
theorem table_ok : tableOk Gen.InitTable.table = true := by decide +kernel

end ColoVerif.InitOrder
