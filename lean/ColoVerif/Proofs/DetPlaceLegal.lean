import ColoVerif.Proofs.DetPlaceInitOk
import ColoVerif.Proofs.DetPlaceFrame
/-
Legality read off the invariant (C02 `inv_legal`, `links_wf`).  On `Inv` alone, the neighbour-wise order of `LinkOk`
is transitive along the links: every placed cell is reached from its row's first cell by `next` links (`reach_first`,
by induction on `rank`, the number of cells of the row to its left), so `rowCells` lists exactly the cells of the
row, in order (`rowCells_spec`, `row_order`, `row_bounds`).  For a state of a circuit (`StateOf`) the exported circuit
is legal in C01's sense (`export_legal`), and every optimised cell stays placed along every history
(`Lg.run_allPlaced`).
-/
namespace ColoVerif.DetPlace
open State

inductive Reach (s : State) (c : Int) : Int → Prop
  | refl : Reach s c c
  | tail {d : Int} : Reach s c d → s.next d ≠ -1 → Reach s c (s.next d)

theorem Reach.order {s : State} (h : Inv s) {c d : Int} (hc : s.validCell c) (hp : s.row c ≠ -1)
    (r : Reach s c d) : s.validCell d ∧ s.row d = s.row c ∧ (d = c ∨ s.x c + s.width c ≤ s.x d) := by
  induction r with
  | refl => exact ⟨hc, rfl, Or.inl rfl⟩
  | @tail d r hn ih =>
    obtain ⟨vd, rd, od⟩ := ih
    have hpd : s.row d ≠ -1 := rd ▸ hp
    obtain ⟨vn, rn, xn, -⟩ := (h.link vd).ofNext hpd hn
    have wd := h.placed_width vd hpd
    refine ⟨vn, rn.trans rd, Or.inr ?_⟩
    rcases od with e | od
    · rw [← e]; exact xn
    · omega

theorem Reach.head_cases {s : State} {c d : Int} (r : Reach s c d) :
    d = c ∨ (s.next c ≠ -1 ∧ Reach s (s.next c) d) := by
  induction r with
  | refl => exact Or.inl rfl
  | tail r hn ih =>
    rcases ih with e | ⟨h1, h2⟩
    · right
      rw [e] at hn ⊢
      exact ⟨hn, Reach.refl⟩
    · exact Or.inr ⟨h1, Reach.tail h2 hn⟩

theorem Reach.total {s : State} {a c d : Int} (r1 : Reach s a c) (r2 : Reach s a d) :
    Reach s c d ∨ Reach s d c := by
  induction r1 with
  | refl => exact Or.inl r2
  | tail r1 hn ih =>
    rcases ih with h | h
    · rcases h.head_cases with e | ⟨_, h2⟩
      · right
        rw [e]
        exact Reach.tail Reach.refl hn
      · exact Or.inl h2
    · exact Or.inr (Reach.tail h hn)

def rank (s : State) (r v : Int) : Nat :=
  (List.range s.nCells).countP (fun d : Nat => decide (s.row (d : Int) = r ∧ s.x (d : Int) < v))

theorem rank_lt_of_between {s : State} {p v v' : Int} (vp : s.validCell p) (h1 : v ≤ s.x p) (h2 : s.x p < v') :
    rank s (s.row p) v < rank s (s.row p) v' := by
  unfold rank
  unfold validCell at vp
  have e : ((p.toNat : Nat) : Int) = p := by omega
  apply ListFacts.countP_lt (a := p.toNat)
  · intro a _ ha
    simp only [decide_eq_true_eq] at ha ⊢
    omega
  · rw [List.mem_range]; omega
  · simp only [decide_eq_true_eq, e, true_and]
    exact h2
  · simp only [decide_eq_false_iff_not, e]
    omega

theorem rank_lt {s : State} {p c : Int} (vp : s.validCell p) (hr : s.row p = s.row c) (hx : s.x p < s.x c) :
    rank s (s.row p) (s.x p) < rank s (s.row c) (s.x c) := by
  rw [← hr]
  exact rank_lt_of_between vp (Int.le_refl _) hx

theorem rank_lt_nCells {s : State} {d : Int} (vd : s.validCell d) : rank s (s.row d) (s.x d) < s.nCells :=
  Nat.lt_of_lt_of_le (rank_lt_of_between vd (Int.le_refl _) (Int.lt_succ _))
    (List.countP_le_length.trans (List.length_range).le)

/-- enough fuel to walk along `next` from `c` to the end of its row: the rank grows at every step -/
def walkFuel (s : State) (c : Int) : Nat := if c = -1 then 1 else s.nCells - rank s (s.row c) (s.x c) + 1

theorem walkFuel_pos (s : State) (c : Int) : 1 ≤ walkFuel s c := by
  unfold walkFuel
  split
  · exact Nat.le_refl 1
  · exact Nat.le_add_left 1 _

theorem walkFuel_le (s : State) (c : Int) : walkFuel s c ≤ s.nCells + 1 := by
  unfold walkFuel
  split
  · exact Nat.le_add_left 1 _
  · exact Nat.succ_le_succ (Nat.sub_le _ _)

theorem walkFuel_mono {s t : State} {c d : Int} (hc : c ≠ -1) (hd : d ≠ -1) (hn : t.nCells = s.nCells)
    (hr : rank s (s.row c) (s.x c) ≤ rank t (t.row d) (t.x d)) : walkFuel t d ≤ walkFuel s c := by
  unfold walkFuel
  rw [if_neg hc, if_neg hd, hn]
  exact Nat.succ_le_succ (Nat.sub_le_sub_left hr _)

theorem Inv.walkFuel_next {s : State} (h : Inv s) {c : Int} (vc : s.validCell c) (pc : s.row c ≠ -1) :
    walkFuel s (s.next c) < walkFuel s c := by
  have r1 := rank_lt_nCells (s := s) vc
  unfold walkFuel
  rw [if_neg (validCell_ne vc)]
  split
  · exact Nat.succ_lt_succ (Nat.sub_pos_of_lt r1)
  · rename_i hn
    obtain ⟨vn, rn, xn, -⟩ := (h.link vc).ofNext pc hn
    exact Nat.succ_lt_succ (Nat.sub_lt_sub_left r1 (rank_lt (s := s) vc rn.symm
      (Int.lt_of_lt_of_le (Int.lt_add_of_pos_right _ (h.placed_width vc pc)) xn)))

theorem reach_first_aux {s : State} (h : Inv s) (n : Nat) : ∀ c : Int, rank s (s.row c) (s.x c) < n →
    s.validCell c → s.row c ≠ -1 →
    s.validCell (s.rowFirst (s.row c)) ∧ Reach s (s.rowFirst (s.row c)) c := by
  induction n with
  | zero => intro _ hn; omega
  | succ n ih =>
    intro c hn vc hp
    by_cases hpr : s.pred c = -1
    · rw [((h.link vc).ofFirst hp hpr).1]
      exact ⟨vc, Reach.refl⟩
    · obtain ⟨vp, rp, xp, np⟩ := (h.link vc).ofPred hp hpr
      have hpp : s.row (s.pred c) ≠ -1 := rp ▸ hp
      have wp := h.placed_width vp hpp
      have hlt := rank_lt vp rp (by omega)
      obtain ⟨vf, rf⟩ := ih (s.pred c) (by omega) vp hpp
      rw [rp] at vf rf
      have := Reach.tail rf (by rw [np]; exact validCell_ne vc)
      rw [np] at this
      exact ⟨vf, this⟩

theorem reach_first {s : State} (h : Inv s) {c : Int} (vc : s.validCell c) (hp : s.row c ≠ -1) :
    s.validCell (s.rowFirst (s.row c)) ∧ Reach s (s.rowFirst (s.row c)) c :=
  reach_first_aux h _ c (Nat.lt_succ_self _) vc hp

theorem row_bounds {s : State} (h : Inv s) {c : Int} (vc : s.validCell c) (hp : s.row c ≠ -1) :
    s.rowMinX (s.row c) ≤ s.x c ∧ s.x c + s.width c ≤ s.rowMaxX (s.row c) := by
  obtain ⟨vf, rf⟩ := reach_first h vc hp
  obtain ⟨-, vl, rowf, predf, rowl, nextl⟩ := (h.rowok (h.placed_row vc hp)).2 (validCell_ne vf)
  have wc := h.placed_width vc hp
  have hpf : s.row (s.rowFirst (s.row c)) ≠ -1 := by rw [rowf]; exact hp
  have hpl : s.row (s.rowLast (s.row c)) ≠ -1 := by rw [rowl]; exact hp
  constructor
  · have b := ((h.link vf).ofFirst hpf predf).2
    rw [rowf] at b
    have wf := h.placed_width vf hpf
    rcases (rf.order h vf hpf).2.2 with e | e
    · have := congrArg s.x e
      omega
    · omega
  · have b := ((h.link vl).ofLast hpl nextl).2
    rw [rowl] at b
    have wl := h.placed_width vl hpl
    have rl := (reach_first h vl hpl).2
    rw [rowl] at rl
    rcases rf.total rl with r | r
    · rcases (r.order h vc hp).2.2 with e | e
      · have := congrArg s.x e
        have := congrArg s.width e
        omega
      · omega
    · rcases r.head_cases with e | ⟨e, -⟩
      · have := congrArg s.x e
        have := congrArg s.width e
        omega
      · exact absurd nextl e

theorem Reach.rank_le {s : State} (h : Inv s) {c d : Int} (hc : s.validCell c) (hp : s.row c ≠ -1)
    (r : Reach s c d) : rank s (s.row c) (s.x c) ≤ rank s (s.row d) (s.x d) := by
  obtain ⟨-, rd, e | e⟩ := r.order h hc hp
  · rw [e]
  · have wc := h.placed_width hc hp
    exact Nat.le_of_lt (rank_lt hc rd.symm (by omega))

/-- the walk of `rowCells` reaches `d` before its fuel runs out: the rank grows with every link -/
theorem mem_chain {s : State} (h : Inv s) (fuel : Nat) : ∀ c d : Int, s.validCell c → s.row c ≠ -1 → Reach s c d →
    rank s (s.row d) (s.x d) < rank s (s.row c) (s.x c) + fuel → d ∈ s.chain fuel c := by
  induction fuel with
  | zero => intro c d vc hp r hk; exact absurd (r.rank_le h vc hp) (by omega)
  | succ fuel ih =>
    intro c d vc hp r hk
    simp only [State.chain, validCell_ne vc, if_false]
    rcases r.head_cases with e | ⟨hn, r'⟩
    · rw [e]; exact List.mem_cons_self
    · obtain ⟨vn, rn, xn, -⟩ := (h.link vc).ofNext hp hn
      have wc := h.placed_width vc hp
      have := rank_lt vc rn.symm (by omega)
      exact List.mem_cons_of_mem _ (ih _ d vn (rn ▸ hp) r' (by omega))

theorem Reach.cons {s : State} {c d : Int} (hn : s.next c ≠ -1) (r : Reach s (s.next c) d) : Reach s c d := by
  induction r with
  | refl => exact Reach.tail Reach.refl hn
  | tail _ hn' ih => exact Reach.tail ih hn'

theorem chain_sound {s : State} (h : Inv s) (fuel : Nat) : ∀ c : Int, s.validCell c → s.row c ≠ -1 →
    (∀ d ∈ s.chain fuel c, Reach s c d) ∧ (s.chain fuel c).Pairwise (fun a b => s.x a + s.width a ≤ s.x b) := by
  induction fuel with
  | zero => intro c _ _; exact ⟨fun _ hd => absurd hd List.not_mem_nil, List.Pairwise.nil⟩
  | succ fuel ih =>
    intro c vc hp
    simp only [State.chain, validCell_ne vc, if_false]
    by_cases hn : s.next c = -1
    · rw [hn, chain_neg]
      exact ⟨fun d hd => List.mem_singleton.1 hd ▸ Reach.refl, List.pairwise_singleton _ _⟩
    · obtain ⟨vn, rn, xn, -⟩ := (h.link vc).ofNext hp hn
      have hpn : s.row (s.next c) ≠ -1 := rn ▸ hp
      obtain ⟨ih1, ih2⟩ := ih (s.next c) vn hpn
      refine ⟨fun d hd => ?_, List.pairwise_cons.mpr ⟨fun d hd => ?_, ih2⟩⟩
      · rcases List.mem_cons.mp hd with e | hd
        · rw [e]; exact Reach.refl
        · exact (ih1 d hd).cons hn
      · rcases ((ih1 d hd).order h vn hpn).2.2 with e | e
        · rw [e]; exact xn
        · have wn := h.placed_width vn hpn
          omega

/-- C02 `links_wf`: `rowCells r` (what `DetailedPlacement::rowCells` returns by following the `next` links from
`rowFirstCell_[r]`) contains precisely the valid cells whose `cellRow_` is `r`, in increasing x without overlap -/
theorem rowCells_spec {s : State} (h : Inv s) {r : Int} (hr : s.validRow r) :
    (∀ c, c ∈ s.rowCells r ↔ (s.validCell c ∧ s.row c = r)) ∧
    (s.rowCells r).Pairwise (fun a b => s.x a + s.width a ≤ s.x b) := by
  have R := h.rowok hr
  unfold RowOk at R
  unfold rowCells
  have hr1 : r ≠ -1 := by unfold validRow at hr; omega
  by_cases hf : s.rowFirst r = -1
  · rw [hf, chain_neg]
    refine ⟨fun c => ⟨fun hc => by simp at hc, fun ⟨vc, rc⟩ => ?_⟩, by simp⟩
    have := (reach_first h vc (by rw [rc]; exact hr1)).1
    rw [rc, hf] at this
    unfold validCell at this; omega
  · obtain ⟨vf, _, rowf, _, _, _⟩ := R.2 hf
    have hpf : s.row (s.rowFirst r) ≠ -1 := by rw [rowf]; exact hr1
    obtain ⟨snd, pw⟩ := chain_sound h (s.nCells + 1) (s.rowFirst r) vf hpf
    refine ⟨fun c => ⟨fun hc => ?_, fun ⟨vc, rc⟩ => ?_⟩, pw⟩
    · obtain ⟨v, rr, _⟩ := (snd c hc).order h vf hpf
      exact ⟨v, rr.trans rowf⟩
    · have rf := (reach_first h vc (by rw [rc]; exact hr1)).2
      rw [rc] at rf
      have := rank_lt_nCells vc
      exact mem_chain h _ _ _ vf hpf rf (by omega)

theorem row_order {s : State} (h : Inv s) {c d : Int} (vc : s.validCell c) (vd : s.validCell d)
    (hp : s.row c ≠ -1) (hr : s.row d = s.row c) (hne : c ≠ d) :
    s.x c + s.width c ≤ s.x d ∨ s.x d + s.width d ≤ s.x c := by
  obtain ⟨m, pw⟩ := rowCells_spec h (h.placed_row vc hp)
  exact ListFacts.pairwise_ne pw c ((m c).2 ⟨vc, rfl⟩) d ((m d).2 ⟨vd, hr⟩) hne

theorem Lg.Keep.turn {s t : State} (k : Lg.Keep s t) (hrows : ∀ r ∈ s.rows, r.orient.isTurn = false)
    (d : Int) (hpol : s.pol d ≠ Polarity.ANY → (s.orient d).isTurn = false) :
    (t.orient d).isTurn = (s.orient d).isTurn := by
  by_cases hp : s.pol d = Polarity.ANY
  · rw [k.any hp]
  rcases k.orient d with e | ⟨r, e1, -⟩
  · rw [e]
  · have hro : (s.rowOrient r).isTurn = false := by
      unfold rowOrient rowAt
      split
      · rfl
      · rw [List.getD_eq_getElem?_getD]
        cases hg : s.rows[r.toNat]? with
        | none => rfl
        | some q => exact hrows q (List.mem_of_getElem? hg)
    rw [hpol hp, e1]
    exact Legalize.cellOrientationInRow_unturned _ _ hro

/-- `s` is a state of the detailed placement of circuit `c` (row height `H`): rows and widths are
the constructor's, the cells that are not optimised sit where the circuit has them, and every cell has
the turn status it has in the circuit -/
structure StateOf (c : Circuit) (H : Int) (s : State) : Prop where
  rows : s.rows = sortRows (c.computeRows (ispdObstacles c H))
  nCells : s.nCells = c.cells.length
  width : ∀ (i : Nat) (cl : Cell), c.cells[i]? = some cl → s.width (i : Int) = ispdWidth H cl
  ign : ∀ (i : Nat) (cl : Cell), c.cells[i]? = some cl → ispdWidth H cl = -1 →
    s.x i = cl.x ∧ s.y i = cl.y ∧ s.orient i = cl.orient
  turn : ∀ (i : Nat) (cl : Cell), c.cells[i]? = some cl → (s.orient i).isTurn = cl.orient.isTurn

theorem stateOf_of_run {c : Circuit} (hd : Legalize.DomL c) {s0 s : State} (e0 : fromIspdCircuit c = .ok s0)
    {ops : List Op} (e : s0.run ops = .ok s) :
    ∃ H, Circuit.rowHeight c = some H ∧ StateOf c H s := by
  obtain ⟨H, hrh, hn, hrows, base⟩ := fromIspdCircuit_cell e0
  have k := run_static e
  refine ⟨H, hrh, k.rows.trans hrows, k.nCells.trans hn, fun i cl hg => ?_, fun i cl hg hw => ?_, fun i cl hg => ?_⟩
  · rw [k.width]
    exact (base i cl hg).1
  · obtain ⟨bw, bx, by', bo, -⟩ := base i cl hg
    obtain ⟨a1, a2, a3⟩ := k.ignored i (bw.trans hw)
    exact ⟨a1.trans bx, a2.trans by', a3.trans bo⟩
  · obtain ⟨bw, -, -, ho, hp⟩ := base i cl hg
    by_cases hw : ispdWidth H cl = -1
    · rw [(k.ignored i (bw.trans hw)).2.2, ho]
    · -- an optimised cell: the rows are unturned, and so is a polarised cell of C01's domain
      rw [← ho]
      refine k.turn (fun r hr => ?_) i fun hpol => ?_
      · rw [hrows, mem_sortRows] at hr
        exact (rowsOK_computeRows c hd (ispdObstacles c H)).unturned r hr
      · rw [ho]
        exact (hd.2.1 cl (List.mem_of_getElem? hg) (ispdWidth_live hw).1).2.2.2 (hp ▸ hpol)

theorem exportPlacement_computeRows (s : State) (c : Circuit) (extra : List Rect) :
    (exportPlacement s c).computeRows extra = c.computeRows extra := by
  have h := Circuit.obstacles_congr c (exportPlacement s c)
    (SameUpToIgnored.of_pointwise _ _ (export_length s c).symm (by
    intro i hi
    rw [List.getD_eq_getElem?_getD, List.getD_eq_getElem?_getD, export_get, List.getElem?_eq_getElem hi]
    simp only [Option.map_some, Option.getD_some]
    by_cases hf : (c.cells[i]).fixed = true
    · left; simp [newCell, hf]
    · right
      have hf' : (c.cells[i]).fixed = false := by simpa using hf
      simp [Cell.ignored, newCell_fixed, hf']))
  simp only [Circuit.computeRows, ← h]
  rfl

theorem computeRows_coarsen (c : Circuit) (extra : List Rect) (seg : Row) (h : seg ∈ c.computeRows extra) :
    ∃ r ∈ c.computeRows, Legalize.SubRow seg r := by
  unfold Circuit.computeRows at h ⊢
  obtain ⟨R, hR, hs⟩ := List.mem_flatMap.mp h
  obtain ⟨iv', hiv', rfl⟩ := (Row.mem_freespace R _ seg).mp hs
  obtain ⟨iv, hiv, a1, a2⟩ := Freespace.freeIntervals_coarsen R.rect extra c.obstacles iv' hiv'
  refine ⟨⟨⟨iv.1, iv.2, R.rect.minY, R.rect.maxY⟩, R.orient⟩, ?_, ⟨a1, a2, rfl, rfl, rfl⟩⟩
  exact List.mem_flatMap.mpr ⟨R, hR, (Row.mem_freespace R _ _).mpr ⟨iv, by simpa using hiv, rfl⟩⟩

theorem export_getElem (s : State) (c : Circuit) {i : Nat} (hi : i < (exportPlacement s c).cells.length) :
    ∃ cl, c.cells[i]? = some cl ∧ (exportPlacement s c).cells[i] = newCell s i cl := by
  have g := List.getElem?_eq_getElem hi
  rw [export_get] at g
  cases hg : c.cells[i]? with
  | none => rw [hg] at g; cases g
  | some cl => rw [hg] at g; exact ⟨cl, rfl, (Option.some.inj g).symm⟩

theorem newCell_xy (s : State) (i : Nat) {cl : Cell} (hf : cl.fixed = false) :
    (newCell s i cl).x = s.x i ∧ (newCell s i cl).y = s.y i := by
  unfold newCell; simp [hf]

theorem miss_of_contains {A a o : Rect} (hc : A.contains a = true) (h : A.intersects o = false) :
    a.intersects o = false := by
  simp only [Rect.contains, Bool.and_eq_true, decide_eq_true_eq, ge_iff_le] at hc
  exact Legalize.miss_of_inside a A o hc.1.1.1 hc.1.1.2 hc.1.2 hc.2 h

theorem rowsOK_sortRows {c : Circuit} (hd : Legalize.DomL c) {H : Int} (hrh : Circuit.rowHeight c = some H)
    (extra : List Rect) : Legalize.RowsOK H (sortRows (c.computeRows extra)) := by
  have hH0 : (Circuit.rowHeight c).getD 0 = H := by rw [hrh]; rfl
  exact (hH0 ▸ rowsOK_computeRows c hd extra : Legalize.RowsOK H _).perm (sortRows_perm _)

section
variable {c : Circuit} {H : Int} {s : State} (S : StateOf c H s) {i : Nat} {cl : Cell} (hg : c.cells[i]? = some cl)
include S hg

theorem cell_valid : s.validCell i :=
  ⟨Int.natCast_nonneg i, by rw [S.nCells]; exact Int.ofNat_lt.mpr (List.getElem?_eq_some_iff.mp hg).1⟩

theorem newCell_sizes :
    (newCell s i cl).placedWidth = cl.placedWidth ∧ (newCell s i cl).placedHeight = cl.placedHeight := by
  unfold newCell
  split
  · exact ⟨rfl, rfl⟩
  · simp only [Cell.placedWidth, Cell.placedHeight, S.turn i cl hg]
    exact ⟨trivial, trivial⟩

theorem newCell_multi (hf : cl.fixed = false) (hh : cl.placedHeight ≠ H) : newCell s i cl = cl := by
  obtain ⟨a1, a2, a3⟩ := S.ign i cl hg (ispdWidth_multi hh)
  unfold newCell
  rw [a1, a2, a3, if_neg (by simp [hf])]

theorem newCell_opt (hf : cl.fixed = false) (hh : cl.placedHeight = H) :
    (newCell s i cl).placement = ⟨s.x i, s.x i + cl.placedWidth, s.y i, s.y i + H⟩ := by
  obtain ⟨w1, w2⟩ := newCell_sizes S hg
  simp only [Cell.placement, w1, w2, (newCell_xy s i hf).1, (newCell_xy s i hf).2, hh]

end

section
variable {c : Circuit} (hd : Legalize.DomL c) {H : Int} (hrh : Circuit.rowHeight c = some H) {s : State}
  (S : StateOf c H s) (hI : Inv s) (hap : s.allPlaced = true)
include hd hrh S hI hap

/-- an optimised cell sits in the free segment of its row: in coordinates, and as rectangles -/
theorem opt_cell {i : Nat} {cl : Cell} (hg : c.cells[i]? = some cl) (hf : cl.fixed = false) (hh : cl.placedHeight = H) :
    ∃ (k : Nat) (seg : Row), (sortRows (c.computeRows (ispdObstacles c H)))[k]? = some seg ∧ s.row i = k ∧
      s.y i = seg.rect.minY ∧ seg.rect.minX ≤ s.x i ∧ s.x i + cl.placedWidth ≤ seg.rect.maxX ∧
      seg.rect.contains (newCell s i cl).placement = true := by
  have hw : s.width i = cl.placedWidth := by rw [S.width i cl hg, ispdWidth_opt hf hh]
  have hpw := (hd.2.1 cl (List.mem_of_getElem? hg) hf).1
  have vc := cell_valid S hg
  have hp : s.row i ≠ -1 := (Lg.allPlaced_iff s).1 hap i vc (by omega)
  obtain ⟨k, hk⟩ := Int.eq_ofNat_of_zero_le (hI.placed_row vc hp).1
  have hlen : k < (sortRows (c.computeRows (ispdObstacles c H))).length := by
    have := (hI.placed_row vc hp).2
    unfold nRows at this
    rw [S.rows] at this
    omega
  have hy := ((hI.cell vc).2 hp).2.2.2
  obtain ⟨b1, b2⟩ := row_bounds hI vc hp
  simp only [rowY, rowMinX, rowMaxX, hk, rowAt_nat, S.rows, List.getD_eq_getElem?_getD,
    List.getElem?_eq_getElem hlen, Option.getD_some, hw] at hy b1 b2
  refine ⟨k, _, List.getElem?_eq_getElem hlen, hk, hy, b1, b2, ?_⟩
  rw [newCell_opt S hg hf hh, Rect.contains, (rowsOK_sortRows hd hrh _).height _ (List.getElem_mem hlen), hy]
  simp only [Bool.and_eq_true, decide_eq_true_eq, ge_iff_le]
  exact ⟨⟨⟨b1, b2⟩, Int.le_refl _⟩, Int.le_refl _⟩

/-- an optimised cell misses every other movable cell: one of its row by the order along the links, one of another
row because the free segments are disjoint, one that is not one row high because it is among the obstacles the
segments were cut around -/
theorem opt_misses {i j : Nat} {a b : Cell} (hij : i ≠ j)
    (hgi : c.cells[i]? = some a) (hgj : c.cells[j]? = some b) (fa : a.fixed = false) (fb : b.fixed = false)
    (ha : a.placedHeight = H) :
    (newCell s i a).placement.intersects (newCell s j b).placement = false := by
  obtain ⟨ka, sa, hsa, ra, -, -, -, ina⟩ := opt_cell hd hrh S hI hap hgi fa ha
  by_cases hb : b.placedHeight = H
  · obtain ⟨kb, sb, hsb, rb, -, -, -, inb⟩ := opt_cell hd hrh S hI hap hgj fb hb
    by_cases hk : ka = kb
    · have := row_order hI (cell_valid S hgi) (cell_valid S hgj) (by rw [ra]; omega) (by rw [ra, rb, hk]) (by omega)
      rw [S.width i a hgi, S.width j b hgj, ispdWidth_opt fa ha, ispdWidth_opt fb hb] at this
      rw [newCell_opt S hgi fa ha, newCell_opt S hgj fb hb, Legalize.intersects_false_iff]
      simp only
      exact fun ⟨h1, h2, _, _⟩ => by omega
    · refine miss_of_contains ina ?_
      rw [Legalize.intersects_comm]
      refine miss_of_contains inb ?_
      rw [Legalize.intersects_comm]
      exact (rowsOK_sortRows hd hrh _).disj_idx ka kb sa sb hsa hsb hk
  · have hH0 : (Circuit.rowHeight c).getD 0 = H := by rw [hrh]; rfl
    have db := hd.2.1 b (List.mem_of_getElem? hgj) fb
    rw [newCell_multi S hgj fb hb]
    exact miss_of_contains ina ((Legalize.flatMap_freespace_seg (hH0 ▸ Legalize.rowsOK_rows c hd) _ sa
      ((mem_sortRows sa _).mp (List.mem_of_getElem? hsa))).2
      b.placement (List.mem_append_left _ (mem_ispdObstacles.mpr ⟨b, List.mem_of_getElem? hgj, fb, hb, rfl⟩))
      (by simp only [Cell.placement]; omega) (by simp only [Cell.placement]; omega))

theorem export_legal (hl : Legalize.LegalL c) : Legalize.LegalL (exportPlacement s c) := by
  constructor
  · -- every strip inside a free segment
    intro H' hH' cl' hcl' hfix k hk0 hlt
    obtain rfl : H = H' := Option.some.inj (hrh.symm.trans hH')
    rw [exportPlacement_computeRows s c []]
    obtain ⟨i, hi, rfl⟩ := List.mem_iff_getElem.mp hcl'
    obtain ⟨cl, hg, e⟩ := export_getElem s c hi
    rw [e] at hfix hlt ⊢
    have hf : cl.fixed = false := (newCell_fixed s i cl).symm.trans hfix
    obtain ⟨w1, w2⟩ := newCell_sizes S hg
    by_cases hh : cl.placedHeight = H
    · -- optimised: one strip
      obtain ⟨kk, seg, hseg, _, hy, b1, b2, -⟩ := opt_cell hd hrh S hI hap hg hf hh
      have hk : k = 0 := by
        rw [w2, hh] at hlt
        have hH : 0 < H := hh ▸ (hd.2.1 cl (List.mem_of_getElem? hg) hf).2.1
        have : k < 1 := Int.lt_of_mul_lt_mul_right (by rwa [Int.one_mul]) (Int.le_of_lt hH)
        omega
      obtain ⟨r, hr, sub⟩ := computeRows_coarsen c _ seg ((mem_sortRows seg _).mp (List.mem_of_getElem? hseg))
      refine ⟨r, hr, ?_⟩
      rw [(newCell_xy s i hf).1, (newCell_xy s i hf).2, w1, hk, Int.zero_mul, Int.add_zero]
      exact sub.contains hy.symm b1 b2
    · -- not optimised: where the circuit has it
      rw [newCell_multi S hg hf hh] at hlt ⊢
      exact hl.1 H hrh cl (List.mem_of_getElem? hg) hf k hk0 hlt
  · -- no two movable cells intersect
    rw [List.pairwise_filter, List.pairwise_iff_getElem]
    intro i j hi hj hij fi fj
    obtain ⟨a, hgi, ea⟩ := export_getElem s c hi
    obtain ⟨b, hgj, eb⟩ := export_getElem s c hj
    rw [ea] at fi ⊢
    rw [eb] at fj ⊢
    have fa : a.fixed = false := by rw [← newCell_fixed s i a]; simpa using fi
    have fb : b.fixed = false := by rw [← newCell_fixed s j b]; simpa using fj
    by_cases ha : a.placedHeight = H
    · exact opt_misses hd hrh S hI hap (Nat.ne_of_lt hij) hgi hgj fa fb ha
    · by_cases hb : b.placedHeight = H
      · rw [Legalize.intersects_comm]
        exact opt_misses hd hrh S hI hap (Nat.ne_of_gt hij) hgj hgi fb fa hb
      · rw [newCell_multi S hgi fa ha, newCell_multi S hgj fb hb]
        exact legal_disjoint c hl i j a b (Nat.ne_of_lt hij) hgi hgj fa fb

end

namespace Lg

theorem stays_respects : Respects₀ fun s t => ∀ d, s.row d ≠ -1 → t.row d ≠ -1 where
  refl _ _ h := h
  trans a b d h := b d (a d h)
  place {s _ _ r p _} _ _ hs e d hd := by
    rw [place_row e]
    split
    · exact validRow_ne ((siteOk_iff s r p).1 hs).1
    · exact hd
  insert {s _ _ r p} _ hs e d hd := by
    rw [insert_rows e]
    split
    · exact validRow_ne ((siteOk_iff s r p).1 hs).1
    · exact hd
  swap _ _ e d hd := by
    obtain ⟨r1, r2, -, hr⟩ := swap_rows e
    rw [hr]
    split
    · exact r2
    · split
      · exact r1
      · exact hd
  shift e d hd := by
    obtain ⟨f, rfl, -⟩ := shift_ok e
    exact hd

/-- the reorder write-back does take cells out, but a registered cell is placed by its final test and any other
one was not taken out -/
theorem stays_reorder {s t : State} {cells : List Int} {regions : List Region}
    (e : s.reorderWriteback cells regions = .ok t) (d : Int) (hs : s.row d ≠ -1) : t.row d ≠ -1 := by
  obtain ⟨u, eu, ev, hall⟩ := reorderWriteback_ok e
  by_cases hd : d ∈ cells
  · exact (isPlaced_iff t d).1 (List.all_eq_true.1 hall d hd)
  · exact stays_respects.placeRegions ev d (((unplaceAll_rows eu d).trans (if_neg hd)) ▸ hs)

theorem run_allPlaced {s t : State} (h : AllPlaced s) {ops : List Op} (e : s.run ops = .ok t) : AllPlaced t := by
  intro d vd hw
  have k := run_static e
  have vd' : s.validCell d := by unfold validCell at vd ⊢; rw [← k.nCells]; exact vd
  exact stays_respects.run stays_reorder e d (h d vd' (by rw [← k.width]; exact hw))

end Lg

end ColoVerif.DetPlace
