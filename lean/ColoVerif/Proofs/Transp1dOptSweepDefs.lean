import ColoVerif.Proofs.Transp1dOptKkt
import ColoVerif.Proofs.Transp1dTerm
/-
Invariants of the slope-events sweep (`Transportation1dSolver::push`) used by the optimality proof
(C14).  Notation: while source `i` is pushed, `L = lastPosition` is its tentative
position, `J = lastOccupiedSink`, `o = optimalSink`, `pRev = [p (i-1), …, p 0]` the recorded
positions of the earlier sources.  The current position of an earlier source `k` is
`min (p k) … (p (i-1)) L`, so the sources that move together with `i` when `L` decreases to `x`
are the maximal suffix `k..i-1` with `x ≤ p k'` for all `k ≤ k' < i`.
-/
namespace ColoVerif.Transp1d

/-- cumulated slope of the events at positions `≥ x` -/
def evS : List Event → Int → Int
  | [], _ => 0
  | e :: es, x => (if x ≤ e.1 then e.2 else 0) + evS es x

/-- marginal cost of pushing to the left, at position `x`, the sources that sit at `x` when the
last recorded source (head of `pRev`) is pushed to `x`: `Σ tL k x` over the maximal prefix of
`pRev` with `x ≤ p k` (source index of the head of a list = length of its tail) -/
def lamU (sv : Solver) : List Int → Int → Int
  | [], _ => 0
  | pk :: rest, x => if x ≤ pk then tL sv rest.length x + lamU sv rest x else 0

/-- the same to the right, truncated to the first `j` sources of the run -/
def lamRj (sv : Solver) : List Int → Int → Nat → Int
  | [], _, _ => 0
  | _ :: _, _, 0 => 0
  | pk :: rest, x, j + 1 => if x ≤ pk then tR sv rest.length x + lamRj sv rest x j else 0

/-- what is recorded about source `k = rest.length` once `push k` has returned with `p k = pk` -/
structure FactsTop (sv : Solver) (pk : Int) (rest : List Int) : Prop where
  f1 : ∀ x, 0 < x → x ≤ pk → 0 ≤ lamU sv (pk :: rest) x
  f2 : ∀ x, 0 < x → x ≤ pk → (∀ y, rest.head? = some y → y < x) →
    ∀ t, t < sigL sv (sv.S.getD rest.length 0 + x) →
      cs sv rest.length (sigL sv (sv.S.getD rest.length 0 + x)) ≤ cs sv rest.length t
  f3 : sv.S.getD (rest.length + 1) 0 + pk < sv.D.getD sv.v.length 0 →
    ∀ j, 0 ≤ lamRj sv (pk :: rest) pk j
  f4 : sv.S.getD (rest.length + 1) 0 + pk < sv.D.getD sv.v.length 0 →
    ∀ t, sigR sv (sv.S.getD (rest.length + 1) 0 + pk) < t → t < sv.v.length →
      cs sv rest.length (sigR sv (sv.S.getD (rest.length + 1) 0 + pk)) ≤ cs sv rest.length t
  nn : 0 ≤ pk
  fit : sv.S.getD (rest.length + 1) 0 + pk ≤ sv.D.getD sv.v.length 0

def Facts (sv : Solver) : List Int → Prop
  | [] => True
  | pk :: rest => FactsTop sv pk rest ∧ Facts sv rest

/-- the cumulated slope is non-increasing in the position on `(0, L]` and non-negative at `L` -/
structure MonoEv (ev : List Event) (L : Int) : Prop where
  mono : ∀ x x', 0 < x → x ≤ x' → x' ≤ L → evS ev x' ≤ evS ev x
  nn : 0 < L → 0 ≤ evS ev L

/-- `o` minimises `c k ·` for every source `k ≥ i` on its left, and `c i ·` is monotone on both
sides of `o` -/
structure OptOk (sv : Solver) (i o : Nat) : Prop where
  lt : o < sv.v.length
  left : ∀ k, i ≤ k → k < sv.u.length → ∀ t t', t ≤ t' → t' ≤ o → cs sv k t' ≤ cs sv k t
  right : ∀ t t', o ≤ t → t ≤ t' → t' < sv.v.length → cs sv i t ≤ cs sv i t'

/-- invariant of the `while` loop of `push i` (also at its entry and exit); `st.pRev.length = i` -/
structure LoopInv (sv : Solver) (i : Nat) (st : St) : Prop where
  len : st.pRev.length = i
  ilt : i < sv.u.length
  occ : st.lastOcc < sv.v.length
  pos : 0 ≤ st.lastPosition
  ei : EvInv st
  hJ : sv.D.getD st.lastOcc 0 - sv.S.getD (i + 1) 0 ≤ st.lastPosition
  hB : sv.S.getD i 0 + st.lastPosition ≤ sv.D.getD (st.lastOcc + 1) 0
  opt : OptOk sv i st.optSink
  oJ : st.optSink ≤ st.lastOcc
  iev : ∀ x, 0 < x → x ≤ st.lastPosition →
    evS st.events x = cs sv i (sigL sv (sv.S.getD i 0 + x)) - cs sv i st.lastOcc + lamU sv st.pRev x
  mono : MonoEv st.events st.lastPosition
  decU : ∀ t, st.optSink ≤ t → t ≤ st.lastOcc → ∀ x, 0 < x → x ≤ st.lastPosition →
    0 ≤ evS st.events x + cs sv i st.lastOcc - cs sv i t
  rinv : st.lastOcc + 1 < sv.v.length →
    sv.D.getD (st.lastOcc + 1) 0 ≤ sv.S.getD (i + 1) 0 + st.lastPosition →
    ∀ j, 0 ≤ cs sv i (st.lastOcc + 1) - cs sv i (sigR sv (sv.S.getD i 0 + st.lastPosition))
      + lamRj sv st.pRev st.lastPosition j
  rtop : sv.S.getD (i + 1) 0 + st.lastPosition < sv.D.getD (st.lastOcc + 1) 0 →
    ∀ j, 0 ≤ cs sv i st.lastOcc - cs sv i (sigR sv (sv.S.getD i 0 + st.lastPosition))
      + lamRj sv st.pRev st.lastPosition j
  lof : ∀ x, 0 < x → x ≤ st.lastPosition → (∀ y, st.pRev.head? = some y → y < x) →
    sv.S.getD i 0 + x ≤ sv.D.getD st.optSink 0
  facts : Facts sv st.pRev

/-- invariant of the sweep between two `push`es; the next source is `st.pRev.length` -/
structure SweepInv (sv : Solver) (st : St) : Prop where
  inv : Inv sv st
  ei : EvInv st
  hJ : sv.D.getD st.lastOcc 0 - sv.S.getD st.pRev.length 0 ≤ st.lastPosition
  fit : st.lastPosition ≤ sv.D.getD (st.lastOcc + 1) 0 - sv.S.getD st.pRev.length 0
  head : ∀ y, st.pRev.head? = some y → y = st.lastPosition
  init : st.pRev = [] → st.lastPosition = 0 ∧ st.events = [] ∧ st.optSink = 0
  /-- the events encode the marginal cost of pushing the last run to the left (top source
  `k = tail.length` counted up to sink `J`) -/
  iev : ∀ pk rest, st.pRev = pk :: rest → ∀ x, 0 < x → x ≤ st.lastPosition →
    evS st.events x = cs sv rest.length (sigL sv (sv.S.getD rest.length 0 + x))
      - cs sv rest.length st.lastOcc + lamU sv rest x
  mono : MonoEv st.events st.lastPosition
  /-- `optSink` is a left-minimiser of `c k ·` for all sources from the last pushed one on -/
  optL : ∀ k, st.pRev.length ≤ k + 1 → k < sv.u.length → ∀ t t', t ≤ t' → t' ≤ st.optSink →
    cs sv k t' ≤ cs sv k t
  facts : Facts sv st.pRev

/-- the instance handed to the solver: sorted, zero-free, prefix sums, supply ≤ demand -/
structure SwDom (sv : Solver) : Prop where
  dom : sv.Dom
  si : SortedInst sv
  spos : ∀ w ∈ sv.s, 0 < w
  dpos : ∀ w ∈ sv.d, 0 < w

/-- the condition of the `while` loop of `push i` -/
def Overflow (sv : Solver) (i : Nat) (st : St) : Prop :=
  sv.D.getD (st.lastOcc + 1) 0 - sv.S.getD (i + 1) 0 < st.lastPosition

/-- `pushToNewSink` was taken: the tentative position is unchanged, sink `J+1` becomes the last
occupied one, and one event `(L, c i J - c i (J+1))` is added -/
structure StepNS (sv : Solver) (i : Nat) (st st' : St) : Prop where
  room : st.lastOcc + 1 < sv.v.length
  dec : st.lastPosition = 0 ∨
    cs sv i (st.lastOcc + 1) ≤ evS st.events st.lastPosition + cs sv i st.lastOcc
  occ : st'.lastOcc = st.lastOcc + 1
  pos : st'.lastPosition = st.lastPosition
  pRev : st'.pRev = st.pRev
  optS : st'.optSink = st.optSink
  ev : ∀ y, 0 < y → evS st'.events y =
    (if y ≤ st.lastPosition then cs sv i st.lastOcc - cs sv i (st.lastOcc + 1) else 0) + evS st.events y
  ei : EvInv st'

/-- `pushToLastSink` was taken: the run moves left to the next event (or to the position where
source `i` ends with sink `J`), the events at `L` are merged and re-inserted there -/
structure StepTL (sv : Solver) (i : Nat) (st st' : St) : Prop where
  dec : st.lastOcc + 1 = sv.v.length ∨ (st.lastPosition ≠ 0 ∧
    evS st.events st.lastPosition + cs sv i st.lastOcc < cs sv i (st.lastOcc + 1))
  occ : st'.lastOcc = st.lastOcc
  pRev : st'.pRev = st.pRev
  optS : st'.optSink = st.optSink
  lt : st'.lastPosition < st.lastPosition
  ge : max (sv.D.getD (st.lastOcc + 1) 0 - sv.S.getD (i + 1) 0) 0 ≤ st'.lastPosition
  ev : ∀ y, 0 < y → y ≤ st'.lastPosition → evS st'.events y = evS st.events y
  flat : ∀ y, st'.lastPosition < y → y ≤ st.lastPosition → evS st.events y = evS st.events st.lastPosition
  ei : EvInv st'

end ColoVerif.Transp1d
