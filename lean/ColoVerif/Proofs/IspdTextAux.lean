import ColoVerif.Proofs.IspdTextBase
import ColoVerif.Proofs.Ispd
/-
C20, file level: the `.aux` file written by `exportIspdAux` selects the four data files again, and
`read_ispd` on the exported file system is `readText` on the exported texts.
-/
namespace ColoVerif.Ispd.Text
open ColoVerif ColoVerif.Ispd
open ColoVerif.Ispd.Text.Base

namespace Aux

/-- two texts compared up to their first `x` -/
theorem isPrefixOf_upto (x : Char) (r : Line) (a b : Line) (ha : x ∉ a) (hb : x ∉ b) :
    (a ++ [x]).isPrefixOf (b ++ x :: r) = decide (a = b) := by
  induction a generalizing b with
  | nil =>
    cases b with
    | nil => simp
    | cons d b => simp [List.isPrefixOf_cons_cons, show x ≠ d from fun e => hb (e ▸ List.mem_cons_self)]
  | cons c a ih =>
    cases b with
    | nil => simp [List.isPrefixOf_cons_cons, show c ≠ x from fun e => ha (e ▸ List.mem_cons_self)]
    | cons d b =>
      simp [List.isPrefixOf_cons_cons, Bool.beq_eq_decide_eq, ih b (fun h => ha (List.mem_cons_of_mem _ h)) (fun h => hb (List.mem_cons_of_mem _ h))]

theorem endsWith_ext {s : String} {e e' : Line} (hs : s.toList = '.' :: e) (he : '.' ∉ e) (he' : '.' ∉ e') (pre : Line) :
    endsWith s (pre ++ '.' :: e') = decide (e = e') := by
  unfold endsWith
  rw [hs, List.reverse_append, List.reverse_cons, List.reverse_cons, List.append_assoc, List.singleton_append,
    isPrefixOf_upto '.' _ _ _ (by simpa using he) (by simpa using he')]
  simp

theorem endsWith_nodot {s : String} {e l : Line} (hs : s.toList = '.' :: e) (hl : '.' ∉ l) : endsWith s l = false := by
  unfold endsWith
  rw [Bool.eq_false_iff, Ne, List.isPrefixOf_iff_prefix, hs]
  exact fun h => hl (List.mem_reverse.1 (h.subset (by simp)))

theorem goodPrefix_spec {pre : Line} (h : goodPrefix pre = true) :
    Free isWs (basename pre) ∧ goodDir (pre.reverse.dropWhile (· != '/')) = true := by
  simp only [goodPrefix, Bool.and_eq_true, List.all_eq_true, Bool.not_eq_true'] at h
  exact ⟨h.1, h.2⟩

/-- a name `pre ++ S` followed by a blank is the next token (`S'` is `S` with the blank) -/
theorem splitBy_name (pre S S' R : Line) (hf : Free isWs pre)
    (hS : S' = S ++ [' '] ∧ S ≠ [] ∧ S.all (fun c => !isWs c) = true) :
    splitBy isWs (pre ++ (S' ++ R)) = (pre ++ S) :: splitBy isWs R := by
  obtain ⟨rfl, hne, hfS⟩ := hS
  have e : pre ++ ((S ++ [' ']) ++ R) = (pre ++ S) ++ ' ' :: R := by simp
  rw [e, splitBy_tok isWs (by simp [hne]) (free_append hf (free_of_all hfS)) (by decide)]

theorem split_auxLine (pre : Line) (hf : Free isWs pre) :
    split ("RowBasedPlacement : ".toList ++ (pre ++ (".nodes ".toList ++ (pre ++ (".nets ".toList ++
      (pre ++ (".pl ".toList ++ (pre ++ ".scl".toList)))))))) =
    ["RowBasedPlacement".toList, [':'], pre ++ ".nodes".toList, pre ++ ".nets".toList, pre ++ ".pl".toList,
      pre ++ ".scl".toList] := by
  unfold split
  -- read as ASCII bytes, the literals are much cheaper for the kernel than when it decodes them
  rw [toList_eq_toListA]
  rw [splitBy_append isWs (toListA "RowBasedPlacement : ") _ (Or.inl (by decide +kernel)),
    show splitBy isWs (toListA "RowBasedPlacement : ") = [toListA "RowBasedPlacement", [':']] by decide +kernel,
    splitBy_name pre (toListA ".nodes") _ _ hf (by decide +kernel), splitBy_name pre (toListA ".nets") _ _ hf (by decide +kernel),
    splitBy_name pre (toListA ".pl") _ _ hf (by decide +kernel),
    splitBy_tok_end isWs (by simp [toListA_eq]) (free_append hf (free_of_all (by decide +kernel)))]
  rfl

theorem startsWith_slash_append {pre : Line} (h : startsWith "/" pre = true) (K : Line) :
    startsWith "/" (pre ++ K) = true := by
  cases pre with
  | nil => exact absurd h (by decide)
  | cons c r => rw [startsWith_append_of_le _ _ _ (by simp)]; exact h

theorem pathJoin_abs {b : Line} (h : startsWith "/" b = true) (a : Line) : pathJoin a b = b := by
  unfold pathJoin; rw [if_pos h]

theorem pathJoin_nil (b : Line) : pathJoin [] b = b := by
  unfold pathJoin; split <;> simp

theorem dropWhile_noslash {p : Line} (h : '/' ∉ p) : p.reverse.dropWhile (· != '/') = [] := by
  apply dropWhile_all
  intro x hx
  have : x ≠ '/' := fun e => h (e ▸ List.mem_reverse.1 hx)
  simpa using this

theorem dirname_noslash {p : Line} (h : '/' ∉ p) : dirname p = [] := by
  unfold dirname
  rw [dropWhile_noslash h]
  rfl

theorem dropWhile_head (p : Char → Bool) (l : Line) (x : Char) (r : Line) (h : l.dropWhile p = x :: r) : p x = false := by
  have := List.head?_dropWhile_not p l
  rw [h] at this
  exact this

theorem basename_noslash (p : Line) : '/' ∉ basename p := by
  intro h
  have := List.all_eq_true.1 List.all_takeWhile _ (List.mem_reverse.1 h)
  simp at this

theorem slash_prefix_false (c : Char) (r : Line) (hc : c ≠ '/') : ['/'].isPrefixOf (c :: r) = false := by
  rw [List.isPrefixOf_cons_cons]
  have : ('/' == c) = false := beq_eq_false_iff_ne.2 (Ne.symm hc)
  rw [this]; rfl

theorem dir_append_base (p : Line) : (p.reverse.dropWhile (· != '/')).reverse ++ basename p = p := by
  unfold basename
  rw [← List.reverse_append, List.takeWhile_append_dropWhile, List.reverse_reverse]

theorem dropWhile_append_noslash (p K : Line) (hK : '/' ∉ K) :
    (p ++ K).reverse.dropWhile (· != '/') = p.reverse.dropWhile (· != '/') := by
  rw [List.reverse_append, List.dropWhile_append]
  simp [dropWhile_noslash hK]

theorem startsWith_slash_false (b : Line) (h : '/' ∉ b) : startsWith "/" b = false := by
  cases b with
  | nil => rfl
  | cons c r =>
    have hc : c ≠ '/' := fun e => h (e ▸ List.mem_cons_self)
    exact slash_prefix_false c r hc

/-- `os.path.join(os.path.dirname(<pre>.aux), <base><K'>)` is `<pre><K'>` -/
theorem pathJoin_dirname {pre : Line} (hg : goodDir (pre.reverse.dropWhile (· != '/')) = true) (K K' : Line)
    (hK : '/' ∉ K) (hK' : '/' ∉ K') : pathJoin (dirname (pre ++ K)) (basename pre ++ K') = pre ++ K' := by
  have hb : startsWith "/" (basename pre ++ K') = false :=
    startsWith_slash_false _ (by simp [basename_noslash pre, hK'])
  have hpre : pre ++ K' = (pre.reverse.dropWhile (· != '/')).reverse ++ (basename pre ++ K') := by
    rw [← List.append_assoc, dir_append_base]
  unfold dirname pathJoin
  simp only [dropWhile_append_noslash pre K hK, hb, Bool.false_eq_true, if_false]
  rw [hpre]
  generalize hR : pre.reverse.dropWhile (· != '/') = R at hg
  match R, hg, hR with
  | [], _, _ => simp
  | [x], _, hR =>
    have hx : x = '/' := by simpa using dropWhile_head _ _ _ _ hR
    subst hx
    simp [endsWith]
  | x :: c :: r, hg, hR =>
    have hx : x = '/' := by simpa using dropWhile_head _ _ _ _ hR
    subst hx
    have hc : c ≠ '/' := by simpa [goodDir] using hg
    have h1 : (('/' :: c :: r).reverse.all (· == '/')) = false := by
      simp only [List.all_reverse, List.all_cons, Bool.and_eq_false_iff]
      exact Or.inr (Or.inl (by simpa using hc))
    have h2 : dropTrailingSlashes ('/' :: c :: r).reverse = (c :: r).reverse := by
      unfold dropTrailingSlashes
      rw [List.reverse_reverse, List.dropWhile_cons, if_pos (by decide), List.dropWhile_cons, if_neg (by simpa using hc)]
    have h3 : endsWith "/" (c :: r).reverse = false := by
      unfold endsWith
      rw [List.reverse_reverse]
      exact slash_prefix_false c r hc
    simp only [h1, Bool.false_eq_true, if_false, h2, h3, Bool.or_false]
    simp

end Aux
open Aux

theorem auxSelect_auxText (pre : Line) (h : goodPrefix pre = true) :
    auxSelect (pre ++ ".aux".toList) (auxText pre) =
      .ok (pre ++ ".nodes".toList, pre ++ ".nets".toList, pre ++ ".pl".toList, pre ++ ".scl".toList) := by
  obtain ⟨hf, hs⟩ := goodPrefix_spec h
  have hj := pathJoin_dirname hs ['.', 'a', 'u', 'x'] (hK := by decide)
  have ho : '.' ∉ "RowBasedPlacement".toList := by rw [String.toList_ofList]; decide
  simp only [auxSelect, auxText, List.map_cons, List.map_nil, List.flatten_cons, List.flatten_nil, List.append_nil,
    split_auxLine _ hf]
  -- of the first token only `ho` is used; the names are spelt out in characters, so that their extensions can be compared
  generalize "RowBasedPlacement".toList = R at ho
  repeat rw [String.toList_ofList]
  simp [endsWith_nodot (s := ".nodes") String.toList_ofList ho, endsWith_ext (s := ".nodes") String.toList_ofList,
    endsWith_nodot (s := ".nets") String.toList_ofList ho, endsWith_ext (s := ".nets") String.toList_ofList,
    endsWith_nodot (s := ".pl") String.toList_ofList ho, endsWith_ext (s := ".pl") String.toList_ofList,
    endsWith_nodot (s := ".scl") String.toList_ofList ho, endsWith_ext (s := ".scl") String.toList_ofList,
    endsWith_nodot (l := [':']), exactlyOne]
  exact ⟨hj _ (by decide), hj _ (by decide), hj _ (by decide), hj _ (by decide)⟩

namespace Aux

/-- `_open_file` finds a plain file whose extension is not one of the compressed ones -/
theorem openFile_ext (fs : FS) (pre e : Line) (t : List Line) (he : '.' ∉ e)
    (hz : e ∉ [['g', 'z'], ['x', 'z'], ['l', 'z', 'm', 'a']]) (ht : fs (pre ++ '.' :: e) = some t) :
    openFile fs (pre ++ '.' :: e) = .ok t := by
  simp only [List.mem_cons, List.not_mem_nil, or_false, not_or] at hz
  simp [openFile, endsWith_ext (s := ".gz") String.toList_ofList, endsWith_ext (s := ".xz") String.toList_ofList,
    endsWith_ext (s := ".lzma") String.toList_ofList, he, ht, Ne.symm hz.1, Ne.symm hz.2.1, Ne.symm hz.2.2]

theorem exportFS_ext (pre : Line) (c : Circuit) (e : Line) :
    exportFS pre c (pre ++ '.' :: e) =
      if e = ['a', 'u', 'x'] then some (auxText pre) else if e = ['n', 'o', 'd', 'e', 's'] then some (nodesText c)
      else if e = ['p', 'l'] then some (plText c) else if e = ['n', 'e', 't', 's'] then some (netsText c)
      else if e = ['s', 'c', 'l'] then some (sclText c) else none := by
  unfold exportFS
  repeat rw [String.toList_ofList]
  simp only [List.append_right_inj, List.cons.injEq, true_and]

theorem readIspd_eq (fs : FS) (kind : PathKind) (f auxFile n e p s : Line) (auxLines : List Line) (t : TextFiles)
    (hk : auxPath kind f = .ok auxFile) (ha : fs auxFile = some auxLines) (hsel : auxSelect auxFile auxLines = .ok (n, e, p, s))
    (hn : openFile fs n = .ok t.nodes) (he : openFile fs e = .ok t.nets) (hp : openFile fs p = .ok t.pl)
    (hs : openFile fs s = .ok t.scl) : readIspd fs kind f = readText t := by
  unfold readIspd readText
  rw [hk, ok_bind, ha]
  simp only [pure_eq_ok, ok_bind, hsel, hn, he, hp, hs]

theorem readIspd_of_auxPath (pre : Line) (c : Circuit) (h : goodPrefix pre = true) (kind : PathKind) (f : Line)
    (hk : auxPath kind f = .ok (pre ++ ".aux".toList)) :
    readIspd (exportFS pre c) kind f = readText (writeText c) := by
  refine readIspd_eq _ kind f _ _ _ _ _ (auxText pre) (writeText c) hk ?_ (auxSelect_auxText pre h) ?_ ?_ ?_ ?_ <;>
    rw [String.toList_ofList]
  · rw [exportFS_ext]; rfl
  all_goals exact openFile_ext _ pre _ _ (by decide) (by decide) (by rw [exportFS_ext]; rfl)

end Aux

/-- `read_ispd("<pre>.aux")` on what `exportIspd("<pre>")` wrote -/
theorem readIspd_exportFS (pre : Line) (c : Circuit) (h : goodPrefix pre = true) :
    readIspd (exportFS pre c) .exists_ (pre ++ ".aux".toList) = readText (writeText c) :=
  readIspd_of_auxPath pre c h _ _ rfl

/-- `read_ispd("<pre>")` (no such file: `.aux` is appended) -/
theorem readIspd_exportFS_missing (pre : Line) (c : Circuit) (h : goodPrefix pre = true) :
    readIspd (exportFS pre c) .missing pre = readText (writeText c) :=
  readIspd_of_auxPath pre c h _ _ rfl

end ColoVerif.Ispd.Text
