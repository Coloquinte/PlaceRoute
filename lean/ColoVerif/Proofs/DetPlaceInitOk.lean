import ColoVerif.Proofs.DetPlaceInit
import ColoVerif.Proofs.OrientLegalize
/-
The constructor of `DetailedPlacement` does not throw on a legal placement (C02 `fromCircuit_ok_of_legal`): every
optimised cell is found in a row (`locate_of_mem`: the constructor's sort of the rows by `(minY, minX)` and its
`upper_bound` lookup `findRow`), the sorted row lists have no overlap (`linkRow_succeeds`), and the final
`check()` passes (`construct_succeeds`).  C01's legality speaks about the free segments of `computeRows()`, the
constructor cuts them further around the taller movable cells: `ispd_in_row`.  What legalization returns meets the
hypotheses on orientations (C02 `constructor_ok_after_legalize`): `legalize_orientLegal`, `legalize_noInvalid`.
-/
namespace ColoVerif.DetPlace
open ColoVerif

theorem insertRow_perm (x : Row) (l : List Row) : (insertRow x l).Perm (x :: l) :=
  insert_perm insertRow (fun _ => rfl) (fun _ _ _ => (ite_eq_or_eq ..).symm) x l

theorem sortRows_perm (l : List Row) : (sortRows l).Perm l :=
  foldr_insert_perm insertRow (fun _ => rfl) (fun _ _ _ => (ite_eq_or_eq ..).symm) l

theorem sortRows_cons (x : Row) (xs : List Row) : sortRows (x :: xs) = insertRow x (sortRows xs) := rfl

theorem mem_sortRows (y : Row) (l : List Row) : y ∈ sortRows l ↔ y ∈ l := (sortRows_perm l).mem_iff

theorem rowLe_iff (a b : Row) : rowLe a b = true ↔
    a.rect.minY < b.rect.minY ∨ (a.rect.minY = b.rect.minY ∧ a.rect.minX ≤ b.rect.minX) := by
  simp [rowLe]

theorem rowLe_total (a b : Row) (h : ¬ rowLe a b = true) : rowLe b a = true := by
  rw [rowLe_iff] at *; omega

theorem rowLe_trans (a b c : Row) (h1 : rowLe a b = true) (h2 : rowLe b c = true) : rowLe a c = true := by
  rw [rowLe_iff] at *; omega

theorem rowLe_refl (a : Row) : rowLe a a = true := by rw [rowLe_iff]; omega

theorem sorted_sortRows (l : List Row) : (sortRows l).Pairwise (fun a b => rowLe a b = true) :=
  foldr_insert_pairwise insertRow (fun a b => rowLe a b = true) rowLe_trans (fun _ => rfl)
    (fun a b _ => if hc : rowLe a b = true then .inr ⟨if_pos hc, hc⟩ else .inl ⟨if_neg hc, rowLe_total a b hc⟩) l

/-- the probe of `upper_bound`: key of `r` ≤ `(y, x)` -/
def probe (x y : Int) (r : Row) : Bool := r.rect.minY < y || (r.rect.minY == y && r.rect.minX ≤ x)

theorem probe_iff (x y : Int) (r : Row) : probe x y r = true ↔
    r.rect.minY < y ∨ (r.rect.minY = y ∧ r.rect.minX ≤ x) := by
  simp [probe]

theorem probe_mono (x y : Int) (a b : Row) (h : rowLe a b = true) (hb : probe x y b = true) : probe x y a = true := by
  rw [probe_iff] at *; rw [rowLe_iff] at h; omega

theorem takeWhile_index (x y : Int) (l : List Row) (hs : l.Pairwise (fun a b => rowLe a b = true))
    (r : Row) (hr : r ∈ l) (hp : probe x y r = true) :
    ∃ i, i < (l.takeWhile (probe x y)).length ∧ l[i]? = some r := by
  induction l with
  | nil => exact absurd hr List.not_mem_nil
  | cons a l ih =>
    obtain ⟨ha', hs'⟩ := List.pairwise_cons.mp hs
    have ha : probe x y a = true := by
      rcases List.mem_cons.mp hr with rfl | hr
      · exact hp
      · exact probe_mono x y a r (ha' r hr) hp
    rw [List.takeWhile_cons_of_pos ha]
    rcases List.mem_cons.mp hr with rfl | hr
    · exact ⟨0, Nat.succ_pos _, rfl⟩
    · obtain ⟨i, hi, hg⟩ := ih hs' hr
      exact ⟨i + 1, Nat.succ_lt_succ hi, hg⟩

/-- a row whose key lies between the key of `r` and that of a cell which ends inside `r`, on its bottom line, meets `r` -/
theorem meets_of_key_between {r q : Row} {H x y w : Int} (hH : 0 < H) (hw : 0 < w)
    (a1 : q.rect.maxY = q.rect.minY + H) (a2 : r.rect.maxY = r.rect.minY + H) (a3 : q.rect.minX < q.rect.maxX)
    (hrq : rowLe r q = true) (hpq : probe x y q = true)
    (h1 : r.rect.minY = y) (h3 : x + w ≤ r.rect.maxX) : q.rect.intersects r.rect = true := by
  rw [Legalize.intersects_true_iff]
  rw [probe_iff] at hpq
  rw [rowLe_iff] at hrq
  omega

theorem findRow_eq (rows : List Row) (x y : Int) : findRow rows x y =
    if (rows.takeWhile (probe x y)).length = 0 then none else some ((rows.takeWhile (probe x y)).length - 1) := rfl

theorem locate_of_mem {H : Int} (hH : 0 < H) {rows : List Row} (hok : Legalize.RowsOK H rows)
    (hs : rows.Pairwise (fun a b => rowLe a b = true)) (x y w : Int) (hw : 0 < w)
    (r : Row) (hr : r ∈ rows) (h1 : r.rect.minY = y) (h2 : r.rect.minX ≤ x) (h3 : x + w ≤ r.rect.maxX) :
    ∃ k, locate rows x y w = .ok k := by
  obtain ⟨i, hi, hg⟩ := takeWhile_index x y rows hs r hr (by rw [probe_iff]; omega)
  obtain ⟨q, hq, hpq⟩ := ListFacts.takeWhile_get (probe x y) rows ((rows.takeWhile (probe x y)).length - 1) (by omega)
  -- the row found, `q`, is the last whose key is ≤ that of the cell; were it another row than `r` it would come after
  -- `r` in the order of the keys and so overlap `r`
  have hqr : q = r := Classical.byContradiction fun hqr => by
    have hik : i ≠ (rows.takeWhile (probe x y)).length - 1 := fun e => hqr (Option.some.inj (hq.symm.trans (e ▸ hg)))
    have hqm := List.mem_of_getElem? hq
    obtain ⟨hi', rfl⟩ := List.getElem?_eq_some_iff.mp hg
    obtain ⟨hq', rfl⟩ := List.getElem?_eq_some_iff.mp hq
    have hd := (ListFacts.pairwise_ne hok.disj _ hqm _ hr hqr).elim id (Legalize.intersects_comm .. ▸ id)
    have hrq := List.pairwise_iff_getElem.mp hs i _ hi' hq' (by omega)
    exact Bool.false_ne_true (hd.symm.trans
      (meets_of_key_between hH hw (hok.height _ hqm) (hok.height _ hr) (hok.wide _ hqm) hrq hpq h1 h3))
  subst hqr
  refine ⟨(rows.takeWhile (probe x y)).length - 1, ?_⟩
  unfold locate
  rw [findRow_eq, if_neg (by omega)]
  simp only [List.getD_eq_getElem?_getD, hq, Option.getD_some]
  rw [if_neg (not_not.mpr h1), if_neg (Int.not_lt.mpr h2), if_neg (Int.not_lt.mpr h3)]

open State

theorem assignCells_succeeds (rows : List Row) (width xs ys : Int → Int) : ∀ cells : List Int,
    (∀ c ∈ cells, width c ≠ -1 → ∃ r, locate rows (xs c) (ys c) (width c) = .ok r) →
    ∃ lists, assignCells rows width xs ys cells = .ok lists
  | [], _ => ⟨_, rfl⟩
  | c :: cells, h => by
    obtain ⟨acc, hacc⟩ := assignCells_succeeds rows width xs ys cells (fun d hd => h d (List.mem_cons_of_mem _ hd))
    simp only [assignCells, hacc]
    by_cases hw : width c = -1
    · simp [hw]
    · obtain ⟨k, hk⟩ := h c List.mem_cons_self hw
      simp [hw, hk]

theorem linkRow_succeeds (r : Int) : ∀ (cs : List Int) (s : State),
    cs.Pairwise (fun a b => s.x a + s.width a ≤ s.x b) → ∃ t, linkRow s r cs = .ok t
  | [], s, _ => ⟨s, rfl⟩
  | [c], s, _ => ⟨_, rfl⟩
  | c1 :: c2 :: rest, s, h => by
    have h' := List.pairwise_cons.mp h
    have : ¬ (s.x c1 + s.width c1 > s.x c2) := by have := h'.1 c2 (by simp); omega
    simp only [linkRow, this, if_false]
    exact linkRow_succeeds r (c2 :: rest) _ h'.2

theorem linkRows_succeeds : ∀ (css : List (List Int)) (s : State) (r0 : Nat),
    (∀ cs ∈ css, cs.Pairwise (fun a b => s.x a + s.width a ≤ s.x b)) → ∃ t, linkRows s r0 css = .ok t
  | [], s, _, _ => ⟨s, rfl⟩
  | cs :: css, s, r0, h => by
    have hcs := h cs (by simp)
    cases cs with
    | nil =>
      obtain ⟨t, e⟩ := linkRows_succeeds css s (r0 + 1) (fun ds hds => h ds (List.mem_cons_of_mem _ hds))
      exact ⟨t, by simp only [linkRows, linkRow, e]⟩
    | cons c rest =>
      obtain ⟨t1, e1⟩ := linkRow_succeeds r0 (c :: rest) { s with rowFirst := upd s.rowFirst r0 c } hcs
      have g := linkRow_frame r0 _ _ t1 e1
      have gx : t1.x = s.x := g.x
      have gw : t1.width = s.width := g.width
      obtain ⟨t, e⟩ := linkRows_succeeds css t1 (r0 + 1)
        (fun ds hds => by rw [gx, gw]; exact h ds (List.mem_cons_of_mem _ hds))
      exact ⟨t, by simp only [linkRows, e1, e]⟩

theorem construct_succeeds {H : Int} (hH : 0 < H) {rows0 : List Row} (hok : Legalize.RowsOK H rows0)
    (n : Nat) (width xs ys : Int → Int) (orient : Int → Orient) (pol : Int → Polarity) (index : Int → Int)
    (hcell : ∀ c : Int, 0 ≤ c → c < n → width c ≠ -1 → 0 < width c ∧
      ∃ r ∈ rows0, r.rect.minY = ys c ∧ r.rect.minX ≤ xs c ∧ xs c + width c ≤ r.rect.maxX)
    (hdis : ∀ a b : Int, 0 ≤ a → a < n → 0 ≤ b → b < n → a ≠ b → width a ≠ -1 → width b ≠ -1 →
      ys a = ys b → xs a ≤ xs b → xs a + width a ≤ xs b)
    (hor : ∀ c : Int, 0 ≤ c → c < n → width c ≠ -1 → ∀ r ∈ rows0, r.rect.minY = ys c → r.rect.minX ≤ xs c →
      xs c + width c ≤ r.rect.maxX →
      cellOrientationInRow (pol c) r.orient ≠ Orient.INVALID ∧
      (cellOrientationInRow (pol c) r.orient ≠ Orient.UNKNOWN → orient c = cellOrientationInRow (pol c) r.orient)) :
    ∃ s, construct rows0 n width xs ys orient pol index = .ok s := by
  have hok' := hok.perm (sortRows_perm rows0)
  have hsorted := sorted_sortRows rows0
  obtain ⟨lists, hl⟩ := assignCells_succeeds (sortRows rows0) width xs ys (intsUpTo n) (by
    intro c hc hw
    rw [mem_intsUpTo] at hc
    obtain ⟨hp, r, hr, h1, h2, h3⟩ := hcell c hc.1 hc.2 hw
    exact locate_of_mem hH hok' hsorted _ _ _ hp r ((mem_sortRows r rows0).mpr hr) h1 h2 h3)
  have hnoov : ∀ cs ∈ lists, cs.Pairwise (fun a b => xs a + width a ≤ xs b) := by
    intro cs hcs
    obtain ⟨i, hi⟩ := List.mem_iff_getElem?.mp hcs
    have hp := ((assignCells_spec hl).2.2 i cs hi).2.and (assigned_nodup hl (nodup_intsUpTo n) hi)
    refine hp.imp_of_mem ?_
    intro a b ha hb hab
    obtain ⟨ma, wa, _, ya, _, _⟩ := assigned_located hl hi ha
    obtain ⟨mb, wb, _, yb, _, _⟩ := assigned_located hl hi hb
    rw [mem_intsUpTo] at ma mb
    exact hdis a b ma.1 ma.2 mb.1 mb.2 hab.2 wa wb (ya.symm.trans yb) hab.1
  obtain ⟨t, ht⟩ := linkRows_succeeds lists
    { rows := sortRows rows0, nCells := n, rowFirst := fun _ => -1, rowLast := fun _ => -1,
      width := width, pred := fun _ => -1, next := fun _ => -1, row := fun _ => -1,
      x := xs, y := ys, orient := orient, pol := pol, index := index } 0 hnoov
  have P := linkRows_prebuilt hl ht
  have F := prebuilt_facts P
  have hchk : t.check = true := facts_check F fun i cs hi c hc => by
    obtain ⟨mc, wc, L⟩ := assigned_located hl hi hc
    rw [mem_intsUpTo] at mc
    rw [checkOrient_iff, rowOrient, rowAt_nat, P.rows, P.pol, P.orient]
    exact hor c mc.1 mc.2 wc _ ((mem_sortRows _ rows0).mp L.mem) L.2.1 L.2.2.1 L.2.2.2
  refine ⟨t, ?_⟩
  unfold construct
  simp only [hl, ht, hchk, if_true]

/-- C04's side of legality, as far as the constructor's `check()` looks at it: a movable one-row cell
that lies in a row has the orientation this row demands for its polarity (and the row is allowed) -/
def OrientLegal (c : Circuit) : Prop :=
  ∀ cl ∈ c.cells, cl.fixed = false → cl.placedHeight = (Circuit.rowHeight c).getD 0 →
    ∀ R ∈ c.rows, R.rect.minY = cl.y → R.rect.minX ≤ cl.x → cl.x + cl.placedWidth ≤ R.rect.maxX →
      cellOrientationInRow cl.pol R.orient ≠ Orient.INVALID ∧
      (cellOrientationInRow cl.pol R.orient ≠ Orient.UNKNOWN → cl.orient = cellOrientationInRow cl.pol R.orient)

instance (c : Circuit) : Decidable (OrientLegal c) := by unfold OrientLegal; infer_instance

theorem rowsOK_computeRows (c : Circuit) (hd : Legalize.DomL c) (extra : List Rect) :
    Legalize.RowsOK ((Circuit.rowHeight c).getD 0) (c.computeRows extra) :=
  (Legalize.rowsOK_rows c hd).freespace _

theorem legal_disjoint (c : Circuit) (hl : Legalize.LegalL c) (i j : Nat) (a b : Cell) (hij : i ≠ j)
    (ha : c.cells[i]? = some a) (hb : c.cells[j]? = some b) (fa : a.fixed = false) (fb : b.fixed = false) :
    a.placement.intersects b.placement = false := by
  have hp := hl.2
  rw [List.pairwise_filter] at hp
  have hp' := List.pairwise_iff_getElem.mp hp
  obtain ⟨hi, rfl⟩ := List.getElem?_eq_some_iff.mp ha
  obtain ⟨hj, rfl⟩ := List.getElem?_eq_some_iff.mp hb
  rcases Nat.lt_or_gt_of_ne hij with h | h
  · exact hp' i j hi hj h (by simp [fa]) (by simp [fb])
  · rw [Legalize.intersects_comm]
    exact hp' j i hj hi h (by simp [fb]) (by simp [fa])

/-- A movable one-row cell of a legal placement lies in one of the constructor's rows: it lies in a
free piece of a circuit row, and the pieces cut further by the taller movable cells still hold it, since
those cells do not overlap it. -/
theorem ispd_in_row (c : Circuit) (hd : Legalize.DomL c) (hl : Legalize.LegalL c) {H : Int} (hH : 0 < H)
    (hrh : Circuit.rowHeight c = some H) (cl : Cell) (hcl : cl ∈ c.cells) (hfix : cl.fixed = false)
    (hph : cl.placedHeight = H) :
    ∃ r ∈ c.computeRows (ispdObstacles c H),
      r.rect.minY = cl.y ∧ r.rect.minX ≤ cl.x ∧ cl.x + cl.placedWidth ≤ r.rect.maxX := by
  have hdom := (hd.2.1 cl hcl hfix).1
  obtain ⟨r, hr, r1, r2, r3⟩ := hl.1 H hrh cl hcl hfix 0 (Int.le_refl _) (by rw [hph]; omega)
  simp only [Int.zero_mul, Int.add_zero] at r1
  unfold Circuit.computeRows at hr
  obtain ⟨R, hRm, hrR⟩ := List.mem_flatMap.mp hr
  obtain ⟨iv, hiv, rfl⟩ := (Row.mem_freespace R _ r).mp hrR
  simp only [List.nil_append] at hiv
  simp only at r1 r2 r3
  have hRy := (Circuit.rowHeight_some hrh).2 R hRm
  obtain ⟨iv', hiv', a1, a2⟩ := Freespace.freeIntervals_refine R.rect (ispdObstacles c H) c.obstacles iv hiv cl.x
    (cl.x + cl.placedWidth) r2 (by omega) r3 (by
      intro o ho x hx1 hx2 hob
      obtain ⟨cl2, hm2, hf2, hh2, rfl⟩ := mem_ispdObstacles.mp ho
      obtain ⟨hw2, hh2', -⟩ := hd.2.1 cl2 hm2 hf2
      have hne : cl ≠ cl2 := fun e => hh2 (e ▸ hph)
      have hdis := (ListFacts.pairwise_ne hl.2 cl (by simp [hcl, hfix]) cl2 (by simp [hm2, hf2]) hne).elim id
        (Legalize.intersects_comm .. ▸ id)
      rw [Legalize.intersects_false_iff] at hdis
      simp only [Freespace.Obstructs, Cell.placement] at hob hdis
      omega)
  refine ⟨⟨⟨iv'.1, iv'.2, R.rect.minY, R.rect.maxY⟩, R.orient⟩, ?_, r1, a1, a2⟩
  unfold Circuit.computeRows
  exact List.mem_flatMap.mpr ⟨R, hRm, (Row.mem_freespace R _ _).mpr ⟨iv', hiv', rfl⟩⟩

theorem fromIspdCircuit_succeeds (c : Circuit) (hd : Legalize.DomL c) (hl : Legalize.LegalL c) (ho : OrientLegal c) :
    ∃ s, fromIspdCircuit c = .ok s := by
  generalize hH0 : (Circuit.rowHeight c).getD 0 = H
  have hH : 0 < H := by rw [← hH0]; exact hd.1
  have hrh : Circuit.rowHeight c = some H := by rw [← hH0]; exact Legalize.dom_rowHeight c hd
  have hR : Legalize.RowsOK H c.rows := by rw [← hH0]; exact Legalize.rowsOK_rows c hd
  have hok : Legalize.RowsOK H (c.computeRows (ispdObstacles c H)) := by rw [← hH0]; exact rowsOK_computeRows c hd _
  unfold fromIspdCircuit
  rw [hrh]
  show ∃ s, construct (c.computeRows (ispdObstacles c H)) c.cells.length (ofList 0 (c.cells.map (ispdWidth H))) _ _ _ _ _ = .ok s
  apply construct_succeeds hH hok
  · intro i h0 h1 hw
    obtain ⟨cl, hcl, -, hfix, hph, ew, ex, ey, -, -⟩ := ispd_live c H i h0 h1 hw
    rw [ew, ex, ey]
    exact ⟨(hd.2.1 cl hcl hfix).1, ispd_in_row c hd hl hH hrh cl hcl hfix hph⟩
  · intro a b a0 a1 b0 b1 hab hwa hwb hy hx
    obtain ⟨cla, hma, hga, fa, -, ewa, exa, eya, -, -⟩ := ispd_live c H a a0 a1 hwa
    obtain ⟨clb, hmb, hgb, fb, -, -, exb, eyb, -, -⟩ := ispd_live c H b b0 b1 hwb
    rw [exa, exb] at hx ⊢
    rw [eya, eyb] at hy
    rw [ewa]
    have hdis := legal_disjoint c hl a.toNat b.toNat cla clb (by omega) hga hgb fa fb
    rw [Legalize.intersects_false_iff] at hdis
    have da := (hd.2.1 cla hma fa).2.1
    obtain ⟨db1, db2, -⟩ := hd.2.1 clb hmb fb
    simp only [Cell.placement] at hdis
    omega
  · intro i h0 h1 hw r hr r1 r2 r3
    obtain ⟨cl, hcl, -, hfix, hph, ew, ex, ey, eo, ep⟩ := ispd_live c H i h0 h1 hw
    rw [ey] at r1
    rw [ex] at r2
    rw [ex, ew] at r3
    rw [eo, ep]
    unfold Circuit.computeRows at hr
    obtain ⟨⟨R, hRm, hsub⟩, _⟩ := Legalize.flatMap_freespace_seg hR _ r hr
    obtain ⟨s1, s2, s3, _, s5⟩ := hsub
    rw [s5]
    exact ho cl hcl hfix (by rw [hH0]; exact hph) R hRm (by omega) (by omega) (by omega)

theorem legalize_orientLegal (rnd : Rat → Rat) (p : Legalize.Params) (c c' : Circuit) (hd : Legalize.DomL c)
    (h : Legalize.legalizeWith rnd p c = .ok c') : OrientLegal c' := by
  obtain ⟨hrows, _, hpw⟩ := Legalize.legalize_facts rnd p c c' hd h
  have hR := Legalize.rowsOK_rows c hd
  intro b hb hf _ R hRm r1 r2 r3
  rw [hrows] at hRm
  obtain ⟨a, ha, hfr, hab⟩ := Legalize.pointwise_mem_right hpw b hb
  have haf : a.fixed = false := hfr.2.2.1.trans hf
  obtain ⟨r, hr, g, _, hinv, _, heq, _⟩ := hab.seg hd.1 (Legalize.dom_rowsOK c hd) haf
  -- the segment `r` is a piece of the row `R`
  obtain ⟨⟨R0, hR0, s1, s2, s3, _, s5⟩, _⟩ := Legalize.flatMap_freespace_seg hR _ r hr
  have hRR : R = R0 := Legalize.seg_unique _ hd.1 _ hR R0 R hR0 hRm b.x b.placedWidth b.y
    ((hab.2 haf).2.2.1 ▸ (hd.2.1 a ha haf).1) ⟨by omega, by omega, by omega⟩ ⟨r1, r2, r3⟩
  rw [hRR, ← s5]
  exact ⟨hinv, heq⟩

theorem legalize_noInvalid (rnd : Rat → Rat) (p : Legalize.Params) (c c' : Circuit) (hd : Legalize.DomL c)
    (h : Legalize.legalizeWith rnd p c = .ok c') : ∀ cl ∈ c'.cells, ¬ cl.fixed → cl.orient ≠ Orient.INVALID := by
  intro b hb hf
  obtain ⟨a, -, -, -, -, -, r, -, -, -, -, -, g5⟩ := Legalize.legalize_cell rnd p c c' hd h b hb (by simpa using hf)
  exact g5

end ColoVerif.DetPlace
