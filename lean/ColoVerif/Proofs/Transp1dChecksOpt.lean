import ColoVerif.Proofs.Transp1dChecks
import ColoVerif.Proofs.Transp1dOptMain
/-
The optimality self-check of `Transportation1d::solve()`.  `checkSolutionOptimal` accepts every plan
(entries in range, all demands positive) that has a certificate on neighbouring sinks (`NbCert`,
`checkSolutionOptimal_ok`): the running gain of a scan started at `snk` stays at most
`be nxt - be snk`, which is `≤ 0` at the first unsaturated sink `nxt`; entries of
`gainRight`/`gainLeft` are read only for sinks that receive something, so the `LLONG_MIN` sentinel
never enters the arithmetic.  The plan computed on the instance handed to the solver has such a
certificate (`GlobCert` restricted to neighbouring sinks), so `solveFull` — `solve()` with all its
self-checks — returns what `solve` returns and never throws (`solveFull_ok`).
-/
namespace ColoVerif.Transp1d

theorem usedCapLoop_ok (es : Plan) (uc : List Int) (hr : ∀ e ∈ es, e.2.1 < uc.length) :
    ∃ uc', usedCapLoop es uc = .ok uc' ∧ uc'.length = uc.length ∧
      ∀ k, uc'.getD k 0 = uc.getD k 0 + colSum es k := by
  induction es generalizing uc with
  | nil => exact ⟨uc, rfl, rfl, fun k => (Int.add_zero _).symm⟩
  | cons e es ih =>
    obtain ⟨i, j, a⟩ := e
    have h1 : j < uc.length := hr (i, j, a) (List.mem_cons_self ..)
    obtain ⟨uc', e', l1, r1⟩ := ih (uc.set j (uc.getD j 0 + a))
      (fun e he => by rw [List.length_set]; exact hr e (List.mem_cons_of_mem _ he))
    rw [List.length_set] at l1
    refine ⟨uc', ?_, l1, fun k => ?_⟩
    · simp only [usedCapLoop, addAt_ok uc j a h1, bind, Except.bind]
      exact e'
    · rw [r1 k, colSum]; exact getD_set_add uc j k a _ h1

theorem omax_le {old : Option Int} {g B : Int} (ho : ∀ x, old = some x → x ≤ B) (hg : g ≤ B) :
    omax old g ≤ B := by
  cases old with
  | none => exact hg
  | some x => exact Int.max_le.2 ⟨ho x rfl, hg⟩

/-- the common shape of `gainRightLoop` and `gainLeftLoop`: the entry of sink `j` is raised to the
gain of moving a unit from `j` to its neighbour `nb j`, for the plan entries whose sink has one -/
def gainLoop (sv : Solver) (ok : Nat → Prop) [DecidablePred ok] (nb : Nat → Nat) :
    Plan → List (Option Int) → M (List (Option Int))
  | [], g => pure g
  | (i, j, _) :: es, g =>
    if ok j then do
      let c0 ← cost sv i j
      let c1 ← cost sv i (nb j)
      let old ← get g j
      let g' ← setAt g j (some (omax old (c0 - c1)))
      gainLoop sv ok nb es g'
    else gainLoop sv ok nb es g

theorem gainRightLoop_eq (sv : Solver) (es : Plan) (g : List (Option Int)) :
    gainRightLoop sv es g = gainLoop sv (fun j => j + 1 < sv.v.length) (· + 1) es g := by
  induction es generalizing g with
  | nil => rfl
  | cons e es ih =>
    obtain ⟨i, j, a⟩ := e
    simp only [gainRightLoop, gainLoop, Solver.nbSinks, ih]

theorem gainLeftLoop_eq (sv : Solver) (es : Plan) (g : List (Option Int)) :
    gainLeftLoop sv es g = gainLoop sv (fun j => 1 ≤ j) (· - 1) es g := by
  induction es generalizing g with
  | nil => rfl
  | cons e es ih =>
    obtain ⟨i, j, a⟩ := e
    simp only [gainLeftLoop, gainLoop, ih]

theorem gainLoop_ok (sv : Solver) (ok : Nat → Prop) [DecidablePred ok] (nb : Nat → Nat)
    (hnb : ∀ j, ok j → j < sv.v.length → nb j < sv.v.length) (B : Nat → Int)
    (es : Plan) (g : List (Option Int)) (hlen : g.length = sv.v.length)
    (hr : ∀ e ∈ es, e.1 < sv.u.length ∧ e.2.1 < sv.v.length)
    (hB : ∀ e ∈ es, ok e.2.1 → cs sv e.1 e.2.1 - cs sv e.1 (nb e.2.1) ≤ B e.2.1)
    (hg : ∀ j x, g.getD j none = some x → x ≤ B j) :
    ∃ g', gainLoop sv ok nb es g = .ok g' ∧ g'.length = sv.v.length ∧
      (∀ j x, g'.getD j none = some x → x ≤ B j) ∧
      (∀ j, g.getD j none ≠ none → g'.getD j none ≠ none) ∧
      ∀ e ∈ es, ok e.2.1 → g'.getD e.2.1 none ≠ none := by
  induction es generalizing g with
  | nil => exact ⟨g, rfl, hlen, hg, fun _ h => h, fun _ he => nomatch he⟩
  | cons e es ih =>
    obtain ⟨i, j, a⟩ := e
    obtain ⟨⟨hi, hj⟩, hr'⟩ := List.forall_mem_cons.mp hr
    obtain ⟨hB0, hB'⟩ := List.forall_mem_cons.mp hB
    by_cases hok : ok j
    · have hjl : j < g.length := hlen ▸ hj
      have hset := fun k => ListFacts.getD_set g j k
        (some (omax (g.getD j none) (cs sv i j - cs sv i (nb j)))) none hjl
      obtain ⟨g', e', l1, r1, r2, r3⟩ := ih _ ((List.length_set ..).trans hlen) hr' hB' (by
          intro k x h
          rw [hset] at h
          split at h
          · next hk => exact hk ▸ Option.some.inj h ▸ omax_le (hg j) (hB0 hok)
          · exact hg k x h)
      -- an entry once set stays set, and this step sets entry `j`
      refine ⟨g', ?_, l1, r1, fun k hk => r2 k ?_, List.forall_mem_cons.mpr ⟨fun _ => r2 j ?_, r3⟩⟩
      · simp only [gainLoop, hok, if_true, cost_ok sv i j hi hj, cost_ok sv i (nb j) hi (hnb j hok hj),
          get_ok g j hjl none, setAt, hjl, bind, Except.bind, pure, Except.pure]
        exact e'
      · exact ListFacts.getD_set_prop (· ≠ none) k none (Option.some_ne_none _) hk
      · rw [hset, if_pos rfl]; exact Option.some_ne_none _
    · obtain ⟨g', e', l1, r1, r2, r3⟩ := ih g hlen hr' hB' hg
      exact ⟨g', by simp only [gainLoop, hok, if_false]; exact e', l1, r1, r2,
        List.forall_mem_cons.mpr ⟨fun h => absurd h hok, r3⟩⟩

theorem readGain_some (g : List (Option Int)) (k : Nat) (x : Int) (h : k < g.length)
    (hx : g.getD k none = some x) : readGain g k = .ok x := by
  unfold readGain
  rw [get_ok g k h none, hx]

section
variable (sv : Solver) (uc : List Int) (gr gl : List (Option Int))
  (hucl : uc.length = sv.v.length) (hdl : sv.d.length = sv.v.length)
  (hdpos : ∀ j, j < sv.v.length → 0 < sv.d.getD j 0)

section
variable (hgl : gr.length = sv.v.length)
include hucl hgl

include hdl hdpos in
/-- the running gain of a right scan that has reached `nxt` is at most `be nxt - c` with `c` the price
of the sink it started from: at the first sink with spare capacity (price `≤ 0 ≤ c`) it is `≤ 0` -/
theorem rightInner_ok (be : Nat → Int) (c : Int)
    (hex : ∀ j, j + 1 < sv.v.length → uc.getD j 0 ≠ 0 → ∃ g, gr.getD j none = some g)
    (hgr : ∀ j g, gr.getD j none = some g → g ≤ be (j + 1) - be j)
    (hslack : ∀ j, j < sv.v.length → uc.getD j 0 < sv.d.getD j 0 → be j ≤ 0) (hc0 : 0 ≤ c)
    (cnt nxt : Nat) (gain : Int) (hc : nxt + cnt = sv.v.length) (hI : gain ≤ be nxt - c) :
    ∃ r, rightInner sv uc gr cnt nxt gain = .ok r ∧ ∀ n, r = some n → nxt ≤ n := by
  induction cnt generalizing nxt gain with
  | zero => exact ⟨none, rfl, fun n h => by cases h⟩
  | succ cnt ih =>
    have hn : nxt < sv.v.length := by omega
    simp only [rightInner, get_ok uc nxt (hucl ▸ hn) 0, get_ok sv.d nxt (hdl ▸ hn) 0, liftK, bind,
      Except.bind]
    by_cases hlt : uc.getD nxt 0 < sv.d.getD nxt 0
    · rw [if_pos hlt, if_neg (by have := hslack nxt hn hlt; omega)]
      exact ⟨some nxt, rfl, fun n h => by cases h; exact Nat.le_refl _⟩
    · rw [if_neg hlt]
      by_cases h1 : nxt + 1 < sv.v.length
      · obtain ⟨g, hg⟩ := hex nxt h1 (by have := hdpos nxt hn; omega)
        rw [if_pos (show nxt + 1 < sv.nbSinks from h1), readGain_some gr nxt g (hgl ▸ hn) hg]
        obtain ⟨r, e, hr⟩ := ih (nxt + 1) (gain + g) (by omega) (by have := hgr nxt g hg; omega)
        exact ⟨r, e, fun n h => Nat.le_of_succ_le (hr n h)⟩
      · rw [if_neg (show ¬ nxt + 1 < sv.nbSinks from h1)]
        have : cnt = 0 := by omega
        subst this
        exact ⟨none, rfl, fun n h => by cases h⟩

/-- the outer loop needs of the scans it starts only that they return; it resumes strictly right of
`snk` -/
theorem rightOuter_ok
    (hex : ∀ j, j + 1 < sv.v.length → uc.getD j 0 ≠ 0 → ∃ g, gr.getD j none = some g)
    (hin : ∀ snk g, snk + 1 < sv.v.length → gr.getD snk none = some g →
      ∃ r, rightInner sv uc gr (sv.nbSinks - (snk + 1)) (snk + 1) g = .ok r ∧
        ∀ n, r = some n → snk + 1 ≤ n)
    (fuel snk : Nat) (hf : sv.v.length - snk < fuel) :
    rightOuter sv uc gr fuel snk = .ok () := by
  induction fuel generalizing snk with
  | zero => exact absurd hf (Nat.not_lt_zero _)
  | succ fuel ih =>
    simp only [rightOuter]
    by_cases h1 : snk + 1 < sv.v.length
    · have hsm : snk < sv.v.length := Nat.lt_of_succ_lt h1
      have hdec : sv.v.length - (snk + 1) < fuel :=
        Nat.lt_of_lt_of_le (Nat.sub_lt_sub_left hsm (Nat.lt_succ_self _)) (Nat.le_of_lt_succ hf)
      rw [if_pos (show snk + 1 < sv.nbSinks from h1)]
      simp only [get_ok uc snk (hucl ▸ hsm) 0, liftK, bind, Except.bind]
      by_cases h0 : uc.getD snk 0 = 0
      · rw [if_pos h0]
        exact ih (snk + 1) hdec
      · rw [if_neg h0]
        obtain ⟨g, hg⟩ := hex snk h1 h0
        obtain ⟨r, e, hr⟩ := hin snk g h1 hg
        rw [readGain_some gr snk g (hgl ▸ hsm) hg]
        simp only [e]
        have hnext : snk + 1 ≤ nextRight r snk := by
          cases r with
          | none => exact Nat.le_refl _
          | some n => exact hr n rfl
        exact ih _ (Nat.lt_of_le_of_lt (Nat.sub_le_sub_left hnext _) hdec)
    · rw [if_neg (show ¬ snk + 1 < sv.nbSinks from h1)]; rfl

end

section
variable (hgl : gl.length = sv.v.length)
include hucl hgl

include hdl hdpos in
theorem leftInner_ok (be : Nat → Int) (c : Int)
    (hex : ∀ j, 1 ≤ j → j < sv.v.length → uc.getD j 0 ≠ 0 → ∃ g, gl.getD j none = some g)
    (hgl' : ∀ j g, gl.getD j none = some g → g ≤ be (j - 1) - be j)
    (hslack : ∀ j, j < sv.v.length → uc.getD j 0 < sv.d.getD j 0 → be j ≤ 0) (hc0 : 0 ≤ c)
    (k : Nat) (gain : Int) (hk : k ≤ sv.v.length) (hI : gain ≤ be (k - 1) - c) :
    ∃ r, leftInner sv uc gl k gain = .ok r ∧ ∀ n, r = some n → n < k := by
  induction k generalizing gain with
  | zero => exact ⟨none, rfl, fun n h => by cases h⟩
  | succ nxt ih =>
    have hn : nxt < sv.v.length := hk
    rw [Nat.add_sub_cancel] at hI
    simp only [leftInner, get_ok uc nxt (hucl ▸ hn) 0, get_ok sv.d nxt (hdl ▸ hn) 0, liftK, bind,
      Except.bind]
    by_cases hlt : uc.getD nxt 0 < sv.d.getD nxt 0
    · rw [if_pos hlt, if_neg (by have := hslack nxt hn hlt; omega)]
      exact ⟨some nxt, rfl, fun n h => by cases h; exact Nat.lt_succ_self _⟩
    · rw [if_neg hlt]
      by_cases h1 : 1 ≤ nxt
      · obtain ⟨g, hg⟩ := hex nxt h1 hn (by have := hdpos nxt hn; omega)
        rw [if_pos h1, readGain_some gl nxt g (hgl ▸ hn) hg]
        obtain ⟨r, e, hr⟩ := ih (gain + g) (Nat.le_of_lt hn) (by have := hgl' nxt g hg; omega)
        exact ⟨r, e, fun n h => Nat.lt_succ_of_lt (hr n h)⟩
      · rw [if_neg h1]
        have : nxt = 0 := by omega
        subst this
        exact ⟨none, rfl, fun n h => by cases h⟩

theorem leftOuter_ok
    (hex : ∀ j, 1 ≤ j → j < sv.v.length → uc.getD j 0 ≠ 0 → ∃ g, gl.getD j none = some g)
    (hin : ∀ snk g, 1 ≤ snk → snk < sv.v.length → gl.getD snk none = some g →
      ∃ r, leftInner sv uc gl snk g = .ok r ∧ ∀ n, r = some n → n < snk)
    (fuel snk : Nat) (hf : snk < fuel) (hs : snk ≤ sv.v.length - 1) :
    leftOuter sv uc gl fuel snk = .ok () := by
  induction fuel generalizing snk with
  | zero => omega
  | succ fuel ih =>
    simp only [leftOuter]
    by_cases h1 : 1 ≤ snk
    · rw [if_pos h1]
      have hsm : snk < sv.v.length := by omega
      simp only [get_ok uc snk (hucl ▸ hsm) 0, liftK, bind, Except.bind]
      by_cases h0 : uc.getD snk 0 = 0
      · rw [if_pos h0]
        exact ih (snk - 1) (by omega) (by omega)
      · rw [if_neg h0]
        obtain ⟨g, hg⟩ := hex snk h1 hsm h0
        obtain ⟨r, e, hr⟩ := hin snk g h1 hsm hg
        rw [readGain_some gl snk g (hgl ▸ hsm) hg]
        simp only [e]
        have hnext : nextLeft r snk < snk := by
          cases r with
          | none => exact Nat.sub_lt h1 Nat.one_pos
          | some n => exact hr n rfl
        exact ih _ (by omega) (by omega)
    · rw [if_neg h1]; rfl

end
end

theorem colSum_ne_zero_mem (plan : Plan) (k : Nat) (h : colSum plan k ≠ 0) :
    ∃ e ∈ plan, e.2.1 = k := by
  by_cases hex : ∃ e ∈ plan, e.2.1 = k
  · exact hex
  · exact absurd (colSum_zero plan k (fun e he hk => hex ⟨e, he, hk⟩)) h

/-- a certificate on neighbouring sinks for the plan `sol` of the solver instance `sv` -/
structure NbCert (sv : Solver) (sol : Plan) (be : Nat → Int) : Prop where
  nn : ∀ j, j < sv.v.length → 0 ≤ be j
  slack : ∀ j, j < sv.v.length → colSum sol j < sv.d.getD j 0 → be j ≤ 0
  right : ∀ e ∈ sol, e.2.1 + 1 < sv.v.length →
    cs sv e.1 e.2.1 - cs sv e.1 (e.2.1 + 1) ≤ be (e.2.1 + 1) - be e.2.1
  left : ∀ e ∈ sol, 1 ≤ e.2.1 →
    cs sv e.1 e.2.1 - cs sv e.1 (e.2.1 - 1) ≤ be (e.2.1 - 1) - be e.2.1

theorem checkSolutionOptimal_ok (sv : Solver) (hdl : sv.d.length = sv.v.length) (sol : Plan)
    (hr : ∀ e ∈ sol, e.1 < sv.u.length ∧ e.2.1 < sv.v.length)
    (hdpos : ∀ j, j < sv.v.length → 0 < sv.d.getD j 0) {be : Nat → Int} (c : NbCert sv sol be) :
    checkSolutionOptimal sv sol = .ok () := by
  have hrep : ∀ {α : Type} (a : α), (List.replicate sv.nbSinks a).length = sv.v.length :=
    fun a => List.length_replicate
  have hnone : ∀ (B : Nat → Int) j x,
      (List.replicate sv.nbSinks (none : Option Int)).getD j none = some x → x ≤ B j :=
    fun _ j x h => by rw [ListFacts.getD_replicate] at h; cases h
  obtain ⟨uc, e1, l1, r1⟩ := usedCapLoop_ok sol (List.replicate sv.nbSinks 0)
    (fun e he => (hrep (0 : Int)).symm ▸ (hr e he).2)
  obtain ⟨gr, e2, l2, hgr, _, g2⟩ := gainLoop_ok sv (fun j => j + 1 < sv.v.length) (· + 1)
    (fun j h _ => h) (fun j => be (j + 1) - be j) sol _ (hrep _) hr c.right (hnone _)
  obtain ⟨gl, e3, l3, hgl, _, k2⟩ := gainLoop_ok sv (fun j => 1 ≤ j) (· - 1)
    (fun j _ h => Nat.lt_of_le_of_lt (Nat.sub_le j 1) h) (fun j => be (j - 1) - be j) sol _
    (hrep _) hr c.left (hnone _)
  have l1' : uc.length = sv.v.length := l1.trans (hrep _)
  have huc : ∀ k, uc.getD k 0 = colSum sol k := by
    intro k; rw [r1 k, ListFacts.getD_replicate, Int.zero_add]
  -- a sink that receives something has its gain entries
  have hex : ∀ j, uc.getD j 0 ≠ 0 → ∃ e ∈ sol, e.2.1 = j := fun j hne =>
    colSum_ne_zero_mem sol j (huc j ▸ hne)
  have hexR : ∀ j, j + 1 < sv.v.length → uc.getD j 0 ≠ 0 → ∃ g, gr.getD j none = some g :=
    fun j hj hne => by
      obtain ⟨e, he, hej⟩ := hex j hne
      exact Option.ne_none_iff_exists'.mp (hej ▸ g2 e he (hej ▸ hj))
  have hexL : ∀ j, 1 ≤ j → j < sv.v.length → uc.getD j 0 ≠ 0 → ∃ g, gl.getD j none = some g :=
    fun j hj _ hne => by
      obtain ⟨e, he, hej⟩ := hex j hne
      exact Option.ne_none_iff_exists'.mp (hej ▸ k2 e he (hej ▸ hj))
  have hslack : ∀ j, j < sv.v.length → uc.getD j 0 < sv.d.getD j 0 → be j ≤ 0 :=
    fun j hj hlt => c.slack j hj (huc j ▸ hlt)
  unfold checkSolutionOptimal
  simp only [e1, gainRightLoop_eq, gainLeftLoop_eq, e2, e3, liftK, bind, Except.bind]
  rw [rightOuter_ok sv uc gr l1' l2 hexR (fun snk g h1 hg =>
      rightInner_ok sv uc gr l1' hdl hdpos l2 be (be snk) hexR hgr hslack
        (c.nn snk (Nat.lt_of_succ_lt h1)) _ _ g (by show _ + (sv.v.length - _) = _; omega)
        (hgr snk g hg))
    (sv.nbSinks + 1) 0 (Nat.lt_succ_self _)]
  exact leftOuter_ok sv uc gl l1' l3 hexL (fun snk g _ hs hg =>
      leftInner_ok sv uc gl l1' hdl hdpos l3 be (be snk) hexL hgl hslack (c.nn snk hs) snk g
        (Nat.le_of_lt hs) (hgl snk g hg))
    (sv.nbSinks + 1) (sv.nbSinks - 1) (Nat.lt_succ_of_le (Nat.sub_le _ _)) (Nat.le_refl _)

theorem sorted_plan_valid (sv : Solver) (p : List Int) (plan : Plan) (post : SolPost sv p plan) :
    validPlan sv.toProblem plan = true := by
  rw [validPlan_iff]
  refine ⟨?_, post.row, post.col⟩
  unfold entriesOk
  rw [List.all_eq_true]
  intro e he
  have := post.ent e he
  simp only [Bool.and_eq_true, decide_eq_true_eq]
  exact ⟨⟨this.1, this.2.1⟩, this.2.2⟩

theorem globCert_nbCert (sv : Solver) (hdl : sv.d.length = sv.v.length)
    (eD : sv.D = prefixFrom 0 sv.d) (p : List Int) (plan : Plan) (post : SolPost sv p plan)
    (be : Nat → Int) (gc : GlobCert sv p be) : NbCert sv plan be := by
  refine ⟨gc.nn, ?_, ?_, ?_⟩
  · intro j hj hlt
    by_cases hb : 0 < be j
    · have h1 := gc.sat j hj hb
      have h2 : sv.D.getD (j + 1) 0 = sv.D.getD j 0 + sv.d.getD j 0 := by
        rw [eD]; exact prefixFrom_succ 0 _ j (by omega)
      rw [colSum_eq_fillP sv p plan post j hj] at hlt
      omega
    · omega
  · intro e he hj
    have hent := post.ent e he
    have := gc.opt e.1 e.2.1 (e.2.1 + 1) hent.1 hent.2.1 hj (post.ov_pos e he)
    omega
  · intro e he hj
    have hent := post.ent e he
    have := gc.opt e.1 e.2.1 (e.2.1 - 1) hent.1 hent.2.1 (by omega) (post.ov_pos e he)
    omega

theorem solve_own_checks (pb : Problem) (hv : checkOk pb = true) :
    ∃ p sol, run (sortedSolver pb) = .ok p ∧ computeSolution (sortedSolver pb) p = .ok sol ∧
      checkSolutionValid (sortedSolver pb).toProblem sol = .ok () ∧
      checkSolutionOptimal (sortedSolver pb) sol = .ok () ∧
      solve pb = .ok (sol.map (ren (fun i => (ord pb.u pb.s).getD i 0)
        (fun j => (ord pb.v pb.d).getD j 0))) := by
  obtain ⟨p, plan, erun, hp, ecs, post, es⟩ := solve_eq pb hv
  have wf := sortedSolver_wf pb
  have hvalid := sorted_plan_valid (sortedSolver pb) p plan post
  have hr : ∀ e ∈ plan, e.1 < (sortedSolver pb).u.length ∧ e.2.1 < (sortedSolver pb).v.length :=
    fun e he => ⟨(post.ent e he).1, (post.ent e he).2.1⟩
  have hcv : checkSolutionValid (sortedSolver pb).toProblem plan = .ok () :=
    (checkSolutionValid_ok_iff (sortedSolver pb).toProblem wf.hs wf.hd plan hr).2 hvalid
  refine ⟨p, plan, erun, ecs, hcv, ?_, es⟩
  obtain ⟨be, gc⟩ := run_globCert pb hv p erun
  exact checkSolutionOptimal_ok _ wf.hd plan hr
    (fun j hj => sortedSolver_dpos pb _ (ListFacts.getD_mem _ j 0 (by rw [wf.hd]; exact hj)))
    (globCert_nbCert _ wf.hd rfl p plan post be gc)

theorem solveFull_ok (pb : Problem) (hv : checkOk pb = true) :
    ∃ plan, solveFull pb = .ok plan ∧ solve pb = .ok plan := by
  obtain ⟨hs, hd, hsn, hdn, hle⟩ := (checkOk_iff pb).mp hv
  obtain ⟨p, sol, erun, ecs, e1, e2, es⟩ := solve_own_checks pb hv
  obtain ⟨_, _, erun', _, ecs', post, _⟩ := solve_eq pb hv
  rw [erun] at erun'
  cases erun'
  rw [ecs] at ecs'
  cases ecs'
  have hback := convertSolutionBack_ok ⟨ord pb.u pb.s, ord pb.v pb.d⟩ sol
    (fun x hx => ⟨length_ord_src pb ▸ (post.ent x hx).1, length_ord_snk pb ▸ (post.ent x hx).2.1⟩)
  refine ⟨_, ?_, es⟩
  unfold solveFull
  simp only [(checkInput_ok_iff pb).mpr hv, mkSorter_ok pb hs hd, convert_ok pb hs hd,
    sortedSolver_check pb hv, erun, ecs, e1, e2, hback, liftK, bind, Except.bind]

theorem solveFull_rejects (pb : Problem) (h : checkOk pb ≠ true) :
    ∃ s, solveFull pb = .error (.thrown s) := by
  obtain ⟨s, e⟩ := checkInput_rejects pb h
  refine ⟨s, ?_⟩
  unfold solveFull
  simp only [e, bind, Except.bind]

theorem solveFull_refines (pb : Problem) (plan : Plan) (h : solveFull pb = .ok plan) :
    solve pb = .ok plan := by
  by_cases hv : checkOk pb = true
  · obtain ⟨plan', e1, e2⟩ := solveFull_ok pb hv
    rw [e1] at h
    cases h
    exact e2
  · obtain ⟨s, e⟩ := solveFull_rejects pb hv
    rw [e] at h
    cases h

end ColoVerif.Transp1d
