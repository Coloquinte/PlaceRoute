import ColoVerif.Proofs.DetOptHpwlExport
import ColoVerif.Proofs.DetOptHpwlDirty
/-!
Facts about the placement states the optimiser reaches (under `Frame` fixed cells stay where the circuit has them;
the initial export has the circuit's orientations and HPWL), the positions written by `RowReordering::writeback`, and the evaluation functions of
the optimiser (`valueOnSwap`, `valueOnInsert`, through update-and-restore of the two incremental
models) expressed with the position-only objective `circuitValue`.
-/
namespace ColoVerif.DetPlace
open ColoVerif State

theorem frame_fixed {c : Circuit} {s0 t : State} (e : fromIspdCircuit c = .ok s0) (f : Frame s0 t) :
    ∀ i : Nat, i < c.cells.length → (c.cell i).fixed = true → t.x i = (c.cell i).x ∧ t.y i = (c.cell i).y := by
  intro i hi hf
  obtain ⟨hx, hy, -, hw⟩ := fromIspd_cell e i hi
  obtain ⟨fx, fy, -⟩ := f.2 i (hw hf)
  exact ⟨fx.trans hx, fy.trans hy⟩

theorem init_orient_kept {c : Circuit} {s0 : State} (e : fromIspdCircuit c = .ok s0) :
    ∀ i, ((exportPlacement s0 c).cell i).orient = (c.cell i).orient :=
  export_orient s0 c fun i hi => (fromIspd_cell e i hi).2.2.1

/-- at construction the objective is the HPWL of the circuit itself (the legalized placement) -/
theorem init_value {c : Circuit} {s0 : State} (e : fromIspdCircuit c = .ok s0) :
    s0.value (circuitValue c) = c.hpwl ∧ (exportPlacement s0 c).hpwl = c.hpwl := by
  have hp : Placer.init c = .ok ⟨s0, IncrNet.xTopologyAll c, IncrNet.yTopologyAll c⟩ := by
    unfold Placer.init; rw [e]
  have hs := (init_sync hp).1
  have h1 : s0.value (circuitValue c) = c.hpwl := by
    have := hs.value
    rw [← C09.detailed_value_is_hpwl c (List.range c.cells.length)]
    exact this.symm
  refine ⟨h1, ?_⟩
  rw [← circuitValue_eq_hpwl c s0 (init_orient_kept e) (frame_fixed e (Frame.refl s0))]
  exact h1

theorem placeChain_positions : ∀ (l : List (Int × Int)) (s t : State) (r p : Int), s.placeChain r p l = .ok t →
    t.x = l.foldl (fun f m => upd f m.1 m.2) s.x ∧ t.y = l.foldl (fun f m => upd f m.1 (s.rowY r)) s.y
  | [], s, t, r, p, e => by
    simp only [placeChain] at e; injection e with e; subst e; exact ⟨rfl, rfl⟩
  | (k, v) :: rest, s, t, r, p, e => by
    unfold placeChain at e
    split at e
    · split at e
      · cases e
      · rename_i u eu
        obtain ⟨hu, -⟩ := place_ok eu
        obtain ⟨h1, h2⟩ := placeChain_positions rest u t r k e
        subst hu
        exact ⟨h1, h2⟩
    · cases e

theorem regionsY_congr {s s' : State} (h : s'.rows = s.rows) : ∀ (gs : List Region) (y : Int → Int),
    regionsY s' y gs = regionsY s y gs
  | [], _ => rfl
  | g :: gs, y => by
    simp only [regionsY, rowY_congr h]
    exact regionsY_congr h gs _

theorem placeRegions_positions : ∀ (gs : List Region) (s t : State), s.placeRegions gs = .ok t →
    t.x = regionsX s.x gs ∧ t.y = regionsY s s.y gs
  | [], s, t, e => by
    simp only [placeRegions] at e; injection e with e; subst e; exact ⟨rfl, rfl⟩
  | g :: gs, s, t, e => by
    unfold placeRegions at e
    split at e
    · cases e
    · rename_i u eu
      obtain ⟨h1, h2⟩ := placeChain_positions g.cells s u g.row g.pred eu
      obtain ⟨k1, k2⟩ := placeRegions_positions gs u t e
      constructor
      · rw [k1, h1]; rfl
      · rw [k2, h2, regionsY_congr (static_respects.placeChain eu).rows]; rfl

/-- after `writeback` every listed cell sits at the leaf's position on its region's row: the state is
the one whose value `runOrdering` read at that leaf (`State.leafValue`) -/
theorem reorderWriteback_positions {s t : State} {cells : List Int} {regions : List Region}
    (e : s.reorderWriteback cells regions = .ok t) : t.x = regionsX s.x regions ∧ t.y = regionsY s s.y regions := by
  obtain ⟨u, eu, ew, -⟩ := reorderWriteback_ok e
  obtain ⟨hx, hy⟩ := unplaceAll_xy eu
  obtain ⟨k1, k2⟩ := placeRegions_positions regions u t ew
  rw [k1, k2, hx, hy, regionsY_congr (static_respects.unplaceAll eu).rows]
  exact ⟨rfl, rfl⟩

theorem reorderWriteback_value (V : Value) {s t : State} {cells : List Int} {regions : List Region}
    (e : s.reorderWriteback cells regions = .ok t) : t.value V = s.leafValue V regions := by
  obtain ⟨hx, hy⟩ := reorderWriteback_positions e
  unfold State.value State.leafValue
  rw [hx, hy]

theorem valueOnSwap_eq {c : Circuit} {p : Placer} (h : Sync c p) {c1 c2 : Int} (v1 : p.pl.validCell c1)
    (v2 : p.pl.validCell c2) :
    (p.valueOnSwap c1 c2).1 = p.pl.valueOnSwap (circuitValue c) c1 c2 ∧ (p.valueOnSwap c1 c2).2 = p := by
  cases hcan : p.pl.canSwap c1 c2 with
  | error e => simp only [Placer.valueOnSwap, State.valueOnSwap, hcan]; exact ⟨trivial, trivial⟩
  | ok b =>
    cases b with
    | false => simp only [Placer.valueOnSwap, State.valueOnSwap, hcan]; exact ⟨trivial, trivial⟩
    | true =>
      simp only [Placer.valueOnSwap, State.valueOnSwap, hcan]
      refine ⟨congrArg some ((h.toF.updateCellTo v1 _ _).updateCellTo v2 _ _).value, ?_⟩
      exact dirty_restore (dirt := [(c1, _, _), (c2, _, _)]) (cells := [c1, c2]) h (by simp)
        (List.forall_mem_cons.2 ⟨v1, List.forall_mem_cons.2 ⟨v2, fun _ hk => nomatch hk⟩⟩)

theorem valueOnInsert_eq {c : Circuit} {p : Placer} (h : Sync c p) {k r q : Int} (v1 : p.pl.validCell k) :
    (p.valueOnInsert k r q).1 = p.pl.valueOnInsert (circuitValue c) k r q ∧ (p.valueOnInsert k r q).2 = p := by
  cases hcan : p.pl.canInsert k r q with
  | error e => simp only [Placer.valueOnInsert, State.valueOnInsert, hcan]; exact ⟨trivial, trivial⟩
  | ok b =>
    cases b with
    | false => simp only [Placer.valueOnInsert, State.valueOnInsert, hcan]; exact ⟨trivial, trivial⟩
    | true =>
      simp only [Placer.valueOnInsert, State.valueOnInsert, hcan]
      refine ⟨congrArg some (h.toF.updateCellTo v1 _ _).value, ?_⟩
      exact dirty_restore (dirt := [(k, _, _)]) (cells := [k]) h (by simp)
        (List.forall_mem_cons.2 ⟨v1, fun _ hk => nomatch hk⟩)

theorem scan_congr {cur : Int} {f g : Int → Option Int} : ∀ (cands : List Int) (best : Option Int),
    (∀ b ∈ cands, f b = g b) → scan cur f cands best = scan cur g cands best
  | [], _, _ => rfl
  | b :: rest, best, h => by
    unfold scan
    rw [h b (List.mem_cons_self ..)]
    have ih := fun bb => scan_congr (cur := cur) rest bb (fun x hx => h x (List.mem_cons_of_mem _ hx))
    split
    · split
      · exact ih _
      · exact ih _
    · exact ih _

/-- `bestSwap` / `bestSwapUpdate` on the real object choose what the acceptance rule chooses for the
position-only objective -/
theorem bestSwapChoice_eq {c : Circuit} {p : Placer} (h : Sync c p) {k : Int} {cands : List Int}
    (vk : p.pl.validCell k) (vc : ∀ b ∈ cands, p.pl.validCell b) :
    p.bestSwapChoice k cands = p.pl.bestSwapChoice (circuitValue c) k cands := by
  unfold Placer.bestSwapChoice State.bestSwapChoice
  rw [h.value]
  exact scan_congr cands none (fun b hb => (valueOnSwap_eq h vk (vc b hb)).1)

theorem bestInsertChoice_eq {c : Circuit} {p : Placer} (h : Sync c p) {k r : Int} {cands : List Int}
    (vk : p.pl.validCell k) :
    p.bestInsertChoice k r cands = p.pl.bestInsertChoice (circuitValue c) k r cands := by
  unfold Placer.bestInsertChoice State.bestInsertChoice
  rw [h.value]
  exact scan_congr cands none (fun b _ => (valueOnInsert_eq h vk).1)

/-- the driver's / harness' flag "no orientation changed since construction" implies the hypothesis
of `circuitValue_eq_hpwl` -/
theorem orientKept_spec {p : Placer} {c : Circuit} (h : p.orientKept c = true) :
    ∀ i, ((exportPlacement p.pl c).cell i).orient = (c.cell i).orient := by
  refine export_orient p.pl c fun i hi => ?_
  have := List.all_eq_true.1 h (i : Int) ((mem_intsUpTo _ _).2 ⟨Int.natCast_nonneg i, by omega⟩)
  simpa using this

end ColoVerif.DetPlace
