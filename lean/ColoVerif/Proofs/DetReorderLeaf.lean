import ColoVerif.Proofs.DetReorderSim
/-!
What the two coordinate vectors (the store `pureStore V`) hold at a leaf of the enumeration of `RowReordering` is what
`writeback` of that leaf would write (`leaf_store_eq`), and that write-back is well-formed (`LeafWF`, `leaf_wf`), under
the structural invariants `Shape`, `Lists`, `XInv`, which Proofs/DetReorderInv.lean and Proofs/DetReorderChoice.lean show
the enumeration maintains.
-/
namespace ColoVerif.DetPlace
open State

/-- the state of the pure store: the x and the y vector -/
abbrev PS := (Int → Int) × (Int → Int)

theorem foldl_upd_agree {α : Type} (val : α → Int) (key : α → Int) (f : Int → Int) :
    ∀ (ws : List α) (x : Int → Int), (∀ m ∈ ws, f (key m) = val m) →
      ∀ d, (d ∈ ws.map key → ws.foldl (fun g m => upd g (key m) (val m)) x d = f d) ∧
           (d ∉ ws.map key → ws.foldl (fun g m => upd g (key m) (val m)) x d = x d)
  | [], x, _, d => by simp
  | w :: ws, x, h, d => by
    simp only [List.foldl_cons, List.map_cons, List.mem_cons]
    have ih := foldl_upd_agree val key f ws (upd x (key w) (val w)) (fun m hm => h m (List.mem_cons_of_mem _ hm)) d
    constructor
    · intro hd
      by_cases hin : d ∈ ws.map key
      · exact ih.1 hin
      · rw [ih.2 hin]
        rcases hd with hd | hd
        · subst hd; simp [upd, h w (List.mem_cons_self ..)]
        · exact absurd hd hin
    · intro hd
      have h1 : d ≠ key w := fun e => hd (Or.inl e)
      have h2 : d ∉ ws.map key := fun e => hd (Or.inr e)
      rw [ih.2 h2]; simp [upd, h1]

/-- the region loops of `writeback` (`R` is `regionsX` or `regionsY s`, writing `val g m` for the entry `m` of
region `g`) produce any function that agrees with every write and with `x` elsewhere -/
theorem regions_eq (val : Region → Int × Int → Int) (R : (Int → Int) → List Region → Int → Int)
    (hnil : ∀ x, R x [] = x)
    (hcons : ∀ x g gs, R x (g :: gs) = R (g.cells.foldl (fun f m => upd f m.1 (val g m)) x) gs) (f : Int → Int) :
    ∀ (gs : List Region) (x : Int → Int), (∀ g ∈ gs, ∀ m ∈ g.cells, f m.1 = val g m) →
    (∀ d, (∀ g ∈ gs, ∀ m ∈ g.cells, m.1 ≠ d) → f d = x d) → ∀ d, R x gs d = f d
  | [], x, _, h2, d => by rw [hnil, h2 d (fun _ hg => nomatch hg)]
  | g :: gs, x, h1, h2, d => by
    rw [hcons]
    apply regions_eq val R hnil hcons f gs _ (fun g' hg' => h1 g' (List.mem_cons_of_mem _ hg'))
    intro d' hd'
    have key := foldl_upd_agree (val g) (fun m => m.1) f g.cells x
      (fun m hm => h1 g (List.mem_cons_self ..) m hm) d'
    by_cases hin : d' ∈ g.cells.map (·.1)
    · exact (key.1 hin).symm
    · rw [key.2 hin]
      apply h2
      intro g' hg' m hm hmd
      rcases List.mem_cons.1 hg' with rfl | hg'
      · exact hin (List.mem_map.2 ⟨m, hm, hmd⟩)
      · exact hd' g' hg' m hm hmd

theorem packPos_length (s : State) : ∀ (l : List Int) (pos : Int), (packPos s pos l).length = l.length
  | [], _ => rfl
  | c :: cs, pos => by simp [packPos, packPos_length s cs]

theorem mem_zip_packPos (s : State) (l : List Int) (pos : Int) (d : Int) (h : d ∈ l) :
    ∃ v, (d, v) ∈ l.zip (packPos s pos l) := by
  rw [← List.map_fst_zip (Nat.le_of_eq (packPos_length s l pos).symm)] at h
  obtain ⟨m, hm, rfl⟩ := List.mem_map.1 h
  exact ⟨m.2, hm⟩

theorem packStore_spec (V : Value) (s : State) : ∀ (l : List Int) (pos : Int) (st : PS), l.Nodup →
    (packStore (pureStore V) s pos l st).2 = st.2 ∧
    (∀ d, d ∉ l → (packStore (pureStore V) s pos l st).1 d = st.1 d) ∧
    (∀ m ∈ l.zip (packPos s pos l), (packStore (pureStore V) s pos l st).1 m.1 = m.2)
  | [], pos, st, _ => by simp [packStore, packPos]
  | c :: cs, pos, st, hn => by
    have hn' := List.nodup_cons.1 hn
    have ih := packStore_spec V s cs (pos + s.width c) ((pureStore V).setX st c pos) hn'.2
    simp only [packStore, packPos, List.zip_cons_cons]
    refine ⟨ih.1, ?_, ?_⟩
    · intro d hd
      have h1 : d ≠ c := fun e => hd (e ▸ List.mem_cons_self ..)
      have h2 : d ∉ cs := fun e => hd (List.mem_cons_of_mem _ e)
      rw [ih.2.1 d h2]
      simp [pureStore, upd, h1]
    · intro m hm
      rcases List.mem_cons.1 hm with rfl | hm
      · rw [ih.2.1 c hn'.1]
        simp [pureStore, upd]
      · exact ih.2.2 m hm

/-- sizes and the fields the enumeration never writes -/
structure Shape (G : List RRegion) (cs : List Int) (rr : RowReord PS) : Prop where
  regions : rr.regions = G
  cells : rr.cells = cs
  olen : rr.order.length = G.length
  plen : rr.positions.length = G.length

/-- the assignment of cells `cs[k..]` to the regions and what the two vectors hold for them -/
structure Lists (s : State) (G : List RRegion) (cs : List Int) (k : Nat) (rr : RowReord PS) : Prop where
  nodup : ∀ (i : Nat) l, rr.order[i]? = some l → l.Nodup
  sub : ∀ (i : Nat) l, rr.order[i]? = some l → ∀ c ∈ l, c ∈ cs.drop k
  cover : ∀ d ∈ cs.drop k, ∃ (i : Nat) (l : List Int), rr.order[i]? = some l ∧ d ∈ l
  disj : ∀ (i i' : Nat) l l', rr.order[i]? = some l → rr.order[i']? = some l' → ∀ c, c ∈ l → c ∈ l' → i = i'
  yinv : ∀ (i : Nat) l g, rr.order[i]? = some l → G[i]? = some g → ∀ c ∈ l, rr.store.2 c = s.rowY g.row
  frame : ∀ d, d ∉ cs → rr.store.1 d = s.x d ∧ rr.store.2 d = s.y d
  fits : ∀ (i : Nat) l g, rr.order[i]? = some l → G[i]? = some g → l ≠ [] → allocatedWidth s l ≤ g.width
  allowed : ∀ (i : Nat) l g, rr.order[i]? = some l → G[i]? = some g → ∀ c ∈ l, s.isRowAllowed c g.row = true

theorem allocatedWidth_foldl (s : State) : ∀ (l : List Int) (a : Int),
    l.foldl (fun acc c => acc + s.width c) a = a + allocatedWidth s l
  | [], a => by simp [allocatedWidth]
  | c :: cs, a => by
    unfold allocatedWidth
    simp only [List.foldl_cons]
    rw [allocatedWidth_foldl s cs (a + s.width c), allocatedWidth_foldl s cs (0 + s.width c)]
    unfold allocatedWidth
    omega

theorem allocatedWidth_cons (s : State) (c : Int) (l : List Int) : allocatedWidth s (c :: l) = s.width c + allocatedWidth s l := by
  unfold allocatedWidth
  simp only [List.foldl_cons]
  rw [allocatedWidth_foldl]
  unfold allocatedWidth
  omega

theorem allocatedWidth_perm (s : State) {l l' : List Int} (h : l.Perm l') : allocatedWidth s l = allocatedWidth s l' :=
  h.foldl_eq' (fun _ _ _ _ _ => by omega) 0

/-- what makes a leaf's write-back go through: one order and one position list per region, positions packed
from `minPos`, the cells of a region fit in its width and may sit on its row, every registered cell is in
exactly one region -/
structure LeafWF (s : State) (G : List RRegion) (cs : List Int) (O P : List (List Int)) : Prop where
  olen : O.length = G.length
  plen : P.length = G.length
  packed : ∀ (i : Nat) l g, O[i]? = some l → G[i]? = some g → P[i]? = some (packPos s g.minPos l)
  fits : ∀ (i : Nat) l g, O[i]? = some l → G[i]? = some g → l ≠ [] → allocatedWidth s l ≤ g.width
  allowed : ∀ (i : Nat) l g, O[i]? = some l → G[i]? = some g → ∀ c ∈ l, s.isRowAllowed c g.row = true
  nodup : ∀ (i : Nat) l, O[i]? = some l → l.Nodup
  sub : ∀ (i : Nat) l, O[i]? = some l → ∀ c ∈ l, c ∈ cs
  cover : ∀ d ∈ cs, ∃ (i : Nat) (l : List Int), O[i]? = some l ∧ d ∈ l
  disj : ∀ (i i' : Nat) l l', O[i]? = some l → O[i']? = some l' → ∀ c, c ∈ l → c ∈ l' → i = i'

/-- the `Region` handed to `writeback` for region `j.1` with the order `j.2` -/
def jobRegion (s : State) (j : RRegion × List Int) : Region := ⟨j.1.row, j.1.cellPred, j.2.zip (packPos s j.1.minPos j.2)⟩

theorem leafRegions_eq (s : State) (G : List RRegion) : ∀ (O P : List (List Int)), O.length = G.length →
    P.length = G.length → (∀ (i : Nat) l g, O[i]? = some l → G[i]? = some g → P[i]? = some (packPos s g.minPos l)) →
    leafRegions G O P = (G.zip O).map (jobRegion s) := by
  induction G with
  | nil => exact fun _ _ _ _ _ => rfl
  | cons g G ih =>
    intro O P h1 h2 h3
    match O, P, h1, h2, h3 with
    | o :: O, p :: P, h1, h2, h3 =>
      have e0 : p = packPos s g.minPos o := Option.some.inj (h3 0 o g rfl rfl)
      show _ :: leafRegions G O P = _ :: (G.zip O).map (jobRegion s)
      rw [ih O P (Nat.succ.inj h1) (Nat.succ.inj h2) fun i l g' a b => h3 (i + 1) l g' a b, e0]
      rfl

/-- regions `j..` have been set up: positions packed, x vector told -/
def XInv (s : State) (G : List RRegion) (j : Nat) (rr : RowReord PS) : Prop :=
  ∀ (i : Nat) l g, j ≤ i → rr.order[i]? = some l → G[i]? = some g →
    rr.positions[i]? = some (packPos s g.minPos l) ∧ ∀ m ∈ l.zip (packPos s g.minPos l), rr.store.1 m.1 = m.2

/-- A leaf is evaluated on what its write-back would produce: with every region set up, the two
vectors are `regionsX` / `regionsY` of the leaf's regions over the placement's coordinates. -/
theorem leaf_store_eq (V : Value) (s : State) (G : List RRegion) (cs : List Int) (rr : RowReord PS)
    (hs : Shape G cs rr) (hl : Lists s G cs 0 rr) (hx : XInv s G 0 rr) :
    V rr.store.1 rr.store.2 = s.leafValue V (leafRegions rr.regions rr.order rr.positions) := by
  unfold State.leafValue
  rw [hs.regions, leafRegions_eq s G _ _ hs.olen hs.plen fun i l g h1 h2 => (hx i l g (Nat.zero_le _) h1 h2).1]
  have idx : ∀ j ∈ G.zip rr.order, ∃ i : Nat, G[i]? = some j.1 ∧ rr.order[i]? = some j.2 := fun j hj =>
    (List.mem_iff_getElem?.1 hj).imp fun i hi => List.getElem?_zip_eq_some.1 hi
  -- a cell that is the key of no leaf region is not registered
  have hout : ∀ d, (∀ g ∈ (G.zip rr.order).map (jobRegion s), ∀ m ∈ g.cells, m.1 ≠ d) → d ∉ cs := by
    intro d hd hdc
    obtain ⟨i, l, h2, hdl⟩ := hl.cover d (by simpa using hdc)
    have hi : i < G.length := hs.olen ▸ (List.getElem?_eq_some_iff.1 h2).1
    obtain ⟨v, hv⟩ := mem_zip_packPos s l G[i].minPos d hdl
    exact hd (jobRegion s (G[i], l)) (List.mem_map_of_mem (List.mem_iff_getElem?.2
      ⟨i, List.getElem?_zip_eq_some.2 ⟨List.getElem?_eq_getElem hi, h2⟩⟩)) (d, v) hv rfl
  have ex : regionsX s.x ((G.zip rr.order).map (jobRegion s)) = rr.store.1 := by
    funext d
    apply regions_eq (fun _ m => m.2) regionsX (fun _ => rfl) (fun _ _ _ => rfl) rr.store.1
    · refine List.forall_mem_map.2 fun j hj m hm => ?_
      obtain ⟨i, h1, h2⟩ := idx j hj
      exact (hx i j.2 j.1 (Nat.zero_le _) h2 h1).2 m hm
    · exact fun d' hd' => (hl.frame d' (hout d' hd')).1
  have ey : regionsY s s.y ((G.zip rr.order).map (jobRegion s)) = rr.store.2 := by
    funext d
    apply regions_eq (fun g _ => s.rowY g.row) (regionsY s) (fun _ => rfl) (fun _ _ _ => rfl) rr.store.2
    · refine List.forall_mem_map.2 fun j hj m hm => ?_
      obtain ⟨i, h1, h2⟩ := idx j hj
      exact hl.yinv i j.2 j.1 h2 h1 m.1 (List.of_mem_zip hm).1
    · exact fun d' hd' => (hl.frame d' (hout d' hd')).2
  rw [ex, ey]

theorem leaf_wf (s : State) (G : List RRegion) (cs : List Int) (rr : RowReord PS)
    (hs : Shape G cs rr) (hl : Lists s G cs 0 rr) (hx : XInv s G 0 rr) : LeafWF s G cs rr.order rr.positions :=
  ⟨hs.olen, hs.plen, fun i l g h1 h2 => (hx i l g (Nat.zero_le _) h1 h2).1, hl.fits, hl.allowed, hl.nodup,
   fun i l h c hc => by simpa using hl.sub i l h c hc, fun d hd => hl.cover d (by simpa using hd), hl.disj⟩

end ColoVerif.DetPlace
