import ColoVerif.Proofs.DetPlaceInv
import ColoVerif.Proofs.InsertionSort
import ColoVerif.Proofs.ListFacts
/-
The constructor of `DetailedPlacement` (C02 `inv_init`).  `linkRow` / `linkRows` write the doubly linked lists from
the per-row cell lists computed by `assignCells` (list `i` is a permutation, sorted by x, of the optimised cells that
`locate` puts in row `i`: `assignCells_spec`).  The facts read off the linking (`BuiltFacts`) serve in both
directions: with the constructor's final `check()` they give `Inv` (`built_inv`), and they make that `check()` pass
(`facts_check`, for the totality proof in DetPlaceInitOk).  The end of the file instantiates this for
`fromIspdCircuit` and reads `exportPlacement` cell by cell.
-/
namespace ColoVerif.DetPlace
open State

/-- the fields the linking never writes -/
structure SameGeom (s t : State) : Prop where
  rows : t.rows = s.rows
  nCells : t.nCells = s.nCells
  width : t.width = s.width
  x : t.x = s.x
  y : t.y = s.y
  orient : t.orient = s.orient
  pol : t.pol = s.pol

theorem SameGeom.refl (s : State) : SameGeom s s := ⟨rfl, rfl, rfl, rfl, rfl, rfl, rfl⟩
theorem SameGeom.trans {s t u : State} (a : SameGeom s t) (b : SameGeom t u) : SameGeom s u :=
  ⟨b.rows.trans a.rows, b.nCells.trans a.nCells, b.width.trans a.width, b.x.trans a.x, b.y.trans a.y,
   b.orient.trans a.orient, b.pol.trans a.pol⟩

/-- in `t` the cells `cs` are linked one after the other in row `r`, after predecessor `p`, up to the row's last
cell.  `linkRow` establishes it (`linkRow_chain`), it survives the linking of the other rows because the lists are
disjoint (`Chain.congr`), the link part of `Inv` is read off it (`Chain.linkPart`), and the model's walk
`State.chain` from its head returns `cs` (`Chain.walk`). -/
def Chain (t : State) (r : Int) : Int → List Int → Prop
  | _, [] => True
  | p, [c] => t.row c = r ∧ t.pred c = p ∧ t.next c = -1 ∧ t.rowLast r = c
  | p, c :: c' :: rest =>
    t.row c = r ∧ t.pred c = p ∧ t.next c = c' ∧ t.x c + t.width c ≤ t.x c' ∧ Chain t r c (c' :: rest)

theorem Chain.head {t : State} {r p c : Int} {rest : List Int} (h : Chain t r p (c :: rest)) :
    t.row c = r ∧ t.pred c = p := by
  cases rest <;> exact ⟨h.1, h.2.1⟩

theorem Chain.congr {t u : State} {r : Int} (hx : u.x = t.x) (hw : u.width = t.width)
    (hl : u.rowLast r = t.rowLast r) (cs : List Int) (p : Int)
    (hd : ∀ d ∈ cs, u.row d = t.row d ∧ u.pred d = t.pred d ∧ u.next d = t.next d) (h : Chain t r p cs) :
    Chain u r p cs := by
  induction cs generalizing p with
  | nil => trivial
  | cons c rest ih =>
    obtain ⟨e1, e2, e3⟩ := hd c List.mem_cons_self
    cases rest with
    | nil => exact ⟨e1.trans h.1, e2.trans h.2.1, e3.trans h.2.2.1, hl.trans h.2.2.2⟩
    | cons c' rest =>
      exact ⟨e1.trans h.1, e2.trans h.2.1, e3.trans h.2.2.1, by rw [hx, hw]; exact h.2.2.2.1,
        ih c (fun d hd' => hd d (List.mem_cons_of_mem _ hd')) h.2.2.2.2⟩

theorem Chain.last {t : State} {r : Int} (cs : List Int) (p : Int) (hne : cs ≠ []) (h : Chain t r p cs) :
    ∃ l ∈ cs, t.rowLast r = l ∧ t.next l = -1 ∧ t.row l = r := by
  induction cs generalizing p with
  | nil => exact absurd rfl hne
  | cons c rest ih =>
    cases rest with
    | nil => exact ⟨c, List.mem_singleton_self c, h.2.2.2, h.2.2.1, h.1⟩
    | cons c' rest =>
      obtain ⟨l, hl, h1⟩ := ih c (List.cons_ne_nil _ _) h.2.2.2.2
      exact ⟨l, List.mem_cons_of_mem _ hl, h1⟩

/-- the link part of `LinkOk` for a cell of row `r` -/
def LinkPart (t : State) (r c : Int) : Prop :=
  t.row c = r ∧
  (t.pred c ≠ -1 → t.validCell (t.pred c) ∧ t.row (t.pred c) = r ∧
      t.x (t.pred c) + t.width (t.pred c) ≤ t.x c ∧ t.next (t.pred c) = c) ∧
  (t.pred c = -1 → t.rowFirst r = c) ∧
  (t.next c ≠ -1 → t.validCell (t.next c) ∧ t.row (t.next c) = r ∧
      t.x c + t.width c ≤ t.x (t.next c) ∧ t.pred (t.next c) = c) ∧
  (t.next c = -1 → t.rowLast r = c)

/-- The predecessor's half of `LinkPart` is asked of the head (hypothesis `hp`) and handed down the
chain; the successor's half is read off the chain. -/
theorem Chain.linkPart {t : State} {r : Int} (cs : List Int) (p : Int) (h : Chain t r p cs)
    (hv : ∀ c ∈ cs, t.validCell c)
    (hp : (p = -1 → t.rowFirst r = cs.headD (-1)) ∧
      (p ≠ -1 → t.validCell p ∧ t.row p = r ∧ t.x p + t.width p ≤ t.x (cs.headD (-1)) ∧ t.next p = cs.headD (-1))) :
    ∀ c ∈ cs, LinkPart t r c := by
  induction cs generalizing p with
  | nil => exact fun _ hd => absurd hd List.not_mem_nil
  | cons c rest ih =>
    obtain ⟨p1, p2⟩ := hp
    obtain ⟨h1, rfl⟩ := h.head
    have vc := hv c List.mem_cons_self
    intro d hd
    cases rest with
    | nil =>
      obtain rfl := List.mem_singleton.mp hd
      exact ⟨h1, p2, p1, fun hh => absurd h.2.2.1 hh, fun _ => h.2.2.2⟩
    | cons c' rest =>
      obtain ⟨-, -, h3, h4, h5⟩ := h
      rcases List.mem_cons.mp hd with rfl | hd
      · refine ⟨h1, p2, p1, ?_, ?_⟩
        · rw [h3]; exact fun _ => ⟨hv c' (List.mem_cons_of_mem _ List.mem_cons_self), h5.head.1, h4, h5.head.2⟩
        · rw [h3]; exact fun hh => absurd hh (validCell_ne (hv c' (List.mem_cons_of_mem _ List.mem_cons_self)))
      · exact ih c h5 (fun d hd => hv d (List.mem_cons_of_mem _ hd))
          ⟨fun hh => absurd hh (validCell_ne vc), fun _ => ⟨vc, h1, h4, h3⟩⟩ d hd

theorem chain_neg (s : State) (fuel : Nat) : s.chain fuel (-1) = [] := by
  cases fuel with
  | zero => rfl
  | succ k => exact if_pos rfl

theorem Chain.walk {t : State} {r : Int} (c : Int) (rest : List Int) (p : Int) (h : Chain t r p (c :: rest))
    (hv : ∀ d ∈ c :: rest, d ≠ -1) (fuel : Nat) (hf : rest.length < fuel) : t.chain fuel c = c :: rest := by
  induction rest generalizing c p fuel with
  | nil =>
    obtain ⟨k, rfl⟩ := Nat.exists_eq_succ_of_ne_zero (Nat.ne_of_gt (Nat.zero_lt_of_lt hf))
    rw [State.chain, if_neg (hv c List.mem_cons_self), h.2.2.1, chain_neg]
  | cons c' rest ih =>
    obtain ⟨k, rfl⟩ := Nat.exists_eq_succ_of_ne_zero (Nat.ne_of_gt (Nat.zero_lt_of_lt hf))
    rw [State.chain, if_neg (hv c List.mem_cons_self), h.2.2.1,
      ih c' c h.2.2.2.2 (fun d hd => hv d (List.mem_cons_of_mem _ hd)) k (Nat.lt_of_succ_lt_succ hf)]

/-- what `linkRow s r cs` leaves alone -/
structure LinkFrame (s t : State) (r : Int) (cs : List Int) : Prop extends SameGeom s t where
  links : ∀ d, d ∉ cs → t.row d = s.row d ∧ t.pred d = s.pred d ∧ t.next d = s.next d
  first : t.rowFirst = s.rowFirst
  last : ∀ q, q ≠ r → t.rowLast q = s.rowLast q

theorem linkRow_frame (r : Int) (cs : List Int) (s t : State) (e : linkRow s r cs = .ok t) : LinkFrame s t r cs := by
  induction cs generalizing s with
  | nil =>
    obtain rfl := Except.ok.inj e
    exact ⟨SameGeom.refl _, fun _ _ => ⟨rfl, rfl, rfl⟩, rfl, fun _ _ => rfl⟩
  | cons c1 rest ih =>
    cases rest with
    | nil =>
      obtain rfl := Except.ok.inj e
      exact ⟨⟨rfl, rfl, rfl, rfl, rfl, rfl, rfl⟩,
        fun d hd => ⟨upd_other _ _ _ _ fun e => hd (e ▸ List.mem_singleton_self _), rfl, rfl⟩, rfl,
        fun q hq => upd_other _ _ _ _ hq⟩
    | cons c2 rest =>
      rw [linkRow] at e
      split at e
      · cases e
      · have fr := ih _ e
        refine ⟨⟨fr.rows, fr.nCells, fr.width, fr.x, fr.y, fr.orient, fr.pol⟩, fun d hd => ?_, fr.first, fr.last⟩
        simp only [List.mem_cons, not_or] at hd
        obtain ⟨g1, g2, g3⟩ := fr.links d (by simp only [List.mem_cons, not_or]; exact hd.2)
        exact ⟨g1.trans (upd_other _ _ _ _ hd.1), g2.trans (upd_other _ _ _ _ hd.2.1), g3.trans (upd_other _ _ _ _ hd.1)⟩

/-- `linkRow` chains a list without repetitions whose cells have no successor yet, whatever their predecessors
were: it overwrites them, except the head's -/
theorem linkRow_chain (r : Int) (cs : List Int) (s t : State) (e : linkRow s r cs = .ok t) (hnd : cs.Nodup)
    (hn : ∀ d ∈ cs, s.next d = -1) : Chain t r (s.pred (cs.headD (-1))) cs := by
  induction cs generalizing s with
  | nil => trivial
  | cons c1 rest ih =>
    cases rest with
    | nil =>
      obtain rfl := Except.ok.inj e
      exact ⟨upd_same _ _ _, rfl, hn _ (List.mem_singleton_self _), upd_same _ _ _⟩
    | cons c2 rest =>
      rw [linkRow] at e
      by_cases hov : s.x c1 + s.width c1 > s.x c2
      · rw [if_pos hov] at e; cases e
      · rw [if_neg hov] at e
        obtain ⟨hc1, hnd'⟩ := List.nodup_cons.mp hnd
        have ch := ih _ e hnd'
          fun d hd => (upd_other _ _ _ _ fun (e' : d = c1) => hc1 (e' ▸ hd)).trans (hn d (List.mem_cons_of_mem _ hd))
        simp only [List.headD_cons, upd_same] at ch
        -- the step writes `row c1`, `next c1`, `pred c2`; the rest of the call leaves `c1` alone
        have fr := linkRow_frame _ _ _ _ e
        obtain ⟨f1, f2, f3⟩ := fr.links c1 hc1
        refine ⟨f1.trans (upd_same _ _ _), f2.trans (upd_other _ _ _ _ fun e' => hc1 (e' ▸ List.mem_cons_self)),
          f3.trans (upd_same _ _ _), ?_, ch⟩
        rw [fr.x, fr.width]
        exact Int.not_lt.mp hov

/-- result of the linking for row `r` whose list is `cs` -/
def RowBuilt (t : State) (r : Int) : List Int → Prop
  | [] => t.rowFirst r = -1 ∧ t.rowLast r = -1
  | c :: rest => t.rowFirst r = c ∧ Chain t r (-1) (c :: rest)

section
variable {t : State} {r : Int} {cs : List Int} (h : RowBuilt t r cs) (hv : ∀ c ∈ cs, t.validCell c)
include h hv

theorem RowBuilt.rowOk : RowOk t r := by
  unfold RowOk
  cases cs with
  | nil => exact ⟨by rw [h.1, h.2], fun hh => absurd h.1 hh⟩
  | cons c rest =>
    obtain ⟨l, hl, l1, l2, l3⟩ := Chain.last (c :: rest) (-1) (List.cons_ne_nil _ _) h.2
    have v0 := hv c List.mem_cons_self
    rw [h.1, l1]
    exact ⟨⟨fun e => absurd e (validCell_ne (hv l hl)), fun e => absurd e (validCell_ne v0)⟩,
      fun _ => ⟨v0, hv l hl, h.2.head.1, h.2.head.2, l3, l2⟩⟩

theorem RowBuilt.linkPart : ∀ c ∈ cs, LinkPart t r c := by
  cases cs with
  | nil => exact fun _ hc => absurd hc List.not_mem_nil
  | cons c rest =>
    exact Chain.linkPart _ (-1) h.2 hv ⟨fun _ => h.1, fun hh => absurd rfl hh⟩

/-- the model's walk along row `r` returns `cs`, given fuel for it -/
theorem RowBuilt.rowCells (hf : cs.length ≤ t.nCells) : t.rowCells r = cs := by
  unfold State.rowCells
  cases cs with
  | nil => rw [h.1]; exact chain_neg ..
  | cons c rest =>
    rw [h.1]
    exact Chain.walk c rest (-1) h.2 (fun d hd => validCell_ne (hv d hd)) _ (Nat.lt_succ_of_le (Nat.le_of_succ_le hf))
end

theorem RowBuilt.congr {t u : State} {r : Int} {cs : List Int} (g : SameGeom t u)
    (he : u.rowFirst r = t.rowFirst r ∧ u.rowLast r = t.rowLast r)
    (hd : ∀ d ∈ cs, u.row d = t.row d ∧ u.pred d = t.pred d ∧ u.next d = t.next d) (h : RowBuilt t r cs) :
    RowBuilt u r cs := by
  cases cs with
  | nil => exact ⟨he.1.trans h.1, he.2.trans h.2⟩
  | cons c rest => exact ⟨he.1.trans h.1, Chain.congr g.x g.width he.2 _ _ hd h.2⟩

/-- one step of `linkRows`: the fresh cells `cs` are linked into the empty row `r` -/
theorem linkRow_built {r : Int} {cs : List Int} {s t : State}
    (e : linkRow (match cs with
                  | [] => s
                  | c :: _ => { s with rowFirst := upd s.rowFirst r c }) r cs = .ok t)
    (hnd : cs.Nodup) (hfresh : ∀ d ∈ cs, s.pred d = -1 ∧ s.next d = -1)
    (hrow : s.rowFirst r = -1 ∧ s.rowLast r = -1) :
    SameGeom s t ∧ (∀ d, d ∉ cs → t.row d = s.row d ∧ t.pred d = s.pred d ∧ t.next d = s.next d) ∧
      (∀ q : Int, q ≠ r → t.rowFirst q = s.rowFirst q ∧ t.rowLast q = s.rowLast q) ∧ RowBuilt t r cs := by
  cases cs with
  | nil =>
    obtain rfl := Except.ok.inj e
    exact ⟨SameGeom.refl _, fun _ _ => ⟨rfl, rfl, rfl⟩, fun _ _ => ⟨rfl, rfl⟩, hrow⟩
  | cons c rest =>
    have fr := linkRow_frame _ _ _ _ e
    refine ⟨⟨fr.rows, fr.nCells, fr.width, fr.x, fr.y, fr.orient, fr.pol⟩, fr.links, fun q hq => ⟨?_, fr.last q hq⟩, ?_,
      (hfresh c List.mem_cons_self).1 ▸ linkRow_chain r _ _ t e hnd fun d hd => (hfresh d hd).2⟩
    · rw [fr.first]; exact upd_other _ _ _ _ hq
    · rw [fr.first]; exact upd_same _ _ _

theorem linkRows_spec (css : List (List Int)) (s t : State) (r0 : Nat) (e : linkRows s r0 css = .ok t)
    (hnd : ∀ cs ∈ css, cs.Nodup) (hdis : css.Pairwise fun cs ds => ∀ c ∈ cs, c ∉ ds)
    (hfresh : ∀ cs ∈ css, ∀ d ∈ cs, s.pred d = -1 ∧ s.next d = -1)
    (hrow : ∀ q : Int, (r0 : Int) ≤ q → s.rowFirst q = -1 ∧ s.rowLast q = -1) :
    SameGeom s t ∧
    (∀ (i : Nat) (cs : List Int), css[i]? = some cs → RowBuilt t ((r0 + i : Nat) : Int) cs) ∧
    (∀ d, (∀ cs ∈ css, d ∉ cs) → t.row d = s.row d ∧ t.pred d = s.pred d ∧ t.next d = s.next d) ∧
    (∀ q : Int, (q < r0 ∨ ((r0 + css.length : Nat) : Int) ≤ q) →
      t.rowFirst q = s.rowFirst q ∧ t.rowLast q = s.rowLast q) := by
  induction css generalizing s r0 with
  | nil =>
    obtain rfl := Except.ok.inj e
    exact ⟨SameGeom.refl _, fun i cs h => by simp at h, fun _ _ => ⟨rfl, rfl, rfl⟩, fun _ _ => ⟨rfl, rfl⟩⟩
  | cons cs css ih =>
    simp only [linkRows] at e
    split at e
    · cases e
    · rename_i t1 e1
      obtain ⟨hcs, hdis'⟩ := List.pairwise_cons.mp hdis
      obtain ⟨g1, f1, r1, b1⟩ :=
        linkRow_built e1 (hnd cs List.mem_cons_self) (hfresh cs List.mem_cons_self) (hrow r0 (Int.le_refl _))
      -- the later rows are linked in a state that still looks fresh to them
      obtain ⟨g2, b2, f2, r2⟩ := ih t1 (r0 + 1) e (fun ds h => hnd ds (List.mem_cons_of_mem _ h)) hdis'
        (fun ds h d hd => by
          have hh := f1 d fun hd' => hcs ds h d hd' hd
          rw [hh.2.1, hh.2.2]
          exact hfresh ds (List.mem_cons_of_mem _ h) d hd)
        (fun q hq => by
          have hh := r1 q (by omega)
          rw [hh.1, hh.2]
          exact hrow q (by omega))
      refine ⟨g1.trans g2, fun i ds hi => ?_, fun d hd => ?_, fun q hq => ?_⟩
      · cases i with
        | zero =>
          obtain rfl := Option.some.inj hi
          -- row `r0` is not touched again
          exact b1.congr g2 (r2 r0 (Or.inl (by omega))) fun d hd => f2 d fun ds h => hcs ds h d hd
        | succ k =>
          rw [show r0 + (k + 1) = r0 + 1 + k from Nat.add_right_comm r0 k 1]
          exact b2 k ds hi
      · have h1 := f1 d (hd cs List.mem_cons_self)
        have h2 := f2 d (fun ds h => hd ds (List.mem_cons_of_mem _ h))
        exact ⟨h2.1.trans h1.1, h2.2.1.trans h1.2.1, h2.2.2.trans h1.2.2⟩
      · rw [List.length_cons] at hq
        have h1 := r1 q (by omega)
        have h2 := r2 q (by omega)
        exact ⟨h2.1.trans h1.1, h2.2.trans h1.2⟩

theorem insertByX_perm (xs : Int → Int) (c : Int) (l : List Int) : (insertByX xs c l).Perm (c :: l) :=
  insert_perm (insertByX xs) (fun _ => rfl) (fun _ _ _ => (ite_eq_or_eq ..).symm) c l

theorem sorted_insertByX (xs : Int → Int) (c : Int) (l : List Int) (hl : l.Pairwise (fun a b => xs a ≤ xs b)) :
    (insertByX xs c l).Pairwise (fun a b => xs a ≤ xs b) :=
  insert_pairwise (insertByX xs) (fun a b => xs a ≤ xs b) (fun _ _ _ => Int.le_trans) (fun _ => rfl)
    (fun c d _ => if hc : xs c < xs d then .inr ⟨if_pos hc, Int.le_of_lt hc⟩ else .inl ⟨if_neg hc, Int.not_lt.mp hc⟩)
    c l hl

theorem findRow_lt (rows : List Row) (x y : Int) (r : Nat) (h : findRow rows x y = some r) : r < rows.length := by
  unfold findRow at h
  simp only at h
  split at h
  · cases h
  · injection h with h
    have := (List.takeWhile_sublist (l := rows) (fun r : Row => r.rect.minY < y || (r.rect.minY == y && r.rect.minX ≤ x))).length_le
    omega

def Located (rows : List Row) (r : Nat) (x y w : Int) : Prop :=
  r < rows.length ∧ (rows.getD r default).rect.minY = y ∧ (rows.getD r default).rect.minX ≤ x ∧
    x + w ≤ (rows.getD r default).rect.maxX

theorem locate_ok (rows : List Row) (x y w : Int) (r : Nat) (h : locate rows x y w = .ok r) : Located rows r x y w := by
  unfold locate at h
  split at h
  · cases h
  · rename_i r' hf
    simp only at h
    split at h
    · cases h
    · split at h
      · cases h
      · split at h
        · cases h
        · injection h with h
          subst h
          exact ⟨findRow_lt rows x y r' hf, by omega, by omega, by omega⟩

theorem Located.mem {rows : List Row} {r : Nat} {x y w : Int} (h : Located rows r x y w) : rows.getD r default ∈ rows :=
  List.getElem_eq_getD (h := h.1) default ▸ List.getElem_mem h.1

/-- the row `assignCells` files cell `c` under (`0` where `locate` throws) -/
def rowOf (rows : List Row) (width xs ys : Int → Int) (c : Int) : Nat :=
  match locate rows (xs c) (ys c) (width c) with
  | .ok r => r
  | .error _ => 0

theorem assignCells_spec {rows : List Row} {width xs ys : Int → Int} {cells : List Int} {lists : List (List Int)}
    (e : assignCells rows width xs ys cells = .ok lists) :
    lists.length = rows.length ∧
    (∀ c ∈ cells, width c ≠ -1 → locate rows (xs c) (ys c) (width c) = .ok (rowOf rows width xs ys c)) ∧
    ∀ (i : Nat) (cs : List Int), lists[i]? = some cs →
      cs.Perm (cells.filter fun c => width c ≠ -1 ∧ rowOf rows width xs ys c = i) ∧
      cs.Pairwise (fun a b => xs a ≤ xs b) := by
  induction cells generalizing lists with
  | nil =>
    obtain rfl := Except.ok.inj e
    refine ⟨List.length_map _, nofun, fun i cs h => ?_⟩
    obtain ⟨_, _, rfl⟩ := List.mem_map.mp (List.mem_of_getElem? h)
    exact ⟨.nil, .nil⟩
  | cons c cells ih =>
    simp only [assignCells] at e
    split at e
    · cases e
    · rename_i acc hacc
      obtain ⟨ih1, ih2, ih3⟩ := ih hacc
      by_cases hw : width c = -1
      · rw [if_pos (beq_iff_eq.mpr hw)] at e
        obtain rfl := Except.ok.inj e
        refine ⟨ih1, List.forall_mem_cons.2 ⟨fun hwd => absurd hw hwd, ih2⟩, fun i cs h => ?_⟩
        rw [List.filter_cons_of_neg (by simp [hw])]
        exact ih3 i cs h
      · rw [if_neg (mt beq_iff_eq.mp hw)] at e
        cases hr : locate rows (xs c) (ys c) (width c) with
        | error x => rw [hr] at e; cases e
        | ok r =>
          rw [hr] at e
          obtain rfl := Except.ok.inj e
          have hrow : rowOf rows width xs ys c = r := by unfold rowOf; rw [hr]
          refine ⟨(List.length_modify ..).trans ih1, List.forall_mem_cons.2 ⟨fun _ => hrow ▸ hr, ih2⟩, fun i cs h => ?_⟩
          obtain ⟨a, ha, rfl⟩ := ListFacts.getElem?_modify_some h
          obtain ⟨p, q⟩ := ih3 i a ha
          by_cases hri : r = i
          · rw [if_pos hri, List.filter_cons_of_pos (by simp [hw, hrow, hri])]
            exact ⟨(insertByX_perm xs c a).trans (p.cons c), sorted_insertByX xs c a q⟩
          · rw [if_neg hri, List.filter_cons_of_neg (by simp [hrow, hri])]
            exact ⟨p, q⟩

section
variable {rows : List Row} {width xs ys : Int → Int} {cells : List Int} {lists : List (List Int)}
  (e : assignCells rows width xs ys cells = .ok lists) {i : Nat} {cs : List Int} {c : Int}
include e

theorem mem_assigned (h : lists[i]? = some cs) : c ∈ cs ↔ c ∈ cells ∧ width c ≠ -1 ∧ rowOf rows width xs ys c = i :=
  ((assignCells_spec e).2.2 i cs h).1.mem_iff.trans (by simp)

theorem assigned_nodup (hnd : cells.Nodup) (h : lists[i]? = some cs) : cs.Nodup :=
  ((assignCells_spec e).2.2 i cs h).1.nodup_iff.mpr (hnd.sublist List.filter_sublist)

theorem assigned_located (h : lists[i]? = some cs) (hc : c ∈ cs) :
    c ∈ cells ∧ width c ≠ -1 ∧ Located rows i (xs c) (ys c) (width c) := by
  obtain ⟨m, w, rfl⟩ := (mem_assigned e h).mp hc
  exact ⟨m, w, locate_ok _ _ _ _ _ ((assignCells_spec e).2.1 c m w)⟩

theorem assigned_cover (hc : c ∈ cells) (hw : width c ≠ -1) : ∃ (i : Nat) (cs : List Int), lists[i]? = some cs ∧ c ∈ cs := by
  have hl := (locate_ok _ _ _ _ _ ((assignCells_spec e).2.1 c hc hw)).1
  rw [← (assignCells_spec e).1] at hl
  exact ⟨_, _, List.getElem?_eq_getElem hl, (mem_assigned e (List.getElem?_eq_getElem hl)).mpr ⟨hc, hw, rfl⟩⟩
end

theorem mem_intsUpTo (n : Nat) (c : Int) : c ∈ intsUpTo n ↔ 0 ≤ c ∧ c < n := by
  simp only [intsUpTo, List.mem_map, List.mem_range]
  constructor
  · rintro ⟨a, ha, rfl⟩
    exact ⟨Int.natCast_nonneg a, Int.ofNat_lt.mpr ha⟩
  · rintro ⟨h1, h2⟩
    exact ⟨c.toNat, by omega, by simp [Int.toNat_of_nonneg h1]⟩

theorem nodup_intsUpTo (n : Nat) : (intsUpTo n).Nodup := by
  unfold intsUpTo List.Nodup
  rw [List.pairwise_map]
  exact (List.nodup_range (n := n)).imp (fun h e => h (Int.ofNat.inj e))

theorem length_intsUpTo (n : Nat) : (intsUpTo n).length = n := by simp [intsUpTo]

namespace Lg

def AllPlaced (s : State) : Prop := ∀ d, s.validCell d → s.width d ≠ -1 → s.row d ≠ -1

theorem allPlaced_iff (s : State) : s.allPlaced = true ↔ AllPlaced s := by
  unfold allPlaced AllPlaced
  rw [List.all_eq_true]
  constructor
  · intro h d vd hw
    have := h d (by rw [mem_intsUpTo]; exact vd)
    simp only [Bool.or_eq_true, isIgnored, isPlaced, beq_iff_eq, bne_iff_ne, ne_eq] at this
    rcases this with h' | h'
    · exact absurd h' hw
    · exact h'
  · intro h d hd
    rw [mem_intsUpTo] at hd
    by_cases hw : s.width d = -1
    · simp [isIgnored, hw]
    · have := h d hd hw
      simp [isPlaced, this]

end Lg

theorem rowAt_nat (s : State) (i : Nat) : s.rowAt (i : Int) = s.rows.getD i default := by
  unfold rowAt
  have : ¬ ((i : Int) < 0) := by omega
  simp [this]

/-- everything the constructor's linking establishes (before its final `check()`) -/
structure PreBuilt (rows : List Row) (n : Nat) (width xs ys : Int → Int) (orient : Int → Orient)
    (pol : Int → Polarity) (s : State) (lists : List (List Int)) : Prop where
  assign : assignCells (sortRows rows) width xs ys (intsUpTo n) = .ok lists
  rows : s.rows = sortRows rows
  nCells : s.nCells = n
  width : s.width = width
  x : s.x = xs
  y : s.y = ys
  orient : s.orient = orient
  pol : s.pol = pol
  built : ∀ (i : Nat) (cs : List Int), lists[i]? = some cs → RowBuilt s (i : Int) cs
  out : ∀ d, (∀ (i : Nat) (cs : List Int), lists[i]? = some cs → d ∉ cs) → s.row d = -1 ∧ s.pred d = -1 ∧ s.next d = -1

/-- … and the final `check()` passed -/
structure Built (rows : List Row) (n : Nat) (width xs ys : Int → Int) (orient : Int → Orient)
    (pol : Int → Polarity) (s : State) (lists : List (List Int)) : Prop
    extends PreBuilt rows n width xs ys orient pol s lists where
  check : s.check = true

variable {rows : List Row} {n : Nat} {width xs ys : Int → Int} {orient : Int → Orient} {pol : Int → Polarity}
  {index : Int → Int} {s : State} {lists : List (List Int)}

theorem assigned_disjoint {rows : List Row} {width xs ys : Int → Int} {cells : List Int} {lists : List (List Int)}
    (e : assignCells rows width xs ys cells = .ok lists) : lists.Pairwise fun cs ds => ∀ c ∈ cs, c ∉ ds :=
  List.pairwise_iff_getElem.mpr fun _ _ hi hj hij _ hc hd => Nat.ne_of_lt hij
    (((mem_assigned e (List.getElem?_eq_getElem hi)).mp hc).2.2.symm.trans
      ((mem_assigned e (List.getElem?_eq_getElem hj)).mp hd).2.2)

theorem linkRows_prebuilt {t : State}
    (hl : assignCells (sortRows rows) width xs ys (intsUpTo n) = .ok lists)
    (ht : linkRows { rows := sortRows rows, nCells := n, rowFirst := fun _ => -1, rowLast := fun _ => -1,
                     width := width, pred := fun _ => -1, next := fun _ => -1, row := fun _ => -1,
                     x := xs, y := ys, orient := orient, pol := pol, index := index } 0 lists = .ok t) :
    PreBuilt rows n width xs ys orient pol t lists := by
  obtain ⟨g, b, f, _⟩ := linkRows_spec lists _ t 0 ht
    (fun cs h => by
      obtain ⟨i, hi⟩ := List.mem_iff_getElem?.mp h
      exact assigned_nodup hl (nodup_intsUpTo n) hi)
    (assigned_disjoint hl) (fun _ _ _ _ => ⟨rfl, rfl⟩) (fun _ _ => ⟨rfl, rfl⟩)
  refine ⟨hl, g.rows, g.nCells, g.width, g.x, g.y, g.orient, g.pol, fun i cs h => by simpa using b i cs h,
    fun d hd => f d fun cs h hdc => ?_⟩
  obtain ⟨i, hi⟩ := List.mem_iff_getElem?.mp h
  exact hd i cs hi hdc

theorem construct_built (e : construct rows n width xs ys orient pol index = .ok s) :
    ∃ lists, Built rows n width xs ys orient pol s lists := by
  unfold construct at e
  simp only at e
  split at e
  · cases e
  · rename_i lists hl
    split at e
    · cases e
    · rename_i t ht
      split at e
      · obtain rfl := Except.ok.inj e
        exact ⟨lists, linkRows_prebuilt hl ht, ‹_›⟩
      · cases e

/-- what the linking gives, cell by cell and row by row -/
structure BuiltFacts (s : State) (lists : List (List Int)) : Prop where
  nRows : s.nRows = lists.length
  rowOk : ∀ r : Int, s.validRow r → RowOk s r
  linkOk : ∀ c : Int, s.validCell c → LinkOk s c
  ignored : ∀ c, s.width c = -1 → s.row c = -1 ∧ s.pred c = -1 ∧ s.next c = -1
  placed : ∀ c, s.validCell c → s.width c ≠ -1 →
    ∃ (i : Nat) (cs : List Int), lists[i]? = some cs ∧ c ∈ cs ∧ s.row c = i ∧ s.y c = s.rowY i
  walk : ∀ (i : Nat) (cs : List Int), lists[i]? = some cs → s.rowCells i = cs

section
variable (B : PreBuilt rows n width xs ys orient pol s lists)
include B

theorem PreBuilt.validCell_iff (c : Int) : s.validCell c ↔ c ∈ intsUpTo n := by
  unfold validCell; rw [B.nCells, mem_intsUpTo]

theorem PreBuilt.nRows : s.nRows = lists.length := by
  unfold State.nRows; rw [B.rows, (assignCells_spec B.assign).1]

variable {i : Nat} {cs : List Int} (h : lists[i]? = some cs)
include h

theorem PreBuilt.valid : ∀ c ∈ cs, s.validCell c :=
  fun c hc => (B.validCell_iff c).mpr (assigned_located B.assign h hc).1

/-- a listed cell is linked into row `i`, inside the row's segment and at its height -/
theorem PreBuilt.cell {c : Int} (hc : c ∈ cs) : LinkOk s c ∧ s.row c = i ∧ s.y c = s.rowY i := by
  obtain ⟨-, -, -, l1, l2, l3⟩ := assigned_located B.assign h hc
  obtain ⟨p0, p1, p2, p3, p4⟩ := (B.built i cs h).linkPart (B.valid h) c hc
  have hi := (List.getElem?_eq_some_iff.mp h).1
  have hn := B.nRows
  have geo : s.y c = s.rowY i ∧ s.rowMinX i ≤ s.x c ∧ s.x c + s.width c ≤ s.rowMaxX i := by
    simp only [rowY, rowMinX, rowMaxX, rowAt_nat, B.rows, B.x, B.y, B.width]
    exact ⟨l1.symm, l2, l3⟩
  refine ⟨?_, p0, geo.1⟩
  unfold LinkOk
  rw [p0]
  exact ⟨⟨by omega, by omega⟩, fun hh => by omega,
    fun _ => ⟨p1, fun hh => ⟨p2 hh, geo.2.1⟩, p3, fun hh => ⟨p4 hh, geo.2.2⟩⟩⟩
end

theorem prebuilt_facts (B : PreBuilt rows n width xs ys orient pol s lists) :
    BuiltFacts s lists := by
  have notin : ∀ c, s.width c = -1 → s.row c = -1 ∧ s.pred c = -1 ∧ s.next c = -1 := by
    intro c hc
    rw [B.width] at hc
    exact B.out c fun i cs h hcc => (assigned_located B.assign h hcc).2.1 hc
  have isin : ∀ c, s.validCell c → s.width c ≠ -1 → ∃ (i : Nat) (cs : List Int), lists[i]? = some cs ∧ c ∈ cs :=
    fun c hc hwc => assigned_cover B.assign ((B.validCell_iff c).mp hc) (B.width ▸ hwc)
  refine ⟨B.nRows, ?_, ?_, notin, ?_, ?_⟩
  · intro r hr
    unfold validRow at hr
    obtain ⟨i, rfl⟩ : ∃ i : Nat, r = i := ⟨r.toNat, by omega⟩
    have h := List.getElem?_eq_getElem (show i < lists.length by have := B.nRows; omega)
    exact (B.built i _ h).rowOk (B.valid h)
  · intro c hc
    by_cases hwc : s.width c = -1
    · obtain ⟨a1, a2, a3⟩ := notin c hwc
      unfold LinkOk
      rw [a1]
      exact ⟨⟨by omega, by omega⟩, fun _ => ⟨a2, a3⟩, fun hh => absurd rfl hh⟩
    · obtain ⟨i, cs, h, hcc⟩ := isin c hc hwc
      exact (B.cell h hcc).1
  · intro c hc hwc
    obtain ⟨i, cs, h, hcc⟩ := isin c hc hwc
    exact ⟨i, cs, h, hcc, (B.cell h hcc).2⟩
  · intro i cs h
    -- the walk's fuel `nCells + 1` suffices: the list has no duplicates and holds cell indices only
    have := (assigned_nodup B.assign (nodup_intsUpTo n) h).length_le_of_subset
      fun d hd => (assigned_located B.assign h hd).1
    rw [length_intsUpTo, ← B.nCells] at this
    exact (B.built i cs h).rowCells (B.valid h) this

theorem checkOrient_iff (s : State) (r c : Int) : s.checkOrient r c = true ↔
    cellOrientationInRow (s.pol c) (s.rowOrient r) ≠ Orient.INVALID ∧
    (cellOrientationInRow (s.pol c) (s.rowOrient r) ≠ Orient.UNKNOWN →
      s.orient c = cellOrientationInRow (s.pol c) (s.rowOrient r)) := by
  simp only [checkOrient, Bool.and_eq_true, Bool.or_eq_true, bne_iff_ne, ne_eq, beq_iff_eq, Decidable.or_iff_not_imp_left]

theorem built_inv (B : Built rows n width xs ys orient pol s lists)
    (hw : ∀ c : Int, 0 ≤ c → c < n → width c ≠ -1 → orient c ≠ Orient.INVALID ∧ 0 < width c) :
    Inv s ∧ s.allPlaced = true := by
  have F := prebuilt_facts B.toPreBuilt
  have hchk := B.check
  unfold State.check at hchk
  simp only [Bool.and_eq_true, List.all_eq_true] at hchk
  obtain ⟨-, horient⟩ := hchk
  constructor
  · refine Inv.mk' F.rowOk F.linkOk ?_
    intro c hc
    unfold CellOk
    constructor
    · intro hwc
      unfold validCell at hc
      rw [B.nCells] at hc
      have := hw c hc.1 hc.2 (B.width ▸ hwc)
      rw [B.orient, B.width]; exact this
    · intro hr
      have hwc : s.width c ≠ -1 := fun hh => hr (F.ignored c hh).1
      obtain ⟨i, cs, h, hcc, hrow, hy⟩ := F.placed c hc hwc
      rw [hrow]
      have hmem : (i : Int) ∈ intsUpTo s.nRows := by
        rw [mem_intsUpTo, F.nRows]
        exact ⟨by omega, by exact_mod_cast (List.getElem?_eq_some_iff.mp h).1⟩
      have ho := (checkOrient_iff ..).1 (horient (i : Int) hmem c (by rw [F.walk i cs h]; exact hcc))
      exact ⟨hwc, ho.1, ho.2, hy⟩
  · refine (Lg.allPlaced_iff s).2 fun c vc hwc => ?_
    obtain ⟨i, cs, h, hcc, hrow, _⟩ := F.placed c vc hwc
    rw [hrow]
    omega

theorem checkRow_of_rowOk {r : Int} (h : RowOk s r) : s.checkRow r = true := by
  unfold RowOk at h
  unfold checkRow
  obtain ⟨h1, h2⟩ := h
  simp only [Bool.and_eq_true, Bool.or_eq_true, decide_eq_true_eq, beq_iff_eq]
  refine ⟨h1, ?_⟩
  by_cases hf : s.rowFirst r = -1
  · exact Or.inl hf
  · obtain ⟨_, _, a, b, c, d⟩ := h2 hf
    exact Or.inr ⟨⟨⟨a, b⟩, c⟩, d⟩

theorem checkCell_of_linkOk {c : Int} (h : LinkOk s c) : s.checkCell c = true := by
  obtain ⟨h1, h2, h3⟩ := h
  unfold checkCell
  rw [Bool.and_eq_true, decide_eq_true_eq]
  refine ⟨h1, ?_⟩
  by_cases hr : s.row c = -1
  · rw [if_pos hr, Bool.and_eq_true, beq_iff_eq, beq_iff_eq]
    exact h2 hr
  · obtain ⟨a, b, c', d⟩ := h3 hr
    rw [if_neg hr, Bool.and_eq_true]
    constructor
    · by_cases hp : s.pred c = -1
      · rw [if_neg fun h => h hp, Bool.and_eq_true, beq_iff_eq, decide_eq_true_eq]
        exact b hp
      · rw [if_pos hp, Bool.and_eq_true, beq_iff_eq, decide_eq_true_eq]
        exact ⟨(a hp).2.1, (a hp).2.2.1⟩
    · by_cases hn : s.next c = -1
      · rw [if_neg fun h => h hn, Bool.and_eq_true, beq_iff_eq, decide_eq_true_eq]
        exact d hn
      · rw [if_pos hn, Bool.and_eq_true, beq_iff_eq, decide_eq_true_eq]
        exact ⟨(c' hn).2.1, (c' hn).2.2.1⟩

theorem facts_check (F : BuiltFacts s lists)
    (ho : ∀ (i : Nat) (cs : List Int), lists[i]? = some cs → ∀ c ∈ cs, s.checkOrient i c = true) :
    s.check = true := by
  unfold State.check
  simp only [Bool.and_eq_true, List.all_eq_true]
  refine ⟨⟨?_, ?_⟩, ?_⟩
  · intro r hr
    rw [mem_intsUpTo] at hr
    exact checkRow_of_rowOk (F.rowOk r hr)
  · intro c hc
    rw [mem_intsUpTo] at hc
    exact checkCell_of_linkOk (F.linkOk c hc)
  · intro r hr c hc
    rw [mem_intsUpTo, F.nRows] at hr
    obtain ⟨i, rfl⟩ : ∃ i : Nat, r = i := ⟨r.toNat, by omega⟩
    have hi : i < lists.length := by exact_mod_cast hr.2
    have h := List.getElem?_eq_getElem hi
    rw [F.walk i _ h] at hc
    exact ho i _ h c hc

theorem ofList_map_nat {α β : Type} (d : β) (f : α → β) (l : List α) (i : Nat) (a : α)
    (h : l[i]? = some a) : ofList d (l.map f) (i : Int) = f a := by
  unfold ofList
  rw [if_neg (by omega), Int.toNat_natCast, List.getD_eq_getElem?_getD, List.getElem?_map, h]
  rfl

/-- the width vector of `fromIspdCircuit` -/
def ispdWidth (h : Int) (cl : Cell) : Int := if cl.fixed then -1 else if cl.placedHeight ≠ h then -1 else cl.placedWidth

/-- the obstacles `fromIspdCircuit` adds: movable cells that are not one row high -/
def ispdObstacles (c : Circuit) (h : Int) : List Rect :=
  (c.cells.filter fun cl => !cl.fixed && cl.placedHeight ≠ h).map Cell.placement

theorem mem_ispdObstacles {c : Circuit} {h : Int} {o : Rect} :
    o ∈ ispdObstacles c h ↔ ∃ cl ∈ c.cells, cl.fixed = false ∧ cl.placedHeight ≠ h ∧ cl.placement = o := by
  simp [ispdObstacles, and_assoc]

theorem ispdWidth_opt {H : Int} {cl : Cell} (hf : cl.fixed = false) (hh : cl.placedHeight = H) :
    ispdWidth H cl = cl.placedWidth := by
  unfold ispdWidth; simp [hf, hh]

theorem ispdWidth_multi {H : Int} {cl : Cell} (hh : cl.placedHeight ≠ H) : ispdWidth H cl = -1 := by
  unfold ispdWidth
  rw [if_pos hh]
  exact ite_self _

theorem ispdWidth_live {H : Int} {cl : Cell} (h : ispdWidth H cl ≠ -1) :
    cl.fixed = false ∧ cl.placedHeight = H ∧ ispdWidth H cl = cl.placedWidth := by
  unfold ispdWidth at h ⊢
  by_cases hf : cl.fixed = true
  · simp [hf] at h
  · by_cases hh : cl.placedHeight ≠ H
    · simp [hf, hh] at h
    · simp only [hf, hh, if_false, Bool.false_eq_true]
      exact ⟨by simp, by simpa using hh, trivial⟩

theorem ispd_live (c : Circuit) (H : Int) (i : Int) (h0 : 0 ≤ i) (h1 : i < c.cells.length)
    (hw : ofList 0 (c.cells.map (ispdWidth H)) i ≠ -1) :
    ∃ cl ∈ c.cells, c.cells[i.toNat]? = some cl ∧ cl.fixed = false ∧ cl.placedHeight = H ∧
      ofList 0 (c.cells.map (ispdWidth H)) i = cl.placedWidth ∧
      ofList 0 (c.cells.map (·.x)) i = cl.x ∧ ofList 0 (c.cells.map (·.y)) i = cl.y ∧
      ofList default (c.cells.map (·.orient)) i = cl.orient ∧ ofList default (c.cells.map (·.pol)) i = cl.pol := by
  obtain ⟨k, rfl⟩ := Int.eq_ofNat_of_zero_le h0
  have hk : k < c.cells.length := by omega
  have hg := List.getElem?_eq_getElem hk
  rw [ofList_map_nat _ _ _ k _ hg] at hw ⊢
  obtain ⟨hf, hh, hwe⟩ := ispdWidth_live hw
  exact ⟨_, List.getElem_mem hk, hg, hf, hh, hwe, ofList_map_nat _ _ _ k _ hg, ofList_map_nat _ _ _ k _ hg,
    ofList_map_nat _ _ _ k _ hg, ofList_map_nat _ _ _ k _ hg⟩

theorem fromIspdCircuit_built {c : Circuit} {s : State} (e : fromIspdCircuit c = .ok s) :
    ∃ h lists, c.rowHeight = some h ∧
      Built (c.computeRows (ispdObstacles c h)) c.cells.length (ofList 0 (c.cells.map (ispdWidth h)))
        (ofList 0 (c.cells.map (·.x))) (ofList 0 (c.cells.map (·.y)))
        (ofList default (c.cells.map (·.orient))) (ofList default (c.cells.map (·.pol))) s lists := by
  unfold fromIspdCircuit at e
  split at e
  · cases e
  · rename_i h hh
    obtain ⟨lists, B⟩ := construct_built e
    exact ⟨h, lists, hh, B⟩

theorem fromIspdCircuit_cell {c : Circuit} {s : State} (e : fromIspdCircuit c = .ok s) :
    ∃ H, c.rowHeight = some H ∧ s.nCells = c.cells.length ∧
      s.rows = sortRows (c.computeRows (ispdObstacles c H)) ∧
      ∀ (i : Nat) (cl : Cell), c.cells[i]? = some cl →
        s.width (i : Int) = ispdWidth H cl ∧ s.x i = cl.x ∧ s.y i = cl.y ∧ s.orient i = cl.orient ∧ s.pol i = cl.pol := by
  obtain ⟨H, lists, hrh, B⟩ := fromIspdCircuit_built e
  refine ⟨H, hrh, B.nCells, B.rows, fun i cl hg => ?_⟩
  rw [B.width, B.x, B.y, B.orient, B.pol]
  exact ⟨ofList_map_nat 0 _ _ i cl hg, ofList_map_nat 0 _ _ i cl hg, ofList_map_nat 0 _ _ i cl hg,
    ofList_map_nat default _ _ i cl hg, ofList_map_nat default _ _ i cl hg⟩

theorem fromIspdCircuit_inv {c : Circuit} {s : State}
    (hd : ∀ cl ∈ c.cells, ¬ cl.fixed → 0 < cl.placedWidth ∧ cl.orient ≠ Orient.INVALID)
    (e : fromIspdCircuit c = .ok s) : Inv s ∧ s.allPlaced = true := by
  obtain ⟨h, lists, _, B⟩ := fromIspdCircuit_built e
  refine built_inv B fun i h0 h1 hw => ?_
  obtain ⟨cl, hcl, -, hf, -, ew, -, -, eo, -⟩ := ispd_live c h i h0 h1 hw
  rw [ew, eo]
  exact (hd cl hcl (Bool.eq_false_iff.mp hf)).symm

/-- the cell `exportPlacement` writes at index `i` -/
def newCell (s : State) (i : Nat) (cl : Cell) : Cell :=
  if cl.fixed then cl else { cl with x := s.x (i : Int), y := s.y (i : Int), orient := s.orient (i : Int) }

theorem export_get (s : State) (c : Circuit) (i : Nat) :
    (exportPlacement s c).cells[i]? = (c.cells[i]?).map (newCell s i) := by
  simp only [exportPlacement, List.getElem?_map, List.getElem?_zipIdx, Nat.zero_add]
  cases c.cells[i]? with
  | none => rfl
  | some cl => rfl

theorem newCell_fixed (s : State) (i : Nat) (cl : Cell) : (newCell s i cl).fixed = cl.fixed := by
  unfold newCell; split <;> rfl

theorem export_length (t : State) (c : Circuit) : (exportPlacement t c).cells.length = c.cells.length := by
  simp [exportPlacement]

end ColoVerif.DetPlace
