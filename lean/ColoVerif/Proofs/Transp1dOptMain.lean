import ColoVerif.Proofs.Transp1dOptLoop
import ColoVerif.Proofs.Transp1dOptSetup
import ColoVerif.Proofs.Transp1dOptFlush
import ColoVerif.Proofs.Transp1dOptDual
import ColoVerif.Proofs.Transp1dValid
/-
Universal optimality of `Transportation1d::solve` (C14).  The sweep invariant is carried through
`push` and `pushAll` and gives `Kkt` of the positions returned by `run` (`run_kkt`, for slack and
balance alike); every run on an input of the domain then has a dual certificate `GlobCert` on the
sorted instance (`run_globCert`: `dualPot_glob` with `kkt_dualPot` under slack, `balanced_dualPot`
under exact balance).  Its sink prices are carried to `certOk` on the ORIGINAL problem by a potential
on the integer line (`psi`, `solve_cert_of_glob`).
-/
namespace ColoVerif.Transp1d

theorem push_sweep (sv : Solver) (sd : SwDom sv) (st st' : St) (sw : SweepInv sv st)
    (hi : st.pRev.length < sv.u.length) (e : push sv st.pRev.length st = .ok st') :
    SweepInv sv st' ∧ st'.pRev.length = st.pRev.length + 1 := by
  obtain ⟨st2, inv2, hpush⟩ := push_setup sv sd st sw hi
  obtain ⟨st3, e3, _, _, _, hc, inv3⟩ := pushLoop_total sv sd.dom _ hi (LoopInv sv st.pRev.length)
    (pushOnce_loopInv sv sd _) (loopFuel sv st2) st2 inv2.occ inv2.pos inv2.ei inv2.hJ
    (mu_lt_loopFuel sv _ st2) inv2
  rw [hpush, e3] at e
  obtain rfl := Except.ok.inj e
  exact ⟨loop_exit sv sd _ st3 inv3 hc, congrArg (· + 1) inv3.len⟩

theorem sweepInv_init (sv : Solver) (hm : 0 < sv.v.length) (sd : SwDom sv) : SweepInv sv St.init := by
  have hD0 := sd.si.D_zero
  have hS0 := sd.si.S_zero
  have hD1 := sd.si.D_step sd.dpos 0 hm
  exact
    { inv := ⟨hm, hm, Int.le_refl _, fun _ h => nomatch h⟩
      ei := ⟨List.Pairwise.nil, fun _ h => nomatch h⟩
      hJ := by show sv.D.getD 0 0 - sv.S.getD 0 0 ≤ 0; omega
      fit := by show (0 : Int) ≤ sv.D.getD (0 + 1) 0 - sv.S.getD 0 0; omega
      head := fun _ h => nomatch h
      init := fun _ => ⟨rfl, rfl, rfl⟩
      iev := fun _ _ h => nomatch h
      mono := ⟨fun _ _ _ _ _ => Int.le_refl _, fun _ => Int.le_refl _⟩
      optL := fun k _ _ t t' h1 h2 => by
        rw [show t = t' from Nat.le_antisymm h1 (Nat.le_trans h2 (Nat.zero_le t))]
      facts := trivial }

/-- under exact balance (all positions `0`, `balanced_p_zero`) `Kkt` says nothing: a premise of each
of its four clauses fails -/
theorem run_kkt (sv : Solver) (sd : SwDom sv) (p : List Int) (e : run sv = .ok p) : Kkt sv p := by
  by_cases hm : 0 < sv.v.length
  · obtain ⟨st, ⟨sw, _⟩, hl, e', _⟩ := run_total sv sd.dom (Or.inr hm)
      (fun i st => SweepInv sv st ∧ st.pRev.length = i)
      (fun i st st' hi ⟨sw, hl⟩ e => by subst hl; exact push_sweep sv sd st st' sw hi e)
      ⟨sweepInv_init sv hm sd, rfl⟩
    obtain rfl := Except.ok.inj (e.symm.trans e')
    exact facts_kkt sv _ (by rw [List.length_reverse]; exact hl)
      (by rw [List.reverse_reverse]; exact sw.facts)
  · -- no sink: no supply, hence no source
    have h0 : sv.u.length = 0 := by
      apply Nat.eq_zero_of_not_pos
      intro hn
      have : sv.S.getD 0 0 < sv.S.getD 1 0 := sd.si.S_step sd.spos 0 hn
      have := sd.dom.Smono 1 sv.u.length hn (Nat.le_refl _)
      have := sd.dom.slack
      have := sd.si.S_zero
      have := sd.si.D_zero
      rw [Nat.eq_zero_of_not_pos hm] at *
      omega
    exact ⟨fun a k _ hk => by omega, fun a ha => by omega, fun k b _ hb => by omega,
      fun b hb => by omega⟩

theorem solve_optimal_of_cert (pb : Problem)
    (h : ∃ plan al be, solve pb = .ok plan ∧ certOk pb plan al be = true) :
    ∃ plan, solve pb = .ok plan ∧ validPlan pb plan = true ∧
      ∀ plan', validPlan pb plan' = true → planCost pb plan ≤ planCost pb plan' := by
  obtain ⟨plan, al, be, e, hc⟩ := h
  refine ⟨plan, e, ?_, fun plan' hv' => cert_optimal_core pb plan plan' al be hc hv'⟩
  simp only [certOk, Bool.and_eq_true] at hc
  exact hc.1.1.1.1

/-- `min_{j ≤ k} f j`: the range is closed, hence non-empty, unlike that of `mx` -/
def minOver (f : Nat → Int) : Nat → Int
  | 0 => f 0
  | k + 1 => min (minOver f k) (f (k + 1))

theorem minOver_le (f : Nat → Int) (k j : Nat) (h : j ≤ k) : minOver f k ≤ f j := by
  induction k with
  | zero =>
    have : j = 0 := by omega
    subst this; exact Int.le_refl _
  | succ k ih =>
    simp only [minOver]
    by_cases hj : j = k + 1
    · subst hj; omega
    · have := ih (by omega); omega

theorem le_minOver (f : Nat → Int) (k : Nat) (c : Int) (h : ∀ j, j ≤ k → c ≤ f j) :
    c ≤ minOver f k := by
  induction k with
  | zero => exact h 0 (Nat.le_refl _)
  | succ k ih =>
    simp only [minOver]
    have := ih (fun j hj => h j (by omega))
    have := h (k + 1) (Nat.le_refl _)
    omega

/-- the potential on the integer line induced by sink prices `be`:
`ψ(x) = min_{j < m} (be j + |x - v j|)` (`0` when there is no sink).  It is non-negative, 1-Lipschitz,
`ψ(v j) ≤ be j`, and `ψ(u i) - ψ(v j) = |u i - v j|` wherever source `i` overlaps sink `j` of a
`GlobCert` (`psi_tight`, from `GlobCert.opt`). -/
def psi (be : Nat → Int) (v : List Int) (m : Nat) (x : Int) : Int :=
  if m = 0 then 0 else minOver (fun j => be j + iabs (x - v.getD j 0)) (m - 1)

theorem psi_le (be : Nat → Int) (v : List Int) (m : Nat) (x : Int) (j : Nat) (hj : j < m) :
    psi be v m x ≤ be j + iabs (x - v.getD j 0) := by
  unfold psi
  rw [if_neg (by omega)]
  exact minOver_le (fun j => be j + iabs (x - v.getD j 0)) (m - 1) j (by omega)

theorem le_psi (be : Nat → Int) (v : List Int) (m : Nat) (x c : Int) (hm : 0 < m)
    (h : ∀ j, j < m → c ≤ be j + iabs (x - v.getD j 0)) : c ≤ psi be v m x := by
  unfold psi
  rw [if_neg (by omega)]
  exact le_minOver (fun j => be j + iabs (x - v.getD j 0)) (m - 1) c (fun j hj => h j (by omega))

theorem psi_nonneg (be : Nat → Int) (v : List Int) (m : Nat) (x : Int)
    (hnn : ∀ j, j < m → 0 ≤ be j) : 0 ≤ psi be v m x := by
  by_cases hm : m = 0
  · unfold psi; rw [if_pos hm]
  · apply le_psi _ _ _ _ _ (by omega)
    intro j hj
    have := hnn j hj
    have := iabs_nonneg (x - v.getD j 0)
    omega

theorem psi_lip (be : Nat → Int) (v : List Int) (m : Nat) (x y : Int) :
    psi be v m x - psi be v m y ≤ iabs (x - y) := by
  by_cases hm : m = 0
  · unfold psi; rw [if_pos hm]
    have := iabs_nonneg (x - y)
    omega
  · have : psi be v m x - iabs (x - y) ≤ psi be v m y := by
      apply le_psi _ _ _ _ _ (by omega)
      intro j hj
      have := psi_le be v m x j hj
      have := iabs_tri x y (v.getD j 0)
      omega
    omega

theorem psi_at (be : Nat → Int) (v : List Int) (m : Nat) (j : Nat) (hj : j < m) :
    psi be v m (v.getD j 0) ≤ be j := by
  have h := psi_le be v m (v.getD j 0) j hj
  rwa [Int.sub_self, iabs_of_nonneg (Int.le_refl 0), Int.add_zero] at h

theorem psi_tight (sv : Solver) (p : List Int) (be : Nat → Int) (gc : GlobCert sv p be)
    (i j : Nat) (hi : i < sv.u.length) (hj : j < sv.v.length) (hov : 0 < ov sv p i j) :
    psi be sv.v sv.v.length (sv.u.getD i 0) - psi be sv.v sv.v.length (sv.v.getD j 0)
      = cs sv i j := by
  have h1 := psi_lip be sv.v sv.v.length (sv.u.getD i 0) (sv.v.getD j 0)
  have h2 : be j + cs sv i j ≤ psi be sv.v sv.v.length (sv.u.getD i 0) := by
    apply le_psi _ _ _ _ _ (by omega)
    intro j' hj'
    have := gc.opt i j j' hi hj hj' hov
    unfold cs at this ⊢
    omega
  have h3 := psi_at be sv.v sv.v.length j hj
  unfold cs at h2 ⊢
  omega

theorem fillP_eq_sumTo (sv : Solver) (p : List Int) (j n : Nat) :
    fillP sv p j n = sumTo n (fun i => ovP sv p i j) := by
  induction n with
  | zero => rfl
  | succ n ih => simp only [fillP, sumTo, ih]

theorem colSum_eq_fillP (sv : Solver) (p : List Int) (plan : Plan) (post : SolPost sv p plan)
    (j : Nat) (hj : j < sv.v.length) : colSum plan j = fillP sv p j sv.u.length := by
  rw [colSum_eq_sumTo_cellSum plan sv.u.length (fun e he => (post.ent e he).1), fillP_eq_sumTo]
  apply sumTo_congr
  intro k hk
  show cellSum plan k j = ovP sv p k j
  rw [ovP_eq]
  exact post.cell k j hk hj

/-- a sink at which `ψ` is positive has a positive price, hence is full -/
theorem psi_sat (sv : Solver) (p : List Int) (be : Nat → Int) (gc : GlobCert sv p be) (plan : Plan)
    (post : SolPost sv p plan) (j : Nat) (hj : j < sv.v.length)
    (hpos : 0 < psi be sv.v sv.v.length (sv.v.getD j 0)) :
    colSum plan j = sv.D.getD (j + 1) 0 - sv.D.getD j 0 := by
  rw [colSum_eq_fillP sv p plan post j hj]
  exact gc.sat j hj (Int.lt_of_lt_of_le hpos (psi_at be sv.v _ j hj))

/-- From the sorted instance to the original problem: `al = pb.u.map ψ`, `be' = pb.v.map ψ` for
`ψ = psi be` pass `certOk`.  A sink with `be' > 0` is saturated (`psi_sat`); a sink of zero demand,
which the sorter dropped, receives nothing. -/
theorem solve_cert_of_glob (pb : Problem) (hv : checkOk pb = true)
    (hglob : ∀ p, run (sortedSolver pb) = .ok p →
      ∃ be : Nat → Int, GlobCert (sortedSolver pb) p be) :
    ∃ plan al be, solve pb = .ok plan ∧ certOk pb plan al be = true := by
  obtain ⟨hs, hd, hsn, hdn, hle⟩ := (checkOk_iff pb).mp hv
  obtain ⟨p, plan0, erun, hp, _, post, es⟩ := solve_eq pb hv
  obtain ⟨plan', es', hvalid⟩ := solve_valid pb hv
  obtain rfl := Except.ok.inj (es'.symm.trans es)
  obtain ⟨be, gc⟩ := hglob p erun
  obtain ⟨ψ, hψ⟩ : ∃ ψ, ψ = psi be (sortedSolver pb).v (sortedSolver pb).v.length := ⟨_, rfl⟩
  refine ⟨_, pb.u.map ψ, pb.v.map ψ, es, ?_⟩
  simp only [certOk, Bool.and_eq_true, allBelow_iff, decide_eq_true_eq, List.all_eq_true]
  refine ⟨⟨⟨⟨hvalid, ?_⟩, ?_⟩, ?_⟩, ?_⟩
  · intro j hj
    rw [ListFacts.getD_map_of_lt _ 0 _ hj, hψ]
    exact psi_nonneg _ _ _ _ gc.nn
  · intro i hi j hj
    rw [ListFacts.getD_map_of_lt _ 0 _ hi, ListFacts.getD_map_of_lt _ 0 _ hj, hψ]
    exact psi_lip _ _ _ _ _
  · intro x hx
    obtain ⟨e0, he0, rfl⟩ := List.mem_map.mp hx
    have hent := post.ent e0 he0
    obtain ⟨hia, hu⟩ := sortedSolver_u_getD pb hent.1
    obtain ⟨hjb, hv'⟩ := sortedSolver_v_getD pb hent.2.1
    simp only [ren, cst]
    rw [ListFacts.getD_map_of_lt _ 0 _ hia, ListFacts.getD_map_of_lt _ 0 _ hjb, hψ, ← hu, ← hv']
    exact psi_tight _ p be gc e0.1 e0.2.1 hent.1 hent.2.1 (post.ov_pos e0 he0)
  · intro l hl hpos
    rw [ListFacts.getD_map_of_lt _ 0 _ hl, hψ] at hpos
    rcases colSum_ren_cases _ _ (ord_nodup pb.v pb.d) plan0
      (fun e he => length_ord_snk pb ▸ (post.ent e he).2.1) l with ⟨j, hj, rfl, e⟩ | ⟨hm, e⟩ <;> rw [e]
    · have hj' : j < (sortedSolver pb).v.length := length_ord_snk pb ▸ hj
      rw [← (sortedSolver_v_getD pb hj').2] at hpos
      rw [psi_sat _ p be gc plan0 post j hj' hpos, sortedSolver_D_succ pb hj', Int.add_comm,
        Int.add_sub_cancel]
      exact ListFacts.getD_map_of_lt _ 0 _ hj
    · exact (getD_eq_zero_of_not_mem_ord pb.v pb.d hd hdn hl hm).symm

theorem solve_optimal_of_glob (pb : Problem) (hv : checkOk pb = true)
    (hglob : ∀ p, run (sortedSolver pb) = .ok p →
      ∃ be : Nat → Int, GlobCert (sortedSolver pb) p be) :
    ∃ plan, solve pb = .ok plan ∧ validPlan pb plan = true ∧
      ∀ plan', validPlan pb plan' = true → planCost pb plan ≤ planCost pb plan' :=
  solve_optimal_of_cert pb (solve_cert_of_glob pb hv hglob)

theorem sortedSolver_swDom (pb : Problem) (hv : checkOk pb = true) : SwDom (sortedSolver pb) :=
  ⟨sortedSolver_dom pb hv, sortedSolver_inst pb, sortedSolver_spos pb, sortedSolver_dpos pb⟩

theorem run_globCert (pb : Problem) (hv : checkOk pb = true) (p : List Int)
    (e : run (sortedSolver pb) = .ok p) : ∃ be : Nat → Int, GlobCert (sortedSolver pb) p be := by
  obtain ⟨hs, hd, hsn, hdn, hle⟩ := (checkOk_iff pb).mp hv
  have sd := sortedSolver_swDom pb hv
  obtain ⟨p', e', hp⟩ := run_ok _ sd.dom (sortedSolver_sink_of_source pb hv)
  obtain rfl : p = p' := Except.ok.inj (e.symm.trans e')
  have hS := sortedSolver_S_last pb hs hsn
  have hD := sortedSolver_D_last pb hd hdn
  by_cases hbal : pb.s.sum = pb.d.sum
  · have geo := posGeo_of_runPost _ sd p hp
    have hb : (sortedSolver pb).S.getD (sortedSolver pb).u.length 0
        = (sortedSolver pb).D.getD (sortedSolver pb).v.length 0 := by rw [hS, hD, hbal]
    exact ⟨_, dualPot_glob geo (balanced_dualPot geo (balanced_p_zero _ p hp hb) hb)⟩
  · exact kkt_glob _ p (posDom_of_runPost _ sd p hp (by rw [hS, hD]; omega)) (run_kkt _ sd p e)

theorem solve_optimal (pb : Problem) (hv : checkOk pb = true) :
    ∃ plan, solve pb = .ok plan ∧ validPlan pb plan = true ∧
      ∀ plan', validPlan pb plan' = true → planCost pb plan ≤ planCost pb plan' :=
  solve_optimal_of_glob pb hv (run_globCert pb hv)

theorem solve_cert (pb : Problem) (hv : checkOk pb = true) :
    ∃ plan al be, solve pb = .ok plan ∧ certOk pb plan al be = true :=
  solve_cert_of_glob pb hv (run_globCert pb hv)

theorem balance_then_solve_optimal (pb : Problem) (hs : pb.s.length = pb.u.length)
    (hd : pb.d.length = pb.v.length) (hsn : ∀ x ∈ pb.s, 0 ≤ x) (hdn : ∀ x ∈ pb.d, 0 ≤ x)
    (hm : 0 < pb.v.length) (hdef : pb.d.sum ≤ pb.s.sum) :
    ∃ pb' plan, balanceDemand pb = .ok pb' ∧ checkOk pb' = true ∧ pb'.s.sum = pb'.d.sum ∧
      solve pb' = .ok plan ∧ validPlan pb' plan = true ∧
      ∀ plan', validPlan pb' plan' = true → planCost pb' plan ≤ planCost pb' plan' := by
  obtain ⟨pb', e, h1, h2, h3, h4, h5, h6, _, h8⟩ := balanceDemand_spec pb hs hd (Or.inl hm)
  have hv : checkOk pb' = true := by
    rw [checkOk_iff]
    exact ⟨by rw [h3, h1]; exact hs, by rw [h4, h2]; exact hd, by rw [h3]; exact hsn,
      nonneg_of_getD_le h4 h6 hdn, h5⟩
  obtain ⟨plan, e2, hval, hopt⟩ := solve_optimal pb' hv
  exact ⟨pb', plan, e, hv, h8 hdef, e2, hval, hopt⟩

end ColoVerif.Transp1d
