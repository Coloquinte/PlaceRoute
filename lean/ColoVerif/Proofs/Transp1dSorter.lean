import ColoVerif.Proofs.Transp1dAssign
/-
`Transportation1dSorter`: the orders list exactly the indices of positive supply / demand, the
converted instance has the same totals, and mapping the assignment back stays in range (after F10).
The stages of `assign` (`assign_eq`), hence `assign_total`.  The converted instance is sorted
(`SortedInst`, `sortedSolver_inst`) and its positions are the problem's, read through the orders.
-/
namespace ColoVerif.Transp1d

theorem keyed_ok (pos cap : List Int) (is : List Nat) (h1 : ∀ i ∈ is, i < cap.length)
    (h2 : ∀ i ∈ is, i < pos.length) :
    keyed pos cap is
      = .ok ((is.filter fun i => decide (0 < cap.getD i 0)).map fun i => (pos.getD i 0, i)) := by
  induction is with
  | nil => rfl
  | cons i is ih =>
    have ih' := ih (fun k hk => h1 k (List.mem_cons_of_mem _ hk)) (fun k hk => h2 k (List.mem_cons_of_mem _ hk))
    unfold keyed
    simp only [get_ok cap i (h1 i (List.mem_cons_self ..)) 0, get_ok pos i (h2 i (List.mem_cons_self ..)) 0,
      ih', bind, Except.bind, pure, Except.pure]
    by_cases hc : 0 < cap.getD i 0
    · simp only [hc, if_true, List.filter_cons, decide_true, List.map_cons]
    · simp only [hc, if_false, List.filter_cons, decide_false, Bool.false_eq_true]

theorem insertKey_perm (x : Int × Nat) (l : List (Int × Nat)) : (insertKey x l).Perm (x :: l) :=
  insert_perm insertKey (fun _ => rfl) (fun _ _ _ => (ite_eq_or_eq ..).symm) x l

theorem mem_insertKey (x y : Int × Nat) (l : List (Int × Nat)) :
    y ∈ insertKey x l ↔ y = x ∨ y ∈ l :=
  (insertKey_perm x l).mem_iff.trans List.mem_cons

theorem sortKeys_perm (l : List (Int × Nat)) : (sortKeys l).Perm l := by
  induction l with
  | nil => exact List.Perm.refl _
  | cons x xs ih => exact List.Perm.trans (insertKey_perm x (sortKeys xs)) (List.Perm.cons x ih)

theorem mem_sortKeys (y : Int × Nat) (l : List (Int × Nat)) : y ∈ sortKeys l ↔ y ∈ l :=
  (sortKeys_perm l).mem_iff

theorem sorted_insertKey (x : Int × Nat) (l : List (Int × Nat))
    (h : List.Pairwise (fun a b => a.1 ≤ b.1) l) :
    List.Pairwise (fun a b => a.1 ≤ b.1) (insertKey x l) :=
  insert_pairwise insertKey (fun a b => a.1 ≤ b.1) (fun _ _ _ => Int.le_trans) (fun _ => rfl)
    (fun a b bs => by
      rw [show insertKey a (b :: bs) = if keyLt a b then a :: b :: bs else b :: insertKey a bs from rfl]
      by_cases hc : keyLt a b = true
      · rw [if_pos hc]
        simp [keyLt] at hc
        exact Or.inr ⟨rfl, by omega⟩
      · rw [if_neg hc]
        simp [keyLt] at hc
        exact Or.inl ⟨rfl, by omega⟩) x l h

theorem sorted_sortKeys (l : List (Int × Nat)) :
    List.Pairwise (fun a b => a.1 ≤ b.1) (sortKeys l) := by
  induction l with
  | nil => simp [sortKeys]
  | cons x xs ih => exact sorted_insertKey x _ ih

theorem gather_ok (l : List Int) (is : List Nat) (h : ∀ i ∈ is, i < l.length) :
    gather l is = .ok (is.map fun i => l.getD i 0) := by
  induction is with
  | nil => rfl
  | cons i is ih =>
    unfold gather
    simp [get_ok l i (h i (List.mem_cons_self ..)) 0, ih (fun k hk => h k (List.mem_cons_of_mem _ hk)),
      bind, Except.bind, pure, Except.pure]

/-- the order computed by the sorter for one side -/
def ord (pos cap : List Int) : List Nat :=
  (sortKeys (((List.range pos.length).filter fun i => decide (0 < cap.getD i 0)).map
    fun i => (pos.getD i 0, i))).map (·.2)

theorem ord_perm (pos cap : List Int) :
    (ord pos cap).Perm ((List.range pos.length).filter fun i => decide (0 < cap.getD i 0)) := by
  have h := (sortKeys_perm (((List.range pos.length).filter fun i => decide (0 < cap.getD i 0)).map
    fun i => (pos.getD i 0, i))).map (·.2)
  rwa [List.map_map, show ((·.2) ∘ fun i => (pos.getD i 0, i)) = id from rfl, List.map_id] at h

theorem mem_ord (pos cap : List Int) (k : Nat) :
    k ∈ ord pos cap ↔ k < pos.length ∧ 0 < cap.getD k 0 :=
  (ord_perm pos cap).mem_iff.trans
    (by simp only [List.mem_filter, List.mem_range, decide_eq_true_eq])

theorem getD_eq_zero_of_not_mem_ord (pos cap : List Int) (hl : cap.length = pos.length)
    (hnn : ∀ x ∈ cap, 0 ≤ x) {k : Nat} (hk : k < pos.length) (hm : k ∉ ord pos cap) :
    cap.getD k 0 = 0 :=
  Int.le_antisymm (Int.not_lt.mp fun h => hm ((mem_ord pos cap k).mpr ⟨hk, h⟩))
    (hnn _ (ListFacts.getD_mem cap k 0 (hl ▸ hk)))

theorem ord_cap_pos (pos cap : List Int) : ∀ x ∈ (ord pos cap).map fun i => cap.getD i 0, 0 < x := by
  intro x hx
  obtain ⟨i, hi, rfl⟩ := List.mem_map.mp hx
  exact ((mem_ord _ _ i).mp hi).2

theorem ord_nodup (pos cap : List Int) : (ord pos cap).Nodup :=
  (ord_perm pos cap).nodup_iff.mpr (List.Nodup.sublist List.filter_sublist List.nodup_range)

theorem sorted_ord (pos cap : List Int) :
    List.Pairwise (fun a b => a ≤ b) ((ord pos cap).map fun i => pos.getD i 0) := by
  unfold ord
  rw [List.map_map]
  have hmem : ∀ k ∈ sortKeys (((List.range pos.length).filter fun i => decide (0 < cap.getD i 0)).map
      fun i => (pos.getD i 0, i)), ((fun i => pos.getD i 0) ∘ fun x : Int × Nat => x.2) k = k.1 := by
    intro k hk
    rw [mem_sortKeys] at hk
    obtain ⟨i, _, rfl⟩ := List.mem_map.mp hk
    rfl
  rw [List.map_congr_left hmem]
  exact List.Pairwise.map _ (fun a b h => h) (sorted_sortKeys _)

theorem sorted_getD (l : List Int) (h : List.Pairwise (fun a b => a ≤ b) l) (a b : Nat)
    (hab : a ≤ b) (hb : b < l.length) : l.getD a 0 ≤ l.getD b 0 := by
  rcases Nat.lt_or_eq_of_le hab with h1 | h1
  · exact ListFacts.pairwise_getD_of_lt h 0 h1 hb
  · subst h1; exact Int.le_refl _

theorem sum_filter_pos (g : Nat → Int) (l : List Nat) (h : ∀ i ∈ l, 0 ≤ g i) :
    ((l.filter fun i => decide (0 < g i)).map g).sum = (l.map g).sum := by
  refine ListFacts.sum_map_filter_zero g _ l fun i hi hp => ?_
  have := h i hi
  have := of_decide_eq_false hp
  omega

theorem sum_ord (pos cap : List Int) (hl : cap.length = pos.length) (hnn : ∀ x ∈ cap, 0 ≤ x) :
    ((ord pos cap).map fun i => cap.getD i 0).sum = cap.sum := by
  rw [ListFacts.perm_sum_int ((ord_perm pos cap).map _), sum_filter_pos (fun i => cap.getD i 0),
    ← hl, ListFacts.range_map_getD_id]
  intro i hi
  simp only [List.mem_range] at hi
  exact hnn _ (ListFacts.getD_mem cap i 0 (by omega))

theorem mkSorter_ok (pb : Problem) (hs : pb.s.length = pb.u.length) (hd : pb.d.length = pb.v.length) :
    mkSorter pb = .ok ⟨ord pb.u pb.s, ord pb.v pb.d⟩ := by
  unfold mkSorter
  rw [keyed_ok pb.u pb.s _ (fun i hi => by simp at hi; omega) (fun i hi => by simpa using hi),
    keyed_ok pb.v pb.d _ (fun i hi => by simp at hi; omega) (fun i hi => by simpa using hi)]
  rfl

theorem sum_pos_of_ne_nil (l : List Int) (h : ∀ x ∈ l, 0 < x) (hne : l ≠ []) : 0 < l.sum := by
  cases l with
  | nil => exact absurd rfl hne
  | cons x xs =>
    have hx := h x (List.mem_cons_self ..)
    have := ListFacts.sum_nonneg_int xs (fun y hy => Int.le_of_lt (h y (List.mem_cons_of_mem _ hy)))
    simp only [List.sum_cons]; omega

/-- The loop writes `snkOrder[as[t]]` at `srcOrder[i + t]` and nothing else; distinct source indices
are what keeps a later write from overwriting an earlier one. -/
theorem backLoop_spec (so : Sorter) (hnd : so.srcOrder.Nodup) (as : List Nat) (i : Nat)
    (ret : List Nat) (hi : i + as.length ≤ so.srcOrder.length) (ha : ∀ k ∈ as, k < so.snkOrder.length)
    (hsrc : ∀ k ∈ so.srcOrder, k < ret.length) :
    ∃ r, backLoop so as i ret = .ok r ∧ r.length = ret.length ∧
      (∀ k ∈ r, k ∈ ret ∨ k ∈ so.snkOrder) ∧
      (∀ t, t < as.length →
        r.getD (so.srcOrder.getD (i + t) 0) 0 = so.snkOrder.getD (as.getD t 0) 0) ∧
      ∀ k, (∀ t, t < as.length → so.srcOrder.getD (i + t) 0 ≠ k) → r.getD k 0 = ret.getD k 0 := by
  induction as generalizing i ret with
  | nil => exact ⟨ret, rfl, rfl, fun k hk => Or.inl hk, fun t ht => absurd ht (Nat.not_lt_zero t),
      fun k _ => rfl⟩
  | cons ai as ih =>
    have hi' : i + 1 + as.length ≤ so.srcOrder.length := by simp at hi; omega
    have hi1 : i < so.srcOrder.length := by omega
    have hai : ai < so.snkOrder.length := ha ai (List.mem_cons_self ..)
    have hk : so.srcOrder.getD i 0 < ret.length := hsrc _ (ListFacts.getD_mem _ _ 0 hi1)
    obtain ⟨r, e, l1, l2, A, B⟩ := ih (i + 1) (ret.set (so.srcOrder.getD i 0) (so.snkOrder.getD ai 0))
      hi' (fun k hk => ha k (List.mem_cons_of_mem _ hk)) (by rw [List.length_set]; exact hsrc)
    unfold backLoop
    simp only [get_ok so.srcOrder i hi1 0, get_ok so.snkOrder ai hai 0, setAt, hk, if_true, e,
      bind, Except.bind, pure, Except.pure]
    refine ⟨r, rfl, l1.trans (List.length_set ..), fun k hk => ?_, fun t ht => ?_, fun k hk' => ?_⟩
    · rcases l2 k hk with h | h
      · rcases List.mem_or_eq_of_mem_set h with h' | h'
        · exact Or.inl h'
        · exact Or.inr (h' ▸ ListFacts.getD_mem _ _ 0 hai)
      · exact Or.inr h
    · cases t with
      | zero =>
        rw [B _ fun t ht' heq => by
          have := ListFacts.nodup_getD_inj hnd 0 (i + 1 + t) i (by omega) hi1 heq
          omega]
        exact ListFacts.getD_set_eq ret _ _ 0 hk
      | succ t => exact Nat.succ_add_eq_add_succ i t ▸ A t (by simpa using ht)
    · rw [B k fun t ht => Nat.succ_add_eq_add_succ i t ▸ hk' (t + 1) (by simp; omega)]
      exact ListFacts.getD_set_ne ret _ k _ 0 (hk' 0 (by simp))

theorem checkOk_iff (pb : Problem) :
    checkOk pb = true ↔ pb.s.length = pb.u.length ∧ pb.d.length = pb.v.length ∧
      (∀ x ∈ pb.s, 0 ≤ x) ∧ (∀ x ∈ pb.d, 0 ≤ x) ∧ pb.s.sum ≤ pb.d.sum := by
  simp only [checkOk, Bool.and_eq_true, beq_iff_eq, List.all_eq_true, decide_eq_true_eq]
  constructor
  · rintro ⟨⟨⟨⟨h1, h2⟩, h3⟩, h4⟩, h5⟩; exact ⟨h1, h2, h3, h4, h5⟩
  · rintro ⟨h1, h2, h3, h4, h5⟩; exact ⟨⟨⟨⟨h1, h2⟩, h3⟩, h4⟩, h5⟩

structure SortedInst (sv : Solver) : Prop where
  wf : sv.WF
  us : List.Pairwise (fun a b => a ≤ b) sv.u
  vs : List.Pairwise (fun a b => a ≤ b) sv.v
  snn : ∀ w ∈ sv.s, 0 ≤ w
  dnn : ∀ w ∈ sv.d, 0 ≤ w
  eS : sv.S = prefixFrom 0 sv.s
  eD : sv.D = prefixFrom 0 sv.d

section
variable {sv : Solver} (si : SortedInst sv)
include si

theorem SortedInst.S_zero : sv.S.getD 0 0 = 0 := by
  rw [si.eS]; exact prefixFrom_zero 0 _

theorem SortedInst.D_zero : sv.D.getD 0 0 = 0 := by
  rw [si.eD]; exact prefixFrom_zero 0 _

theorem SortedInst.S_step (spos : ∀ w ∈ sv.s, 0 < w) (k : Nat) (hk : k < sv.u.length) :
    sv.S.getD k 0 < sv.S.getD (k + 1) 0 := by
  rw [si.eS]; exact prefixFrom_lt_succ 0 sv.s spos k (si.wf.hs ▸ hk)

theorem SortedInst.D_step (dpos : ∀ w ∈ sv.d, 0 < w) (k : Nat) (hk : k < sv.v.length) :
    sv.D.getD k 0 < sv.D.getD (k + 1) 0 := by
  rw [si.eD]; exact prefixFrom_lt_succ 0 sv.d dpos k (si.wf.hd ▸ hk)

end

/-- the instance handed to the solver -/
def sortedSolver (pb : Problem) : Solver :=
  mkSolver ((ord pb.u pb.s).map fun i => pb.u.getD i 0) ((ord pb.v pb.d).map fun i => pb.v.getD i 0)
    ((ord pb.u pb.s).map fun i => pb.s.getD i 0) ((ord pb.v pb.d).map fun i => pb.d.getD i 0)

theorem convert_ok (pb : Problem) (hs : pb.s.length = pb.u.length) (hd : pb.d.length = pb.v.length) :
    convert ⟨ord pb.u pb.s, ord pb.v pb.d⟩ pb = .ok (sortedSolver pb) := by
  unfold convert
  have h1 : ∀ i ∈ ord pb.u pb.s, i < pb.u.length := fun i hi => ((mem_ord _ _ i).mp hi).1
  have h2 : ∀ i ∈ ord pb.v pb.d, i < pb.v.length := fun i hi => ((mem_ord _ _ i).mp hi).1
  simp only [gather_ok pb.u _ h1, gather_ok pb.s _ (fun i hi => by rw [hs]; exact h1 i hi),
    gather_ok pb.v _ h2, gather_ok pb.d _ (fun i hi => by rw [hd]; exact h2 i hi),
    bind, Except.bind, pure, Except.pure]
  rfl

theorem sortedSolver_wf (pb : Problem) : (sortedSolver pb).WF where
  hs := (List.length_map _).trans (List.length_map _).symm
  hd := (List.length_map _).trans (List.length_map _).symm
  hS := (prefixFrom_length 0 _).trans (congrArg (· + 1) ((List.length_map _).trans (List.length_map _).symm))
  hD := (prefixFrom_length 0 _).trans (congrArg (· + 1) ((List.length_map _).trans (List.length_map _).symm))

theorem length_ord_src (pb : Problem) : (ord pb.u pb.s).length = (sortedSolver pb).u.length :=
  (List.length_map _).symm

theorem length_ord_snk (pb : Problem) : (ord pb.v pb.d).length = (sortedSolver pb).v.length :=
  (List.length_map _).symm

theorem sortedSolver_S_succ (pb : Problem) {i : Nat} (hi : i < (sortedSolver pb).u.length) :
    (sortedSolver pb).S.getD (i + 1) 0
      = (sortedSolver pb).S.getD i 0 + (sortedSolver pb).s.getD i 0 :=
  prefixFrom_succ 0 _ i (Nat.lt_of_lt_of_eq hi (sortedSolver_wf pb).hs.symm)

theorem sortedSolver_D_succ (pb : Problem) {j : Nat} (hj : j < (sortedSolver pb).v.length) :
    (sortedSolver pb).D.getD (j + 1) 0
      = (sortedSolver pb).D.getD j 0 + (sortedSolver pb).d.getD j 0 :=
  prefixFrom_succ 0 _ j (Nat.lt_of_lt_of_eq hj (sortedSolver_wf pb).hd.symm)

theorem sortedSolver_S_last (pb : Problem) (hs : pb.s.length = pb.u.length) (hsn : ∀ x ∈ pb.s, 0 ≤ x) :
    (sortedSolver pb).S.getD (sortedSolver pb).u.length 0 = pb.s.sum := by
  rw [← (sortedSolver_wf pb).hs]
  exact (prefixFrom_last 0 _).trans (by rw [Int.zero_add]; exact sum_ord pb.u pb.s hs hsn)

theorem sortedSolver_D_last (pb : Problem) (hd : pb.d.length = pb.v.length) (hdn : ∀ x ∈ pb.d, 0 ≤ x) :
    (sortedSolver pb).D.getD (sortedSolver pb).v.length 0 = pb.d.sum := by
  rw [← (sortedSolver_wf pb).hd]
  exact (prefixFrom_last 0 _).trans (by rw [Int.zero_add]; exact sum_ord pb.v pb.d hd hdn)

theorem sortedSolver_spos (pb : Problem) : ∀ x ∈ (sortedSolver pb).s, 0 < x := ord_cap_pos pb.u pb.s

theorem sortedSolver_dpos (pb : Problem) : ∀ x ∈ (sortedSolver pb).d, 0 < x := ord_cap_pos pb.v pb.d

theorem sortedSolver_s_getD_pos (pb : Problem) {i : Nat} (hi : i < (sortedSolver pb).u.length) :
    0 < (sortedSolver pb).s.getD i 0 :=
  sortedSolver_spos pb _
    (ListFacts.getD_mem _ i 0 (Nat.lt_of_lt_of_eq hi (sortedSolver_wf pb).hs.symm))

theorem sortedSolver_inst (pb : Problem) : SortedInst (sortedSolver pb) :=
  ⟨sortedSolver_wf pb, sorted_ord pb.u pb.s, sorted_ord pb.v pb.d,
    fun w hw => Int.le_of_lt (sortedSolver_spos pb w hw),
    fun w hw => Int.le_of_lt (sortedSolver_dpos pb w hw), rfl, rfl⟩

theorem sortedSolver_sink_of_source (pb : Problem) (hv : checkOk pb = true) :
    (sortedSolver pb).u.length = 0 ∨ 0 < (sortedSolver pb).v.length := by
  obtain ⟨hs, hd, hsn, hdn, hle⟩ := (checkOk_iff pb).mp hv
  by_cases h0 : (sortedSolver pb).u.length = 0
  · exact Or.inl h0
  · right
    have hne : (sortedSolver pb).s ≠ [] := by
      intro h
      have : (sortedSolver pb).s.length = 0 := by rw [h]; rfl
      rw [(sortedSolver_wf pb).hs] at this
      exact h0 this
    have h1 := sum_pos_of_ne_nil _ (sortedSolver_spos pb) hne
    have h2 : (sortedSolver pb).s.sum = pb.s.sum := sum_ord pb.u pb.s hs hsn
    have h3 : (sortedSolver pb).d.sum = pb.d.sum := sum_ord pb.v pb.d hd hdn
    have h4 : (sortedSolver pb).d ≠ [] := by
      intro h
      rw [h] at h3
      simp at h3
      omega
    have h5 : 0 < (sortedSolver pb).d.length := List.length_pos_iff.mpr h4
    rw [(sortedSolver_wf pb).hd] at h5
    exact h5

theorem sortedSolver_slack (pb : Problem) (hv : checkOk pb = true) :
    0 ≤ (sortedSolver pb).D.getD (sortedSolver pb).v.length 0
      - (sortedSolver pb).S.getD (sortedSolver pb).u.length 0 := by
  obtain ⟨hs, hd, hsn, hdn, hle⟩ := (checkOk_iff pb).mp hv
  rw [sortedSolver_S_last pb hs hsn, sortedSolver_D_last pb hd hdn]
  omega

theorem sortedSolver_dom (pb : Problem) (hv : checkOk pb = true) : (sortedSolver pb).Dom := by
  have wf := sortedSolver_wf pb
  refine ⟨wf, ?_, ?_, ?_, ?_⟩
  · intro a b hab hb
    exact prefixFrom_mono 0 _ (sortedSolver_dpos pb) a b hab (by rw [wf.hd]; exact hb)
  · intro a b hab hb
    exact prefixFrom_mono 0 _ (sortedSolver_spos pb) a b hab (by rw [wf.hs]; exact hb)
  · have := sortedSolver_slack pb hv; omega
  · rw [(sortedSolver_inst pb).D_zero, (sortedSolver_inst pb).S_zero]; exact Int.le_refl _

/-- The stages of `assign` in one statement (`p` from `run` on the sorted instance, its rounding `a`
to sinks, the result `r` mapped back), so that each theorem about `assign` unfolds it once. -/
theorem assign_eq (pb : Problem) (hv : checkOk pb = true) :
    ∃ p a r, run (sortedSolver pb) = .ok p ∧ RunPost (sortedSolver pb) p ∧
      computeAssignment (sortedSolver pb) p = .ok a ∧
      (∀ k j, k < (sortedSolver pb).u.length → j < (sortedSolver pb).v.length →
        (sortedSolver pb).D.getD j 0 ≤ (sortedSolver pb).S.getD k 0 + p.getD k 0 →
        (sortedSolver pb).S.getD (k + 1) 0 + p.getD k 0 ≤ (sortedSolver pb).D.getD (j + 1) 0 →
        a.getD k 0 = j) ∧
      assign pb = .ok r ∧ r.length = pb.u.length ∧
      (∀ k ∈ r, k = (ord pb.v pb.d).headD 0 ∨ k ∈ ord pb.v pb.d) ∧
      ∀ t, t < (sortedSolver pb).u.length →
        r.getD ((ord pb.u pb.s).getD t 0) 0 = (ord pb.v pb.d).getD (a.getD t 0) 0 := by
  obtain ⟨hs, hd, _, _, _⟩ := (checkOk_iff pb).mp hv
  have hm := sortedSolver_sink_of_source pb hv
  obtain ⟨p, erun, hp⟩ := run_ok (sortedSolver pb) (sortedSolver_dom pb hv) hm
  obtain ⟨a, e, l1, l2, l3⟩ := computeAssignment_spec (sortedSolver pb) (sortedSolver_wf pb)
    (sortedSolver_dpos pb) (sortedSolver_spos pb) rfl rfl p hp hm
  obtain ⟨r, e2, k1, k2, k3, _⟩ := backLoop_spec ⟨ord pb.u pb.s, ord pb.v pb.d⟩ (ord_nodup pb.u pb.s)
    a 0 (List.replicate pb.nbSources ((ord pb.v pb.d).headD 0))
    (by simp [l1, length_ord_src pb]) (fun k hk => by simp only [length_ord_snk pb]; exact l2 k hk)
    (fun k hk => List.length_replicate.symm ▸ ((mem_ord _ _ k).mp hk).1)
  refine ⟨p, a, r, erun, hp, e, l3, ?_, k1.trans List.length_replicate,
    fun k hk => (k2 k hk).imp_left List.eq_of_mem_replicate, fun t ht => ?_⟩
  · unfold assign convertAssignmentBack
    simp only [check, hv, if_true, mkSorter_ok pb hs hd, convert_ok pb hs hd, erun, e, e2, bind,
      Except.bind, pure, Except.pure]
  · have := k3 t (l1 ▸ ht)
    rwa [Nat.zero_add] at this

theorem assign_total (pb : Problem) (hv : checkOk pb = true) :
    ∃ a, assign pb = .ok a ∧ a.length = pb.u.length ∧
      ((∃ j, j < pb.v.length ∧ 0 < pb.d.getD j 0) → ∀ k ∈ a, k < pb.v.length ∧ 0 < pb.d.getD k 0) := by
  obtain ⟨_, _, r, _, _, _, _, er, k1, k2, _⟩ := assign_eq pb hv
  refine ⟨r, er, k1, ?_⟩
  rintro ⟨j, hj1, hj2⟩ k hk
  have hjm : j ∈ ord pb.v pb.d := (mem_ord _ _ j).mpr ⟨hj1, hj2⟩
  refine (mem_ord _ _ k).mp ((k2 k hk).elim (fun h => ?_) id)
  rw [h]
  cases hO : ord pb.v pb.d with
  | nil => rw [hO] at hjm; simp at hjm
  | cons z zs => simp

theorem sortedSolver_u_getD (pb : Problem) {a : Nat} (ha : a < (sortedSolver pb).u.length) :
    (ord pb.u pb.s).getD a 0 < pb.u.length ∧
      (sortedSolver pb).u.getD a 0 = pb.u.getD ((ord pb.u pb.s).getD a 0) 0 :=
  have ha' := Nat.lt_of_lt_of_eq ha (length_ord_src pb).symm
  ⟨((mem_ord pb.u pb.s _).mp (ListFacts.getD_mem _ _ 0 ha')).1, ListFacts.getD_map_of_lt _ 0 _ ha'⟩

theorem sortedSolver_v_getD (pb : Problem) {b : Nat} (hb : b < (sortedSolver pb).v.length) :
    (ord pb.v pb.d).getD b 0 < pb.v.length ∧
      (sortedSolver pb).v.getD b 0 = pb.v.getD ((ord pb.v pb.d).getD b 0) 0 :=
  have hb' := Nat.lt_of_lt_of_eq hb (length_ord_snk pb).symm
  ⟨((mem_ord pb.v pb.d _).mp (ListFacts.getD_mem _ _ 0 hb')).1, ListFacts.getD_map_of_lt _ 0 _ hb'⟩

end ColoVerif.Transp1d
