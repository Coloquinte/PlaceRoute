import ColoVerif.Model.Transp1dChecks
import ColoVerif.Proofs.Transp1dSorter
import ColoVerif.Proofs.Transp1dCert
/-
The self-checks of `Transportation1d::solve()` (`Model/Transp1dChecks.lean`) that do not concern
optimality: `checkInput` accepts exactly the domain of C14, `solverCheck` accepts the instance the
sorter builds, `checkSolutionValid` accepts exactly the valid plans (entries in range).
Each check is the list of its tests, in the order they are made, and the first that fails throws
(`firstThrow`): acceptance, rejection and the site of the throw are read off the list.
-/
namespace ColoVerif.Transp1d

/-- `if (b₁) throw s₁; if (b₂) throw s₂; …` -/
def firstThrow : List (Bool × Site) → K Unit
  | [] => .ok ()
  | c :: r => if c.1 then .error (.thrown c.2) else firstThrow r

theorem firstThrow_append (l r : List (Bool × Site)) :
    firstThrow (l ++ r) = (firstThrow l >>= fun _ => firstThrow r) := by
  induction l with
  | nil => rfl
  | cons c l ih =>
    simp only [List.cons_append, firstThrow]
    split
    · rfl
    · exact ih

theorem firstThrow_ok_iff (l : List (Bool × Site)) : firstThrow l = .ok () ↔ ∀ c ∈ l, c.1 = false := by
  induction l with
  | nil => simp [firstThrow]
  | cons c l ih =>
    simp only [firstThrow, List.forall_mem_cons]
    cases c.1 <;> simp [ih]

theorem firstThrow_thrown (l : List (Bool × Site)) (h : firstThrow l ≠ .ok ()) :
    ∃ s, firstThrow l = .error (.thrown s) := by
  induction l with
  | nil => exact absurd rfl h
  | cons c l ih =>
    simp only [firstThrow] at h ⊢
    split
    · exact ⟨_, rfl⟩
    · rename_i hc; rw [if_neg hc] at h; exact ih h

theorem not_any_neg (l : List Int) : ¬ l.any (fun c => decide (c < 0)) = true ↔ ∀ x ∈ l, 0 ≤ x := by
  simp only [List.any_eq_true, decide_eq_true_eq, not_exists, not_and, Int.not_lt]

theorem any_neg (l : List Int) : l.any (fun c => decide (c < 0)) = true ↔ ∃ x ∈ l, x < 0 := by
  simp only [List.any_eq_true, decide_eq_true_eq]

/-- the totals are computed only once the sizes agree, where `totalSupply`/`totalDemand` cannot fail;
the two tests on the sizes of `u` and `v` are dead (`Site.srcPosSize`, `Site.snkPosSize`) -/
theorem checkInput_eq (pb : Problem) :
    checkInput pb =
      if pb.s.length ≠ pb.u.length then .error (.thrown .supSize)
      else if pb.d.length ≠ pb.v.length then .error (.thrown .demSize)
      else if pb.s.any (fun c => decide (c < 0)) then .error (.thrown .supNeg)
      else if pb.d.any (fun c => decide (c < 0)) then .error (.thrown .demNeg)
      else if pb.d.sum < pb.s.sum then .error (.thrown .supGtDem) else .ok () := by
  unfold checkInput
  simp only [Problem.nbSources, Problem.nbSinks, ne_eq, not_true_eq_false, if_false]
  by_cases hs : pb.s.length = pb.u.length
  · by_cases hd : pb.d.length = pb.v.length
    · simp only [hs, hd, not_true_eq_false, if_false, totalSupply_val hs, totalDemand_val hd, liftK,
        bind, Except.bind]
      rfl
    · simp only [hs, hd, not_true_eq_false, not_false_eq_true, if_false, if_true]
      rfl
  · simp only [hs, not_false_eq_true, if_true]
    rfl

theorem checkInput_tests (pb : Problem) :
    checkInput pb = firstThrow [(decide (pb.s.length ≠ pb.u.length), .supSize),
      (decide (pb.d.length ≠ pb.v.length), .demSize), (pb.s.any (fun c => decide (c < 0)), .supNeg),
      (pb.d.any (fun c => decide (c < 0)), .demNeg), (decide (pb.d.sum < pb.s.sum), .supGtDem)] := by
  simp only [checkInput_eq, firstThrow, decide_eq_true_eq]

theorem checkInput_ok_iff (pb : Problem) : checkInput pb = .ok () ↔ checkOk pb = true := by
  simp only [checkInput_tests, firstThrow_ok_iff, checkOk_iff, List.forall_mem_cons, List.not_mem_nil,
    not_not, Int.not_lt, Bool.eq_false_iff, ne_eq, not_any_neg,
    false_imp_iff, implies_true, and_true, decide_eq_true_eq]

theorem checkInput_rejects (pb : Problem) (h : checkOk pb ≠ true) :
    ∃ s, checkInput pb = .error (.thrown s) := by
  rw [checkInput_tests]
  exact firstThrow_thrown _ fun e => h ((checkInput_ok_iff pb).1 (by rw [checkInput_tests]; exact e))

theorem hasDescent_false (l : List Int) (h : List.Pairwise (fun a b => a ≤ b) l) :
    hasDescent l = false := by
  induction l with
  | nil => rfl
  | cons a r ih =>
    cases r with
    | nil => rfl
    | cons b r' =>
      have h1 := List.rel_of_pairwise_cons h (List.mem_cons_self ..)
      have h2 := ih (List.Pairwise.of_cons h)
      simp only [hasDescent, h2, Bool.or_false, decide_eq_false_iff_not]
      omega

theorem hasDescent_true (l : List Int) (i : Nat) (hi : i + 1 < l.length)
    (h : l.getD (i + 1) 0 < l.getD i 0) : hasDescent l = true := by
  induction l generalizing i with
  | nil => cases hi
  | cons a r ih =>
    cases r with
    | nil => exact absurd (Nat.lt_of_succ_lt_succ hi) (Nat.not_lt_zero i)
    | cons b r' =>
      rw [hasDescent, Bool.or_eq_true]
      cases i with
      | zero => exact Or.inl (decide_eq_true (show b < a from h))
      | succ i => exact Or.inr (ih i (Nat.lt_of_succ_lt_succ hi) h)

theorem hasZero_false (l : List Int) (h : ∀ x ∈ l, 0 < x) : hasZero l = false := by
  simp only [hasZero, List.any_eq_false, decide_eq_true_eq]
  intro x hx; have := h x hx; omega

theorem hasZero_true (l : List Int) (h : (0 : Int) ∈ l) : hasZero l = true := by
  simp only [hasZero, List.any_eq_true, decide_eq_true_eq]
  exact ⟨0, h, rfl⟩

theorem solverCheck_mk (u v s d : List Int) (hs : s.length = u.length) (hd : d.length = v.length)
    (h0 : checkInput ⟨u, v, s, d⟩ = .ok ()) :
    solverCheck (mkSolver u v s d) 0 =
      if hasDescent u then .error (.thrown .srcUnsorted)
      else if hasDescent v then .error (.thrown .snkUnsorted)
      else if hasZero s then .error (.thrown .supZero)
      else if hasZero d then .error (.thrown .demZero)
      else .ok () := by
  unfold solverCheck
  simp only [Solver.toProblem, mkSolver, h0, bind, Except.bind, Solver.nbSources, Solver.nbSinks, prefixFrom_length,
    hs, hd, ne_eq, not_true_eq_false, if_false, Nat.not_lt_zero, throwAt]
  rfl

theorem sortedSolver_check (pb : Problem) (hv : checkOk pb = true) :
    solverCheck (sortedSolver pb) 0 = .ok () := by
  obtain ⟨hs, hd, hsn, hdn, hle⟩ := (checkOk_iff pb).mp hv
  have si := sortedSolver_inst pb
  have h0 : checkInput (sortedSolver pb).toProblem = .ok () :=
    (checkInput_ok_iff _).mpr ((checkOk_iff _).mpr ⟨si.wf.hs, si.wf.hd, si.snn, si.dnn, by
      have h2 : (sortedSolver pb).s.sum = pb.s.sum := sum_ord pb.u pb.s hs hsn
      have h3 : (sortedSolver pb).d.sum = pb.d.sum := sum_ord pb.v pb.d hd hdn
      show (sortedSolver pb).s.sum ≤ (sortedSolver pb).d.sum
      rw [h2, h3]; exact hle⟩)
  refine (solverCheck_mk _ _ _ _ si.wf.hs si.wf.hd h0).trans ?_
  rw [hasDescent_false _ si.us,
    hasDescent_false _ si.vs, hasZero_false _ (sortedSolver_spos pb),
    hasZero_false _ (sortedSolver_dpos pb)]
  rfl

theorem addAt_ok (l : List Int) (k : Nat) (a : Int) (h : k < l.length) :
    addAt l k a = .ok (l.set k (l.getD k 0 + a)) := by
  simp [addAt, get_ok l k h 0, setAt, h, bind, Except.bind, pure, Except.pure]

theorem getD_set_add (l : List Int) (i k : Nat) (a x : Int) (h : i < l.length) :
    (l.set i (l.getD i 0 + a)).getD k 0 + x = l.getD k 0 + ((if i = k then a else 0) + x) := by
  rw [ListFacts.getD_set _ _ _ _ _ h]
  by_cases hk : k = i
  · subst hk; rw [if_pos rfl, if_pos rfl]; omega
  · rw [if_neg hk, if_neg (Ne.symm hk)]; omega

theorem cmpLoop_eq (bad : Int → Int → Bool) (site : Site) (xs ys : List Int) (cnt i : Nat)
    (hx : i + cnt ≤ xs.length) (hy : i + cnt ≤ ys.length) :
    cmpLoop bad site xs ys cnt i
      = firstThrow ((List.range' i cnt).map fun k => (bad (xs.getD k 0) (ys.getD k 0), site)) := by
  induction cnt generalizing i with
  | zero => rfl
  | succ cnt ih =>
    simp only [cmpLoop, get_ok xs i (by omega) 0, get_ok ys i (by omega) 0, liftK, bind, Except.bind,
      List.range'_succ, List.map_cons, firstThrow, ← ih (i + 1) (by omega) (by omega)]
    rfl

/-- the loop over the plan: the sums are accumulated whether or not an amount is rejected -/
theorem validLoop_eq (es : Plan) (us ud : List Int)
    (hr : ∀ e ∈ es, e.1 < us.length ∧ e.2.1 < ud.length) :
    ∃ us' ud', us'.length = us.length ∧ ud'.length = ud.length ∧
      (∀ k, us'.getD k 0 = us.getD k 0 + rowSum es k) ∧
      (∀ k, ud'.getD k 0 = ud.getD k 0 + colSum es k) ∧
      validLoop es us ud = (firstThrow (es.map fun e => (decide (e.2.2 ≤ 0), Site.allocNonPos))
        >>= fun _ => pure (us', ud')) := by
  induction es generalizing us ud with
  | nil => exact ⟨us, ud, rfl, rfl, fun k => (Int.add_zero _).symm, fun k => (Int.add_zero _).symm, rfl⟩
  | cons e es ih =>
    obtain ⟨i, j, a⟩ := e
    have h1 := hr (i, j, a) (List.mem_cons_self ..)
    obtain ⟨us', ud', l1, l2, r1, r2, e'⟩ := ih (us.set i (us.getD i 0 + a)) (ud.set j (ud.getD j 0 + a))
      (fun e he => by rw [List.length_set, List.length_set]; exact hr e (List.mem_cons_of_mem _ he))
    rw [List.length_set] at l1 l2
    refine ⟨us', ud', l1, l2, fun k => ?_, fun k => ?_, ?_⟩
    · rw [r1 k, rowSum]; exact getD_set_add us i k a _ h1.1
    · rw [r2 k, colSum]; exact getD_set_add ud j k a _ h1.2
    · simp only [validLoop, addAt_ok us i a h1.1, addAt_ok ud j a h1.2, liftK, bind, Except.bind,
        List.map_cons, firstThrow, decide_eq_true_eq]
      split
      · rfl
      · exact e'

/-- `checkSolutionValid` on a plan with entries in range: the tests in the order they are made -/
def validTests (pb : Problem) (sol : Plan) : List (Bool × Site) :=
  sol.map (fun e => (decide (e.2.2 ≤ 0), Site.allocNonPos)) ++
  ((List.range' 0 pb.u.length).map (fun k => (decide (rowSum sol k ≠ pb.s.getD k 0), Site.supNotMet)) ++
  (List.range' 0 pb.v.length).map (fun k => (decide (pb.d.getD k 0 < colSum sol k), Site.demExceeded)))

theorem checkSolutionValid_eq (pb : Problem) (hs : pb.s.length = pb.u.length)
    (hd : pb.d.length = pb.v.length) (sol : Plan)
    (hr : ∀ e ∈ sol, e.1 < pb.u.length ∧ e.2.1 < pb.v.length) :
    checkSolutionValid pb sol = firstThrow (validTests pb sol) := by
  obtain ⟨us, ud, l1, l2, r1, r2, e⟩ := validLoop_eq sol (List.replicate pb.nbSources 0)
    (List.replicate pb.nbSinks 0)
    (fun e he => by rw [List.length_replicate, List.length_replicate]; exact hr e he)
  rw [List.length_replicate] at l1 l2
  unfold checkSolutionValid validTests
  rw [e, firstThrow_append, firstThrow_append]
  cases firstThrow (sol.map fun e => (decide (e.2.2 ≤ 0), Site.allocNonPos)) with
  | error _ => rfl
  | ok _ =>
    show (cmpLoop _ _ us pb.s pb.nbSources 0 >>= fun _ => cmpLoop _ _ ud pb.d pb.nbSinks 0) = _
    rw [cmpLoop_eq _ _ _ _ _ _ (by rw [l1]; exact Nat.le_of_eq (Nat.zero_add _))
        (by rw [hs]; exact Nat.le_of_eq (Nat.zero_add _)),
      cmpLoop_eq _ _ _ _ _ _ (by rw [l2]; exact Nat.le_of_eq (Nat.zero_add _))
        (by rw [hd]; exact Nat.le_of_eq (Nat.zero_add _))]
    simp only [r1, r2, ListFacts.getD_replicate, Int.zero_add]
    rfl

theorem validTests_pass_iff (pb : Problem) (sol : Plan)
    (hr : ∀ e ∈ sol, e.1 < pb.u.length ∧ e.2.1 < pb.v.length) :
    (∀ c ∈ validTests pb sol, c.1 = false) ↔ validPlan pb sol = true := by
  simp only [validTests, List.mem_append, List.mem_map, List.mem_range'_1, validPlan_iff, entriesOk,
    List.all_eq_true, Bool.and_eq_true, decide_eq_true_eq]
  constructor
  · intro h
    refine ⟨fun e he => ⟨hr e he, ?_⟩, fun i hi => ?_, fun j hj => ?_⟩
    · have := h _ (Or.inl ⟨e, he, rfl⟩); simpa using this
    · have := h _ (Or.inr (Or.inl ⟨i, ⟨Nat.zero_le _, by omega⟩, rfl⟩)); simpa using this
    · have := h _ (Or.inr (Or.inr ⟨j, ⟨Nat.zero_le _, by omega⟩, rfl⟩)); simpa using this
  · rintro ⟨h1, h2, h3⟩ c (⟨e, he, rfl⟩ | ⟨k, hk, rfl⟩ | ⟨k, hk, rfl⟩)
    · exact decide_eq_false (Int.not_le.2 (h1 e he).2)
    · exact decide_eq_false (not_not_intro (h2 k (by omega)))
    · exact decide_eq_false (Int.not_lt.2 (h3 k (by omega)))

theorem checkSolutionValid_ok_iff (pb : Problem) (hs : pb.s.length = pb.u.length)
    (hd : pb.d.length = pb.v.length) (sol : Plan)
    (hr : ∀ e ∈ sol, e.1 < pb.u.length ∧ e.2.1 < pb.v.length) :
    checkSolutionValid pb sol = .ok () ↔ validPlan pb sol = true := by
  rw [checkSolutionValid_eq pb hs hd sol hr, firstThrow_ok_iff, validTests_pass_iff pb sol hr]

theorem checkSolutionValid_rejects (pb : Problem) (hs : pb.s.length = pb.u.length)
    (hd : pb.d.length = pb.v.length) (sol : Plan)
    (hr : ∀ e ∈ sol, e.1 < pb.u.length ∧ e.2.1 < pb.v.length) (hv : validPlan pb sol ≠ true) :
    ∃ s, checkSolutionValid pb sol = .error (.thrown s) := by
  rw [checkSolutionValid_eq pb hs hd sol hr]
  exact firstThrow_thrown _ fun e =>
    hv ((validTests_pass_iff pb sol hr).1 ((firstThrow_ok_iff _).1 e))

end ColoVerif.Transp1d
