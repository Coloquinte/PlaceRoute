import ColoVerif.Proofs.RowLegEval
/-
What one `push` does to the function encoded by the queue.  With `F` the old function and `w·|y − t|`
the new cell's cost, the new queue encodes `x ↦ min_{y ≤ x} (F y + w·|y − t|)`: the queue left behind
evaluates to `F + w·|· − t|` at the final position `fin`, or at `x` if that is left of it (K2, `push_eval`), and
the minimum is taken there (K1, `push_min`: left of `fin` by K2, since no queue's function increases).  Both rest
on where the loop of `getDisplacement` stops (`ScanExit`).
-/
namespace ColoVerif.RowLeg

/-- Loop invariant of the scan in `getDisplacement` (`acc` = popped bounds, most recent first). -/
def PoppedInv (B0 : List Bound) (w tgt lim cl e : Int)
    (rest : List Bound) (slope curPos curCost : Int) (acc : List Bound) : Prop :=
  acc.reverse ++ rest = B0 ∧ slope = -w + sumW acc ∧
  (acc = [] ∧ curPos = e ∨ ∃ t acc', acc = t :: acc' ∧ curPos = t.absPos ∧ popCond tgt lim (-w + sumW acc') t) ∧
  (∀ z, curCost + (min curPos cl - z) * (slope + w) = linc cl acc z)

theorem scan_poppedInv (B0 : List Bound) (w tgt lim cl e : Int) :
    ∃ acc, (scan w tgt lim cl B0 (-w) e 0 []).passed = acc.reverse ∧
      PoppedInv B0 w tgt lim cl e (scan w tgt lim cl B0 (-w) e 0 []).rest
        (scan w tgt lim cl B0 (-w) e 0 []).slope (scan w tgt lim cl B0 (-w) e 0 []).curPos
        (scan w tgt lim cl B0 (-w) e 0 []).curCost acc ∧
      (∀ t ∈ (scan w tgt lim cl B0 (-w) e 0 []).rest.head?,
        ¬ popCond tgt lim (scan w tgt lim cl B0 (-w) e 0 []).slope t) := by
  refine scan_rule w tgt lim cl (PoppedInv B0 w tgt lim cl e) ?_ B0 (-w) e 0 [] ?_
  · intro t rest slope curPos curCost acc ⟨h1, h2, _, h5⟩ hc
    refine ⟨by simpa using h1, by simp only [sumW]; omega, .inr ⟨t, acc, rfl, rfl, h2 ▸ hc⟩, fun z => ?_⟩
    simp only [linc]
    linear_combination h5 z
  · refine ⟨by simp, by simp [sumW], .inl ⟨rfl, rfl⟩, ?_⟩
    intro z
    simp only [linc]
    ring

/-- Where the scan stops, relative to the final position `fin` of the new cell (the target, or
the last popped position if the slope ended non-negative, clamped to `[b, lim]`): the popped
bounds carry the weight `slope + w` and are at or right of `curPos ≥ fin`, the bounds left in the
queue are at or left of `fin`.  If the slope ended non-negative and `fin` is not the right limit,
`fin` is the position of the last popped bound `t`, before which the slope was still negative. -/
structure ScanExit (acc R : List Bound) (w tgt lim b slope curPos fin : Int) : Prop where
  sumW_acc : sumW acc = slope + w
  fin_ge : b ≤ fin
  fin_le : fin ≤ lim
  fin_le_cur : fin ≤ curPos
  neg_le : slope < 0 → fin ≤ max b tgt
  neg_ge : slope < 0 → fin < lim → tgt ≤ fin
  cur_ge : b ≤ curPos
  acc_ge : ∀ β ∈ acc, curPos ≤ β.absPos
  rest_le : ∀ β ∈ R, β.absPos ≤ fin
  last : 0 ≤ slope → fin < lim →
    curPos = fin ∧ tgt < fin ∧ ∃ t acc', acc = t :: acc' ∧ t.absPos = fin ∧ sumW acc' < w

theorem scan_exit {B0 R acc : List Bound} {w tgt lim cl e b slope curPos curCost fin : Int}
    (hsorted : Sorted B0) (hbpos : ∀ β ∈ B0, b ≤ β.absPos ∧ 0 < β.weight)
    (hbl : b ≤ lim) (hle : lim ≤ e)
    (hinv : PoppedInv B0 w tgt lim cl e R slope curPos curCost acc)
    (hexit : ∀ t ∈ R.head?, ¬ popCond tgt lim slope t)
    (hfin : fin = min lim (max b (if slope ≥ 0 then curPos else tgt))) :
    ScanExit acc R w tgt lim b slope curPos fin := by
  obtain ⟨hsplit, hslope, hstand, -⟩ := hinv
  subst hsplit
  obtain ⟨hsacc, hsR, hcross⟩ := List.pairwise_append.mp hsorted
  -- the head of the remaining queue failed the loop condition, and the rest lies left of it
  have hR : ∀ β ∈ R, β.absPos ≤ lim ∧ (slope < 0 → β.absPos ≤ tgt) := by
    intro β hβ
    cases R with
    | nil => simp at hβ
    | cons r R' =>
      have := hexit r rfl
      have := Sorted.absPos_le_head hsR β hβ
      unfold popCond at *
      omega
  -- the scan stands at the row end, or at the last popped bound, which met the loop condition
  have hcur : b ≤ curPos ∧ (∀ β ∈ acc, curPos ≤ β.absPos) ∧ (∀ β ∈ R, β.absPos ≤ curPos) ∧
      (lim ≤ curPos ∨ tgt < curPos ∧ ∃ t acc', acc = t :: acc' ∧ t.absPos = curPos ∧ sumW acc' < w) := by
    rcases hstand with ⟨rfl, rfl⟩ | ⟨t, acc', rfl, rfl, hp⟩
    · exact ⟨Int.le_trans hbl hle, by simp, fun β hβ => Int.le_trans (hR β hβ).1 hle, .inl hle⟩
    · have hge := (List.pairwise_cons.mp (List.pairwise_reverse.mp hsacc)).1
      exact ⟨(hbpos t (by simp)).1,
        List.forall_mem_cons.mpr ⟨Int.le_refl _, fun β hβ => Bound.absPos_le_of_ge (hge β hβ)⟩,
        fun β hβ => Bound.absPos_le_of_ge (hcross t (by simp) β hβ),
        hp.symm.imp Int.le_of_lt fun ⟨h1, h2⟩ => ⟨h2, t, acc', rfl, rfl, by omega⟩⟩
  obtain ⟨hb, hacc, hRc, hpop⟩ := hcur
  have hneg : slope < 0 → fin = min lim (max b tgt) := fun h => by rw [hfin, if_neg (Int.not_le.mpr h)]
  have hpos : 0 ≤ slope → fin = min lim (max b curPos) := fun h => by rw [hfin, if_pos h]
  refine ⟨by omega, hfin ▸ clamp_ge _ hbl, hfin ▸ Int.min_le_left _ _, ?_, fun h => hneg h ▸ Int.min_le_right _ _,
    fun h hl => by rw [hneg h] at hl ⊢; omega, hb, hacc, fun β hβ => ?_, fun hs hfl => ?_⟩
  · by_cases hs : 0 ≤ slope
    · exact hpos hs ▸ clamp_le hb (Int.le_refl _)
    · rw [hneg (Int.not_le.mp hs)]
      rcases hpop with h | ⟨h, -⟩
      · exact Int.le_trans (Int.min_le_left _ _) h
      · exact clamp_le hb (Int.le_of_lt h)
  · by_cases hs : 0 ≤ slope
    · exact hpos hs ▸ le_clamp (hR β hβ).1 (hRc β hβ)
    · exact hneg (Int.not_le.mp hs) ▸ le_clamp (hR β hβ).1 ((hR β hβ).2 (Int.not_le.mp hs))
  · -- below the limit the clamp does nothing, so the last bound was popped because the slope was negative
    have hfe : fin = curPos := by rw [hpos hs] at hfl ⊢; omega
    subst hfe
    exact ⟨rfl, hpop.resolve_left (Int.not_le.mpr hfl)⟩

section
variable {acc R : List Bound} {w tgt lim b slope curPos fin : Int} (hx : ScanExit acc R w tgt lim b slope curPos fin)
include hx

/-- Right of `fin` the bounds left in the queue contribute nothing. -/
theorem ScanExit.eval_rest {z : Int} (hz : fin ≤ z) : eval R z = 0 :=
  eval_eq_zero z R fun β hβ => Int.le_trans (hx.rest_le β hβ) hz

theorem ScanExit.fin_le_acc : ∀ β ∈ acc, fin ≤ β.absPos :=
  fun β hβ => Int.le_trans hx.fin_le_cur (hx.acc_ge β hβ)

/-- Left of `fin` the popped bounds are linear, of slope `slope + w`. -/
theorem ScanExit.eval_acc {y m : Int} (hym : y ≤ m) (hmf : m ≤ fin) :
    eval acc y - eval acc m = (slope + w) * (m - y) :=
  hx.sumW_acc ▸ eval_diff_eq y m hym acc fun β hβ => Int.le_trans hmf (hx.fin_le_acc β hβ)

end

theorem pushQueue_pos {R : List Bound} {w tgt b slope curPos fin : Int}
    (hR : ∀ β ∈ R, b ≤ β.absPos ∧ 0 < β.weight) (hw : 0 < w) (hsl : -w ≤ slope)
    (hcp : 0 ≤ slope → b ≤ curPos) (hbf : b ≤ fin) :
    ∀ β ∈ pushQueue R b w tgt fin slope curPos, b ≤ β.absPos ∧ 0 < β.weight := by
  intro β hβ
  rcases mem_pushQueue.mp hβ with ⟨ht, rfl⟩ | ⟨hs, rfl⟩ | hβ
  · exact ⟨by show b ≤ min tgt fin; omega, by show 0 < 2 * w + min slope 0; omega⟩
  · exact ⟨hcp (Int.le_of_lt hs), hs⟩
  · exact hR β hβ

/-- K2: the new queue encodes the old function plus the new cell's cost, minimised over the
positions left of `x`; the minimum is taken at `min fin x`. -/
theorem push_eval {acc R : List Bound} {w tgt lim cl b slope curPos curCost fin : Int}
    (hx : ScanExit acc R w tgt lim b slope curPos fin)
    (hlin : ∀ z, curCost + (min curPos cl - z) * (slope + w) = linc cl acc z)
    (hlc : lim ≤ cl) (x : Int) (hbx : b ≤ x) (hxl : x ≤ lim) :
    (curCost + (min curPos cl - fin) * (slope + w) + w * ((fin - tgt).natAbs : Int))
        + eval (pushQueue R b w tgt fin slope curPos) x - eval (pushQueue R b w tgt fin slope curPos) lim
      = eval acc (min fin x) + eval R (min fin x) - (eval acc cl + eval R cl)
        + w * ((min fin x - tgt).natAbs : Int) := by
  have hfl := hx.fin_le
  have hcost : curCost + (min curPos cl - fin) * (slope + w) = eval acc fin - eval acc cl := by
    rw [hlin fin]
    exact linc_eq_eval cl fin (by omega) acc hx.fin_le_acc
  -- right of `fin` the new queue is constant: its bounds are at or left of `fin`, unless `fin = lim`
  have hQ : ∀ z, fin ≤ z → z ≤ lim → eval (pushQueue R b w tgt fin slope curPos) z
      = eval (pushQueue R b w tgt fin slope curPos) lim := by
    intro z hfz hzl
    by_cases hfl' : fin < lim
    · have hle : ∀ β ∈ pushQueue R b w tgt fin slope curPos, β.absPos ≤ fin := by
        intro β hβ
        rcases mem_pushQueue.mp hβ with ⟨_, rfl⟩ | ⟨hs, rfl⟩ | hβ
        · exact Int.min_le_right tgt fin
        · exact Int.le_of_eq (hx.last (Int.le_of_lt hs) hfl').1
        · exact hx.rest_le β hβ
      rw [eval_eq_zero z _ fun β hβ => Int.le_trans (hle β hβ) hfz,
        eval_eq_zero lim _ fun β hβ => Int.le_trans (hle β hβ) hfl]
    · rw [show z = lim by omega]
  rw [hx.eval_rest (show fin ≤ cl by omega)]
  by_cases hxf : x ≤ fin
  · -- left of `fin` the popped bounds are linear and the new bounds replace them
    rw [Int.min_eq_right hxf]
    have hterms := push_terms_left w tgt b slope curPos fin x hx.neg_le (fun _ => hx.fin_le_cur) hbx hxf
    have hQf := hQ fin (Int.le_refl _) hfl
    simp only [eval_pushQueue] at hQf ⊢
    rw [hx.eval_rest (Int.le_refl _)] at hQf
    linear_combination hterms + hcost - hx.eval_acc hxf (Int.le_refl _) + hQf
  · rw [Int.min_eq_left (show fin ≤ x by omega), hQ x (by omega) hxl, hx.eval_rest (Int.le_refl _)]
    linear_combination hcost

/-- K1: `min fin x` minimises the old function plus the new cell's cost over `[b, x]`.  Left of `fin` this is K2 read
from right to left: both sides are values of the function of the new queue `Q'`, and no queue's function increases. -/
theorem push_min {acc R Q' : List Bound} {w tgt lim b slope curPos fin c C : Int}
    (hx : ScanExit acc R w tgt lim b slope curPos fin)
    (hacc : ∀ β ∈ acc, 0 ≤ β.weight) (hQ' : ∀ β ∈ Q', 0 ≤ β.weight)
    (k2 : ∀ x, b ≤ x → x ≤ lim → c + eval Q' x - eval Q' lim
      = eval acc (min fin x) + eval R (min fin x) - C + w * ((min fin x - tgt).natAbs : Int))
    (y x : Int) (hby : b ≤ y) (hyx : y ≤ x) (hxl : x ≤ lim) :
    eval acc (min fin x) + eval R (min fin x) + w * ((min fin x - tgt).natAbs : Int)
      ≤ eval acc y + eval R y + w * ((y - tgt).natAbs : Int) := by
  by_cases hyf : y ≤ fin
  · have kx := k2 x (Int.le_trans hby hyx) hxl
    have ky := k2 y hby (Int.le_trans hyx hxl)
    rw [Int.min_eq_right hyf] at ky
    linear_combination ky - kx + (eval_diff_bounds y x hyx Q' hQ').1
  · -- right of the final position the cost increases
    have hfy : fin ≤ y := by omega
    have hfl : fin < lim := by omega
    rw [Int.min_eq_left (Int.le_trans hfy hyx), hx.eval_rest (Int.le_refl _), hx.eval_rest hfy]
    -- the old function falls by at most `W ≤ w` per unit: `W` is the popped weight, without the last popped
    -- bound `t` if the slope ended non-negative: then `t` sits at `fin`, and before it the slope was negative
    obtain ⟨W, hW, htf, hd⟩ : ∃ W, W ≤ w ∧ tgt ≤ fin ∧ eval acc fin - eval acc y ≤ W * (y - fin) := by
      by_cases hs : slope ≥ 0
      · obtain ⟨-, htf, t, acc', rfl, rfl, hlt⟩ := hx.last hs hfl
        have hd := (eval_diff_bounds t.absPos y hfy acc' fun β hβ => hacc β (List.mem_cons_of_mem _ hβ)).2
        have e1 : max 0 (t.absPos - t.absPos) = 0 := by rw [Int.sub_self]; rfl
        have e2 : max 0 (t.absPos - y) = 0 := Int.max_eq_left (Int.sub_nonpos_of_le hfy)
        refine ⟨sumW acc', Int.le_of_lt hlt, Int.le_of_lt htf, ?_⟩
        simp only [eval, e1, e2]
        linear_combination hd
      · exact ⟨slope + w, by omega, hx.neg_ge (Int.lt_of_not_ge hs) hfl,
          hx.sumW_acc ▸ (eval_diff_bounds fin y hfy acc hacc).2⟩
    have p1 : w * (((y - tgt).natAbs : Int) - ((fin - tgt).natAbs : Int)) = w * (y - fin) := by
      rw [natAbs_diff_right hfy htf]
    have p2 := Int.mul_nonneg (Int.sub_nonneg_of_le hW) (Int.sub_nonneg_of_le hfy)
    linear_combination hd - p1 + p2

end ColoVerif.RowLeg
