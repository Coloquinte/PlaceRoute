import ColoVerif.Model.Circuit
import ColoVerif.Model.OrientSpec
import ColoVerif.Gen.OrientTables
import ColoVerif.Proofs.ListFacts
/-
For C09 (half-perimeter as a bounding box).  `span` is the extent of a list of coordinates, defined
structurally and characterised by `IsSpan` (length of the smallest enclosing interval, unique); the model's
`lmax − lmin` over `foldl` loops equals it.  Closed forms of the bounding box the orientation specification gives
a rotated cell (`lowerLeft_eq`, `upperRight_eq`); the eight matrices as signed permutation matrices of the code's
flags (`flagMat`) and what a flag does on one axis; `specPin`, the pin location by that specification.  At the
end, `Circuit.cell` read through `getD` (`Circuit.cell_forall`, also used for the C07 circuit domain).
-/
namespace ColoVerif.C09
open ColoVerif ColoVerif.OrientSpec

/-- specification-level maximum (structural, independent of the model's `foldl` loops) -/
def maxOf : List Int → Option Int
  | [] => none
  | x :: xs => some (match maxOf xs with | none => x | some m => max x m)

def minOf : List Int → Option Int
  | [] => none
  | x :: xs => some (match minOf xs with | none => x | some m => min x m)

def span (l : List Int) : Int :=
  match maxOf l, minOf l with
  | some hi, some lo => hi - lo
  | _, _ => 0

/-- `v` is the length of the smallest interval containing `l` (0 if `l` is empty) -/
def IsSpan (l : List Int) (v : Int) : Prop :=
  (l = [] ∧ v = 0) ∨
  ∃ lo hi, lo ∈ l ∧ hi ∈ l ∧ (∀ x ∈ l, lo ≤ x ∧ x ≤ hi) ∧ v = hi - lo

theorem maxOf_eq : ∀ l : List Int, maxOf l = l.max?
  | [] => rfl
  | x :: xs => by rw [maxOf, maxOf_eq xs, List.max?_cons]; cases xs.max? <;> rfl

theorem minOf_eq : ∀ l : List Int, minOf l = l.min?
  | [] => rfl
  | x :: xs => by rw [minOf, minOf_eq xs, List.min?_cons]; cases xs.min? <;> rfl

theorem maxOf_spec (l : List Int) (hi : Int) (h : maxOf l = some hi) : hi ∈ l ∧ ∀ x ∈ l, x ≤ hi :=
  List.max?_eq_some_iff.mp (maxOf_eq l ▸ h)

theorem minOf_spec (l : List Int) (lo : Int) (h : minOf l = some lo) : lo ∈ l ∧ ∀ x ∈ l, lo ≤ x :=
  List.min?_eq_some_iff.mp (minOf_eq l ▸ h)

theorem maxOf_eq_some_of_ne_nil : ∀ l : List Int, l ≠ [] → ∃ hi, maxOf l = some hi
  | [], h => absurd rfl h
  | _ :: _, _ => ⟨_, rfl⟩

theorem minOf_eq_some_of_ne_nil : ∀ l : List Int, l ≠ [] → ∃ lo, minOf l = some lo
  | [], h => absurd rfl h
  | _ :: _, _ => ⟨_, rfl⟩

theorem span_isSpan (l : List Int) : IsSpan l (span l) := by
  by_cases hl : l = []
  · subst hl; left; simp [span, maxOf]
  · right
    obtain ⟨hi, hhi⟩ := maxOf_eq_some_of_ne_nil l hl
    obtain ⟨lo, hlo⟩ := minOf_eq_some_of_ne_nil l hl
    have h1 := maxOf_spec l hi hhi
    have h2 := minOf_spec l lo hlo
    exact ⟨lo, hi, h2.1, h1.1, fun x hx => ⟨h2.2 x hx, h1.2 x hx⟩, by simp [span, hhi, hlo]⟩

theorem isSpan_unique (l : List Int) (v v' : Int) (h : IsSpan l v) (h' : IsSpan l v') : v = v' := by
  rcases h with ⟨hl, hv⟩ | ⟨lo, hi, hlo, hhi, hb, hv⟩
  · rcases h' with ⟨_, hv'⟩ | ⟨lo', _, hlo', _⟩
    · omega
    · subst hl; simp at hlo'
  · rcases h' with ⟨hl, _⟩ | ⟨lo', hi', hlo', hhi', hb', hv'⟩
    · subst hl; simp at hlo
    · have a1 := hb lo' hlo'; have a2 := hb hi' hhi'
      have b1 := hb' lo hlo; have b2 := hb' hi hhi
      omega

/-- the model's `foldl` loops from the first element are the library's `max?`/`min?` unfolded -/
theorem lmax_eq (d : Int) (l : List Int) : Circuit.lmax d l = (maxOf l).getD d := by
  rw [maxOf_eq]; cases l <;> rfl

theorem lmin_eq (d : Int) (l : List Int) : Circuit.lmin d l = (minOf l).getD d := by
  rw [minOf_eq]; cases l <;> rfl

theorem lmin_mem (d : Int) (l : List Int) (h : l ≠ []) : Circuit.lmin d l ∈ l ∧ ∀ x ∈ l, Circuit.lmin d l ≤ x := by
  obtain ⟨lo, hlo⟩ := minOf_eq_some_of_ne_nil l h
  rw [lmin_eq, hlo]
  exact minOf_spec l lo hlo

theorem lmax_mem (d : Int) (l : List Int) (h : l ≠ []) : Circuit.lmax d l ∈ l ∧ ∀ x ∈ l, x ≤ Circuit.lmax d l := by
  obtain ⟨hi, hhi⟩ := maxOf_eq_some_of_ne_nil l h
  rw [lmax_eq, hhi]
  exact maxOf_spec l hi hhi

theorem lmin_lmax_within (d d' : Int) (l : List Int) {lo hi : Int} (hne : l ≠ []) (h : ∀ x ∈ l, lo ≤ x ∧ x ≤ hi) :
    lo ≤ Circuit.lmin d l ∧ Circuit.lmin d l ≤ Circuit.lmax d' l ∧ Circuit.lmax d' l ≤ hi :=
  ⟨(h _ (lmin_mem d l hne).1).1, (lmax_mem d' l hne).2 _ (lmin_mem d l hne).1, (h _ (lmax_mem d' l hne).1).2⟩

/-- `m = SENTINEL; for (v) m = std::min(v, m)` is `lmin` as soon as the first element absorbs the sentinel
(`INT_MAX` for `min`, `INT_MIN` for `max`) -/
theorem sentinel_min (x : Int) (xs : List Int) (M d : Int) (h : x ≤ M) :
    (x :: xs).foldl (fun a v => min v a) M = Circuit.lmin d (x :: xs) := by
  rw [List.foldl_cons, Int.min_eq_left h]
  exact congrArg (fun f => xs.foldl f x) (funext fun a => funext fun v => Int.min_comm v a)

theorem sentinel_max (x : Int) (xs : List Int) (m d : Int) (h : m ≤ x) :
    (x :: xs).foldl (fun a v => max v a) m = Circuit.lmax d (x :: xs) := by
  rw [List.foldl_cons, Int.max_eq_left h]
  exact congrArg (fun f => xs.foldl f x) (funext fun a => funext fun v => Int.max_comm v a)

theorem lmax_lmin_span (d d' : Int) (l : List Int) (h : l ≠ []) :
    Circuit.lmax d l - Circuit.lmin d' l = span l := by
  obtain ⟨hi, hhi⟩ := maxOf_eq_some_of_ne_nil l h
  obtain ⟨lo, hlo⟩ := minOf_eq_some_of_ne_nil l h
  simp [lmax_eq, lmin_eq, span, hhi, hlo]

theorem lmax_lmin_span0 (l : List Int) : Circuit.lmax 0 l - Circuit.lmin 0 l = span l := by
  cases l with
  | nil => rfl
  | cons x xs => exact lmax_lmin_span 0 0 _ (by simp)

theorem hpwl_eq_span (c : Circuit) :
    c.hpwl = (c.nets.map fun n => span (n.pins.map c.pinX) + span (n.pins.map c.pinY)).sum :=
  congrArg List.sum (List.map_congr_left fun n _ => by simp only [Circuit.netHpwl, lmax_lmin_span0])

theorem gen_isTurn_eq (o : Orient) : Gen.isTurn o = o.isTurn := by cases o <;> rfl
theorem gen_xFlipped_eq (o : Orient) : Gen.xFlipped o = Circuit.xFlipped o := by cases o <;> rfl
theorem gen_yFlipped_eq (o : Orient) : Gen.yFlipped o = Circuit.yFlipped o := by cases o <;> rfl

/-- the corners of the image of `[0,w]×[0,h]` under a linear map have coordinates `0, p, q, p + q`:
their extremes are the sums of the extremes of `{0, p}` and `{0, q}` -/
theorem min4_corners (p q : Int) : min4 0 p q (p + q) = min 0 p + min 0 q := by unfold min4; omega
theorem max4_corners (p q : Int) : max4 0 p q (p + q) = max 0 p + max 0 q := by unfold max4; omega

theorem lowerLeft_eq (m : Mat) (w h : Int) :
    lowerLeft m w h = (min 0 (m.a * w) + min 0 (m.b * h), min 0 (m.c * w) + min 0 (m.d * h)) := by
  simp only [lowerLeft, cornerXs, cornerYs, Mat.apply, Int.mul_zero, Int.add_zero, Int.zero_add, min4_corners]

theorem upperRight_eq (m : Mat) (w h : Int) :
    upperRight m w h = (max 0 (m.a * w) + max 0 (m.b * h), max 0 (m.c * w) + max 0 (m.d * h)) := by
  simp only [upperRight, cornerXs, cornerYs, Mat.apply, Int.mul_zero, Int.add_zero, Int.zero_add, max4_corners]

def sgn (flip : Bool) : Int := if flip then -1 else 1

/-- The signed permutation matrix of the code's three flags: the axes are exchanged when `turn`, then the
image's x axis is mirrored when `fx`, its y axis when `fy`. -/
def flagMat (turn fx fy : Bool) : Mat :=
  if turn then ⟨0, sgn fx, sgn fy, 0⟩ else ⟨sgn fx, 0, 0, sgn fy⟩

theorem matrix_eq_flags : ∀ o ∈ Orient.eight,
    matrix o = flagMat (Gen.isTurn o) (Gen.xFlipped o) (Gen.yFlipped o) := by decide

/-- one axis: `[0, w]` mirrored or not, re-anchored at its lower end -/
theorem axis_flip (f : Bool) {w : Int} (hw : 0 ≤ w) :
    (∀ p, sgn f * p - min 0 (sgn f * w) = if f then w - p else p) ∧
    max 0 (sgn f * w) - min 0 (sgn f * w) = w := by
  cases f <;> simp only [sgn, if_true, if_false, Bool.false_eq_true] <;> exact ⟨fun p => by omega, by omega⟩

/-- location of a pin according to the orientation *specification* -/
def specPin (c : Circuit) (p : Pin) : Int × Int :=
  ((c.cell p.cell).x + (spec (c.cell p.cell).orient (c.cell p.cell).w (c.cell p.cell).h p.xo p.yo).pinX,
   (c.cell p.cell).y + (spec (c.cell p.cell).orient (c.cell p.cell).w (c.cell p.cell).h p.xo p.yo).pinY)

def bboxHalfPerimeter (pts : List (Int × Int)) : Int := span (pts.map (·.1)) + span (pts.map (·.2))

def CellsOk (c : Circuit) : Prop := ∀ cl ∈ c.cells, cl.orient ∈ Orient.eight ∧ 0 ≤ cl.w ∧ 0 ≤ cl.h

instance (c : Circuit) : Decidable (CellsOk c) := by unfold CellsOk; infer_instance

end ColoVerif.C09

namespace ColoVerif.Circuit

/-- `Circuit::cell(i)` reads a cell of the circuit, or the default one out of range -/
theorem cell_forall (c : Circuit) (P : Cell → Prop) (h0 : P default) (h : ∀ cl ∈ c.cells, P cl) (i : Nat) :
    P (c.cell i) := ListFacts.forall_getD h h0 i

theorem cells_map_range (c : Circuit) (f : Cell → Int) :
    (List.range c.cells.length).map (fun i => f (c.cell i)) = c.cells.map f :=
  ListFacts.range_map_getD default f c.cells

end ColoVerif.Circuit
