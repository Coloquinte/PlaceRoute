import ColoVerif.Model.NetAsm
import ColoVerif.Proofs.ListFacts
import Mathlib.Tactic.Ring
/-
Every step of the assembly commutes with scaling the weights
(`Sys.scale`, `Net.scale`, `RawNet.scale`, `Penalty.scale`); the stored net list in closed form
(`buildWith_eq`: which `addNet` calls store a net, and what they store).
-/
namespace ColoVerif.NetAsm

/-- The translated storage conversion keeps the weight.  This is the place where the proofs use
the generated fact: with `std::vector<int> netWeight_` the generated `store` truncates and this
`rfl` (hence everything below that mentions `build`/`assemble`) no longer type-checks. -/
theorem store_exact (w : Rat) : Gen.NetWeightType.store w = w := rfl

theorem store_eq_id : Gen.NetWeightType.store = fun w => w := funext store_exact

theorem assemble_eq (m : Mode) (nb : Nat) (raws : List RawNet) (pl : List Rat) (ε : Rat) (pen : Option Penalty) :
    assemble m nb raws pl ε pen = assembleNets m nb (buildWith (fun w => w) raws) pl ε pen := by
  unfold assemble assembleWith
  rw [store_eq_id]

@[simp] theorem scale_nbCells (k : Rat) (s : Sys) : (s.scale k).nbCells = s.nbCells := rfl
@[simp] theorem scale_nbSupps (k : Rat) (s : Sys) : (s.scale k).nbSupps = s.nbSupps := rfl
@[simp] theorem scale_initial (k : Rat) (s : Sys) : (s.scale k).initial = s.initial := rfl
@[simp] theorem scale_nz (k : Rat) (s : Sys) : (s.scale k).nz = s.nz := rfl
@[simp] theorem scale_matSize (k : Rat) (s : Sys) : (s.scale k).matSize = s.matSize := rfl
@[simp] theorem scale_mat (k : Rat) (s : Sys) :
    (s.scale k).mat = s.mat.map (fun t => (t.1, t.2.1, k * t.2.2)) := rfl
@[simp] theorem scale_rhs (k : Rat) (s : Sys) : (s.scale k).rhs = s.rhs.map (fun v => k * v) := rfl
@[simp] theorem netScale_pins (k : Rat) (n : Net) : (n.scale k).pins = n.pins := rfl
@[simp] theorem netScale_weight (k : Rat) (n : Net) : (n.scale k).weight = k * n.weight := rfl

theorem addAt_scale (k : Rat) (l : List Rat) (i : Nat) (v : Rat) :
    addAt (l.map (fun x => k * x)) i (k * v) = (addAt l i v).map (fun x => k * x) := by
  induction l generalizing i with
  | nil => simp [addAt]
  | cons x xs ih =>
    cases i with
    | zero => simp [addAt]; ring
    | succ j => simp [addAt, ih]

theorem getD_scale (k : Rat) (l : List Rat) (i : Nat) :
    (l.map (fun v => k * v)).getD i 0 = k * l.getD i 0 :=
  ListFacts.getD_map _ l i (mul_zero k)

theorem addFixedPin_scale (k : Rat) (s : Sys) (c : Nat) (o pos w : Rat) :
    addFixedPin (s.scale k) c o pos (k * w) = (addFixedPin s c o pos w).scale k := by
  unfold addFixedPin Sys.scale
  simp only [List.map_cons, mul_assoc, addAt_scale]

theorem addMovingPin_scale (k : Rat) (s : Sys) (c1 c2 : Nat) (o1 o2 w : Rat) :
    addMovingPin (s.scale k) c1 c2 o1 o2 (k * w) = (addMovingPin s c1 c2 o1 o2 w).scale k := by
  unfold addMovingPin
  split
  · rfl
  · unfold Sys.scale
    simp only [List.map_cons, mul_assoc, addAt_scale, mul_neg]

theorem addPin_scale (k : Rat) (s : Sys) (c1 c2 : Int) (o1 o2 w : Rat) :
    addPin (s.scale k) c1 c2 o1 o2 (k * w) = (addPin s c1 c2 o1 o2 w).scale k := by
  unfold addPin
  by_cases e : c1 = c2
  · rw [if_pos e, if_pos e]
  · rw [if_neg e, if_neg e]
    by_cases e1 : c1 = -1
    · rw [if_pos e1, if_pos e1]; exact addFixedPin_scale ..
    · rw [if_neg e1, if_neg e1]
      by_cases e2 : c2 = -1
      · rw [if_pos e2, if_pos e2]; exact addFixedPin_scale ..
      · rw [if_neg e2, if_neg e2]; exact addMovingPin_scale ..

theorem addCell_scale (k : Rat) (s : Sys) (init : Rat) :
    addCell (s.scale k) init = (addCell s init).scale k := by
  unfold addCell Sys.scale
  simp only [List.map_append, List.map_cons, List.map_nil, mul_zero]

theorem loopIdx_scale (k : Rat) (f g : Sys → Nat → Pin → Sys)
    (h : ∀ s i p, g (s.scale k) i p = (f s i p).scale k) (s : Sys) (i : Nat) (ps : List Pin) :
    loopIdx g (s.scale k) i ps = (loopIdx f s i ps).scale k := by
  induction ps generalizing s i with
  | nil => rfl
  | cons p ps ih => simp only [loopIdx]; rw [h, ih]

theorem init_scale (k : Rat) (n : Nat) : (Sys.init n).scale k = Sys.init n := by
  unfold Sys.init Sys.scale
  simp only [List.map_nil, List.map_replicate, mul_zero]

theorem addBipoint0_scale (k : Rat) (s : Sys) (n : Net) :
    addBipoint0 (s.scale k) (n.scale k) = (addBipoint0 s n).scale k := by
  unfold addBipoint0
  simp only [netScale_pins, netScale_weight]
  split
  · exact addPin_scale ..
  · rfl

theorem star0Body_scale (k : Rat) (c : Nat) (w : Rat) (s : Sys) (i : Nat) (p : Pin) :
    star0Body c (k * w) (s.scale k) i p = (star0Body c w s i p).scale k := by
  unfold star0Body; exact addPin_scale ..

theorem addStar0_scale (k : Rat) (s : Sys) (n : Net) :
    addStar0 (s.scale k) (n.scale k) = (addStar0 s n).scale k := by
  unfold addStar0
  rw [netScale_pins, netScale_weight, scale_matSize]
  split
  · exact addBipoint0_scale k s n
  · rw [addCell_scale, mul_div_assoc]
    exact loopIdx_scale k _ _ (fun s i p => star0Body_scale ..) _ _ _

theorem cliqueW_scale (k : Rat) (n : Net) : cliqueW (n.scale k) = k * cliqueW n := by
  simp only [cliqueW, netScale_pins, netScale_weight]; ring

theorem b2bW_scale (k : Rat) (n : Net) : b2bW (n.scale k) = k * b2bW n := by
  simp only [b2bW, netScale_pins, netScale_weight]; ring

theorem clique0Go_scale (k w : Rat) (s : Sys) (ps : List Pin) :
    clique0Go (k * w) (s.scale k) ps = (clique0Go w s ps).scale k := by
  induction ps generalizing s with
  | nil => rfl
  | cons p ps ih =>
    simp only [clique0Go]
    rw [loopIdx_scale k (clique0Inner w p) (clique0Inner (k * w) p) (fun s i q => addPin_scale ..), ih]

theorem addClique0_scale (k : Rat) (s : Sys) (n : Net) :
    addClique0 (s.scale k) (n.scale k) = (addClique0 s n).scale k := by
  unfold addClique0
  rw [cliqueW_scale]
  exact clique0Go_scale ..

theorem addBipoint_scale (k : Rat) (pl : List Rat) (ε : Rat) (s : Sys) (n : Net) :
    addBipoint pl ε (s.scale k) (n.scale k) = (addBipoint pl ε s n).scale k := by
  unfold addBipoint
  simp only [netScale_pins, netScale_weight]
  split
  · rw [mul_div_assoc]; exact addPin_scale ..
  · rfl

theorem cliqueInner_scale (k : Rat) (pl : List Rat) (ε w : Rat) (p : Pin) (s : Sys) (i : Nat) (q : Pin) :
    cliqueInner pl ε (k * w) p (s.scale k) i q = (cliqueInner pl ε w p s i q).scale k := by
  unfold cliqueInner
  rw [mul_div_assoc]; exact addPin_scale ..

theorem cliqueGo_scale (k : Rat) (pl : List Rat) (ε w : Rat) (s : Sys) (ps : List Pin) :
    cliqueGo pl ε (k * w) (s.scale k) ps = (cliqueGo pl ε w s ps).scale k := by
  induction ps generalizing s with
  | nil => rfl
  | cons p ps ih =>
    simp only [cliqueGo]
    rw [loopIdx_scale k (cliqueInner pl ε w p) (cliqueInner pl ε (k * w) p)
      (fun s i q => cliqueInner_scale ..), ih]

theorem addClique_scale (k : Rat) (pl : List Rat) (ε : Rat) (s : Sys) (n : Net) :
    addClique pl ε (s.scale k) (n.scale k) = (addClique pl ε s n).scale k := by
  unfold addClique
  rw [cliqueW_scale]
  exact cliqueGo_scale ..

theorem starBody_scale (k : Rat) (pl : List Rat) (ε wt : Rat) (mn mx : Ext) (sc : Nat) (s : Sys) (i : Nat) (p : Pin) :
    starBody pl ε (k * wt) mn mx sc (s.scale k) i p = (starBody pl ε wt mn mx sc s i p).scale k := by
  unfold starBody
  split
  · rw [mul_div_assoc]; exact addPin_scale ..
  · rw [mul_div_assoc]; exact addPin_scale ..

theorem addStar_scale (k : Rat) (pl : List Rat) (ε : Rat) (s : Sys) (n : Net) :
    addStar pl ε (s.scale k) (n.scale k) = (addStar pl ε s n).scale k := by
  unfold addStar
  rw [netScale_pins, netScale_weight, scale_matSize]
  split
  · exact addBipoint_scale k pl ε s n
  · rw [addCell_scale]
    exact loopIdx_scale k _ _ (fun s i p => starBody_scale ..) _ _ _

theorem lightStarBody_scale (k : Rat) (pl : List Rat) (ε wt wb : Rat) (mn mx : Ext) (sc : Nat) (s : Sys) (i : Nat) (p : Pin) :
    lightStarBody pl ε (k * wt) (k * wb) mn mx sc (s.scale k) i p
      = (lightStarBody pl ε wt wb mn mx sc s i p).scale k := by
  unfold lightStarBody
  split
  · rw [mul_div_assoc]; exact addPin_scale ..
  · rw [mul_div_assoc, mul_div_assoc, ← mul_add]; exact addPin_scale ..

theorem addLightStar_scale (k : Rat) (pl : List Rat) (ε : Rat) (s : Sys) (n : Net) :
    addLightStar pl ε (s.scale k) (n.scale k) = (addLightStar pl ε s n).scale k := by
  unfold addLightStar
  rw [b2bW_scale, netScale_pins, netScale_weight, scale_matSize]
  split
  · exact addBipoint_scale k pl ε s n
  · rw [addCell_scale]
    exact loopIdx_scale k _ _ (fun s i p => lightStarBody_scale ..) _ _ _

theorem b2bMax_scale (k : Rat) (pl : List Rat) (ε w : Rat) (mx : Ext) (s : Sys) (i : Nat) (p : Pin) :
    b2bMax pl ε (k * w) mx (s.scale k) i p = (b2bMax pl ε w mx s i p).scale k := by
  unfold b2bMax
  split
  · rfl
  · rw [mul_div_assoc]; exact addPin_scale ..

theorem b2bBody_scale (k : Rat) (pl : List Rat) (ε w : Rat) (mn mx : Ext) (s : Sys) (i : Nat) (p : Pin) :
    b2bBody pl ε (k * w) mn mx (s.scale k) i p = (b2bBody pl ε w mn mx s i p).scale k := by
  unfold b2bBody
  split
  · rfl
  · rw [mul_div_assoc, addPin_scale]; exact b2bMax_scale ..

theorem addB2B_scale (k : Rat) (pl : List Rat) (ε : Rat) (s : Sys) (n : Net) :
    addB2B pl ε (s.scale k) (n.scale k) = (addB2B pl ε s n).scale k := by
  unfold addB2B
  rw [b2bW_scale]
  simp only [netScale_pins]
  exact loopIdx_scale k _ _ (fun s i p => b2bBody_scale ..) _ _ _

theorem addNetModel_scale (k : Rat) (m : Mode) (pl : List Rat) (ε : Rat) (s : Sys) (n : Net) :
    addNetModel m pl ε (s.scale k) (n.scale k) = (addNetModel m pl ε s n).scale k := by
  cases m
  · exact addStar0_scale ..
  · exact addB2B_scale ..
  · exact addStar_scale ..
  · exact addClique_scale ..
  · exact addLightStar_scale ..

theorem foldl_scale {α : Type} (k : Rat) (f g : Sys → α → Sys) (h : ∀ s a, g (s.scale k) a = (f s a).scale k)
    (l : List α) (s : Sys) : l.foldl g (s.scale k) = (l.foldl f s).scale k := by
  induction l generalizing s with
  | nil => rfl
  | cons a l ih => rw [List.foldl_cons, List.foldl_cons, h, ih]

theorem create_scale (k : Rat) (m : Mode) (nb : Nat) (nets : List Net) (pl : List Rat) (ε : Rat) :
    create m nb (nets.map (Net.scale k)) pl ε = (create m nb nets pl ε).scale k := by
  unfold create
  rw [List.foldl_map, ← foldl_scale k (addNetModel m pl ε) (fun s n => addNetModel m pl ε s (n.scale k))
    (fun s n => addNetModel_scale k m pl ε s n), init_scale]

theorem penaltyBody_scale (k : Rat) (pl : List Rat) (pen : Penalty) (s : Sys) (i : Nat) :
    penaltyBody pl (pen.scale k) (s.scale k) i = (penaltyBody pl pen s i).scale k := by
  unfold penaltyBody
  simp only [Penalty.scale, getD_scale]
  rw [mul_div_assoc]; exact addFixedPin_scale ..

theorem addPenaltyOpt_scale (k : Rat) (pl : List Rat) (pen : Option Penalty) (s : Sys) :
    addPenaltyOpt pl (pen.map (Penalty.scale k)) (s.scale k) = (addPenaltyOpt pl pen s).scale k := by
  cases pen with
  | none => rfl
  | some p => exact foldl_scale k _ _ (penaltyBody_scale k pl p) _ s

theorem assembleNets_scale (k : Rat) (m : Mode) (nb : Nat) (nets : List Net) (pl : List Rat) (ε : Rat)
    (pen : Option Penalty) :
    assembleNets m nb (nets.map (Net.scale k)) pl ε (pen.map (Penalty.scale k))
      = (assembleNets m nb nets pl ε pen).scale k := by
  unfold assembleNets
  rw [create_scale, addPenaltyOpt_scale]

/-- `addNet(cells, offsets, minPin, maxPin, w)` stores something. -/
def RawKept (r : RawNet) : Bool :=
  !r.pins.isEmpty && decide (2 ≤ (withFixed r.pins r.fixedMinMax).length)

/-- What it stores. -/
def storedOf (store : Rat → Rat) (r : RawNet) : Net :=
  ⟨store r.weight, withFixed r.pins r.fixedMinMax⟩

theorem addNetWith_eq (store : Rat → Rat) (nm : List Net) (r : RawNet) :
    addNetWith store nm r = if RawKept r then nm ++ [storedOf store r] else nm := by
  unfold addNetWith addNet3With RawKept storedOf
  by_cases h1 : r.pins.isEmpty = true
  · simp [h1]
  · by_cases h2 : (withFixed r.pins r.fixedMinMax).length ≤ 1
    · have : ¬ 2 ≤ (withFixed r.pins r.fixedMinMax).length := by omega
      simp [h1, h2, this]
    · have : 2 ≤ (withFixed r.pins r.fixedMinMax).length := by omega
      simp [h1, h2, this]

theorem foldl_addNetWith (store : Rat → Rat) (raws : List RawNet) (nm : List Net) :
    raws.foldl (addNetWith store) nm = nm ++ (raws.filter RawKept).map (storedOf store) := by
  induction raws generalizing nm with
  | nil => simp
  | cons r rs ih =>
    rw [List.foldl_cons, ih, addNetWith_eq]
    by_cases h : RawKept r = true
    · simp [h]
    · simp [h]

theorem buildWith_eq (store : Rat → Rat) (raws : List RawNet) :
    buildWith store raws = (raws.filter RawKept).map (storedOf store) := by
  unfold buildWith
  rw [foldl_addNetWith, List.nil_append]

theorem buildWith_scale (k : Rat) (store : Rat → Rat) (hs : ∀ w, store w = w) (raws : List RawNet) :
    buildWith store (raws.map (RawNet.scale k)) = (buildWith store raws).map (Net.scale k) := by
  rw [buildWith_eq, buildWith_eq, List.filter_map, List.map_map, List.map_map]
  exact List.map_congr_left (fun r _ => by simp only [Function.comp, storedOf, RawNet.scale, Net.scale, hs])

theorem assemble_scale (k : Rat) (m : Mode) (nb : Nat) (raws : List RawNet) (pl : List Rat) (ε : Rat)
    (pen : Option Penalty) :
    assemble m nb (raws.map (RawNet.scale k)) pl ε (pen.map (Penalty.scale k))
      = (assemble m nb raws pl ε pen).scale k := by
  rw [assemble_eq, assemble_eq, buildWith_scale k _ (fun _ => rfl), assembleNets_scale]

theorem rowDot_scale (k : Rat) (mat : List (Nat × Nat × Rat)) (x : Nat → Rat) (i : Nat) :
    rowDot (mat.map (fun t => (t.1, t.2.1, k * t.2.2))) x i = k * rowDot mat x i := by
  induction mat with
  | nil => simp [rowDot]
  | cons t ts ih =>
    simp only [List.map_cons, rowDot, ih]
    split <;> ring

theorem solves_scale (k : Rat) (hk : k ≠ 0) (s : Sys) (x : Nat → Rat) :
    Solves (s.scale k) x ↔ Solves s x := by
  unfold Solves
  simp only [scale_mat, scale_rhs, rowDot_scale, getD_scale]
  constructor
  · intro h i; exact mul_left_cancel₀ hk (h i)
  · intro h i; rw [h i]

end ColoVerif.NetAsm
