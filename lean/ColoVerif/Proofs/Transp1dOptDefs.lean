import ColoVerif.Proofs.Transp1dMerge
import ColoVerif.Proofs.Transp1dSorter
/-
Shared definitions of the optimality proof (C14):
`LocalCert` (= `locCertOk`, as a Prop over price functions) and `GlobCert`, the dual certificate
on the sorted instance handed to the solver.
-/
namespace ColoVerif.Transp1d

theorem loP_eq (sv : Solver) (p : List Int) (i : Nat) : loP sv p i = lo sv p i := rfl
theorem hiP_eq (sv : Solver) (p : List Int) (i : Nat) : hiP sv p i = Transp1d.hi sv p i := rfl
theorem ovP_eq (sv : Solver) (p : List Int) (i j : Nat) : ovP sv p i j = ov sv p i j := rfl

/-- local certificate for positions `p` and sink prices `be` (neighbouring sinks only) -/
structure LocalCert (sv : Solver) (p : List Int) (be : Nat → Int) : Prop where
  nn : ∀ j, j < sv.v.length → 0 ≤ be j
  sat : ∀ j, j < sv.v.length → 0 < be j →
    fillP sv p j sv.u.length = sv.D.getD (j + 1) 0 - sv.D.getD j 0
  right : ∀ i j, i < sv.u.length → j + 1 < sv.v.length → 0 < ov sv p i j →
    cs sv i j + be j ≤ cs sv i (j + 1) + be (j + 1)
  left : ∀ i j, i < sv.u.length → j + 1 < sv.v.length → 0 < ov sv p i (j + 1) →
    cs sv i (j + 1) + be (j + 1) ≤ cs sv i j + be j

/-- global dual certificate on the sorted instance: every source is, prices included, cheapest in
each sink it overlaps -/
structure GlobCert (sv : Solver) (p : List Int) (be : Nat → Int) : Prop where
  nn : ∀ j, j < sv.v.length → 0 ≤ be j
  sat : ∀ j, j < sv.v.length → 0 < be j →
    fillP sv p j sv.u.length = sv.D.getD (j + 1) 0 - sv.D.getD j 0
  opt : ∀ i j j', i < sv.u.length → j < sv.v.length → j' < sv.v.length → 0 < ov sv p i j →
    cs sv i j + be j ≤ cs sv i j' + be j'

end ColoVerif.Transp1d
