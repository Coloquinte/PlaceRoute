import ColoVerif.Proofs.Transp1dMerge
import ColoVerif.Proofs.Transp1dSorter
/-
`solve` returns a valid plan on every input of the domain: geometry of `run` (`run_ok`)
+ merge (`computeSolution_merge`) give `SolPost` on the sorted instance, and the sorter's index maps
(`srcOrder`/`snkOrder` list distinct indices, exactly those of positive supply / demand) rename it
into a valid plan of the problem (`solve_eq`, `solve_valid`).
-/
namespace ColoVerif.Transp1d

def ren (f g : Nat → Nat) (e : Nat × Nat × Int) : Nat × Nat × Int := (f e.1, g e.2.1, e.2.2)

theorem convertSolutionBack_ok (so : Sorter) (plan : Plan)
    (h : ∀ e ∈ plan, e.1 < so.srcOrder.length ∧ e.2.1 < so.snkOrder.length) :
    convertSolutionBack so plan
      = .ok (plan.map (ren (fun i => so.srcOrder.getD i 0) (fun j => so.snkOrder.getD j 0))) := by
  induction plan with
  | nil => rfl
  | cons e es ih =>
    obtain ⟨i, j, a⟩ := e
    have h1 := h (i, j, a) (List.mem_cons_self ..)
    unfold convertSolutionBack
    simp only [get_ok _ _ h1.1 0, get_ok _ _ h1.2 0, ih (fun e he => h e (List.mem_cons_of_mem _ he)),
      bind, Except.bind, pure, Except.pure, List.map_cons, ren]

theorem rowSum_ren (f g : Nat → Nat) (N : Nat) (plan : Plan) (hN : ∀ e ∈ plan, e.1 < N)
    (inj : ∀ a b, a < N → b < N → f a = f b → a = b) (i : Nat) (hi : i < N) :
    rowSum (plan.map (ren f g)) (f i) = rowSum plan i := by
  induction plan with
  | nil => rfl
  | cons e es ih =>
    obtain ⟨i0, j0, a⟩ := e
    have h1 : i0 < N := hN (i0, j0, a) (List.mem_cons_self ..)
    have ih' := ih (fun e he => hN e (List.mem_cons_of_mem _ he))
    simp only [List.map_cons, ren, rowSum, ih']
    by_cases h : i0 = i
    · simp [h]
    · have : ¬ f i0 = f i := fun e => h (inj i0 i h1 hi e)
      simp [h, this]

/-- Row `k` of the renamed plan is row `a` of the plan where `k = o[a]`, and empty where `o` does not
list `k`. -/
theorem rowSum_ren_cases (o : List Nat) (g : Nat → Nat) (nd : o.Nodup) (plan : Plan)
    (hN : ∀ e ∈ plan, e.1 < o.length) (k : Nat) :
    (∃ a, a < o.length ∧ o.getD a 0 = k ∧
      rowSum (plan.map (ren (fun i => o.getD i 0) g)) k = rowSum plan a) ∨
    (k ∉ o ∧ rowSum (plan.map (ren (fun i => o.getD i 0) g)) k = 0) := by
  by_cases hm : k ∈ o
  · obtain ⟨a, ha, rfl⟩ := ListFacts.exists_getD_of_mem 0 hm
    exact .inl ⟨a, ha, rfl, rowSum_ren _ g _ plan hN (ListFacts.nodup_getD_inj nd 0) a ha⟩
  · refine .inr ⟨hm, rowSum_zero _ k fun x hx hk => hm ?_⟩
    obtain ⟨e, he, rfl⟩ := List.mem_map.mp hx
    exact hk ▸ ListFacts.getD_mem _ e.1 0 (hN e he)

theorem colSum_eq_rowSum (plan : Plan) (k : Nat) :
    colSum plan k = rowSum (plan.map fun e => (e.2.1, e.1, e.2.2)) k := by
  induction plan with
  | nil => rfl
  | cons e es ih => exact congrArg ((if e.2.1 = k then e.2.2 else 0) + ·) ih

theorem colSum_ren_cases (f : Nat → Nat) (o : List Nat) (nd : o.Nodup) (plan : Plan)
    (hN : ∀ e ∈ plan, e.2.1 < o.length) (k : Nat) :
    (∃ a, a < o.length ∧ o.getD a 0 = k ∧
      colSum (plan.map (ren f fun j => o.getD j 0)) k = colSum plan a) ∨
    (k ∉ o ∧ colSum (plan.map (ren f fun j => o.getD j 0)) k = 0) := by
  have h := rowSum_ren_cases o f nd (plan.map fun e => (e.2.1, e.1, e.2.2))
    (fun x hx => by obtain ⟨e, he, rfl⟩ := List.mem_map.mp hx; exact hN e he) k
  simp only [colSum_eq_rowSum, List.map_map] at h ⊢
  exact h

theorem sortedSolver_geo (pb : Problem) (hv : checkOk pb = true) (p : List Int)
    (hp : RunPost (sortedSolver pb) p) : Geo (sortedSolver pb) p := by
  have dom := sortedSolver_dom pb hv
  refine ⟨dom.wf, hp.len, ?_, ?_, dom.Dmono⟩
  · intro i hi
    have h1 := (sortedSolver_inst pb).S_step (sortedSolver_spos pb) i hi
    unfold lo Transp1d.hi
    omega
  · intro i i' h1 h2
    have h3 := dom.Smono (i + 1) i' (by omega) (by omega)
    have h4 := le_of_step_up (fun k => p.getD k 0) i i' (Nat.le_of_lt h1) fun k _ hk => hp.mono k (by omega)
    unfold lo Transp1d.hi
    omega

/-- what `computeSolution` returns on the sorted instance: a valid plan whose cells are the overlaps -/
structure SolPost (sv : Solver) (p : List Int) (plan : Plan) : Prop where
  ent : ∀ e ∈ plan, e.1 < sv.u.length ∧ e.2.1 < sv.v.length ∧ 0 < e.2.2
  row : ∀ i, i < sv.u.length → rowSum plan i = sv.s.getD i 0
  col : ∀ j, j < sv.v.length → colSum plan j ≤ sv.d.getD j 0
  cell : ∀ i j, i < sv.u.length → j < sv.v.length → cellSum plan i j = ov sv p i j

theorem SolPost.ov_pos {sv : Solver} {p : List Int} {plan : Plan} (post : SolPost sv p plan)
    (e : Nat × Nat × Int) (he : e ∈ plan) : 0 < ov sv p e.1 e.2.1 := by
  have hent := post.ent e he
  rw [← post.cell e.1 e.2.1 hent.1 hent.2.1]
  exact cellSum_pos plan (fun e he => (post.ent e he).2.2) e he

theorem computeSolution_spec (pb : Problem) (hv : checkOk pb = true) :
    ∃ p plan, run (sortedSolver pb) = .ok p ∧ RunPost (sortedSolver pb) p ∧
      computeSolution (sortedSolver pb) p = .ok plan ∧ SolPost (sortedSolver pb) p plan := by
  have dom := sortedSolver_dom pb hv
  obtain ⟨p, erun, hp⟩ := run_ok _ dom (sortedSolver_sink_of_source pb hv)
  have geo := sortedSolver_geo pb hv p hp
  obtain ⟨plan, e, post⟩ := computeSolution_merge (sortedSolver pb) p geo
  have hS0 := (sortedSolver_inst pb).S_zero
  refine ⟨p, plan, erun, hp, e, ⟨?_, ?_, ?_, ?_⟩⟩
  · intro x hx
    have := post.ent x hx
    exact ⟨this.2.1, this.2.2.2.1, this.2.2.2.2⟩
  · -- the source interval lies inside `[D 0, D.back()]`, so its part in there is all of it: `s i`
    intro i hi
    have h1 := sortedSolver_S_succ pb hi
    have h2 := sortedSolver_s_getD_pos pb hi
    have h3 := dom.Smono 0 i (Nat.zero_le _) (Nat.le_of_lt hi)
    have h4 := hp.nn i hi
    have h5 := hp.le i hi
    have h6 := dom.Smono (i + 1) _ hi (Nat.le_refl _)
    rw [post.row geo hi, (sortedSolver_inst pb).D_zero]
    unfold lo Transp1d.hi
    omega
  · intro j hj
    have h1 := sortedSolver_D_succ pb hj
    have h2 := post.col geo hj
    omega
  · intro i j hi hj
    exact post.cell i j (Nat.zero_le _) hi (Nat.zero_le _) hj

theorem solve_eq (pb : Problem) (hv : checkOk pb = true) :
    ∃ p plan, run (sortedSolver pb) = .ok p ∧ RunPost (sortedSolver pb) p ∧
      computeSolution (sortedSolver pb) p = .ok plan ∧ SolPost (sortedSolver pb) p plan ∧
      solve pb = .ok (plan.map (ren (fun i => (ord pb.u pb.s).getD i 0)
        (fun j => (ord pb.v pb.d).getD j 0))) := by
  obtain ⟨hs, hd, _, _, _⟩ := (checkOk_iff pb).mp hv
  obtain ⟨p, plan, erun, hp, e, post⟩ := computeSolution_spec pb hv
  refine ⟨p, plan, erun, hp, e, post, ?_⟩
  have hsrcLen := length_ord_src pb
  have hsnkLen := length_ord_snk pb
  unfold solve
  simp only [check, hv, if_true, mkSorter_ok pb hs hd, convert_ok pb hs hd, erun, e, bind,
    Except.bind, pure, Except.pure]
  exact convertSolutionBack_ok ⟨ord pb.u pb.s, ord pb.v pb.d⟩ plan
    (fun x hx => by have := post.ent x hx; simp only [hsrcLen, hsnkLen]; omega)

theorem solve_valid (pb : Problem) (hv : checkOk pb = true) :
    ∃ plan, solve pb = .ok plan ∧ validPlan pb plan = true := by
  obtain ⟨hs, hd, hsn, hdn, _⟩ := (checkOk_iff pb).mp hv
  obtain ⟨p, plan, _, _, _, post, es⟩ := solve_eq pb hv
  refine ⟨_, es, (validPlan_iff _ _).mpr ⟨?_, fun k hk => ?_, fun k hk => ?_⟩⟩
  · rw [entriesOk_iff]
    intro x hx
    obtain ⟨e, he, rfl⟩ := List.mem_map.mp hx
    have h1 := post.ent e he
    exact ⟨⟨(sortedSolver_u_getD pb h1.1).1, (sortedSolver_v_getD pb h1.2.1).1⟩, h1.2.2⟩
  · rcases rowSum_ren_cases _ _ (ord_nodup pb.u pb.s) plan
      (fun e he => length_ord_src pb ▸ (post.ent e he).1) k with ⟨a, ha, rfl, e⟩ | ⟨hm, e⟩ <;> rw [e]
    · rw [post.row a (length_ord_src pb ▸ ha)]
      exact ListFacts.getD_map_of_lt _ 0 _ ha
    · exact (getD_eq_zero_of_not_mem_ord pb.u pb.s hs hsn hk hm).symm
  · rcases colSum_ren_cases _ _ (ord_nodup pb.v pb.d) plan
      (fun e he => length_ord_snk pb ▸ (post.ent e he).2.1) k with ⟨a, ha, rfl, e⟩ | ⟨hm, e⟩ <;> rw [e]
    · exact (ListFacts.getD_map_of_lt (fun i => pb.d.getD i 0) 0 _ ha) ▸
        post.col a (length_ord_snk pb ▸ ha)
    · exact hdn _ (ListFacts.getD_mem pb.d k 0 (hd ▸ hk))

end ColoVerif.Transp1d
