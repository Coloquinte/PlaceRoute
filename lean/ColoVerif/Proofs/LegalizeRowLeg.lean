import ColoVerif.Proofs.RowLegFeasible
/-
For C11: pushing cells whose targets are already in order, non-overlapping and inside the segment costs 0
each time and `getPlacement` returns the targets.  The invariant `NC s lo` says that everything the state
records lies, in absolute coordinates, at or left of `lo`; a push with target `≥ lo` then pops no bound.
-/
namespace ColoVerif.RowLeg

/-- push `(width, target)` pairs in order; returns the reported costs and the final state -/
def pushAll (s : State) : List (Int × Int) → List Int × State
  | [] => ([], s)
  | c :: cs => ((push s c.1 c.2).1 :: (pushAll (push s c.1 c.2).2 cs).1, (pushAll (push s c.1 c.2).2 cs).2)

/-- the targets are in order from `lo`, the cells do not overlap and end before `e`; widths positive -/
def InOrder (e : Int) : Int → List (Int × Int) → Prop
  | _, [] => True
  | lo, c :: cs => 0 < c.1 ∧ lo ≤ c.2 ∧ c.2 + c.1 ≤ e ∧ InOrder e (c.2 + c.1) cs

/-- no-conflict invariant: everything recorded so far lies (in absolute terms) at or left of `lo` -/
structure NC (s : State) (lo : Int) (tsRev : List Int) : Prop where
  bounds : ∀ β ∈ s.bounds, β.absPos + s.used ≤ lo
  cpos : ∀ x ∈ runMin none s.cposRev, x + s.used ≤ lo
  begin_ : s.b + s.used ≤ lo
  place : placementRev s = tsRev

theorem scan_no_pop (width tgt lim climit : Int) (B : List Bound) (slope curPos curCost : Int)
    (h : ∀ β ∈ B, β.absPos ≤ tgt) (hl : tgt ≤ lim) :
    scan width tgt lim climit B slope curPos curCost [] = ⟨B, [], slope, curPos, curCost⟩ := by
  cases B with
  | nil => rfl
  | cons t rest =>
    have ht := h t List.mem_cons_self
    rw [scan, if_neg]
    · rfl
    · simp only [Bool.or_eq_true, Bool.and_eq_true, decide_eq_true_eq]
      omega

theorem push_no_pop (s : State) (u w t : Int) (hu : s.used = u) (hb : ∀ β ∈ s.bounds, β.absPos ≤ t - u)
    (hw : 0 < w) (hbeg : s.b ≤ t - u) (he : t + w ≤ s.e) :
    push s w t = (0, { s with
      cposRev := (t - u) :: s.cposRev
      widthsRev := w :: s.widthsRev
      bounds := if t - u > s.b then pqInsert ⟨t - u, w⟩ s.bounds else s.bounds }) := by
  have hfin : min (s.e - u - w) (max s.b (t - u)) = t - u := by
    rw [Int.max_eq_right hbeg, Int.min_eq_right (by omega)]
  have hd : displacement s w t = ⟨0, t - u, ⟨s.bounds, [], -w, s.e, 0⟩⟩ := by
    rw [displacement, hu, scan_no_pop w (t - u) (s.e - u - w) (s.e - u) s.bounds (-w) s.e 0 hb (by omega)]
    simp only [if_neg (show ¬ (-w ≥ 0) by omega), hfin, Int.add_left_neg, Int.mul_zero, Int.sub_self,
      Int.natAbs_zero, Int.add_zero, Int.natCast_zero]
  rw [push, hd, hu]
  have hwt : 2 * w + min (-w) 0 = w := by
    rw [Int.min_eq_left (by omega)]
    omega
  simp only [if_neg (show ¬ (-w > 0) by omega), Int.min_self, hwt]

theorem push_no_conflict (s : State) (lo : Int) (tsRev : List Int) (w t : Int) (h : NC s lo tsRev)
    (hw : 0 < w) (hlo : lo ≤ t) (he : t + w ≤ s.e) :
    (push s w t).1 = 0 ∧ NC (push s w t).2 (t + w) (t :: tsRev) ∧ (push s w t).2.e = s.e := by
  obtain ⟨hbd, hcp, hbeg, hpl⟩ := h
  obtain ⟨b, e, cp, ws, bd⟩ := s
  simp only [State.used, placementRev] at hbd hcp hbeg hpl
  rw [push_no_pop ⟨b, e, cp, ws, bd⟩ ws.sum w t rfl (fun β hβ => by have := hbd β hβ; omega) hw
    (by show b ≤ t - ws.sum; omega) he]
  -- the new constraining position is the largest so far: the running minimum keeps the old values
  have hrm : runMin none ((t - ws.sum) :: cp) = (t - ws.sum) :: runMin none cp := by
    rw [runMin_none_cons]
    refine congrArg _ ((List.map_congr_left fun x hx => ?_).trans (List.map_id _))
    have := hcp x hx
    simp only [id]
    omega
  refine ⟨rfl, ⟨?_, ?_, ?_, ?_⟩, rfl⟩
  · intro β hβ
    have : β = ⟨t - ws.sum, w⟩ ∨ β ∈ bd := (mem_ite_pqInsert.mp hβ).imp_left And.right
    simp only [State.used, List.sum_cons]
    rcases this with rfl | hβ
    · show t - ws.sum + (w + ws.sum) ≤ t + w
      omega
    · have := hbd β hβ
      omega
  · intro x hx
    simp only [State.used, List.sum_cons]
    rw [hrm] at hx
    rcases List.mem_cons.mp hx with rfl | hx
    · omega
    · have := hcp x hx
      omega
  · show b + (w :: ws).sum ≤ t + w
    rw [List.sum_cons]
    omega
  · simp only [placementRev]
    rw [hrm, cumRev, List.zipWith_cons_cons, hpl]
    congr 1
    omega

theorem nc_fits (s : State) (lo : Int) (ts : List Int) (w t : Int) (h : NC s lo ts) (hlo : lo ≤ t)
    (he : t + w ≤ s.e) : w ≤ s.remaining := by
  have := h.begin_
  simp only [State.remaining]
  omega

theorem nc_new (b e : Int) : NC (State.new b e) b [] := by
  refine ⟨?_, ?_, ?_, ?_⟩ <;> simp [State.new, State.used, runMin, placementRev, cumRev]

theorem pushAll_no_conflict : ∀ (cs : List (Int × Int)) (s : State) (lo : Int) (tsRev : List Int),
    NC s lo tsRev → InOrder s.e lo cs →
    (∀ c ∈ (pushAll s cs).1, c = 0) ∧
    placementRev (pushAll s cs).2 = (cs.map Prod.snd).reverse ++ tsRev
  | [], s, lo, tsRev, h, _ => by simp [pushAll, h.place]
  | c :: cs, s, lo, tsRev, h, hio => by
    obtain ⟨hw, hlo, he, hrest⟩ := hio
    obtain ⟨h0, hnc, hee⟩ := push_no_conflict s lo tsRev c.1 c.2 h hw hlo he
    have ih := pushAll_no_conflict cs (push s c.1 c.2).2 (c.2 + c.1) (c.2 :: tsRev) hnc (by rw [hee]; exact hrest)
    constructor
    · intro x hx
      simp only [pushAll, List.mem_cons] at hx
      rcases hx with rfl | hx
      · exact h0
      · exact ih.1 x hx
    · simp only [pushAll, List.map_cons, List.reverse_cons, List.append_assoc, List.singleton_append]
      exact ih.2

end ColoVerif.RowLeg
