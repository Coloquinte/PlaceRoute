import ColoVerif.Proofs.TranspSsp
import ColoVerif.Proofs.TranspSsp2Heap
/-
`Flow` holds through `runSources` whatever the costs, so every plan `run` returns is feasible (`run_feasible`).
A successful walk along `sinkParent_` visits pairwise distinct sinks (`depthIs_unique`), so when the second
walk of `sendSource` reaches a sink, its allocation row and its queues are still the ones the first walk looked
at (`Untouched`, `walk_round`); after `emplace` the top of a `priority_queue` is the old top or the new element
(`heapPush_top`); the first walk bounds the amount by the allocation of each old top.  No ordering property of
the heaps is needed.
-/
namespace ColoVerif.Transp

lemma qget_row (qs qs' : Queues) (a b : Nat) (h : qs.getD a #[] = qs'.getD a #[]) :
    qget qs a b = qget qs' a b := by
  unfold qget; rw [h]

lemma qset_row_ne (qs : Queues) (a b : Nat) (h : Heap) (a' : Nat) (hne : a' ≠ a) :
    (qset qs a b h).getD a' #[] = qs.getD a' #[] := by
  unfold qset
  rw [getD_setIfInBounds, if_neg fun e => hne e.1]

lemma qget_qset_eq (qs : Queues) (a b : Nat) (h : Heap) (b' : Nat) :
    qget (qset qs a b h) a b' =
      if b' = b ∧ a < qs.size ∧ b < (qs.getD a #[]).size then h else qget qs a b' := by
  unfold qget qset
  rw [getD_setIfInBounds]
  by_cases ha : a < qs.size
  · rw [if_pos ⟨rfl, ha⟩, getD_setIfInBounds]
    simp only [ha, true_and]
  · rw [if_neg fun e => ha e.2, if_neg fun e => ha e.2.1]

lemma get2_row (m m' : Mat) (i j : Nat) (h : m.getD i [] = m'.getD i []) : get2 m i j = get2 m' i j := by
  unfold get2; rw [h]

lemma add2_row_ne (a : Mat) (i j : Nat) (d : Int) (i' : Nat) (hne : i' ≠ i) :
    (add2 a i j d).getD i' [] = a.getD i' [] := by
  unfold add2
  rw [getD_updAt]
  rw [if_neg (fun hh => hne hh.1)]

lemma qset_size (qs : Queues) (a b : Nat) (h : Heap) : (qset qs a b h).size = qs.size := by
  unfold qset; simp

lemma qset_row_size (qs : Queues) (a b : Nat) (h : Heap) (a' : Nat) :
    ((qset qs a b h).getD a' #[]).size = (qs.getD a' #[]).size := by
  unfold qset
  rw [getD_setIfInBounds]
  split
  · rename_i e; rw [e.1, Array.size_setIfInBounds]
  · rfl

/-- the shape of the loops `for dst: if dst != sink: queues_[sink][dst] = g(dst, queues_[sink][dst])` -/
def qmapRow (n sink : Nat) (g : Nat → Heap → Heap) (qs : Queues) : Queues :=
  (List.range n).foldl (fun qs d => if d == sink then qs else qset qs sink d (g d (qget qs sink d))) qs

lemma qmapRow_succ (n sink : Nat) (g : Nat → Heap → Heap) (qs : Queues) :
    qmapRow (n + 1) sink g qs =
      (if n == sink then qmapRow n sink g qs
       else qset (qmapRow n sink g qs) sink n (g n (qget (qmapRow n sink g qs) sink n))) := by
  unfold qmapRow
  rw [List.range_succ, List.foldl_append]
  rfl

lemma qmapRow_spec (sink : Nat) (g : Nat → Heap → Heap) : ∀ (n : Nat) (qs : Queues),
    (qmapRow n sink g qs).size = qs.size ∧
    (∀ a, ((qmapRow n sink g qs).getD a #[]).size = (qs.getD a #[]).size) ∧
    (∀ a, a ≠ sink → (qmapRow n sink g qs).getD a #[] = qs.getD a #[]) ∧
    (∀ d, qget (qmapRow n sink g qs) sink d =
      if d < n ∧ d ≠ sink ∧ sink < qs.size ∧ d < (qs.getD sink #[]).size then g d (qget qs sink d)
      else qget qs sink d) := by
  intro n
  induction n with
  | zero => intro qs; simp [qmapRow]
  | succ n ih =>
    intro qs
    obtain ⟨h1, h2, h3, h4⟩ := ih qs
    rw [qmapRow_succ]
    by_cases hn : n = sink
    · subst hn
      simp only [beq_self_eq_true, if_true]
      refine ⟨h1, h2, h3, fun d => ?_⟩
      rw [h4 d]
      by_cases hd : d = n
      · subst hd; simp
      · have : (d < n + 1) = (d < n) := by simp; omega
        simp only [this]
    · have hn' : (n == sink) = false := by simp [hn]
      simp only [hn', Bool.false_eq_true, if_false]
      refine ⟨by rw [qset_size, h1], fun a => by rw [qset_row_size, h2], fun a ha => ?_, fun d => ?_⟩
      · rw [qset_row_ne _ _ _ _ _ ha]; exact h3 a ha
      · rw [qget_qset_eq, h1, h2 sink, h4 d, h4 n]
        have : d < n + 1 ↔ d < n ∨ d = n := by omega
        by_cases hd : d = n
        · subst hd; simp [hn]
        · simp [hd, this]

lemma updateSinkQueues_eq (p : Problem) (alloc : Mat) (qs : Queues) (sink src : Nat) :
    updateSinkQueues p alloc qs sink src =
      if get2 alloc sink src != 0 then qs
      else qmapRow p.nbSinks sink (fun _ h => popZeros alloc sink (h.size + 1) h) qs := rfl

/-- the same loop with the `assert(!queues_[sink][dst].empty())` of `updateDestQueues` -/
lemma foldlM_qset (sink : Nat) (g : Nat → Heap → Heap) (msg : String) : ∀ (n : Nat) (qs : Queues),
    (List.range n).foldlM (fun qs dst =>
        if dst == sink then (pure qs : Except String Queues)
        else if (qget qs sink dst).size == 0 then Except.error msg
        else pure (qset qs sink dst (g dst (qget qs sink dst)))) qs
      = if ∀ d, d < n → d ≠ sink → (qget qs sink d).size ≠ 0 then .ok (qmapRow n sink g qs) else .error msg := by
  intro n
  induction n with
  | zero => intro qs; rw [if_pos (fun d hd => absurd hd (Nat.not_lt_zero d))]; rfl
  | succ n ih =>
    intro qs
    rw [List.range_succ, List.foldlM_append, ih qs]
    by_cases h : ∀ d, d < n → d ≠ sink → (qget qs sink d).size ≠ 0
    · rw [if_pos h, qmapRow_succ]
      simp only [bind, Except.bind, List.foldlM_cons, List.foldlM_nil]
      by_cases hn : n = sink
      · subst hn
        have hall : ∀ d, d < n + 1 → d ≠ n → (qget qs n d).size ≠ 0 := fun d hd hdn => h d (by omega) hdn
        rw [if_pos hall]
        simp [pure, Except.pure]
      · have hn' : (n == sink) = false := by simp [hn]
        have hq : qget (qmapRow n sink g qs) sink n = qget qs sink n := by
          rw [(qmapRow_spec sink g n qs).2.2.2 n]; simp
        simp only [hn', Bool.false_eq_true, if_false, hq]
        by_cases hs : (qget qs sink n).size = 0
        · have hex : ¬ ∀ d, d < n + 1 → d ≠ sink → (qget qs sink d).size ≠ 0 :=
            fun H => H n (Nat.lt_succ_self n) hn hs
          rw [if_pos (beq_iff_eq.mpr hs), if_neg hex]
        · have hall : ∀ d, d < n + 1 → d ≠ sink → (qget qs sink d).size ≠ 0 := fun d hd hds =>
            if e : d = n then e ▸ hs else h d (by omega) hds
          rw [if_neg (fun e => hs (beq_iff_eq.mp e)), if_pos hall]
          rfl
    · rw [if_neg h, if_neg (fun H : ∀ d, d < n + 1 → d ≠ sink → (qget qs sink d).size ≠ 0 =>
        h (fun d hd => H d (Nat.lt_succ_of_lt hd)))]
      rfl

lemma updateDestQueues_fronts (p : Problem) (alloc : Mat) (qs qs1 : Queues) (sink src : Nat)
    (h : updateDestQueues p alloc qs sink src = .ok qs1) :
    (∀ a, a ≠ sink → qs1.getD a #[] = qs.getD a #[]) ∧
    (∀ d, hget (qget qs1 sink d) 0 = hget (qget qs sink d) 0 ∨ (hget (qget qs1 sink d) 0).elt = src) := by
  unfold updateDestQueues at h
  split at h
  · obtain rfl := Except.ok.inj h
    exact ⟨fun _ _ => rfl, fun _ => Or.inl rfl⟩
  · rw [foldlM_qset sink (fun d h => heapPush h ⟨p.movingCost src sink d, src⟩)] at h
    split at h
    swap; · exact absurd h (by simp)
    obtain rfl := Except.ok.inj h
    obtain ⟨_, _, g3, g4⟩ := qmapRow_spec sink (fun d h => heapPush h ⟨p.movingCost src sink d, src⟩) p.nbSinks qs
    refine ⟨g3, fun d => ?_⟩
    rw [g4 d]
    split
    · rcases heapPush_top (qget qs sink d) ⟨p.movingCost src sink d, src⟩ with ⟨_, e⟩ | e
      · exact Or.inl e
      · right; rw [e]
    · exact Or.inl rfl

lemma updateSinkQueues_rows (p : Problem) (alloc : Mat) (qs : Queues) (sink src : Nat) :
    ∀ a, a ≠ sink → (updateSinkQueues p alloc qs sink src).getD a #[] = qs.getD a #[] := by
  intro a ha
  rw [updateSinkQueues_eq]
  split
  · rfl
  · exact (qmapRow_spec sink _ p.nbSinks qs).2.2.1 a ha

lemma add2_row_len (a : Mat) (i j : Nat) (d : Int) (i' : Nat) :
    ((add2 a i j d).getD i' []).length = (a.getD i' []).length := by
  unfold add2
  rw [getD_updAt]
  split
  · rename_i hc
    rw [hc.1]
    unfold addAt
    rw [updAt_eq_modify, List.length_modify]
  · rfl

lemma sentSourceQ_eq_ok {qs : Queues} {a b src : Nat} (h : sentSourceQ qs a b = .ok src) :
    (hget (qget qs a b) 0).elt = src := by
  unfold sentSourceQ qtop at h
  split at h
  · exact absurd h (by simp [Except.map])
  · simpa [Except.map] using h

lemma sendStep_alloc {p : Problem} {m : Int} {alloc : Mat} {qs : Queues} {snk1 snk2 sentSrc : Nat} {st : Step}
    (h : sendStep p m alloc qs snk1 snk2 sentSrc = .ok st) :
    (∀ i j, get2 st.alloc i j = get2 alloc i j + (if i = snk1 ∧ j = sentSrc then m else 0)
        - (if i = snk1 ∧ j = st.newSrc then m else 0)) ∧
    (∀ a, a ≠ snk1 → st.alloc.getD a [] = alloc.getD a []) ∧
    (∀ a, a ≠ snk1 → st.queues.getD a #[] = qs.getD a #[]) ∧
    (st.newSrc = sentSrc ∨ st.newSrc = (hget (qget qs snk1 snk2) 0).elt) := by
  obtain ⟨_, qs1, a1, _, _, hq1, hns, h1, h2, hq, _⟩ := sendStep_ok_iff.mp h
  obtain ⟨e1, _, _, l1⟩ := add2?_eq_some h1
  obtain ⟨e2, _, _, l2⟩ := add2?_eq_some h2
  obtain ⟨r1, f1⟩ := updateDestQueues_fronts p alloc qs qs1 snk1 sentSrc hq1
  refine ⟨fun i j => ?_, fun a ha => ?_, fun a ha => ?_, ?_⟩
  · rw [e2, get2_add2 _ _ _ _ l2, e1, get2_add2 _ _ _ _ l1]
    split <;> split <;> omega
  · rw [e2, add2_row_ne _ _ _ _ _ ha, e1, add2_row_ne _ _ _ _ _ ha]
  · rw [hq, updateSinkQueues_rows _ _ _ _ _ _ ha]; exact r1 a ha
  · rw [← sentSourceQ_eq_ok hns]
    rcases f1 snk2 with e | e
    · right; rw [e]
    · left; exact e

lemma depthIs_of_parent {parent : List (Option Nat)} {x y k : Nat} (hp : parent.getD x none = some y)
    (h : depthIs parent k x) : ∃ k', k = k' + 1 ∧ depthIs parent k' y := by
  cases k with
  | zero => rw [depthIs, hp] at h; cases h
  | succ k =>
    obtain ⟨_, hy, hd⟩ := h
    exact ⟨k, rfl, Option.some.inj (hy.symm.trans hp) ▸ hd⟩

lemma depthIs_unique (parent : List (Option Nat)) : ∀ (k k' x : Nat),
    depthIs parent k x → depthIs parent k' x → k = k' := by
  intro k
  induction k with
  | zero =>
    intro k' x h h'
    cases k' with
    | zero => rfl
    | succ k' =>
      obtain ⟨y, hy, _⟩ := h'
      rw [depthIs, hy] at h; cases h
  | succ k ih =>
    intro k' x ⟨y, hy, hd⟩ h'
    obtain ⟨k', rfl, hd'⟩ := depthIs_of_parent hy h'
    rw [ih k' y hd hd']

/-- the sinks of depth at most `k` still have the allocation row and the queues `alloc0`, `qs0` the first walk saw -/
def Untouched (parent : List (Option Nat)) (alloc0 : Mat) (qs0 : Queues) (k : Nat) (alloc : Mat) (qs : Queues) : Prop :=
  ∀ y k', k' ≤ k → depthIs parent k' y → alloc.getD y [] = alloc0.getD y [] ∧ qs.getD y #[] = qs0.getD y #[]

lemma Untouched.refl {parent : List (Option Nat)} {alloc : Mat} {qs : Queues} {k : Nat} :
    Untouched parent alloc qs k alloc qs := fun _ _ _ _ => ⟨rfl, rfl⟩

/-- A round of the second walk at a sink `snk1` of depth `k + 1` whose row and queues are still those the
first walk saw: the amount is at most the allocation of the top of `queues_[snk1][snk2]`, which is the source
the first walk found there, and since the round changes the row and the queues of `snk1` only, the sinks further
down the chain (they are different from `snk1`) keep the row and the queues the first walk saw. -/
lemma walk_round (p : Problem) {parent : List (Option Nat)} {alloc0 alloc : Mat} {qs0 qs : Queues}
    {fuel k snk1 snk2 : Nat} {q ms m : Int} {root src0 : Nat} (hp : parent.getD snk1 none = some snk2)
    (hdy : depthIs parent k snk2) (hsrc0 : sentSourceQ qs0 snk1 snk2 = .ok src0)
    (h1 : maxSentLoop alloc0 qs0 parent fuel snk2 (min q (get2 alloc0 snk1 src0)) = .ok (ms, root)) (hle : m ≤ ms)
    (hrows : Untouched parent alloc0 qs0 (k + 1) alloc qs) :
    m ≤ get2 alloc snk1 (hget (qget qs snk1 snk2) 0).elt ∧
    ∀ {sentSrc : Nat} {st : Step}, sendStep p m alloc qs snk1 snk2 sentSrc = .ok st →
      Untouched parent alloc0 qs0 k st.alloc st.queues := by
  have hd1 : depthIs parent (k + 1) snk1 := ⟨snk2, hp, hdy⟩
  obtain ⟨ea, eq⟩ := hrows snk1 (k + 1) (Nat.le_refl _) hd1
  refine ⟨?_, ?_⟩
  · rw [qget_row qs qs0 snk1 snk2 eq, sentSourceQ_eq_ok hsrc0, get2_row alloc alloc0 snk1 src0 ea]
    have := (maxSentLoop_eq_ok h1).1
    have := min_le_right q (get2 alloc0 snk1 src0)
    omega
  · intro sentSrc st hst y k' hk' hdy'
    obtain ⟨_, hra, hrq, _⟩ := sendStep_alloc hst
    have hne : y ≠ snk1 := by
      rintro rfl
      have := depthIs_unique parent _ _ _ hdy' hd1
      omega
    obtain ⟨e1, e2⟩ := hrows y k' (by omega) hdy'
    exact ⟨(hra y hne).trans e1, (hrq y hne).trans e2⟩

lemma sendStep_nonneg {p : Problem} {m : Int} {alloc : Mat} {qs : Queues} {snk1 snk2 sentSrc : Nat} {st : Step}
    (h : sendStep p m alloc qs snk1 snk2 sentSrc = .ok st) (hm : 0 < m)
    (hle : m ≤ get2 alloc snk1 (hget (qget qs snk1 snk2) 0).elt) (i j : Nat) (h0 : 0 ≤ get2 alloc i j) :
    0 ≤ get2 st.alloc i j := by
  obtain ⟨ha, _, _, hns⟩ := sendStep_alloc h
  rw [ha i j]
  by_cases e1 : i = snk1 ∧ j = st.newSrc
  · rw [if_pos e1]
    rcases hns with e | e
    · rw [if_pos ⟨e1.1, e1.2.trans e⟩]; omega
    · rw [e1.1, e1.2, e] at h0 ⊢
      split <;> omega
  · rw [if_neg e1]
    split <;> omega

lemma sendLoop_flow {p : Problem} {remCapa : List Int} {parent : List (Option Nat)} {m : Int} (hm : 0 < m)
    {alloc0 alloc : Mat} {qs0 qs : Queues} {fuel k snk1 : Nat} {q ms : Int} {root sentSrc : Nat} {nu : Bool} {w : Walk}
    (h1 : maxSentLoop alloc0 qs0 parent fuel snk1 q = .ok (ms, root)) (hle : m ≤ ms) (hdep : depthIs parent k snk1)
    (hrows : Untouched parent alloc0 qs0 k alloc qs) (hnn : ∀ i j, 0 ≤ get2 alloc i j)
    (h2 : sendLoop p remCapa parent m fuel alloc qs snk1 sentSrc nu = .ok w) :
    (∀ j, colSum w.alloc p.nbSinks j + (if j = w.src then m else 0)
        = colSum alloc p.nbSinks j + (if j = sentSrc then m else 0)) ∧
    (∀ i, rowSum w.alloc p.nbSources i = rowSum alloc p.nbSources i) ∧ w.root = root ∧
    ∀ i j, 0 ≤ get2 w.alloc i j := by
  induction fuel generalizing k snk1 q alloc qs sentSrc nu with
  | zero => simp [maxSentLoop] at h1
  | succ fuel ih =>
    unfold sendLoop at h2
    rcases maxSentLoop_succ_eq_ok h1 with ⟨hp, _, rfl⟩ | ⟨snk2, src0, hp, hsrc0, _, h1⟩
    · rw [hp] at h2
      obtain rfl := Except.ok.inj h2
      exact ⟨fun _ => rfl, fun _ => rfl, rfl, hnn⟩
    · simp only [hp] at h2
      split at h2; · exact absurd h2 (by simp)
      split at h2; · exact absurd h2 (by simp)
      rename_i st hst
      obtain ⟨k, rfl, hdy⟩ := depthIs_of_parent hp hdep
      obtain ⟨hbound, hrows'⟩ := walk_round p hp hdy hsrc0 h1 hle hrows
      obtain ⟨c1, r1⟩ := sendStep_sums hst
      obtain ⟨c2, r2, e, n2⟩ := ih h1 hdy (hrows' hst)
        (fun i j => sendStep_nonneg hst hm hbound i j (hnn i j)) h2
      exact ⟨fun j => by rw [c2 j, c1 j], fun i => by rw [r2 i, r1 i], e, n2⟩

lemma sendSource3_flow {p : Problem} {s s' : St} {sent : Nat → Int} {src sink : Nat} {q m : Int}
    (hi : Flow p s sent) (h : sendSource3 p s src sink q = .ok (s', m)) :
    Flow p s' (fun j => sent j + (if j = src then m else 0)) ∧ 0 < m ∧ m ≤ q := by
  obtain ⟨ms, root, w, hms, em, hpos, hw, hadd, hroot, er⟩ := sendSource3_eq_ok h
  obtain ⟨hle, k, _, hk⟩ := maxSentLoop_eq_ok hms
  have h1 := min_le_left ms (s.remCapa.getD root 0)
  have h2 := min_le_right ms (s.remCapa.getD root 0)
  obtain ⟨c1, r1, hsame, n1⟩ := sendLoop_flow hpos hms (by omega) hk .refl hi.nn hw
  obtain ⟨c2, r2⟩ := add2?_sums hadd
  obtain ⟨e, _, _, l⟩ := add2?_eq_some hadd
  refine ⟨⟨fun j => ?_, fun i => ?_, fun i => ?_, fun i j => ?_⟩, hpos, by omega⟩
  · rw [c2 j, ← hi.col j]
    exact c1 j
  · rw [er, r2 i, r1 i, ListFacts.getD_set _ _ i _ 0 hroot]
    have := hi.row i
    split
    · rename_i e; rw [e] at this ⊢; omega
    · omega
  · exact er ▸ ListFacts.getD_set_prop (0 ≤ ·) i 0 (by rw [hsame]; omega) (hi.rem i)
  · rw [e, get2_add2 _ _ _ _ l]
    have := n1 i j
    split <;> omega

lemma sendSourceLoop_flow (p : Problem) (src : Nat) :
    ∀ (fuel : Nat) (s : St) (rem : Int) (sent : Nat → Int) (s' : St),
      Flow p s sent → rem ≤ fuel → 0 ≤ rem → sendSourceLoop p src fuel s rem = .ok s' →
      Flow p s' (fun j => sent j + (if j = src then rem else 0)) := by
  intro fuel
  induction fuel with
  | zero =>
    intro s rem sent s' hi hf h0 h
    obtain rfl : rem = 0 := by omega
    simp [sendSourceLoop] at h
    subst h
    exact hi.congr (fun j => by simp)
  | succ fuel ih =>
    intro s rem sent s' hi hf h0 h
    unfold sendSourceLoop at h
    split at h
    · split at h; · exact absurd h (by simp)
      rename_i s1 m h3
      obtain ⟨hi1, hm0, hmq⟩ := sendSource3_flow hi h3
      rw [if_pos hm0] at h
      exact (ih s1 (rem - m) _ s' hi1 (by push_cast at hf ⊢; omega) (by omega) h).congr
        (fun j => by split <;> omega)
    · obtain rfl : rem = 0 := by omega
      obtain rfl := Except.ok.inj h
      exact hi.congr (fun j => by simp)

lemma runSources_flow (p : Problem) (hd : ∀ j, 0 ≤ p.demand j) :
    ∀ (L : List Nat) (s : St) (sent : Nat → Int) (s' : St),
      Flow p s sent → runSources p L s = .ok s' →
      Flow p s' (fun j => sent j + (L.count j : Int) * p.demand j) := by
  intro L
  induction L with
  | nil =>
    intro s sent s' hi h
    simp [runSources] at h; subst h
    exact hi.congr (fun j => by simp)
  | cons a L ih =>
    intro s sent s' hi h
    unfold runSources at h
    split at h; · exact absurd h (by simp)
    rename_i s1 h1
    exact (ih s1 _ s' (sendSourceLoop_flow p a _ s (p.demand a) sent s1 hi
      (by rw [Int.toNat_of_nonneg (hd a)]) (hd a) h1) h).congr
      (fun j => by rw [← count_cons_mul, Int.add_assoc])

lemma run_feasible (p : Problem) (s : St) (hc : ∀ i, 0 ≤ p.capacity i) (hd : ∀ j, 0 ≤ p.demand j)
    (h : run p = .ok s) : Feasible p s.alloc := by
  have hi := runSources_flow p hd _ _ _ _ (initSt_flow p hc) h
  refine ⟨fun i j _ _ => hi.nn i j, fun j hj => ?_, fun i _ => ?_⟩
  · rw [hi.col j, count_sorted, if_pos hj]; simp
  · have := hi.row i
    have := hi.rem i
    omega

lemma solve_eq_ok {p q : Problem} (h : solve p = .ok q) : ∃ s, run p = .ok s ∧ q = { p with allocations := s.alloc } := by
  unfold solve at h
  split at h
  · cases h
  · exact ⟨_, ‹_›, (Except.ok.inj h).symm⟩

end ColoVerif.Transp
