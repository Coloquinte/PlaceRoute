import ColoVerif.Model.F64
import Mathlib.Tactic.Linarith
import Mathlib.Tactic.Ring
import Mathlib.Algebra.Order.Field.Power
/-
The generic round-to-nearest-even `fround prec emin : Rat → Rat` of `Model/F64.lean` (for `1 ≤ prec`), then its
instances `f64 = fround 53 (−1074)` (normal range from `2^(−1022)`) and `f32' = fround 24 (−149)` (from `2^(−126)`;
`f32' = Legalize.f32` by `rfl`).  The facts about a positive `a` rest on `fexp_spec` and on two readings of
`fround a = rne (a / 2^E) · 2^E`, `E = fexp a`: no multiple of `2^E` is crossed (`fround_ge_of_grid`,
`fround_le_of_grid`), and the error is at most `2^E / 2`.  Then `roundAway` (`std::round`) and `f32sqrt` (`sqrtf`).
-/
namespace ColoVerif.F64
open ColoVerif.Legalize (pow2 roundHalfEven)

theorem pow2_zpow (e : Int) : pow2 e = (2 : Rat) ^ e := by
  unfold pow2
  split
  · rename_i h
    have he : e = ((e.toNat : Nat) : Int) := (Int.toNat_of_nonneg h).symm
    conv_rhs => rw [he]
    rw [zpow_natCast]
    push_cast
    rfl
  · rename_i h
    have he : e = -(((-e).toNat : Nat) : Int) := by omega
    conv_rhs => rw [he]
    rw [zpow_neg, zpow_natCast]
    push_cast
    rw [one_div]

theorem z2_pos (e : Int) : (0 : Rat) < (2 : Rat) ^ e := zpow_pos two_pos e

theorem z2_ne (e : Int) : (2 : Rat) ^ e ≠ 0 := ne_of_gt (z2_pos e)

theorem z2_le {a b : Int} (h : a ≤ b) : (2 : Rat) ^ a ≤ (2 : Rat) ^ b :=
  zpow_le_zpow_right₀ one_le_two h

theorem z2_lt_imp {a b : Int} (h : (2 : Rat) ^ a < (2 : Rat) ^ b) : a < b := by
  by_contra hn
  exact absurd (z2_le (not_lt.mp hn)) (not_le.mpr h)

theorem z2_add (a b : Int) : (2 : Rat) ^ (a + b) = (2 : Rat) ^ a * (2 : Rat) ^ b :=
  zpow_add₀ two_ne_zero a b

theorem z2_nat (n : Nat) : (2 : Rat) ^ (n : Int) = (((2 : Int) ^ n : Int) : Rat) := by
  rw [zpow_natCast]
  push_cast
  rfl

theorem z2_int {p : Int} (hp : 0 ≤ p) : (2 : Rat) ^ p = (((2 : Int) ^ p.toNat : Int) : Rat) := by
  have he : p = ((p.toNat : Nat) : Int) := (Int.toNat_of_nonneg hp).symm
  conv_lhs => rw [he]
  exact z2_nat p.toNat

theorem z2_grid {E k : Int} (h : E ≤ k) :
    (2 : Rat) ^ k = (((2 : Int) ^ (k - E).toNat : Int) : Rat) * (2 : Rat) ^ E := by
  rw [← z2_int (sub_nonneg.mpr h), ← z2_add, sub_add_cancel]

theorem z2_pred (e : Int) : (2 : Rat) ^ (e - 1) = (2 : Rat) ^ e / 2 := by
  rw [zpow_sub_one₀ two_ne_zero, div_eq_mul_inv]

theorem z2_le_div {a b : Int} {x d : Rat} (hx : (2 : Rat) ^ a ≤ x) (hd0 : 0 < d)
    (hd : d ≤ (2 : Rat) ^ b) : (2 : Rat) ^ (a - b) ≤ x / d := by
  rw [zpow_sub₀ two_ne_zero]
  exact div_le_div₀ ((z2_pos a).le.trans hx) hx hd0 hd

theorem z2_abs_mul_le {a b : Int} {x y : Rat} (hx : |x| ≤ (2 : Rat) ^ a) (hy : |y| ≤ (2 : Rat) ^ b) :
    |x * y| ≤ (2 : Rat) ^ (a + b) := by
  rw [abs_mul, z2_add]
  exact mul_le_mul hx hy (abs_nonneg y) (z2_pos a).le

theorem z2_abs_add_le {a : Int} {x y : Rat} (hx : |x| ≤ (2 : Rat) ^ a) (hy : |y| ≤ (2 : Rat) ^ a) :
    |x + y| ≤ (2 : Rat) ^ (a + 1) := by
  rw [z2_add, zpow_one, mul_two]
  exact (abs_add_le x y).trans (add_le_add hx hy)

theorem two_zpow_neg53 : (2 : Rat) ^ (-53 : Int) = 1 / 9007199254740992 := by norm_num

theorem two_zpow_neg24 : (2 : Rat) ^ (-24 : Int) = 1 / 16777216 := by norm_num

theorem rne_of_lt_half {r : Rat} (h : r - (r.floor : Rat) < 1 / 2) : roundHalfEven r = r.floor :=
  if_pos h

theorem rne_of_half_lt {r : Rat} (h : 1 / 2 < r - (r.floor : Rat)) :
    roundHalfEven r = r.floor + 1 := by
  unfold roundHalfEven
  rw [if_neg (not_lt.mpr h.le), if_pos h]

theorem rne_cases (r : Rat) : roundHalfEven r = r.floor ∨ roundHalfEven r = r.floor + 1 := by
  unfold roundHalfEven
  split_ifs
  exacts [Or.inl rfl, Or.inr rfl, Or.inl rfl, Or.inr rfl]

theorem rne_floor_le (r : Rat) : r.floor ≤ roundHalfEven r := by
  rcases rne_cases r with e | e <;> omega

theorem rne_le_floor_succ (r : Rat) : roundHalfEven r ≤ r.floor + 1 := by
  rcases rne_cases r with e | e <;> omega

/-- Across a floor boundary the two candidates are already ordered; within one unit interval only the
position relative to the midpoint matters, and the tie rule is consulted at the single point where
`r = s`. -/
theorem rne_mono {r s : Rat} (h : r ≤ s) : roundHalfEven r ≤ roundHalfEven s := by
  have hr := rne_le_floor_succ r
  have hs := rne_floor_le s
  rcases eq_or_lt_of_le h with rfl | hlt
  · exact le_refl _
  rcases eq_or_lt_of_le (Rat.floor_monotone h) with hf | hf
  · rcases lt_or_ge ((1 : Rat) / 2) (s - (s.floor : Rat)) with h1 | h1
    · rw [rne_of_half_lt h1]; omega
    · rw [rne_of_lt_half (show r - (r.floor : Rat) < 1 / 2 by
        rw [hf]; exact (sub_lt_sub_right hlt _).trans_le h1)]
      omega
  · omega

theorem rne_int (n : Int) : roundHalfEven (n : Rat) = n := by
  unfold roundHalfEven
  rw [Rat.floor_intCast]
  simp

theorem rne_ge_int {n : Int} {r : Rat} (h : (n : Rat) ≤ r) : n ≤ roundHalfEven r :=
  (rne_int n).symm.trans_le (rne_mono h)

theorem rne_le_int {n : Int} {r : Rat} (h : r ≤ (n : Rat)) : roundHalfEven r ≤ n :=
  (rne_mono h).trans_eq (rne_int n)

theorem rne_le_add_half (r : Rat) : (roundHalfEven r : Rat) ≤ r + 1 / 2 := by
  rcases lt_or_ge (r - (r.floor : Rat)) (1 / 2) with h | h
  · rw [rne_of_lt_half h]
    exact (Rat.floor_le r).trans (le_add_of_nonneg_right (by norm_num))
  · have h1 : (roundHalfEven r : Rat) ≤ (r.floor : Rat) + 1 := by exact_mod_cast rne_le_floor_succ r
    have h2 := add_le_add_left (le_sub_iff_add_le'.mp h) (1 / 2)
    rw [add_assoc, add_halves] at h2
    exact h1.trans h2

theorem rne_ge_sub_half (r : Rat) : r - 1 / 2 ≤ (roundHalfEven r : Rat) := by
  rcases lt_or_ge ((1 : Rat) / 2) (r - (r.floor : Rat)) with h | h
  · rw [rne_of_half_lt h]
    exact (sub_le_self r (by norm_num)).trans (Rat.lt_floor_add_one r).le
  · exact (sub_le_comm.mp h).trans (Int.cast_le.mpr (rne_floor_le r))

theorem nat_log2_bounds (n : Nat) (hn : n ≠ 0) :
    (2 : Rat) ^ (n.log2 : Int) ≤ (n : Rat) ∧ (n : Rat) < (2 : Rat) ^ ((n.log2 : Int) + 1) := by
  constructor
  · rw [zpow_natCast]
    exact_mod_cast Nat.log2_self_le hn
  · have : (n.log2 : Int) + 1 = ((n.log2 + 1 : Nat) : Int) := by push_cast; ring
    rw [this, zpow_natCast]
    exact_mod_cast (Nat.lt_log2_self (n := n))

/-- the first guess of the binade from the bit lengths of numerator and denominator is off by at
most one -/
theorem rat_bracket (a : Rat) (ha : 0 < a) :
    (2 : Rat) ^ ((Nat.log2 a.num.natAbs : Int) - (Nat.log2 a.den : Int) - 1) < a ∧
    a < (2 : Rat) ^ ((Nat.log2 a.num.natAbs : Int) - (Nat.log2 a.den : Int) + 1) := by
  have hnum : 0 < a.num := Rat.num_pos.mpr ha
  obtain ⟨n1, n2⟩ := nat_log2_bounds a.num.natAbs (by omega)
  obtain ⟨d1, d2⟩ := nat_log2_bounds a.den a.den_nz
  have hd : (0 : Rat) < (a.den : Rat) := by exact_mod_cast a.den_pos
  have hq : ((a.num.natAbs : Nat) : Rat) / (a.den : Rat) = a := by
    rw [Nat.cast_natAbs, abs_of_pos hnum]
    exact Rat.num_div_den a
  constructor
  · have := div_lt_div₀' n1 d2 ((z2_pos _).trans_le n1) hd
    rwa [hq, ← zpow_sub₀ two_ne_zero, ← sub_sub] at this
  · have := div_lt_div₀ n2 d1 (z2_pos _).le (z2_pos _)
    rwa [hq, ← zpow_sub₀ two_ne_zero, ← sub_add_eq_add_sub] at this

/-- The first disjunct is the subnormal range, where the exponent is clamped and `a` may lie below its binade. -/
theorem fexp_spec (prec emin : Int) (a : Rat) (ha : 0 < a) :
    emin ≤ fexp prec emin a ∧ a < (2 : Rat) ^ (fexp prec emin a + prec) ∧
      (fexp prec emin a = emin ∨ (2 : Rat) ^ (fexp prec emin a + prec - 1) ≤ a) := by
  obtain ⟨b1, b2⟩ := rat_bracket a ha
  -- before clamping, the exponent brackets `a` exactly
  obtain ⟨E, hE, hb, hu⟩ : ∃ E, fexp prec emin a = max E emin ∧
      (2 : Rat) ^ (E + prec - 1) ≤ a ∧ a < (2 : Rat) ^ (E + prec) := by
    unfold fexp
    simp only [pow2_zpow]
    generalize (Nat.log2 a.num.natAbs : Int) - (Nat.log2 a.den : Int) = k at *
    rw [show k - (prec - 1) + (prec - 1) = k by ring]
    split_ifs with hlt
    · refine ⟨_, rfl, ?_, ?_⟩
      · rw [show k - (prec - 1) - 1 + prec - 1 = k - 1 by ring]; exact b1.le
      · rw [show k - (prec - 1) - 1 + prec = k by ring]; exact hlt
    · refine ⟨_, rfl, ?_, ?_⟩
      · rw [show k - (prec - 1) + prec - 1 = k by ring]; exact not_lt.mp hlt
      · rw [show k - (prec - 1) + prec = k + 1 by ring]; exact b2
  rw [hE]
  refine ⟨le_max_right _ _, hu.trans_le (z2_le (add_le_add_left (le_max_left _ _) _)), ?_⟩
  rcases le_total E emin with h | h
  · exact Or.inl (max_eq_right h)
  · rw [max_eq_left h]; exact Or.inr hb

theorem fexp_mono (prec emin : Int) {x y : Rat} (hx : 0 < x) (hxy : x ≤ y) :
    fexp prec emin x ≤ fexp prec emin y := by
  obtain ⟨x1, x2, x3⟩ := fexp_spec prec emin x hx
  obtain ⟨y1, y2, y3⟩ := fexp_spec prec emin y (lt_of_lt_of_le hx hxy)
  by_contra hn
  have hgt : fexp prec emin y < fexp prec emin x := not_le.mp hn
  rcases x3 with h | h
  · omega
  · have := z2_lt_imp (lt_of_le_of_lt (h.trans hxy) y2)
    omega

variable {prec emin : Int}

theorem fround_zero : fround prec emin 0 = 0 := by simp [fround]

theorem fround_of_pos {a : Rat} (ha : 0 < a) :
    fround prec emin a =
      (roundHalfEven (a / (2 : Rat) ^ fexp prec emin a) : Rat) * (2 : Rat) ^ fexp prec emin a := by
  unfold fround
  rw [if_neg (ne_of_gt ha), if_neg (not_lt.mpr (le_of_lt ha)), pow2_zpow]

theorem fround_of_neg {a : Rat} (ha : a < 0) : fround prec emin a = -fround prec emin (-a) := by
  have hp : 0 < -a := neg_pos.mpr ha
  rw [fround_of_pos hp]
  unfold fround
  rw [if_neg (ne_of_lt ha), if_pos ha, pow2_zpow]

theorem fround_neg (a : Rat) : fround prec emin (-a) = -fround prec emin a := by
  rcases lt_trichotomy a 0 with h | h | h
  · rw [fround_of_neg h, neg_neg]
  · subst h; simp [fround_zero]
  · rw [fround_of_neg (neg_neg_of_pos h), neg_neg]

theorem fround_ge_of_grid {a : Rat} (ha : 0 < a) {n : Int}
    (h : (n : Rat) * (2 : Rat) ^ fexp prec emin a ≤ a) :
    (n : Rat) * (2 : Rat) ^ fexp prec emin a ≤ fround prec emin a := by
  rw [fround_of_pos ha]
  exact mul_le_mul_of_nonneg_right (Int.cast_le.mpr (rne_ge_int ((le_div_iff₀ (z2_pos _)).mpr h)))
    (z2_pos _).le

theorem fround_le_of_grid {a : Rat} (ha : 0 < a) {n : Int}
    (h : a ≤ (n : Rat) * (2 : Rat) ^ fexp prec emin a) :
    fround prec emin a ≤ (n : Rat) * (2 : Rat) ^ fexp prec emin a := by
  rw [fround_of_pos ha]
  exact mul_le_mul_of_nonneg_right (Int.cast_le.mpr (rne_le_int ((div_le_iff₀ (z2_pos _)).mpr h)))
    (z2_pos _).le

theorem fround_eq_of_grid {a : Rat} (ha : 0 < a) {n : Int}
    (h : a = (n : Rat) * (2 : Rat) ^ fexp prec emin a) : fround prec emin a = a :=
  le_antisymm ((fround_le_of_grid ha h.le).trans_eq h.symm) (h.le.trans (fround_ge_of_grid ha h.ge))

theorem fround_ge_z2 {a : Rat} (ha : 0 < a) {k : Int} (hk : fexp prec emin a ≤ k)
    (h : (2 : Rat) ^ k ≤ a) : (2 : Rat) ^ k ≤ fround prec emin a := by
  rw [z2_grid hk] at h ⊢
  exact fround_ge_of_grid ha h

theorem fround_le_z2 {a : Rat} (ha : 0 < a) {k : Int} (hk : fexp prec emin a ≤ k)
    (h : a ≤ (2 : Rat) ^ k) : fround prec emin a ≤ (2 : Rat) ^ k := by
  rw [z2_grid hk] at h ⊢
  exact fround_le_of_grid ha h

theorem fround_nonneg {a : Rat} (ha : 0 ≤ a) : 0 ≤ fround prec emin a := by
  rcases eq_or_lt_of_le ha with h | h
  · rw [← h, fround_zero]
  · have := fround_ge_of_grid (prec := prec) (emin := emin) h (n := 0)
      (by rw [Int.cast_zero, zero_mul]; exact ha)
    rwa [Int.cast_zero, zero_mul] at this

theorem fround_nonpos {a : Rat} (ha : a ≤ 0) : fround prec emin a ≤ 0 := by
  have h := fround_nonneg (prec := prec) (emin := emin) (neg_nonneg.mpr ha)
  rw [fround_neg] at h
  exact neg_nonneg.mp h

theorem fround_repr (hp : 0 ≤ prec) {a : Rat} (ha : 0 < a) :
    ∃ M : Int, 0 ≤ M ∧ (M : Rat) ≤ (2 : Rat) ^ prec ∧
      fround prec emin a = (M : Rat) * (2 : Rat) ^ fexp prec emin a := by
  obtain ⟨_, h2, _⟩ := fexp_spec prec emin a ha
  refine ⟨roundHalfEven (a / (2 : Rat) ^ fexp prec emin a), ?_, ?_, fround_of_pos ha⟩
  · exact rne_ge_int (by push_cast; exact div_nonneg (le_of_lt ha) (le_of_lt (z2_pos _)))
  · have := fround_le_z2 ha (le_add_of_nonneg_left hp) (by rw [add_comm]; exact h2.le)
    rw [fround_of_pos ha, z2_add] at this
    exact le_of_mul_le_mul_right this (z2_pos _)

theorem fround_mono_pos (hp : 1 ≤ prec) {x y : Rat} (hx : 0 < x) (hxy : x ≤ y) :
    fround prec emin x ≤ fround prec emin y := by
  have hy : 0 < y := lt_of_lt_of_le hx hxy
  have hE := fexp_mono prec emin hx hxy
  rcases eq_or_lt_of_le hE with he | hlt
  · rw [fround_of_pos hx, fround_of_pos hy, he]
    exact mul_le_mul_of_nonneg_right
      (Int.cast_le.mpr (rne_mono (div_le_div_of_nonneg_right hxy (z2_pos _).le))) (z2_pos _).le
  · -- the bottom `2^(E+prec-1)` of the binade of `y` lies between `x` and `y`, on both grids
    obtain ⟨_, x2, _⟩ := fexp_spec prec emin x hx
    obtain ⟨_, _, y3⟩ := fexp_spec prec emin y hy
    have hyb : (2 : Rat) ^ (fexp prec emin y + prec - 1) ≤ y := by
      rcases y3 with h | h
      · omega
      · exact h
    exact (fround_le_z2 hx (by omega) (x2.le.trans (z2_le (by omega)))).trans
      (fround_ge_z2 hy (by omega) hyb)

theorem fround_mono (hp : 1 ≤ prec) {x y : Rat} (hxy : x ≤ y) :
    fround prec emin x ≤ fround prec emin y := by
  rcases lt_trichotomy x 0 with hx | hx | hx
  · rw [fround_of_neg hx]
    rcases lt_or_ge y 0 with hy | hy
    · rw [fround_of_neg hy]
      exact neg_le_neg (fround_mono_pos hp (neg_pos.mpr hy) (neg_le_neg hxy))
    · exact (neg_nonpos.mpr (fround_nonneg (neg_pos.mpr hx).le)).trans (fround_nonneg hy)
  · subst hx; rw [fround_zero]; exact fround_nonneg hxy
  · exact fround_mono_pos hp hx hxy

theorem fround_ge_of_fix (hp : 1 ≤ prec) {c x : Rat} (hc : fround prec emin c = c) (h : c ≤ x) :
    c ≤ fround prec emin x :=
  hc.symm.trans_le (fround_mono hp h)

theorem fround_le_of_fix (hp : 1 ≤ prec) {c x : Rat} (hc : fround prec emin c = c) (h : x ≤ c) :
    fround prec emin x ≤ c :=
  (fround_mono hp h).trans_eq hc

theorem fround_exact_pos (m k : Int) (hm0 : 0 < m) (hm : (m : Rat) < (2 : Rat) ^ prec)
    (hk : emin ≤ k) :
    fround prec emin ((m : Rat) * (2 : Rat) ^ k) = (m : Rat) * (2 : Rat) ^ k := by
  have hmq : (0 : Rat) < (m : Rat) := by exact_mod_cast hm0
  have hq : 0 < (m : Rat) * (2 : Rat) ^ k := mul_pos hmq (z2_pos k)
  obtain ⟨s1, _, s3⟩ := fexp_spec prec emin _ hq
  generalize hE : fexp prec emin ((m : Rat) * (2 : Rat) ^ k) = E at s1 s3
  have hEk : E ≤ k := by
    rcases s3 with h | h
    · omega
    · have h5 : (m : Rat) * (2 : Rat) ^ k < (2 : Rat) ^ (prec + k) := by
        rw [z2_add]
        exact mul_lt_mul_of_pos_right hm (z2_pos k)
      have := z2_lt_imp (lt_of_le_of_lt h h5)
      omega
  -- `m·2^k` is the multiple `m·2^(k−E)` of `2^E`
  exact fround_eq_of_grid hq (n := m * 2 ^ (k - E).toNat)
    (by rw [hE, Int.cast_mul, mul_assoc, ← z2_grid hEk])

theorem one_lt_z2 (hp : 1 ≤ prec) : (1 : Rat) < (2 : Rat) ^ prec :=
  lt_of_lt_of_le (by norm_num) (z2_le hp)

theorem fround_pow2 (hp : 1 ≤ prec) {k : Int} (hk : emin ≤ k) :
    fround prec emin ((2 : Rat) ^ k) = (2 : Rat) ^ k := by
  have := fround_exact_pos (prec := prec) (emin := emin) 1 k one_pos
    (by rw [Int.cast_one]; exact one_lt_z2 hp) hk
  rw [Int.cast_one, one_mul] at this
  exact this

theorem fround_exact_nonneg (hp : 1 ≤ prec) {m : Int} (k : Int) (h0 : 0 ≤ m)
    (h1 : (m : Rat) ≤ (2 : Rat) ^ prec) (hk : emin ≤ k) :
    fround prec emin ((m : Rat) * (2 : Rat) ^ k) = (m : Rat) * (2 : Rat) ^ k := by
  rcases eq_or_lt_of_le h0 with h | h
  · rw [← h, Int.cast_zero, zero_mul, fround_zero]
  rcases eq_or_lt_of_le h1 with e | e
  · -- the top of the binade is `2^(prec+k)`
    rw [e, ← z2_add]
    exact fround_pow2 hp (by omega)
  · exact fround_exact_pos m k h e hk

/-- No upper bound on `k`: the model has no overflow. -/
theorem fround_exact_dyadic (hp : 1 ≤ prec) (m k : Int) (hm : |(m : Rat)| ≤ (2 : Rat) ^ prec)
    (hk : emin ≤ k) :
    fround prec emin ((m : Rat) * (2 : Rat) ^ k) = (m : Rat) * (2 : Rat) ^ k := by
  rcases le_total 0 m with h | h
  · exact fround_exact_nonneg hp k h ((le_abs_self _).trans hm) hk
  · have := fround_exact_nonneg (prec := prec) (emin := emin) hp k (m := -m) (by omega)
      (by rw [Int.cast_neg]; exact (neg_le_abs _).trans hm) hk
    rw [Int.cast_neg, neg_mul, fround_neg, neg_inj] at this
    exact this

theorem fround_abs_le_pow2 (hp : 1 ≤ prec) {k : Int} (hk : emin ≤ k) {x : Rat}
    (h : |x| ≤ (2 : Rat) ^ k) : |fround prec emin x| ≤ (2 : Rat) ^ k := by
  obtain ⟨hl, hr⟩ := abs_le.mp h
  exact abs_le.mpr ⟨fround_ge_of_fix hp (by rw [fround_neg, fround_pow2 hp hk]) hl,
    fround_le_of_fix hp (fround_pow2 hp hk) hr⟩

/-- e.g. `float → double` conversion is exact (`f64_f32'`) -/
theorem fround_fround_of_le {prec' emin' : Int} (hp : 0 ≤ prec) (hp' : 1 ≤ prec')
    (hpp : prec ≤ prec') (hee : emin' ≤ emin) (x : Rat) :
    fround prec' emin' (fround prec emin x) = fround prec emin x := by
  have pos : ∀ a : Rat, 0 < a →
      fround prec' emin' (fround prec emin a) = fround prec emin a := by
    intro a ha
    obtain ⟨M, hM0, hM, hr⟩ := fround_repr (emin := emin) hp ha
    obtain ⟨s1, _, _⟩ := fexp_spec prec emin a ha
    rw [hr]
    exact fround_exact_nonneg hp' _ hM0 (hM.trans (z2_le hpp)) (by omega)
  rcases lt_trichotomy x 0 with h | h | h
  · have := pos (-x) (neg_pos.mpr h)
    rw [fround_neg, fround_neg, neg_inj] at this
    exact this
  · subst h; rw [fround_zero, fround_zero]
  · exact pos x h

theorem fround_idem (hp : 1 ≤ prec) (x : Rat) :
    fround prec emin (fround prec emin x) = fround prec emin x :=
  fround_fround_of_le (by omega) hp (le_refl _) (le_refl _) x

/-- `hx`: `x·2^k` is at least the smallest normal number, so the scaled value does not underflow. -/
theorem fround_mul_pow2 (hp : 1 ≤ prec) (k : Int) {x : Rat}
    (hx : (2 : Rat) ^ (emin + prec - 1 - k) ≤ x) :
    fround prec emin (fround prec emin x * (2 : Rat) ^ k) = fround prec emin x * (2 : Rat) ^ k := by
  have hx0 : 0 < x := lt_of_lt_of_le (z2_pos _) hx
  obtain ⟨M, hM0, hM, hr⟩ := fround_repr (emin := emin) (by omega : 0 ≤ prec) hx0
  obtain ⟨s1, s2, _⟩ := fexp_spec prec emin x hx0
  have hlt := z2_lt_imp (lt_of_le_of_lt hx s2)
  rw [hr, mul_assoc, ← z2_add]
  exact fround_exact_nonneg hp _ hM0 hM (by omega)

/-- With `x = M·2^E`, the difference is `(M − n·2^(−E))·2^E` for `E ≤ 0` and the integer `M·2^E − n` otherwise. -/
theorem fround_sub_int_exact (hp : 1 ≤ prec) (he : emin ≤ 0) {x : Rat} (hfix : fround prec emin x = x)
    (n : Int) (hn : 0 ≤ n) (hle : (n : Rat) ≤ x) (hx : x ≤ (2 : Rat) ^ prec) :
    fround prec emin (x - n) = x - n := by
  have hnq : (0 : Rat) ≤ n := Int.cast_nonneg hn
  rcases eq_or_lt_of_le (hnq.trans hle) with h0 | h0
  · rw [← h0, le_antisymm (h0 ▸ hle) hnq, sub_zero, fround_zero]
  obtain ⟨M, hM0, hM, hr⟩ := fround_repr (emin := emin) (by omega : 0 ≤ prec) h0
  obtain ⟨hE, _, _⟩ := fexp_spec prec emin x h0
  rw [hfix] at hr
  generalize fexp prec emin x = E at hE hr
  have hsub : 0 ≤ x - n := sub_nonneg.mpr hle
  rcases le_total E 0 with hE0 | hE0
  · have hd : x - n = ((M - n * 2 ^ (0 - E).toNat : Int) : Rat) * (2 : Rat) ^ E := by
      rw [Int.cast_sub, Int.cast_mul, sub_mul, mul_assoc, ← z2_grid hE0, zpow_zero, mul_one, ← hr]
    rw [hd] at hsub ⊢
    exact fround_exact_nonneg hp E (Int.cast_nonneg_iff.mp ((mul_nonneg_iff_of_pos_right (z2_pos E)).mp hsub))
      ((Int.cast_le.mpr (sub_le_self M (mul_nonneg hn (pow_nonneg zero_le_two _)))).trans hM) hE
  · have hd : x - n = ((M * 2 ^ (E - 0).toNat - n : Int) : Rat) * (2 : Rat) ^ (0 : Int) := by
      rw [Int.cast_sub, Int.cast_mul, hr, z2_grid hE0, zpow_zero, mul_one, mul_one]
    have hb := (sub_le_self x hnq).trans hx
    rw [hd] at hsub hb ⊢
    rw [zpow_zero, mul_one] at hsub hb
    exact fround_exact_nonneg hp 0 (Int.cast_nonneg_iff.mp hsub) hb he

theorem fround_le_add_half_ulp {a : Rat} (ha : 0 < a) :
    fround prec emin a ≤ a + (2 : Rat) ^ fexp prec emin a / 2 := by
  rw [fround_of_pos ha]
  have h := mul_le_mul_of_nonneg_right (rne_le_add_half (a / (2 : Rat) ^ fexp prec emin a))
    (z2_pos (fexp prec emin a)).le
  rw [add_mul, div_mul_cancel₀ _ (z2_ne _), one_div, inv_mul_eq_div] at h
  exact h

theorem fround_ge_sub_half_ulp {a : Rat} (ha : 0 < a) :
    a - (2 : Rat) ^ fexp prec emin a / 2 ≤ fround prec emin a := by
  rw [fround_of_pos ha]
  have h := mul_le_mul_of_nonneg_right (rne_ge_sub_half (a / (2 : Rat) ^ fexp prec emin a))
    (z2_pos (fexp prec emin a)).le
  rw [sub_mul, div_mul_cancel₀ _ (z2_ne _), one_div, inv_mul_eq_div] at h
  exact h

theorem half_ulp_le_of_bottom {x : Rat} (hb : (2 : Rat) ^ (fexp prec emin x + prec - 1) ≤ x) :
    (2 : Rat) ^ fexp prec emin x / 2 ≤ x * (2 : Rat) ^ (-prec) := by
  have e : (2 : Rat) ^ fexp prec emin x / 2 =
      (2 : Rat) ^ (fexp prec emin x + prec - 1) * (2 : Rat) ^ (-prec) := by
    rw [← z2_pred, ← z2_add]; congr 1; ring
  rw [e]
  exact mul_le_mul_of_nonneg_right hb (le_of_lt (z2_pos _))

theorem half_ulp_le {x : Rat} (hx : (2 : Rat) ^ (emin + prec - 1) ≤ x) :
    (2 : Rat) ^ fexp prec emin x / 2 ≤ x * (2 : Rat) ^ (-prec) := by
  obtain ⟨_, _, h | h⟩ := fexp_spec prec emin x (lt_of_lt_of_le (z2_pos _) hx)
  · exact half_ulp_le_of_bottom (by rw [h]; exact hx)
  · exact half_ulp_le_of_bottom h

theorem fround_rel_le {x : Rat} (hx : (2 : Rat) ^ (emin + prec - 1) ≤ x) :
    fround prec emin x ≤ x * (1 + (2 : Rat) ^ (-prec)) := by
  have hx0 : 0 < x := lt_of_lt_of_le (z2_pos _) hx
  have h1 := fround_le_add_half_ulp (prec := prec) (emin := emin) hx0
  rw [mul_add, mul_one]
  exact h1.trans (add_le_add_right (half_ulp_le hx) x)

theorem fround_rel_ge {x : Rat} (hx : (2 : Rat) ^ (emin + prec - 1) ≤ x) :
    x * (1 - (2 : Rat) ^ (-prec)) ≤ fround prec emin x := by
  have hx0 : 0 < x := lt_of_lt_of_le (z2_pos _) hx
  have h1 := fround_ge_sub_half_ulp (prec := prec) (emin := emin) hx0
  rw [mul_sub, mul_one]
  exact (sub_le_sub_left (half_ulp_le hx) x).trans h1

theorem fround_abs_rel {x : Rat} (hx : (2 : Rat) ^ (emin + prec - 1) ≤ |x|) :
    |fround prec emin x - x| ≤ |x| * (2 : Rat) ^ (-prec) := by
  have pos : ∀ {y : Rat}, (2 : Rat) ^ (emin + prec - 1) ≤ y →
      |fround prec emin y - y| ≤ y * (2 : Rat) ^ (-prec) := by
    intro y hy
    have h1 := fround_rel_le hy
    have h2 := fround_rel_ge hy
    rw [mul_add, mul_one] at h1
    rw [mul_sub, mul_one] at h2
    exact abs_sub_le_iff.mpr ⟨sub_le_iff_le_add'.mpr h1, sub_le_comm.mp h2⟩
  rcases le_total 0 x with h | h
  · rw [abs_of_nonneg h] at hx ⊢
    exact pos hx
  · rw [abs_of_nonpos h] at hx ⊢
    have := pos hx
    rw [fround_neg, neg_sub_neg, abs_sub_comm] at this
    exact this

/-- The absolute term covers subnormal results: there the error is at most half an ulp, `2^(emin-1)`. -/
theorem fround_le_gen {x : Rat} (hx : 0 ≤ x) :
    fround prec emin x ≤ x * (1 + (2 : Rat) ^ (-prec)) + (2 : Rat) ^ (emin - 1) := by
  rcases eq_or_lt_of_le hx with h0 | h0
  · rw [← h0, fround_zero, zero_mul, zero_add]; exact (z2_pos _).le
  · have hr := mul_nonneg hx (z2_pos (-prec)).le
    refine (fround_le_add_half_ulp h0).trans ?_
    rw [mul_add, mul_one, add_assoc]
    refine add_le_add_right ?_ x
    obtain ⟨_, _, h | h⟩ := fexp_spec prec emin x h0
    · rw [h, ← z2_pred]; exact le_add_of_nonneg_left hr
    · exact (half_ulp_le_of_bottom h).trans (le_add_of_nonneg_right (z2_pos _).le)

theorem fround_le_two_mul {x : Rat} (hx : 0 ≤ x) :
    fround prec emin x ≤ 2 * x := by
  rcases eq_or_lt_of_le hx with h | h
  · rw [← h, fround_zero, mul_zero]
  · rcases le_or_gt ((2 : Rat) ^ fexp prec emin x / 2) x with hc | hc
    · rw [two_mul]
      exact (fround_le_add_half_ulp h).trans (add_le_add_right hc x)
    · -- below half an ulp the scaled value is below `1/2` and rounds to `0`
      rw [fround_of_pos h]
      have hr : x / (2 : Rat) ^ fexp prec emin x < 1 / 2 := by
        rw [div_lt_iff₀ (z2_pos _), one_div, inv_mul_eq_div]; exact hc
      have h1 : (roundHalfEven (x / (2 : Rat) ^ fexp prec emin x) : Rat) < ((1 : Int) : Rat) :=
        lt_of_le_of_lt (rne_le_add_half _) ((add_lt_add_left hr (1 / 2)).trans_eq (by norm_num))
      have hz : roundHalfEven (x / (2 : Rat) ^ fexp prec emin x) ≤ 0 :=
        Int.lt_add_one_iff.mp (Int.cast_lt.mp h1)
      exact (mul_nonpos_of_nonpos_of_nonneg (Int.cast_nonpos.mpr hz) (z2_pos _).le).trans
        (mul_nonneg zero_le_two hx)

theorem f64_zero : f64 0 = 0 := fround_zero

theorem f64_neg (x : Rat) : f64 (-x) = -f64 x := fround_neg x

theorem f64_nonneg {q : Rat} (h : 0 ≤ q) : 0 ≤ f64 q := fround_nonneg h

theorem f64_nonpos {q : Rat} (h : q ≤ 0) : f64 q ≤ 0 := fround_nonpos h

theorem f64_mono {x y : Rat} (h : x ≤ y) : f64 x ≤ f64 y := fround_mono (by norm_num) h

theorem f64_ge_of_fix {c x : Rat} (hc : f64 c = c) (h : c ≤ x) : c ≤ f64 x := fround_ge_of_fix (by norm_num) hc h

theorem f64_le_of_fix {c x : Rat} (hc : f64 c = c) (h : x ≤ c) : f64 x ≤ c := fround_le_of_fix (by norm_num) hc h

theorem f64_idem (x : Rat) : f64 (f64 x) = f64 x := fround_idem (by norm_num) x

theorem f64_exact_dyadic (m k : Int) (hm : |m| ≤ 2 ^ 53) (hk : -1074 ≤ k) :
    f64 ((m : Rat) * (2 : Rat) ^ k) = (m : Rat) * (2 : Rat) ^ k :=
  fround_exact_dyadic (by norm_num) m k (by exact_mod_cast hm) hk

theorem f64_exact_int (v : Int) (hv : |v| ≤ 2 ^ 53) : f64 (v : Rat) = (v : Rat) := by
  have := f64_exact_dyadic v 0 hv (by norm_num)
  simpa using this

theorem f64_pow2 {k : Int} (hk : -1074 ≤ k) : f64 ((2 : Rat) ^ k) = (2 : Rat) ^ k :=
  fround_pow2 (by norm_num) hk

theorem f64_rel_le {x : Rat} (hx : (2 : Rat) ^ (-1022 : Int) ≤ x) :
    f64 x ≤ x * (1 + (2 : Rat) ^ (-53 : Int)) :=
  fround_rel_le (prec := 53) (emin := -1074) hx

theorem f64_rel_ge {x : Rat} (hx : (2 : Rat) ^ (-1022 : Int) ≤ x) :
    x * (1 - (2 : Rat) ^ (-53 : Int)) ≤ f64 x :=
  fround_rel_ge (prec := 53) (emin := -1074) hx

theorem f64_abs_rel {x : Rat} (hx : (2 : Rat) ^ (-1022 : Int) ≤ |x|) :
    |f64 x - x| ≤ |x| * (2 : Rat) ^ (-53 : Int) :=
  fround_abs_rel (prec := 53) (emin := -1074) hx

theorem f64_le_two_mul {x : Rat} (hx : 0 ≤ x) : f64 x ≤ 2 * x :=
  fround_le_two_mul hx

theorem f64_ge_pow2 {k : Int} (hk : -1074 ≤ k) {x : Rat} (hx : (2 : Rat) ^ k ≤ x) :
    (2 : Rat) ^ k ≤ f64 x :=
  f64_ge_of_fix (f64_pow2 hk) hx

theorem f64_one : f64 1 = 1 := by
  have := f64_exact_int 1 (by norm_num)
  simpa using this

theorem f64_ge_one {x : Rat} (h : 1 ≤ x) : 1 ≤ f64 x := f64_ge_of_fix f64_one h

theorem f64_le_one {x : Rat} (h : x ≤ 1) : f64 x ≤ 1 := f64_le_of_fix f64_one h

theorem f64_ge_quarter {x : Rat} (h : 1 / 4 ≤ x) : 1 / 4 ≤ f64 x := by
  rw [show (1 / 4 : Rat) = 2 ^ (-2 : Int) by norm_num] at h ⊢
  exact f64_ge_pow2 (by norm_num) h

theorem f64_ge_half {x : Rat} (h : 1 / 2 ≤ x) : 1 / 2 ≤ f64 x := by
  rw [show (1 / 2 : Rat) = 2 ^ (-1 : Int) by norm_num] at h ⊢
  exact f64_ge_pow2 (by norm_num) h

theorem f64_abs_le_pow2 {k : Int} (hk : -1074 ≤ k) {x : Rat} (h : |x| ≤ (2 : Rat) ^ k) :
    |f64 x| ≤ (2 : Rat) ^ k :=
  fround_abs_le_pow2 (by norm_num) hk h

theorem f64_quarter {x : Rat} (hx : (2 : Rat) ^ (-1020 : Int) ≤ x) :
    f64 (f64 x / 4) = f64 x / 4 := by
  have h : f64 (f64 x * (2 : Rat) ^ (-2 : Int)) = f64 x * (2 : Rat) ^ (-2 : Int) :=
    fround_mul_pow2 (by norm_num) (-2) (by simpa using hx)
  have e : f64 x * (2 : Rat) ^ (-2 : Int) = f64 x / 4 := by
    rw [div_eq_mul_inv]; norm_num
  rwa [e] at h

theorem f64_sub_int_exact {x : Rat} (hfix : f64 x = x) (n : Int) (hn : 0 ≤ n) (hle : (n : Rat) ≤ x)
    (hx : x ≤ 2 ^ 53) : f64 (x - n) = x - n :=
  fround_sub_int_exact (by norm_num) (by norm_num) hfix n hn hle (by exact_mod_cast hx)

theorem f64_le_gen {x : Rat} (hx : 0 ≤ x) :
    f64 x ≤ x * (1 + (2 : Rat) ^ (-53 : Int)) + (2 : Rat) ^ (-1075 : Int) :=
  fround_le_gen (prec := 53) (emin := -1074) hx

theorem f64_le_add {x B : Rat} (hx : 0 ≤ x) (hB : x ≤ B) :
    f64 x ≤ x + B * (2 : Rat) ^ (-53 : Int) + (2 : Rat) ^ (-1075 : Int) := by
  have h := f64_le_gen hx
  have := mul_le_mul_of_nonneg_right hB (z2_pos (-53)).le
  linarith

/-- the generic instance is the `f32` of `Model/Legalize.lean` -/
theorem f32'_eq_f32 (q : Rat) : f32' q = ColoVerif.Legalize.f32 q := rfl

theorem f32'_zero : f32' 0 = 0 := fround_zero

theorem f32'_neg (x : Rat) : f32' (-x) = -f32' x := fround_neg x

theorem f32'_nonneg {q : Rat} (h : 0 ≤ q) : 0 ≤ f32' q := fround_nonneg h

theorem f32'_mono {x y : Rat} (h : x ≤ y) : f32' x ≤ f32' y := fround_mono (by norm_num) h

theorem f32'_ge_of_fix {c x : Rat} (hc : f32' c = c) (h : c ≤ x) : c ≤ f32' x := fround_ge_of_fix (by norm_num) hc h

theorem f32'_le_of_fix {c x : Rat} (hc : f32' c = c) (h : x ≤ c) : f32' x ≤ c := fround_le_of_fix (by norm_num) hc h

theorem f32'_idem (x : Rat) : f32' (f32' x) = f32' x := fround_idem (by norm_num) x

theorem f32'_exact_dyadic (m k : Int) (hm : |m| ≤ 2 ^ 24) (hk : -149 ≤ k) :
    f32' ((m : Rat) * (2 : Rat) ^ k) = (m : Rat) * (2 : Rat) ^ k :=
  fround_exact_dyadic (by norm_num) m k (by exact_mod_cast hm) hk

theorem f32'_exact_int (v : Int) (hv : |v| ≤ 2 ^ 24) : f32' (v : Rat) = (v : Rat) := by
  have := f32'_exact_dyadic v 0 hv (by norm_num)
  simpa using this

theorem f32'_one : f32' 1 = 1 := by
  have := f32'_exact_int 1 (by norm_num)
  simpa using this

theorem f32'_ge_one {x : Rat} (h : 1 ≤ x) : 1 ≤ f32' x := f32'_ge_of_fix f32'_one h

theorem f32'_rel_le {x : Rat} (hx : (2 : Rat) ^ (-126 : Int) ≤ x) :
    f32' x ≤ x * (1 + (2 : Rat) ^ (-24 : Int)) :=
  fround_rel_le (prec := 24) (emin := -149) hx

theorem f32'_rel_ge {x : Rat} (hx : (2 : Rat) ^ (-126 : Int) ≤ x) :
    x * (1 - (2 : Rat) ^ (-24 : Int)) ≤ f32' x :=
  fround_rel_ge (prec := 24) (emin := -149) hx

theorem f32'_le_two_mul {x : Rat} (hx : 0 ≤ x) : f32' x ≤ 2 * x :=
  fround_le_two_mul hx

theorem f32'_abs_le_pow2 {k : Int} (hk : -149 ≤ k) {x : Rat} (h : |x| ≤ (2 : Rat) ^ k) :
    |f32' x| ≤ (2 : Rat) ^ k :=
  fround_abs_le_pow2 (by norm_num) hk h

/-- `float → double` conversion is exact -/
theorem f64_f32' (x : Rat) : f64 (f32' x) = f32' x :=
  fround_fround_of_le (by norm_num) (by norm_num) (by norm_num) (by norm_num) x

theorem roundAway_le_add_half (q : Rat) : (roundAway q : Rat) ≤ q + 1 / 2 := by
  unfold roundAway
  split_ifs with h0
  · exact Rat.floor_le _
  · have := Rat.lt_floor_add_one (-q + 1 / 2)
    rw [Int.cast_add, Int.cast_one] at this
    rw [Int.cast_neg]
    linarith

theorem sub_half_le_roundAway (q : Rat) : q - 1 / 2 ≤ (roundAway q : Rat) := by
  unfold roundAway
  split_ifs with h0
  · have := Rat.lt_floor_add_one (q + 1 / 2)
    rw [Int.cast_add, Int.cast_one] at this
    linarith
  · have := Rat.floor_le (-q + 1 / 2)
    rw [Int.cast_neg]
    linarith

theorem roundAway_le {q : Rat} {n : Int} (h : q < (n : Rat) + 1 / 2) : roundAway q ≤ n := by
  have h1 := add_lt_add_left h (1 / 2)
  rw [add_assoc, add_halves] at h1
  have h2 : (roundAway q : Rat) < ((n + 1 : Int) : Rat) := by
    rw [Int.cast_add, Int.cast_one]; exact (roundAway_le_add_half q).trans_lt h1
  exact Int.lt_add_one_iff.mp (Int.cast_lt.mp h2)

theorem le_roundAway {q : Rat} {n : Int} (h : (n : Rat) - 1 / 2 < q) : n ≤ roundAway q := by
  have h1 := sub_lt_sub_right h (1 / 2)
  rw [sub_sub, add_halves] at h1
  have h2 : ((n - 1 : Int) : Rat) < (roundAway q : Rat) := by
    rw [Int.cast_sub, Int.cast_one]; exact h1.trans_le (sub_half_le_roundAway q)
  exact Int.sub_one_lt_iff.mp (Int.cast_lt.mp h2)

theorem roundAway_nonneg {q : Rat} (h : 0 ≤ q) : 0 ≤ roundAway q :=
  le_roundAway (by rw [Int.cast_zero, zero_sub]; exact (neg_neg_of_pos (by norm_num)).trans_le h)

theorem roundAway_nonpos {q : Rat} (h : q ≤ 0) : roundAway q ≤ 0 :=
  roundAway_le (by rw [Int.cast_zero, zero_add]; exact h.trans_lt (by norm_num))

theorem roundAway_int (n : Int) : roundAway (n : Rat) = n :=
  le_antisymm (roundAway_le (lt_add_of_pos_right _ (by norm_num)))
    (le_roundAway (sub_lt_self _ (by norm_num)))

theorem abs_roundAway_sub_le (q : Rat) : |(roundAway q : Rat) - q| ≤ 1 / 2 :=
  abs_sub_le_iff.mpr
    ⟨sub_le_iff_le_add'.mpr (roundAway_le_add_half q), sub_le_comm.mp (sub_half_le_roundAway q)⟩

theorem roundAway_mono {x y : Rat} (h : x ≤ y) : roundAway x ≤ roundAway y := by
  rcases lt_or_ge x 0 with hx | hx
  · rcases lt_or_ge y 0 with hy | hy
    · unfold roundAway
      rw [if_neg (not_le.mpr hx), if_neg (not_le.mpr hy)]
      have : (-y + 1 / 2).floor ≤ (-x + 1 / 2).floor := Rat.floor_monotone (add_le_add_left (neg_le_neg h) _)
      omega
    · exact le_trans (roundAway_nonpos (le_of_lt hx)) (roundAway_nonneg hy)
  · have hy : 0 ≤ y := le_trans hx h
    unfold roundAway
    rw [if_pos hx, if_pos hy]
    exact Rat.floor_monotone (add_le_add_left h _)

theorem pow2_nonneg (e : Int) : 0 ≤ pow2 e := by
  rw [pow2_zpow]; exact le_of_lt (z2_pos e)

theorem f32sqrt_nonneg (q : Rat) : 0 ≤ f32sqrt q := by
  unfold f32sqrt
  split_ifs
  · exact le_refl _
  · dsimp only
    split_ifs
    · exact f32'_nonneg (mul_nonneg (Nat.cast_nonneg _) (pow2_nonneg _))
    · exact f32'_nonneg (mul_nonneg (add_nonneg (Nat.cast_nonneg _) (by norm_num)) (pow2_nonneg _))

theorem f32sqrt_of_nonpos {q : Rat} (h : q ≤ 0) : f32sqrt q = 0 := by
  unfold f32sqrt
  rw [if_pos h]

-- 1/3 as a double is 0x3FD5555555555555
example : f64 (1 / 3) = (6004799503160661 : Rat) / 2 ^ 54 := by decide +kernel
example : f32' (1 / 3) = (11184811 : Rat) / 2 ^ 25 := by decide +kernel
-- 0.1 as a double is 0x3FB999999999999A
example : f64 (1 / 10) = (7205759403792794 : Rat) / 2 ^ 56 := by decide +kernel
-- ties to even at the 53-bit boundary, and gradual underflow
example : f64 (2 ^ 53 + 1) = 2 ^ 53 := by decide +kernel
example : f64 (2 ^ 53 + 3) = 2 ^ 53 + 4 := by decide +kernel
example : f64 (3 / 2 ^ 1075) = 2 / 2 ^ 1074 := by decide +kernel
example : f64 (1 / 2 ^ 1075) = 0 := by decide +kernel
-- sqrtf(2) = 0x3FB504F3
example : f32sqrt 2 = (11863283 : Rat) / 2 ^ 23 := by decide +kernel
example : f32sqrt 9 = 3 := by decide +kernel
example : f32sqrt (1 / 4) = 1 / 2 := by decide +kernel
example : f32sqrt 0 = 0 := by decide +kernel
example : roundAway (5 / 2) = 3 := by decide +kernel
example : roundAway (-5 / 2) = -3 := by decide +kernel
example : roundAway (49 / 100) = 0 := by decide +kernel
example : (isqrt 99, isqrt 100, isqrt (2 ^ 60 - 1)) = (9, 10, 2 ^ 30 - 1) := by decide +kernel

-- non-vacuity of the hypotheses of the relative-error and scaling lemmas
example : (2 : Rat) ^ (-1022 : Int) ≤ 1 / 3 :=
  le_trans (z2_le (by norm_num)) (by norm_num : (2 : Rat) ^ (-2 : Int) ≤ 1 / 3)
example : f64 (f64 (1 / 3) / 4) = f64 (1 / 3) / 4 := by decide +kernel

theorem isqrtLoop_le (n : Nat) : ∀ fuel x, isqrtLoop n fuel x ≤ x
  | 0, x => by unfold isqrtLoop; exact le_refl _
  | fuel + 1, x => by
    unfold isqrtLoop
    split_ifs with h
    · exact le_trans (isqrtLoop_le n fuel _) (le_of_lt h)
    · exact le_refl _

/-- `isqrt n ≤ 2·√n`: the start value `2^(⌊log2 n⌋/2 + 1)` has square `≤ 4·2^⌊log2 n⌋ ≤ 4n` and the
loop only decreases (the sharp `isqrt n ^ 2 ≤ n` is validated by execution only) -/
theorem isqrt_sq_le (n : Nat) : isqrt n * isqrt n ≤ 4 * n := by
  unfold isqrt
  split_ifs with h0
  · omega
  · have h1 := isqrtLoop_le n (n.log2 + 2) (2 ^ (n.log2 / 2 + 1))
    calc _ ≤ 2 ^ (n.log2 / 2 + 1) * 2 ^ (n.log2 / 2 + 1) := Nat.mul_le_mul h1 h1
      _ = 2 ^ (n.log2 / 2 + 1 + (n.log2 / 2 + 1)) := (pow_add _ _ _).symm
      _ ≤ 2 ^ (n.log2 + 2) := Nat.pow_le_pow_right (by norm_num) (by omega)
      _ = 4 * 2 ^ n.log2 := by rw [pow_add]; omega
      _ ≤ 4 * n := Nat.mul_le_mul_left 4 (Nat.log2_self_le h0)

theorem isqrt_floor_sq_le {t : Rat} (ht : 0 ≤ t) :
    ((isqrt t.floor.toNat : Nat) : Rat) * ((isqrt t.floor.toNat : Nat) : Rat) ≤ 4 * t := by
  have h0 : (0 : Int) ≤ t.floor := Rat.le_floor_iff.mpr (by exact_mod_cast ht)
  have h3 : ((t.floor.toNat : Nat) : Rat) ≤ t := by
    rw [← Int.cast_natCast, Int.toNat_of_nonneg h0]; exact Rat.floor_le t
  have h4 : ((isqrt t.floor.toNat * isqrt t.floor.toNat : Nat) : Rat) ≤
      ((4 * t.floor.toNat : Nat) : Rat) := Nat.cast_le.mpr (isqrt_sq_le _)
  push_cast at h4
  exact h4.trans (mul_le_mul_of_nonneg_left h3 zero_le_four)

theorem sqrt_bound_aux {s u t q B : Rat} (hu : 0 < u) (hB : 0 < B) (hss : s * s ≤ 4 * t)
    (htq : t * (u * u) = q) (huq : u * u ≤ q) (hqB : q ≤ B * B) : s * u ≤ 2 * B ∧ u ≤ B := by
  constructor
  · rcases lt_or_ge s 0 with hs | hs
    · exact (mul_neg_of_neg_of_pos hs hu).le.trans (mul_nonneg zero_le_two hB.le)
    refine (mul_self_le_mul_self_iff (mul_nonneg hs hu.le) (mul_nonneg zero_le_two hB.le)).mpr ?_
    calc s * u * (s * u) = s * s * (u * u) := by ring
      _ ≤ 4 * t * (u * u) := mul_le_mul_of_nonneg_right hss (mul_self_nonneg u)
      _ = 4 * q := by rw [← htq, mul_assoc]
      _ ≤ 4 * (B * B) := mul_le_mul_of_nonneg_left hqB zero_le_four
      _ = 2 * B * (2 * B) := by ring
  · exact (mul_self_le_mul_self_iff hu.le hB.le).mpr (huq.trans hqB)

/-- Crude: `isqrt ≤ 2√·`, the half added in the inexact branch is `≤ B/2` after scaling, and `f32' x ≤ 2x`; the
bound the proof reaches is `5·B`. -/
theorem f32sqrt_le {q B : Rat} (hq : 0 ≤ q) (hB : 1 ≤ B) (hqB : q ≤ B * B) :
    f32sqrt q ≤ 8 * B := by
  have hB0 : 0 < B := one_pos.trans_le hB
  unfold f32sqrt
  split_ifs with h0
  · exact mul_nonneg (by norm_num) hB0.le
  · dsimp only
    have hq0 : 0 < q := not_le.mp h0
    obtain ⟨b1, _⟩ := rat_bracket q hq0
    simp only [pow2_zpow]
    have hk2 : -(2 * sqrtScale q) ≤
        (Nat.log2 q.num.natAbs : Int) - (Nat.log2 q.den : Int) - 1 := by
      unfold sqrtScale; omega
    generalize sqrtScale q = k at *
    have hu : (0 : Rat) < (2 : Rat) ^ (-k) := z2_pos _
    have euu : (2 : Rat) ^ (-k) * (2 : Rat) ^ (-k) = (2 : Rat) ^ (-(2 * k)) := by
      rw [← z2_add, two_mul, neg_add]
    have huq : (2 : Rat) ^ (-k) * (2 : Rat) ^ (-k) ≤ q := by
      rw [euu]; exact (z2_le hk2).trans b1.le
    have htq : q * (2 : Rat) ^ (2 * k) * ((2 : Rat) ^ (-k) * (2 : Rat) ^ (-k)) = q := by
      rw [euu, mul_assoc, ← z2_add, add_neg_cancel, zpow_zero, mul_one]
    have ht0 : 0 ≤ q * (2 : Rat) ^ (2 * k) := mul_nonneg hq (z2_pos _).le
    have hs : (0 : Rat) ≤ ((isqrt (q * (2 : Rat) ^ (2 * k)).floor.toNat : Nat) : Rat) :=
      Nat.cast_nonneg _
    obtain ⟨c1, c2⟩ := sqrt_bound_aux hu hB0 (isqrt_floor_sq_le ht0) htq huq hqB
    generalize ((isqrt (q * (2 : Rat) ^ (2 * k)).floor.toNat : Nat) : Rat) = s at *
    split_ifs
    · calc f32' (s * (2 : Rat) ^ (-k)) ≤ 2 * (s * (2 : Rat) ^ (-k)) :=
            f32'_le_two_mul (mul_nonneg hs hu.le)
        _ ≤ 2 * (2 * B) := mul_le_mul_of_nonneg_left c1 zero_le_two
        _ ≤ 8 * B := by rw [← mul_assoc]; exact mul_le_mul_of_nonneg_right (by norm_num) hB0.le
    · calc f32' ((s + 1 / 2) * (2 : Rat) ^ (-k)) ≤ 2 * ((s + 1 / 2) * (2 : Rat) ^ (-k)) :=
            f32'_le_two_mul (mul_nonneg (add_nonneg hs (by norm_num)) hu.le)
        _ = 2 * (s * (2 : Rat) ^ (-k)) + (2 : Rat) ^ (-k) := by ring
        _ ≤ 2 * (2 * B) + B := add_le_add (mul_le_mul_of_nonneg_left c1 zero_le_two) c2
        _ = 5 * B := by ring
        _ ≤ 8 * B := mul_le_mul_of_nonneg_right (by norm_num) hB0.le

example : f32sqrt 1000000 ≤ 8 * 1000 :=
  f32sqrt_le (by norm_num) (by norm_num) (by norm_num)

end ColoVerif.F64

-- The same facts under the name `Legalize.f32` (`= F64.f32'` by `rfl`), for the models that round with it.
namespace ColoVerif.Legalize
open ColoVerif.F64

theorem f32_zero : f32 0 = 0 := f32'_zero

theorem f32_one : f32 1 = 1 := f32'_one

theorem f32_mono {x y : Rat} (hxy : x ≤ y) : f32 x ≤ f32 y := f32'_mono hxy

/-- `−149` is the subnormal exponent; no upper bound on `k` because the model `f32` does not overflow -/
theorem f32_exact_dyadic (m k : Int) (hm : -16777216 ≤ m ∧ m ≤ 16777216) (hk : -149 ≤ k) :
    f32 ((m : Rat) * pow2 k) = (m : Rat) * pow2 k := by
  rw [pow2_zpow]
  exact f32'_exact_dyadic m k (abs_le.mpr hm) hk

theorem f32_exact_int (v : Int) (hv : -16777216 ≤ v ∧ v ≤ 16777216) : f32 (v : Rat) = (v : Rat) :=
  f32'_exact_int v (abs_le.mpr hv)

end ColoVerif.Legalize
