import ColoVerif.Proofs.DetSearch
import ColoVerif.Proofs.DetOptHpwlHist
import ColoVerif.Proofs.RowNbhSpec
import ColoVerif.Proofs.ListFacts
/-!
`runSwaps` never returns an error on an in-sync placement that satisfies `Inv` (`runSwaps_no_error`): the two
model-only fuels of the amplified two-row pass suffice.  Inner `while (bestSwapUpdate(...))`: on a synchronised placer
`value()` is a sum of spans (≥ 0) and every successful round strictly decreases it (the value after the swap is the
one `valueOnSwap` read), so `value().toNat + 1` rounds suffice.  Outer walk over the cells of `r1`: the number of
cells of `r1` strictly left of the current cell (`rank`) never decreases in the inner loop (the swapped-in cell of
`r2` lands between the neighbours of the cell it replaces) and grows at every `c = cellNext(c)`, so `nCells + 1`
rounds suffice.  The two rows are distinct valid rows by `RowNbh.build_spec`.
-/
namespace ColoVerif.DetPlace
open ColoVerif State

theorem span_nonneg (l : List Int) : 0 ≤ C09.span l := by
  rcases C09.span_isSpan l with ⟨_, h⟩ | ⟨lo, hi, hlo, _, hb, h⟩
  · omega
  · have := (hb lo hlo).2
    omega

theorem scratchValue_nonneg (m : IncrNet.Model) : 0 ≤ IncrNet.scratchValue m := by
  unfold IncrNet.scratchValue
  apply ListFacts.sum_nonneg_int
  intro x hx
  obtain ⟨n, _, rfl⟩ := List.mem_map.1 hx
  exact span_nonneg _

theorem Sync.value_nonneg {c : Circuit} {p : Placer} (h : Sync c p) : 0 ≤ p.value := by
  unfold Placer.value
  rw [IncrNet.good_value _ h.x.good, IncrNet.good_value _ h.y.good]
  have := scratchValue_nonneg p.xt
  have := scratchValue_nonneg p.yt
  omega

theorem upd_upd_apply {α : Type} (f : Int → α) {c1 c2 : Int} (h : c1 ≠ c2) (a b : α) (d : Int) :
    upd (upd f c1 a) c2 b d = if d = c1 then a else if d = c2 then b else f d := by
  simp only [upd]
  by_cases h1 : d = c1
  · subst h1
    simp only [if_neg h, if_true]
  · simp only [if_neg h1]

/-- the state after a swap is exactly the one `valueOnSwap` evaluated (x from `positionsOnSwap`,
y of the other cell), on an invariant state -/
theorem valueOnSwap_of_swap (V : Value) {s t : State} (h : Inv s) {c1 c2 : Int}
    (hc1 : s.validCell c1) (hc2 : s.validCell c2) (e : s.swap c1 c2 = .ok t) :
    s.valueOnSwap V c1 c2 = some (t.value V) := by
  have hcan := (swap_places e).1
  obtain ⟨p1, p2, hne, _⟩ := canSwap_true hcan
  have hpos := swap_positions e
  have C1 := h.cell hc1
  have C2 := h.cell hc2
  unfold CellOk at C1 C2
  -- each cell gets the y of the other, which is the y of the other's row
  have py : (s.positionsOnSwap c1 c2).1.2 = s.rowY (s.row c2) ∧
      (s.positionsOnSwap c1 c2).2.2 = s.rowY (s.row c1) := by
    rw [← (C1.2 p1).2.2.2, ← (C2.2 p2).2.2.2]
    unfold positionsOnSwap
    split
    · exact ⟨rfl, rfl⟩
    · split <;> exact ⟨rfl, rfl⟩
  have ex : t.x = upd (upd s.x c1 (s.positionsOnSwap c1 c2).1.1) c2 (s.positionsOnSwap c1 c2).2.1 :=
    funext fun d => by rw [(hpos d).1, upd_upd_apply _ hne]
  have ey : t.y = upd (upd s.y c1 (s.positionsOnSwap c1 c2).1.2) c2 (s.positionsOnSwap c1 c2).2.2 :=
    funext fun d => by rw [(hpos d).2, upd_upd_apply _ hne, py.1, py.2]
  unfold valueOnSwap State.value
  rw [hcan, ex, ey]

theorem valueOnInsert_of_insert (V : Value) {s t : State} {c r p : Int} (e : s.insert c r p = .ok t) :
    s.valueOnInsert V c r p = some (t.value V) := by
  have hpos := insert_positions e
  have ex : t.x = upd s.x c (s.positionOnInsert c r p).1 := funext fun d => (hpos d).1
  have ey : t.y = upd s.y c (s.positionOnInsert c r p).2 := funext fun d => (hpos d).2
  unfold valueOnInsert State.value
  rw [(insert_ok e).1, ex, ey]

theorem chosen_swap_ok {c : Circuit} {p : Placer} (hs : Sync c p) (h : Inv p.pl) {k b : Int}
    {cands : List Int} (hk : p.pl.liveCell k = true) (hb : p.pl.liveCell b = true)
    (hch : p.bestSwapChoice k cands = some b) :
    ∃ q, p.step (.swap k b) = .ok q ∧ p.pl.swap k b = .ok q.pl ∧ Inv q.pl ∧ Sync c q ∧ Static p.pl q.pl ∧
      q.value < p.value := by
  obtain ⟨t, et, hi⟩ := step_swap_succeeds h hk hb (bestSwapChoice_canSwap hch)
  obtain ⟨q, e, rfl⟩ := Placer.step_lift et
  have hst := static_respects.step et
  have hsq := (step_sync hs e).1
  have esw := (guard_ok et).2
  refine ⟨q, e, esw, hi, hsq, hst, ?_⟩
  have vk := ((liveCell_iff _ _).1 hk).1
  have vb := ((liveCell_iff _ _).1 hb).1
  rw [hsq.value]
  exact scan_lt hch ((valueOnSwap_eq hs vk vb).1.trans (valueOnSwap_of_swap (circuitValue c) h vk vb esw))

/-- every cell of the row left of `k` ends before `boundaryBefore(k)`: `cellPred(k)` is the immediate
left neighbour -/
theorem left_le_boundaryBefore {s : State} (h : Inv s) {k d : Int} (vk : s.validCell k) (hp : s.row k ≠ -1)
    (vd : s.validCell d) (hr : s.row d = s.row k) (hx : s.x d < s.x k) :
    s.x d + s.width d ≤ s.boundaryBefore k := by
  have hpd : s.row d ≠ -1 := hr ▸ hp
  have wk := h.placed_width vk hp
  -- `d` is not reached from `k` by `next` links: it would be `k` or lie right of it
  have notRight : ¬ Reach s k d := fun r => by
    rcases (r.order h vk hp).2.2 with e | e
    · exact Int.lt_irrefl _ (e ▸ hx)
    · exact Int.lt_irrefl (s.x k) (calc
        s.x k < s.x k + s.width k := Int.lt_add_of_pos_right _ wk
        _ ≤ s.x d := e
        _ < s.x k := hx)
  have rd := (reach_first h vd hpd).2
  rw [hr] at rd
  have L := h.link vk
  unfold boundaryBefore
  by_cases hpr : s.pred k = -1
  · rw [(L.ofFirst hp hpr).1] at rd
    exact absurd rd notRight
  · rw [if_neg hpr]
    obtain ⟨vp, rp, _, np⟩ := L.ofPred hp hpr
    have hpp : s.row (s.pred k) ≠ -1 := rp ▸ hp
    have rpk := (reach_first h vp hpp).2
    rw [rp] at rpk
    -- `d` and `pred k` are both reached from the first cell of the row: one is reached from the other
    rcases rpk.total rd with r | r
    · rcases r.head_cases with e | ⟨_, r'⟩
      · rw [e]
      · exact absurd (np ▸ r') notRight
    · rcases (r.order h vd hpd).2.2 with e | e
      · rw [e]
      · exact Int.le_trans e (Int.le_add_of_nonneg_right (Int.le_of_lt (h.placed_width vp hpp)))

/-- a swap with a cell of another row does not decrease the number of cells of the row left of the
current cell: the swapped-in cell lands between the old neighbours -/
theorem swap_rank_le {s t : State} (h : Inv s) {k b r1 : Int} (vk : s.validCell k) (vb : s.validCell b)
    (hk : s.row k = r1) (hb : s.row b ≠ r1) (e : s.swap k b = .ok t) :
    rank s r1 (s.x k) ≤ rank t r1 (t.x b) := by
  obtain ⟨pk, pb, hkb, _, _, hfit⟩ := canSwap_true (swap_places e).1
  obtain ⟨_, _, _, hrows⟩ := swap_rows e
  have hpos := swap_positions e
  -- `k` and `b` are in different rows, so neither is the left neighbour of the other
  have n1 : s.pred k ≠ b := fun hh =>
    (h.site_pred vk pk).2.elim (fun e1 => validCell_ne vb (hh ▸ e1)) fun e2 => hb ((hh ▸ e2.2).trans hk)
  have n2 : s.pred b ≠ k := fun hh =>
    (h.site_pred vb pb).2.elim (fun e1 => validCell_ne vk (hh ▸ e1)) fun e2 => hb ((hh ▸ e2.2).symm.trans hk)
  have hfit' := ((hfit.resolve_left n1).resolve_left n2).2
  have xb : t.x b = (s.boundaryBefore k + s.boundaryAfter k - s.width b).tdiv 2 := by
    rw [(hpos b).1, if_neg (Ne.symm hkb), if_pos rfl]
    unfold positionsOnSwap
    rw [if_neg n1, if_neg n2]
  have hmid := (midpoint_ok (s.boundaryBefore k) (s.boundaryAfter k) (s.width b) (by omega)).1
  unfold rank
  rw [(static_respects.swap (live_of_inRow h pk vk rfl) (live_of_inRow h pb vb rfl) e).nCells]
  refine List.countP_mono_left fun d hd hP => ?_
  simp only [decide_eq_true_eq] at hP ⊢
  -- a cell `d` of the row left of `k` is neither `k` nor `b`: it stays, and ends before `b` begins
  have vd : s.validCell (d : Int) := ⟨Int.natCast_nonneg d, Int.ofNat_lt.2 (List.mem_range.1 hd)⟩
  have dk : (d : Int) ≠ k := fun hh => Int.lt_irrefl _ (hh ▸ hP.2)
  have db : (d : Int) ≠ b := fun hh => hb (hh ▸ hP.1)
  have hle := left_le_boundaryBefore h vk pk vd (hP.1.trans hk.symm) hP.2
  have wd := h.placed_width vd (hP.1 ▸ hk ▸ pk)
  rw [hrows, (hpos d).1, if_neg dk, if_neg db, if_neg dk, if_neg db, xb]
  exact ⟨hP.1, calc
    s.x d < s.x d + s.width d := Int.lt_add_of_pos_right _ wd
    _ ≤ s.boundaryBefore k := hle
    _ ≤ _ := hmid⟩

theorem walk_inRow {s : State} {lnk : Int → Int} {r : Int}
    (hl : ∀ k, Site s r k → k ≠ -1 → Site s r (lnk k)) (n : Nat) {f : Int}
    (hf : Site s r f) : ∀ b ∈ Placer.walk lnk n f, s.validCell b ∧ s.row b = r := by
  induction n generalizing f with
  | zero => nofun
  | succ n ih =>
    unfold Placer.walk
    split
    · nofun
    · rename_i hne
      exact List.forall_mem_cons.2 ⟨hf.2.resolve_left hne, ih (hl f hf hne)⟩

theorem swapUpdateCands_inRow {p : Placer} (h : Inv p.pl) {r f : Int} (hf : Site p.pl r f) (nb : Int) :
    ∀ b ∈ p.swapUpdateCands f nb, p.pl.validCell b ∧ p.pl.row b = r := fun b hb =>
  (List.mem_append.1 hb).elim (walk_inRow (fun _ => h.site_next) _ hf b) (walk_inRow (fun _ => h.site_pred_of_site) _ hf b)

/-- the state of the amplified pass between two rounds: moreover the current cell is in `r1`, `from` is
a site of `r2` -/
structure AmpInv (c : Circuit) (s0 : State) (r1 r2 : Int) (p : Placer) (k f : Int) : Prop where
  total : TotalInv c s0 p
  cur : p.pl.validCell k ∧ p.pl.row k = r1
  frm : Site p.pl r2 f

theorem bestSwapUpdate_ok {c : Circuit} {s0 : State} {r1 r2 : Int} (hne : r1 ≠ r2) (h1 : r1 ≠ -1) (h2 : r2 ≠ -1)
    {p : Placer} {k f : Int} (nb : Int) (a : AmpInv c s0 r1 r2 p k f) :
    p.bestSwapUpdate k f nb = .ok none ∨
    ∃ r, p.bestSwapUpdate k f nb = .ok (some r) ∧ AmpInv c s0 r1 r2 r.1 r.2.1 r.2.2.1 ∧
      r.1.value < p.value ∧ rank p.pl r1 (p.pl.x k) ≤ rank r.1.pl r1 (r.1.pl.x r.2.1) := by
  obtain ⟨⟨hs, hi, h0⟩, ⟨vk, rk⟩, hf⟩ := a
  unfold Placer.bestSwapUpdate
  split
  · exact .inl rfl
  · rename_i b hch
    right
    obtain ⟨vb, rb⟩ := swapUpdateCands_inRow hi hf nb b (bestSwapChoice_mem hch)
    obtain ⟨q, e, esw, hi', hsq, hst, hval⟩ := chosen_swap_ok hs hi
      (live_of_inRow hi h1 vk rk) (live_of_inRow hi h2 vb rb) hch
    rw [e]
    obtain ⟨_, _, hkb, hrow⟩ := swap_rows esw
    have valid_q : ∀ d, p.pl.validCell d → q.pl.validCell d := fun d => validCell_congr hst.nCells
    refine ⟨_, rfl, ⟨⟨hsq, hi', h0.trans hst⟩, ⟨valid_q b vb, ?_⟩, ?_⟩, hval, ?_⟩
    · show q.pl.row b = r1
      rw [hrow, if_neg (Ne.symm hkb), if_pos rfl]; exact rk
    · show Site q.pl r2 (if b = f then k else f)
      refine ⟨validRow_congr hst.rows hf.1, ?_⟩
      split
      · exact .inr ⟨valid_q k vk, by rw [hrow, if_pos rfl]; exact rb⟩
      · rename_i hbf
        refine hf.2.imp_right fun ⟨vf, rf⟩ => ⟨valid_q f vf, ?_⟩
        have fk : f ≠ k := fun hh => hne (rk.symm.trans (hh ▸ rf))
        rw [hrow, if_neg fk, if_neg (Ne.symm hbf)]; exact rf
    · exact swap_rank_le hi vk vb rk (rb ▸ Ne.symm hne) esw

/-- the `while (bestSwapUpdate(...));` loop never runs out of its fuel `value().toNat + 1` -/
theorem amplifyInner_ok {c : Circuit} {s0 : State} {r1 r2 : Int} (hne : r1 ≠ r2) (h1 : r1 ≠ -1) (h2 : r2 ≠ -1)
    (nb : Int) (fuel : Nat) {p : Placer} {k f : Int} (a : AmpInv c s0 r1 r2 p k f) (hf : p.value.toNat < fuel) :
    ∃ r, Placer.amplifyInner fuel p k f nb = .ok r ∧ AmpInv c s0 r1 r2 r.1 r.2.1 r.2.2.1 ∧
      rank p.pl r1 (p.pl.x k) ≤ rank r.1.pl r1 (r.1.pl.x r.2.1) := by
  induction fuel generalizing p k f with
  | zero => exact absurd hf (Nat.not_lt_zero _)
  | succ fuel ih =>
    unfold Placer.amplifyInner
    rcases bestSwapUpdate_ok hne h1 h2 nb a with e | ⟨r, e, a', hv, hr⟩
    · rw [e]
      exact ⟨_, rfl, a, Nat.le_refl _⟩
    · rw [e]
      -- `value()` stays non-negative and has decreased, so the remaining fuel still exceeds it
      have hpos := Int.lt_of_le_of_lt a'.total.sync.value_nonneg hv
      obtain ⟨r', e', a'', hr'⟩ :=
        ih a' (Nat.lt_of_lt_of_le ((Int.toNat_lt_toNat hpos).2 hv) (Nat.le_of_lt_succ hf))
      simp only [e']
      exact ⟨_, rfl, a'', Nat.le_trans hr hr'⟩

theorem findAfterGo_site {s : State} (h : Inv s) {r : Int} (tx : Int) (n : Nat) {k : Int} (hk : Site s r k)
    (hne : k ≠ -1) : Site s r (s.findAfterGo tx n k) := by
  induction n generalizing k with
  | zero => exact hk
  | succ n ih =>
    unfold findAfterGo
    split
    · exact hk
    · split
      · exact hk
      · exact ih (h.site_next hk hne) ‹_›

theorem findCellAfter_site {s : State} (h : Inv s) {r : Int} (target : Int) {f : Int}
    (hf : Site s r f) : Site s r (s.findCellAfter target f) := by
  unfold State.findCellAfter
  split
  · exact ⟨hf.1, .inl rfl⟩
  · exact findAfterGo_site h _ _ hf ‹_›

/-- the walk over the cells of `r1` never runs out of its fuel: the inner loop does not lower the rank of the
current cell, so `walkFuel` bounds the rounds left -/
theorem amplifyOuter_ok {c : Circuit} {s0 : State} {r1 r2 : Int} (hne : r1 ≠ r2) (h1 : r1 ≠ -1) (h2 : r2 ≠ -1)
    (nb : Int) (fuel : Nat) {p : Placer} {k f : Int} (ht : TotalInv c s0 p) (hk : Site p.pl r1 k)
    (hf : Site p.pl r2 f) (hm : walkFuel p.pl k ≤ fuel) :
    ∃ r, Placer.amplifyOuter fuel p k f nb = .ok r ∧ TotalInv c s0 r.1 := by
  induction fuel generalizing p k f with
  | zero => exact absurd (Nat.le_trans (walkFuel_pos p.pl k) hm) (Nat.not_succ_le_zero 0)
  | succ fuel ih =>
    unfold Placer.amplifyOuter
    split
    · exact ⟨_, rfl, ht⟩
    · rename_i hk1
      have hkc := hk.2.resolve_left hk1
      obtain ⟨r, e, a', hr⟩ := amplifyInner_ok hne h1 h2 nb (p.value.toNat + 1) ⟨ht, hkc, hf⟩ (Nat.lt_succ_self _)
      rw [e]
      have hi := a'.total.sweep.inv
      have hle := walkFuel_mono hk1 (validCell_ne a'.cur.1) (a'.total.sync.nc.trans ht.sync.nc.symm)
        (by rw [hkc.2, a'.cur.2]; exact hr)
      have hlt := hi.walkFuel_next a'.cur.1 (a'.cur.2 ▸ h1)
      obtain ⟨r', e', h'⟩ := ih (f := r.1.findCellAfter r.2.1 r.2.2.1) a'.total
        (hi.site_next ⟨validRow_congr (a'.total.sweep.static.rows.trans ht.sweep.static.rows.symm) hk.1, .inr a'.cur⟩ (validCell_ne a'.cur.1))
        (findCellAfter_site hi _ a'.frm) (Nat.le_of_lt_succ (Nat.lt_of_lt_of_le hlt (hle.trans hm)))
      simp only [e']
      exact ⟨_, rfl, h'⟩

theorem runSwapsTwoRowsAmplify_ok {c : Circuit} {s0 : State} {p : Placer} (ht : TotalInv c s0 p) {r1 r2 : Int}
    (v1 : p.pl.validRow r1) (v2 : p.pl.validRow r2) (hne : r1 ≠ r2) (nb : Int) :
    ∃ r, p.runSwapsTwoRowsAmplify r1 r2 nb = .ok r ∧ TotalInv c s0 r.1 :=
  amplifyOuter_ok hne (validRow_ne v1) (validRow_ne v2) nb _ ht (ht.sweep.inv.site_rowFirst v1) (ht.sweep.inv.site_rowFirst v2)
    (walkFuel_le _ _)

theorem SearchTrace.sync {c : Circuit} {p q : Placer} {ops : List Op} (t : SearchTrace p ops q) (hs : Sync c p) :
    Sync c q := by
  induction t with
  | nil _ => exact hs
  | swap k b cands _ _ e _ ih => exact ih (step_sync hs e).1
  | insert k r b cands _ _ e _ ih => exact ih (step_sync hs e).1

theorem mem_swapPairs {nbh : RowNbh} {n : Nat} {ij : Int × Int}
    (h : ij ∈ Placer.swapPairsUp nbh n ++ Placer.swapPairsDown nbh n) :
    (0 ≤ ij.1 ∧ ij.1 < (n : Int)) ∧
    (ij.2 ∈ nbh.rowsAbove ij.1 ∨ ij.2 ∈ nbh.rowsBelow ij.1 ∨ ij.2 ∈ nbh.rowsLeft ij.1 ∨ ij.2 ∈ nbh.rowsRight ij.1) := by
  rcases List.mem_append.1 h with h | h
  · unfold Placer.swapPairsUp at h
    obtain ⟨i, hi, h⟩ := List.mem_flatMap.1 h
    obtain ⟨j, hj, rfl⟩ := List.mem_map.1 h
    rw [mem_intsUpTo] at hi
    refine ⟨hi, ?_⟩
    rcases List.mem_append.1 hj with hj | hj
    · exact .inl hj
    · exact .inr (.inr (.inr hj))
  · unfold Placer.swapPairsDown at h
    obtain ⟨i, hi, h⟩ := List.mem_flatMap.1 h
    obtain ⟨j, hj, rfl⟩ := List.mem_map.1 h
    have hi' := List.mem_of_mem_drop (List.mem_reverse.1 hi)
    rw [mem_intsUpTo] at hi'
    refine ⟨hi', ?_⟩
    rcases List.mem_append.1 hj with hj | hj
    · exact .inr (.inl hj)
    · exact .inr (.inr (.inl hj))

theorem runSwapsTwoRowSweeps_ok {c : Circuit} {s0 : State} {p : Placer} (ht : TotalInv c s0 p) (nbRows nb : Int) :
    ∃ r, p.runSwapsTwoRowSweeps nbRows nb = .ok r ∧ TotalInv c s0 r.1 := by
  unfold Placer.runSwapsTwoRowSweeps RowNbh.ofRows
  refine loopOps_ok (I := TotalInv c s0) (fun q ij hij hq => ?_) ht
  obtain ⟨hi, hj⟩ := mem_swapPairs hij
  have hspec := RowNbh.build_spec _ _ _ _ hj
  rw [List.length_map] at hspec
  have hrows := hq.sweep.static.rows.trans ht.sweep.static.rows.symm
  exact runSwapsTwoRowsAmplify_ok hq (validRow_congr hrows hi) (validRow_congr hrows hspec.1) (Ne.symm hspec.2) nb

/-- **`runSwaps` never returns an error** on an in-sync placement that satisfies `Inv`, for any `nbRows`
and any `nbNeighbours ≥ 0`: neither a refused move nor an ill-formed slice nor an exhausted fuel; the
result is again in sync and satisfies `Inv`, and the moves form a search trace -/
theorem runSwaps_no_error (c : Circuit) {p : Placer} (hs : Sync c p) (h : Inv p.pl) (nbRows : Int) {nb : Int}
    (hnb : 0 ≤ nb) :
    ∃ q ops, p.runSwaps nbRows nb = .ok (q, ops) ∧ Inv q.pl ∧ Sync c q ∧ SearchTrace p ops q := by
  have sweep : ∃ r, p.runSwaps nbRows nb = .ok r ∧ TotalInv c p.pl r.1 := by
    unfold Placer.runSwaps
    refine andThen_ok (I := TotalInv c p.pl) ?_ fun q hq => runSwapsTwoRowSweeps_ok hq nbRows nb
    obtain ⟨r, e, hi⟩ := runSwaps_oneRowSweep_no_error h hnb
    exact ⟨r, e, (loopOps_traced (fun q i => runSwapsOneRow_traced q i nb) p _ r e).sync hs, hi⟩
  obtain ⟨r, e, hi⟩ := sweep
  exact ⟨r.1, r.2, e, hi.sweep.inv, hi.sync, runSwaps_trace e⟩

/-- from the constructor on: `runSwaps` on the freshly built `DetailedPlacer` of any circuit whose
construction succeeds with `Inv` never fails (the hypotheses of `runSwaps_no_error` are satisfiable:
`init_sync`, and what the constructor returns satisfies `Inv` — C02 `inv_init`) -/
theorem runSwaps_no_error_init (c : Circuit) {p : Placer} (e : Placer.init c = .ok p) (h : Inv p.pl) (nbRows : Int)
    {nb : Int} (hnb : 0 ≤ nb) :
    ∃ q ops, p.runSwaps nbRows nb = .ok (q, ops) ∧ Inv q.pl ∧ Sync c q ∧ SearchTrace p ops q :=
  runSwaps_no_error c (init_sync e).1 h nbRows hnb

/-- `x` is `ok a` with `P a` (used by the non-vacuity examples: states contain functions, so they
are named through the computation that produced them) -/
def checkOk {α : Type} (x : Except Err α) (P : α → Prop) [∀ a, Decidable (P a)] : Bool :=
  match x with
  | .ok a => decide (P a)
  | .error _ => false

theorem ok_of_check {α : Type} {x : Except Err α} {P : α → Prop} [∀ a, Decidable (P a)]
    (h : checkOk x P = true) : ∃ a, x = .ok a ∧ P a := by
  cases x with
  | error e => cases h
  | ok a => exact ⟨a, rfl, by simpa [checkOk] using h⟩

/-- non-vacuity: the two-row instance of Proofs/DetSearch.lean satisfies the hypotheses, and the pass
it is guaranteed to complete does perform a cross-row swap -/
example : ∃ p q ops, Placer.init exSearch2 = .ok p ∧ Inv p.pl ∧ Sync exSearch2 p ∧
    p.runSwaps 1 1 = .ok (q, ops) ∧ Inv q.pl ∧ Sync exSearch2 q ∧ ops ≠ [] := by
  obtain ⟨p, q, e, er, _⟩ := passIs_spec exSearch2_runSwaps
  obtain ⟨p', e', hi⟩ := ok_of_check (x := Placer.init exSearch2) (P := fun p => Inv p.pl) (by decide +kernel)
  obtain rfl : p' = p := Except.ok.inj (e'.symm.trans e)
  obtain ⟨q', ops, er', hq, hs, _⟩ := runSwaps_no_error_init exSearch2 e hi 1 (nb := 1) (by decide)
  obtain ⟨rfl, rfl⟩ := Prod.mk.inj (Except.ok.inj (er'.symm.trans er))
  exact ⟨p', q', _, e, hi, (init_sync e).1, er, hq, hs, nofun⟩

end ColoVerif.DetPlace
