import ColoVerif.Model.SpreadF
import ColoVerif.Proofs.F64
import ColoVerif.Proofs.Spread
import ColoVerif.Model.LegacySpreadF
/-
C06 in binary32 (`Model/SpreadF.lean`): the clamp of `spreadCells` keeps every coordinate it writes in the closed
bin whatever the roundings did, so the loop lemmas of `Proofs/Spread.lean` apply with no invariant on the running
share and no hypothesis on the demands; `(float) n` is exact for `|n| ≤ 2^24` and positive for a positive `int`.
Then kernel-evaluated witnesses for the unclamped `LegacySpreadF.spreadCellsF` (the code before the fix); their
targets are already in increasing order, so that `std::sort` is the identity (`sortedOrder_of_sorted`).
-/
namespace ColoVerif.SpreadF
open ColoVerif.F64 ColoVerif.Spread

theorem fl_zero : fl 0 = 0 := f32'_zero
theorem fl_mono {x y : Rat} (h : x ≤ y) : fl x ≤ fl y := f32'_mono h

theorem fl_int (n : Int) (h : |n| ≤ 2 ^ 24) : fl (n : Rat) = (n : Rat) := f32'_exact_int n h

theorem fl_pos_of_int (n : Int) (h : 0 < n) : 0 < fl (n : Rat) :=
  one_pos.trans_le (f32'_ge_one (by exact_mod_cast h))

theorem clampBin_bounds (lo hi v : Rat) (h : lo ≤ hi) : lo ≤ clampBin lo hi v ∧ clampBin lo hi v ≤ hi :=
  clamp_bounds lo hi v h

theorem coordAtF_bounds (dem lo hi : Rat) (h : lo ≤ hi) :
    lo ≤ coordAtF dem lo hi ∧ coordAtF dem lo hi ≤ hi :=
  clampBin_bounds lo hi _ h

theorem spreadCellsF_length (targets demands : List Rat) (lo hi : Rat) :
    (spreadCellsF targets demands lo hi).length = targets.length :=
  (foldl_step_length (fun _ _ => rfl) _ _).trans List.length_replicate

theorem spreadCellsF_inside (targets demands : List Rat) (lo hi : Rat) (hlh : lo ≤ hi)
    (i : Nat) (hi' : i < targets.length) (hpos : 0 < demands.getD i 0) :
    lo ≤ (spreadCellsF targets demands lo hi).getD i 0 ∧ (spreadCellsF targets demands lo hi).getD i 0 ≤ hi := by
  unfold spreadCellsF spreadLoopF
  exact foldl_step_inside (fun _ _ => rfl) (fun _ _ => True) (fun v => lo ≤ v ∧ v ≤ hi)
    (fun _ _ _ _ _ => trivial) (fun _ _ _ _ _ => ⟨coordAtF_bounds _ lo hi hlh, trivial⟩) i _ _ trivial
    (by rw [List.length_replicate]; exact hi') fun h => absurd hpos (not_lt.mpr (h _ (mem_sortedOrder targets i hi') rfl))

theorem clampF_bounds (lo hi : Int) (h : lo ≤ hi) (t : Rat) :
    fl (lo : Rat) ≤ clampF lo hi t ∧ clampF lo hi t ≤ fl (hi : Rat) :=
  clamp_bounds _ _ t (fl_mono (Int.cast_le.mpr h))

theorem initCoordsF_length (n : Nat) (lo hi : Int) (target : List Rat) :
    (initCoordsF n lo hi target).length = n := by
  simp [initCoordsF]

theorem initCoordsF_getD (n : Nat) (lo hi : Int) (target : List Rat) (c : Nat) (hc : c < n) :
    (initCoordsF n lo hi target).getD c 0 = clampF lo hi (target.getD c 0) :=
  ListFacts.getD_map_range_of_lt _ 0 hc

theorem binCoordsF_inside (target : List Rat) (demand : List Int) (b : Bin) (hlh : b.lo ≤ b.hi) :
    b.cells.length = (binCoordsF target demand b).length ∧ ∀ k, k < b.cells.length →
      0 < demand.getD (b.cells.getD k 0) 0 → fl (b.lo : Rat) ≤ (binCoordsF target demand b).getD k 0 ∧
        (binCoordsF target demand b).getD k 0 ≤ fl (b.hi : Rat) := by
  refine ⟨by rw [binCoordsF, spreadCellsF_length, List.length_map], fun k hk hpos => ?_⟩
  refine spreadCellsF_inside _ _ _ _ (fl_mono (Int.cast_le.mpr hlh)) k (by rw [List.length_map]; exact hk) ?_
  rw [ListFacts.getD_map_of_lt _ 0 _ hk]
  exact fl_pos_of_int _ hpos

end ColoVerif.SpreadF

namespace ColoVerif.LegacySpreadF
open ColoVerif.Spread

theorem sortedOrder_of_sorted (targets : List Rat)
    (h : (indexed targets 0).Pairwise (fun a b => pairLe a b = true)) :
    sortedOrder targets = indexed targets 0 := by
  unfold sortedOrder
  exact List.mergeSort_of_pairwise h

/-- upper side, 3 cells: demands 2, 8222228, 1 in the bin [0, 2]: the last cell gets 2 + 2^-22 -/
theorem witness_up : (spreadCellsF [0, 1, 2] [2, 8222228, 1] 0 2).getD 2 0 = 8388609 / 4194304 := by
  unfold spreadCellsF
  rw [sortedOrder_of_sorted _ (by decide +kernel)]
  decide +kernel

/-- lower side, 2 cells: demands 4, 2858381 in the bin [3946, 3970]: the first cell gets 3946 − 2^-12 -/
theorem witness_low : (spreadCellsF [0, 1] [4, 2858381] 3946 3970).getD 0 0 = 16162815 / 4096 := by
  unfold spreadCellsF
  rw [sortedOrder_of_sorted _ (by decide +kernel)]
  decide +kernel

/-- the drift family, 10 cells in the bin [0, 4000000]: the running share ends at 1 + 3·2^-22 and the last
cell gets 4000002.5 -/
theorem witness_drift :
    (spreadCellsF [0, 1, 2, 3, 4, 5, 6, 7, 8, 9] [16776988, 1, 1, 1, 1, 1, 1, 2, 2, 2] 0 4000000).getD 9 0 = 8000005 / 2 ∧
    finalShareF [0, 1, 2, 3, 4, 5, 6, 7, 8, 9] [16776988, 1, 1, 1, 1, 1, 1, 2, 2, 2] 0 4000000 = 4194307 / 4194304 := by
  unfold spreadCellsF finalShareF
  rw [sortedOrder_of_sorted _ (by decide +kernel)]
  decide +kernel

/-- the current function on the drift witness: the last cell is placed on the bin edge -/
theorem witness_drift_fixed :
    (ColoVerif.SpreadF.spreadCellsF [0, 1, 2, 3, 4, 5, 6, 7, 8, 9] [16776988, 1, 1, 1, 1, 1, 1, 2, 2, 2] 0 4000000).getD 9 0
      = 4000000 := by
  unfold ColoVerif.SpreadF.spreadCellsF
  rw [sortedOrder_of_sorted _ (by decide +kernel)]
  decide +kernel

end ColoVerif.LegacySpreadF
