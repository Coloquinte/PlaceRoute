import ColoVerif.Model.Spread
import ColoVerif.Proofs.GridCap
import ColoVerif.Proofs.Freespace
/-
C06: `computePlacementArea` is the least rectangle that encloses the regions, so the bin limits of the density grid
lie inside every box that holds the regions; the regions `fromIspdCircuit` hands over lie inside the rows'
bounding box.  So do the free rows of `Circuit::computeRows` (`Model/Freespace.lean`): they are well-formed
rectangles inside the row they come from.
-/
namespace ColoVerif.Spread

/-- `r` is a well-formed rectangle inside `box` -/
def Rect.Within (box r : Rect) : Prop :=
  box.minX ≤ r.minX ∧ r.minX ≤ r.maxX ∧ r.maxX ≤ box.maxX ∧
  box.minY ≤ r.minY ∧ r.minY ≤ r.maxY ∧ r.maxY ≤ box.maxY

/-- `box` encloses `⟨intMax, intMin, intMax, intMin⟩`, the start value of the fold in `computePlacementArea`
(true of any box whose coordinates are C++ `int`s) -/
def Rect.IsInt (box : Rect) : Prop :=
  box.minX ≤ intMax ∧ intMin ≤ box.maxX ∧ box.minY ≤ intMax ∧ intMin ≤ box.maxY

theorem Rect.Within.isInt {r : Rect} (h : Rect.Within ⟨intMin, intMax, intMin, intMax⟩ r) : Rect.IsInt r :=
  ⟨Int.le_trans h.2.1 h.2.2.1, Int.le_trans h.1 h.2.1,
    Int.le_trans h.2.2.2.2.1 h.2.2.2.2.2, Int.le_trans h.2.2.2.1 h.2.2.2.2.1⟩

-- `Model/Spread.lean` and `Model/Grid.lean` write these three functions of the density grid twice; they are the same,
-- and the proofs below apply the `Grid` lemmas to the `Spread` copies by unification.
example : areaStep = Grid.areaStep := rfl
example : computeSubdivisions = Grid.computeSubdivisions := rfl
example : nbBinsFor = Grid.nbBinsFor := rfl

theorem within_area_of_mem (regions : List Rect) {box r : Rect} (hr : r ∈ regions) (hw : Rect.Within box r) :
    Rect.Within (computePlacementArea regions) r := by
  cases regions with
  | nil => cases hr
  | cons r0 rs =>
    have e : Rect.Encloses (computePlacementArea (r0 :: rs)) r := (Grid.foldl_areaStep_encloses _ _).2 r hr
    exact ⟨e.1, hw.2.1, e.2.1, e.2.2.1, hw.2.2.2.2.1, e.2.2.2⟩

theorem area_within (regions : List Rect) (box : Rect) (hne : regions ≠ []) (hb : Rect.IsInt box)
    (hr : ∀ r ∈ regions, Rect.Within box r) :
    Rect.Within box (computePlacementArea regions) := by
  cases regions with
  | nil => exact absurd rfl hne
  | cons r rs =>
    have e := within_area_of_mem (r :: rs) List.mem_cons_self (hr r List.mem_cons_self)
    have l : Rect.Encloses box (computePlacementArea (r :: rs)) :=
      Grid.foldl_areaStep_least box _ _ ⟨hb.1, hb.2.1, hb.2.2.1, hb.2.2.2⟩ fun r' hr' =>
        ⟨(hr r' hr').1, (hr r' hr').2.2.1, (hr r' hr').2.2.2.1, (hr r' hr').2.2.2.2.2⟩
    exact ⟨l.1, Int.le_trans e.1 (Int.le_trans e.2.1 e.2.2.1), l.2.1, l.2.2.1,
      Int.le_trans e.2.2.2.1 (Int.le_trans e.2.2.2.2.1 e.2.2.2.2.2), l.2.2.2⟩

theorem clipRows_within (margin : Int) (hm : 0 ≤ margin) (rows : List Rect) (box : Rect)
    (hr : ∀ r ∈ rows, Rect.Within box r) : ∀ r ∈ clipRows margin rows, Rect.Within box r := by
  intro r' hr'
  unfold clipRows at hr'
  obtain ⟨r, hmem, hclip⟩ := List.mem_filterMap.mp hr'
  have hw := hr r hmem
  unfold clipRow at hclip
  split at hclip
  · simp at hclip
  · rename_i hwide
    simp only [Option.some.injEq] at hclip
    subst hclip
    unfold Rect.Within at hw ⊢
    simp only [Rect.width] at hwide
    simp only
    omega

theorem gridRegions_cases (margin : Int) (freeRows rows : List Rect) (hne : rows ≠ []) :
    gridRegions margin freeRows rows ≠ [] ∧
    (gridRegions margin freeRows rows = clipRows margin freeRows ∨ gridRegions margin freeRows rows = freeRows ∨
     gridRegions margin freeRows rows = [computePlacementArea rows]) := by
  unfold gridRegions
  split
  · split
    · rw [if_neg (by rw [List.isEmpty_iff]; exact hne)]
      exact ⟨List.cons_ne_nil _ _, Or.inr (Or.inr rfl)⟩
    · rename_i hf
      exact ⟨fun e => hf (List.isEmpty_iff.mpr e), Or.inr (Or.inl rfl)⟩
  · rename_i hc
    exact ⟨fun e => hc (List.isEmpty_iff.mpr e), Or.inl rfl⟩

theorem gridRegions_within (margin : Int) (hm : 0 ≤ margin) (freeRows rows : List Rect) (box : Rect) (hne : rows ≠ [])
    (hbox : computePlacementArea rows = box) (hwf : box.minX ≤ box.maxX ∧ box.minY ≤ box.maxY)
    (hfree : ∀ r ∈ freeRows, Rect.Within box r) :
    ∀ r ∈ gridRegions margin freeRows rows, Rect.Within box r := by
  rcases (gridRegions_cases margin freeRows rows hne).2 with h | h | h <;> rw [h]
  · exact clipRows_within margin hm freeRows box hfree
  · exact hfree
  · intro r hr
    rw [List.mem_singleton.mp hr, hbox]
    exact ⟨Int.le_refl _, hwf.1, Int.le_refl _, Int.le_refl _, hwf.2, Int.le_refl _⟩

theorem mem_lims_within (binSize : Int) (regions : List Rect) (box : Rect)
    (hw : Rect.Within box (computePlacementArea regions)) :
    (∀ l ∈ (mkGrid binSize regions).limX, box.minX ≤ l ∧ l ≤ box.maxX) ∧
    (∀ l ∈ (mkGrid binSize regions).limY, box.minY ≤ l ∧ l ≤ box.maxY) := by
  unfold Rect.Within at hw
  constructor
  · intro l hl
    have := Grid.subdiv_bounds _ _ _ (Grid.nbBinsFor_pos _ _) hw.2.1 l hl
    omega
  · intro l hl
    have := Grid.subdiv_bounds _ _ _ (Grid.nbBinsFor_pos _ _) hw.2.2.2.2.1 l hl
    omega

open ColoVerif ColoVerif.Freespace

theorem freespace_within (r : Row) (obstacles : List Rect) (box : Rect) (hr : Rect.Within box r.rect) :
    ∀ fr ∈ r.freespace obstacles, Rect.Within box fr.rect := by
  intro fr h
  obtain ⟨⟨a1, a2, a3⟩, ⟨b1, b2, _, b4⟩, _⟩ := r.freespace_seg obstacles hr.2.1 fr h
  obtain ⟨h1, _, h3, h4, _, h6⟩ := hr
  exact ⟨Int.le_trans h1 a1, Int.le_of_lt a2, Int.le_trans a3 h3, b1 ▸ h4, b1 ▸ b2 ▸ Int.le_of_lt b4, b2 ▸ h6⟩

theorem computeRows_within (c : Circuit) (extra : List Rect) (box : Rect)
    (hr : ∀ r ∈ c.rows, Rect.Within box r.rect) :
    ∀ fr ∈ c.computeRows extra, Rect.Within box fr.rect := by
  intro fr h
  unfold Circuit.computeRows at h
  obtain ⟨r, hrm, hfr⟩ := List.mem_flatMap.mp h
  exact freespace_within r _ box (hr r hrm) fr hfr

theorem rows_within_bbox (rows : List Rect) (_hne : rows ≠ [])
    (hwf : ∀ r ∈ rows, Rect.Within ⟨intMin, intMax, intMin, intMax⟩ r) :
    ∀ r ∈ rows, Rect.Within (computePlacementArea rows) r :=
  fun r hr => within_area_of_mem rows hr (hwf r hr)

end ColoVerif.Spread
