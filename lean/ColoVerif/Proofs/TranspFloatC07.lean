import ColoVerif.Model.TranspCostsChecked
import ColoVerif.Model.TranspFloat
/-
The fault-checked model `costsFromIntegersC` of C07 (Model/TranspCostsChecked.lean, which reports the undefined
`double → int` conversion as a fault) and C13's total model `costsFromFloats` (Model/TranspFloat.lean) compute the
same matrix whenever the former reports no fault (`costsFromIntegersC_eq_ok`); so C07's `costsFromIntegersC_ok` and
C13's `costsFromFloats_bound` speak about the same numbers.  Before that, `mapC`, the loop the checked cost models
are written with: it succeeds when every call does (`mapC_ok`, `mapC_total`), and a successful run is `List.map`
read through `.ok` (`mapC_eq_ok`).
-/
namespace ColoVerif.Transp
open ColoVerif.Checked ColoVerif.F64

theorem mapC_ok {α β : Type} (f : α → Except Fault β) (g : α → β) :
    ∀ (l : List α), (∀ a, a ∈ l → f a = .ok (g a)) → mapC f l = .ok (l.map g) := by
  intro l
  induction l with
  | nil => intro _; rfl
  | cons a as ih =>
    intro h
    unfold mapC
    rw [h a (by simp), ih (fun b hb => h b (by simp [hb]))]
    rfl

theorem mapC_total {α β : Type} (f : α → Except Fault β) :
    ∀ (l : List α), (∀ a, a ∈ l → ∃ b, f a = .ok b) → ∃ r, mapC f l = .ok r := by
  intro l
  induction l with
  | nil => intro _; exact ⟨[], rfl⟩
  | cons a as ih =>
    intro h
    obtain ⟨b, hb⟩ := h a (by simp)
    obtain ⟨r, hr⟩ := ih (fun x hx => h x (by simp [hx]))
    exact ⟨b :: r, by unfold mapC; rw [hb, hr]⟩

theorem mapC_eq_ok {α β : Type} (f : α → Except Fault β) :
    ∀ (l : List α) (bs : List β), mapC f l = .ok bs → l.map f = bs.map .ok := by
  intro l
  induction l with
  | nil => intro bs h; simp only [mapC] at h; injection h with h; subst h; rfl
  | cons a as ih =>
    intro bs h
    simp only [mapC] at h
    split at h
    · exact absurd h (by simp)
    · rename_i b hb
      split at h
      · exact absurd h (by simp)
      · rename_i bs' hbs
        injection h with h; subst h
        rw [List.map_cons, List.map_cons, hb, ih bs' hbs]

theorem mapC_mem {α β : Type} (f : α → Except Fault β) (l : List α) (r : List β) (h : mapC f l = .ok r)
    (b : β) (hb : b ∈ r) : ∃ a, a ∈ l ∧ f a = .ok b :=
  List.mem_map.mp (mapC_eq_ok f l r h ▸ List.mem_map_of_mem hb)

theorem mapC_eq_map {α β : Type} (f : α → Except Fault β) (g : α → β) (hfg : ∀ a b, f a = .ok b → b = g a)
    (l : List α) (bs : List β) (h : mapC f l = .ok bs) : bs = l.map g := by
  have e := mapC_eq_ok f l bs h
  refine (List.map_inj_right (f := (.ok : β → Except Fault β)) fun _ _ => Except.ok.inj).mp ?_
  rw [← e, List.map_map]
  refine List.map_inj_left.mpr fun a ha => ?_
  obtain ⟨b, _, hb⟩ := List.mem_map.mp (e ▸ List.mem_map_of_mem ha : f a ∈ bs.map .ok)
  rw [← hb, hfg a b hb.symm]
  rfl

theorem maxValOf_eq (fc : List (List Rat)) : maxValOf fc = fcMaxVal fc := rfl

theorem convFactor_eq (M : Rat) (n : Nat) : convFactor M n = fcFactor M n := rfl

theorem toFixedC_eq_ok (cf c : Rat) (v : Int) (h : toFixedC cf c = .ok v) : v = fcFixed cf c := by
  unfold toFixedC chk32 at h
  split at h
  · injection h with h; exact h.symm
  · exact absurd h (by simp)

theorem costsFromIntegersC_eq_ok (fc : List (List Rat)) (m : Mat) (h : costsFromIntegersC fc = .ok m) :
    m = costsFromFloats fc := by
  unfold costsFromIntegersC at h
  rw [maxValOf_eq, convFactor_eq] at h
  have := mapC_eq_map (fun r => mapC (toFixedC (fcFactor (fcMaxVal fc) fc.length)) r)
    (fun r => r.map (fcFixed (fcFactor (fcMaxVal fc) fc.length)))
    (fun r bs hr => mapC_eq_map _ _ (fun c v hv => toFixedC_eq_ok _ c v hv) r bs hr) fc m h
  rw [this]; rfl

end ColoVerif.Transp
