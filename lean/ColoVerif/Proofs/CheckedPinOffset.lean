import ColoVerif.Model.PinOffsetChecked
import ColoVerif.Proofs.CheckedArith
/-
`Circuit::pinXOffset` / `pinYOffset` in checked arithmetic: the one subtraction
`placedWidth(cell) - offs` (resp. `placedHeight(cell) - offs`) cannot overflow when the placed size
is within ±`W`, both raw pin offsets within ±`O`, and `W + O` is an `int`.
-/
namespace ColoVerif.Checked
open ColoVerif

/-- the shape both offsets share: `size - offs` when the orientation flips the axis, `offs` otherwise -/
theorem flipOffsetC_ok {s : String} {flip : Bool} {size offs W O : Int} (hs : -W ≤ size ∧ size ≤ W)
    (ho : -O ≤ offs ∧ offs ≤ O) (hfit : W + O ≤ 2147483647) :
    (if flip then subI32 s size offs else .ok offs) = .ok (if flip then size - offs else offs) ∧
    -(W + O) ≤ (if flip then size - offs else offs) ∧ (if flip then size - offs else offs) ≤ W + O := by
  cases flip
  · exact ⟨rfl, by omega, by omega⟩
  · exact ⟨chk32_ok' (by omega) (by omega), by omega, by omega⟩

theorem pinXOffsetC_of_bounds {cl : Cell} {p : Pin} {W O : Int}
    (hw : -W ≤ cl.placedWidth ∧ cl.placedWidth ≤ W) (hx : -O ≤ p.xo ∧ p.xo ≤ O) (hy : -O ≤ p.yo ∧ p.yo ≤ O)
    (hfit : W + O ≤ 2147483647) :
    pinXOffsetC cl p = .ok (Circuit.pinXOffset cl p) ∧
    -(W + O) ≤ Circuit.pinXOffset cl p ∧ Circuit.pinXOffset cl p ≤ W + O :=
  flipOffsetC_ok hw (by split <;> assumption) hfit

theorem pinYOffsetC_of_bounds {cl : Cell} {p : Pin} {H O : Int}
    (hh : -H ≤ cl.placedHeight ∧ cl.placedHeight ≤ H) (hx : -O ≤ p.xo ∧ p.xo ≤ O) (hy : -O ≤ p.yo ∧ p.yo ≤ O)
    (hfit : H + O ≤ 2147483647) :
    pinYOffsetC cl p = .ok (Circuit.pinYOffset cl p) ∧
    -(H + O) ≤ Circuit.pinYOffset cl p ∧ Circuit.pinYOffset cl p ≤ H + O :=
  flipOffsetC_ok hh (by split <;> assumption) hfit

theorem placedWidth_bounds {cl : Cell} {lo hi : Int} (hw : lo ≤ cl.w ∧ cl.w ≤ hi) (hh : lo ≤ cl.h ∧ cl.h ≤ hi) :
    lo ≤ cl.placedWidth ∧ cl.placedWidth ≤ hi := by
  unfold Cell.placedWidth; split <;> assumption

theorem placedHeight_bounds {cl : Cell} {lo hi : Int} (hw : lo ≤ cl.w ∧ cl.w ≤ hi) (hh : lo ≤ cl.h ∧ cl.h ≤ hi) :
    lo ≤ cl.placedHeight ∧ cl.placedHeight ≤ hi := by
  unfold Cell.placedHeight; split <;> assumption

end ColoVerif.Checked
