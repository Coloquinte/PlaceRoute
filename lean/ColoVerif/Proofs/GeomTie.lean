import ColoVerif.Model.Circuit
import ColoVerif.Model.Expand
import ColoVerif.Gen.GeomFns
import ColoVerif.Proofs.C09Hpwl
/-
The tie between the hand-written geometry layer (`Model/Geom.lean`, `Model/Circuit.lean`, `Expand.cellArea`)
and the C++ function bodies: `Gen/GeomFns.lean` is regenerated from the clang AST of /repo's working tree on
every run (tools/gen/GeomFns.py), and every generated definition is proved equal, as a function, to the
hand-written one that the models, drivers and theorems of all properties use.  A C++ body that changes its
meaning makes its `gen_*_eq_model` fail to compile, and with it the `geometry_layer_translated` /
`geometry_loops_translated` theorems of the property files.  C++ `int` / `long long` are `Int` on both sides
(the framework-wide convention): the equalities say nothing about overflow.
-/
namespace ColoVerif.GeomTie
open ColoVerif

theorem gen_Rectangle_ctor_eq_model : Gen.Geom.Rectangle_ctor = Rect.mk := rfl

/-- `Rectangle()` is the all-zero rectangle, the model's `default` (what `Circuit.placementArea`
returns for a circuit without rows is written `⟨0, 0, 0, 0⟩` there). -/
theorem gen_Rectangle_ctor0_eq_model : Gen.Geom.Rectangle_ctor0 = (default : Rect) ∧
    Gen.Geom.Rectangle_ctor0 = ⟨0, 0, 0, 0⟩ := ⟨rfl, rfl⟩

theorem gen_Rectangle_width_eq_model : Gen.Geom.Rectangle_width = Rect.width := rfl

theorem gen_Rectangle_height_eq_model : Gen.Geom.Rectangle_height = Rect.height := rfl

theorem gen_Rectangle_area_eq_model : Gen.Geom.Rectangle_area = Rect.area := rfl

theorem gen_Rectangle_intersects_eq_model : Gen.Geom.Rectangle_intersects = Rect.intersects := rfl

theorem gen_Rectangle_contains_eq_model : Gen.Geom.Rectangle_contains = Rect.contains := rfl

theorem gen_Rectangle_intersection_eq_model : Gen.Geom.Rectangle_intersection = Rect.intersection := rfl

theorem gen_isTurn_eq_model : Gen.Geom.isTurn = Orient.isTurn := by
  funext o; cases o <;> rfl

-- Per-cell members of `Circuit`: the cell's record `cl` stands for the index `cell`.

theorem gen_Circuit_x_eq_model : Gen.Geom.Circuit_x = Cell.x := rfl
theorem gen_Circuit_y_eq_model : Gen.Geom.Circuit_y = Cell.y := rfl
theorem gen_Circuit_orientation_eq_model : Gen.Geom.Circuit_orientation = Cell.orient := rfl
theorem gen_Circuit_isFixed_eq_model : Gen.Geom.Circuit_isFixed = Cell.fixed := rfl
theorem gen_Circuit_isObstruction_eq_model : Gen.Geom.Circuit_isObstruction = Cell.obstruction := rfl

/-- `Circuit::area(cell)` is `Expand.cellArea` (the only hand-written copy of it) -/
theorem gen_Circuit_area_eq_model : Gen.Geom.Circuit_area = Expand.cellArea := rfl

theorem gen_Circuit_placedWidth_eq_model : Gen.Geom.Circuit_placedWidth = Cell.placedWidth := by
  funext cl
  simp only [Gen.Geom.Circuit_placedWidth, Cell.placedWidth, Gen.Geom.Circuit_orientation, gen_isTurn_eq_model]

theorem gen_Circuit_placedHeight_eq_model : Gen.Geom.Circuit_placedHeight = Cell.placedHeight := by
  funext cl
  simp only [Gen.Geom.Circuit_placedHeight, Cell.placedHeight, Gen.Geom.Circuit_orientation, gen_isTurn_eq_model]

theorem gen_Circuit_placement_eq_model : Gen.Geom.Circuit_placement = Cell.placement := by
  funext cl
  simp only [Gen.Geom.Circuit_placement, Cell.placement, gen_Circuit_placedWidth_eq_model,
    gen_Circuit_placedHeight_eq_model, gen_Circuit_x_eq_model, gen_Circuit_y_eq_model, gen_Rectangle_ctor_eq_model]

-- Per-pin members: the records `cl`, `p` stand for `pinCell(net, i)` and the pin `(net, i)`.

theorem gen_Circuit_pinXOffset_eq_model : Gen.Geom.Circuit_pinXOffset = Circuit.pinXOffset := by
  funext cl p
  obtain ⟨w, h, x, y, orient, fixed, obstruction, pol⟩ := cl
  simp only [Gen.Geom.Circuit_pinXOffset, Circuit.pinXOffset, gen_Circuit_placedWidth_eq_model,
    gen_Circuit_orientation_eq_model, gen_isTurn_eq_model]
  cases orient <;> rfl

theorem gen_Circuit_pinYOffset_eq_model : Gen.Geom.Circuit_pinYOffset = Circuit.pinYOffset := by
  funext cl p
  obtain ⟨w, h, x, y, orient, fixed, obstruction, pol⟩ := cl
  simp only [Gen.Geom.Circuit_pinYOffset, Circuit.pinYOffset, gen_Circuit_placedHeight_eq_model,
    gen_Circuit_orientation_eq_model, gen_isTurn_eq_model]
  cases orient <;> rfl

/-! The loops `Circuit::hpwl`, `Circuit::computePlacementArea`, `Circuit::rowHeight`: the generated definitions are
`List.foldl`s of named step functions starting from the C++ sentinels `std::numeric_limits<int>::max()/min()`;
the hand-written models use `lmin`/`lmax` (fold from the first element).  The two agree exactly when the first
folded value lies between the sentinels, i.e. when the coordinates are C++ `int`s, which is what `PinsInInt` /
`RowsInInt` say (decidable; the examples at the end show that the hypothesis cannot be dropped: with unbounded
`Int` a coordinate beyond INT_MAX is clipped by the sentinel).  `rowHeight` has no sentinel and is equal
unconditionally; `none` = throws. -/

theorem foldl_min_map {α : Type} (f : α → Int) (l : List α) (a : Int) :
    l.foldl (fun m e => min (f e) m) a = (l.map f).foldl min a := by
  induction l generalizing a with
  | nil => rfl
  | cons x xs ih => rw [List.foldl_cons, List.map_cons, List.foldl_cons, Int.min_comm]; exact ih _

theorem foldl_step4 {α : Type} (f1 f2 f3 f4 : α → Int) : ∀ (l : List α) (a b c d : Int),
    l.foldl (fun (s : Int × Int × Int × Int) e =>
        (min (f1 e) s.1, max (f2 e) s.2.1, min (f3 e) s.2.2.1, max (f4 e) s.2.2.2)) (a, b, c, d)
      = ((l.map f1).foldl (fun a v => min v a) a, (l.map f2).foldl (fun a v => max v a) b,
         (l.map f3).foldl (fun a v => min v a) c, (l.map f4).foldl (fun a v => max v a) d)
  | [], _, _, _, _ => rfl
  | _ :: xs, _, _, _, _ => foldl_step4 f1 f2 f3 f4 xs _ _ _ _

theorem foldl_add_sum {α : Type} (step : Int → α → Int) (g : α → Int) (l : List α)
    (h : ∀ e ∈ l, ∀ a, step a e = a + g e) (a0 : Int) : l.foldl step a0 = a0 + (l.map g).sum := by
  induction l generalizing a0 with
  | nil => simp
  | cons x xs ih =>
    rw [List.foldl_cons, h x (by simp), ih (fun e he => h e (by simp [he]))]
    simp only [List.map_cons, List.sum_cons]; omega

theorem int_max_eq : Gen.Geom.numeric_limits_int_max = 2147483647 := rfl
theorem int_min_eq : Gen.Geom.numeric_limits_int_min = -2147483648 := by decide

/-- the guard `size() == 0` of a loop over a non-empty vector -/
theorem length_cons_beq_zero {α : Type} (x : α) (xs : List α) : ((((x :: xs).length : Nat) : Int) == (0 : Int)) = false := by
  simp only [List.length_cons, beq_eq_false_iff_ne, ne_eq]; omega

/-- every pin position is a C++ `int` -/
def PinsInInt (c : Circuit) : Prop :=
  ∀ n ∈ c.nets, ∀ p ∈ n.pins, -2147483648 ≤ c.pinX p ∧ c.pinX p ≤ 2147483647 ∧
    -2147483648 ≤ c.pinY p ∧ c.pinY p ≤ 2147483647

instance (c : Circuit) : Decidable (PinsInInt c) := by unfold PinsInInt; exact inferInstance

theorem hpwl_step2_eq (c : Circuit) : Gen.Geom.Circuit_hpwl_step2 c =
    fun s p => (min (c.pinX p) s.1, max (c.pinX p) s.2.1, min (c.pinY p) s.2.2.1, max (c.pinY p) s.2.2.2) := by
  funext s p
  simp only [Gen.Geom.Circuit_hpwl_step2, Circuit.pinX, Circuit.pinY, gen_Circuit_pinXOffset_eq_model,
    gen_Circuit_pinYOffset_eq_model, gen_Circuit_x_eq_model, gen_Circuit_y_eq_model]

theorem hpwl_step1_eq (c : Circuit) (n : Net)
    (h : ∀ p ∈ n.pins, -2147483648 ≤ c.pinX p ∧ c.pinX p ≤ 2147483647 ∧ -2147483648 ≤ c.pinY p ∧ c.pinY p ≤ 2147483647)
    (a : Int) : Gen.Geom.Circuit_hpwl_step1 c a n = a + c.netHpwl n := by
  obtain ⟨wm, we, pins⟩ := n
  cases pins with
  | nil => simp [Gen.Geom.Circuit_hpwl_step1, Circuit.netHpwl, Circuit.lmin, Circuit.lmax]
  | cons p ps =>
    obtain ⟨h1, h2, h3, h4⟩ := h p (by simp)
    simp only [Gen.Geom.Circuit_hpwl_step1, length_cons_beq_zero, Bool.false_eq_true, if_false, Gen.Geom.Circuit_hpwl_loop2,
      hpwl_step2_eq, foldl_step4, Circuit.netHpwl, List.map_cons]
    rw [C09.sentinel_min (c.pinX p) _ _ 0 (int_max_eq ▸ h2), C09.sentinel_max (c.pinX p) _ _ 0 (int_min_eq ▸ h1),
      C09.sentinel_min (c.pinY p) _ _ 0 (int_max_eq ▸ h4), C09.sentinel_max (c.pinY p) _ _ 0 (int_min_eq ▸ h3)]
    exact Int.add_assoc _ _ _

theorem gen_Circuit_hpwl_eq_model (c : Circuit) (h : PinsInInt c) : Gen.Geom.Circuit_hpwl c = c.hpwl := by
  simp only [Gen.Geom.Circuit_hpwl, Gen.Geom.Circuit_hpwl_loop1, Circuit.hpwl]
  rw [foldl_add_sum (Gen.Geom.Circuit_hpwl_step1 c) c.netHpwl c.nets (fun n hn a => hpwl_step1_eq c n (h n hn) a)]
  omega

/-- every row coordinate is a C++ `int` -/
def RowsInInt (c : Circuit) : Prop :=
  ∀ r ∈ c.rows, -2147483648 ≤ r.rect.minX ∧ r.rect.minX ≤ 2147483647 ∧ -2147483648 ≤ r.rect.maxX ∧ r.rect.maxX ≤ 2147483647 ∧
    -2147483648 ≤ r.rect.minY ∧ r.rect.minY ≤ 2147483647 ∧ -2147483648 ≤ r.rect.maxY ∧ r.rect.maxY ≤ 2147483647

instance (c : Circuit) : Decidable (RowsInInt c) := by unfold RowsInInt; exact inferInstance

theorem gen_Circuit_computePlacementArea_eq_model (c : Circuit) (h : RowsInInt c) :
    Gen.Geom.Circuit_computePlacementArea c = c.placementArea := by
  obtain ⟨cells, nets, rows⟩ := c
  cases rows with
  | nil => rfl
  | cons r rs =>
    obtain ⟨h1, h2, h3, h4, h5, h6, h7, h8⟩ := h r (by simp)
    have hs : Gen.Geom.Circuit_computePlacementArea_step1 = fun s (row : Row) =>
        (min row.rect.minX s.1, max row.rect.maxX s.2.1, min row.rect.minY s.2.2.1, max row.rect.maxY s.2.2.2) := rfl
    simp only [Gen.Geom.Circuit_computePlacementArea, Gen.Geom.Circuit_computePlacementArea_loop1, hs, foldl_step4,
      List.isEmpty_cons, Bool.false_eq_true, if_false, Circuit.placementArea, List.map_cons, gen_Rectangle_ctor_eq_model]
    rw [C09.sentinel_min r.rect.minX _ _ 0 (int_max_eq ▸ h2), C09.sentinel_max r.rect.maxX _ _ 0 (int_min_eq ▸ h3),
      C09.sentinel_min r.rect.minY _ _ 0 (int_max_eq ▸ h6), C09.sentinel_max r.rect.maxY _ _ 0 (int_min_eq ▸ h7)]

theorem rowHeight_loop_none (c : Circuit) (l : List Row) : l.foldl (Gen.Geom.Circuit_rowHeight_step1 c) none = none := by
  induction l with
  | nil => rfl
  | cons x xs ih => rw [List.foldl_cons]; exact ih

theorem rowHeight_loop_some (c : Circuit) (l : List Row) :
    l.foldl (Gen.Geom.Circuit_rowHeight_step1 c) (some ()) =
      if l.all (fun r' => r'.rect.height == (c.rows.getD 0 default).rect.height) then some () else none := by
  induction l with
  | nil => rfl
  | cons x xs ih =>
    have hstep : Gen.Geom.Circuit_rowHeight_step1 c (some ()) x =
        if (x.rect.height != (c.rows.getD 0 default).rect.height) = true then none else some () := rfl
    rw [List.foldl_cons, List.all_cons, hstep]
    by_cases hx : x.rect.height = (c.rows.getD 0 default).rect.height
    · rw [if_neg (by rw [hx]; simp only [bne_self_eq_false, Bool.false_eq_true, not_false_eq_true]), ih]
      simp only [hx, beq_self_eq_true, Bool.true_and]
    · rw [if_pos (by simp only [bne_iff_ne, ne_eq, hx, not_false_eq_true]), rowHeight_loop_none]
      simp only [beq_eq_false_iff_ne.mpr hx, Bool.false_and, Bool.false_eq_true, if_false]

theorem gen_Circuit_rowHeight_eq_model : Gen.Geom.Circuit_rowHeight = Circuit.rowHeight := by
  funext c
  obtain ⟨cells, nets, rows⟩ := c
  cases rows with
  | nil => rfl
  | cons r rs =>
    simp only [Gen.Geom.Circuit_rowHeight, length_cons_beq_zero, Bool.false_eq_true, if_false, Gen.Geom.Circuit_rowHeight_loop1,
      rowHeight_loop_some, Circuit.rowHeight, List.getD_cons_zero, List.all_cons, beq_self_eq_true, Bool.true_and,
      gen_Rectangle_height_eq_model]
    by_cases ha : (rs.all fun r' => r'.rect.height == r.rect.height) = true
    · simp only [ha, if_true]
    · simp only [ha, Bool.false_eq_true, if_false]

theorem gen_no_rows (c : Circuit) (h : c.rows = []) :
    Gen.Geom.Circuit_computePlacementArea c = ⟨0, 0, 0, 0⟩ ∧ c.placementArea = ⟨0, 0, 0, 0⟩ ∧
    Gen.Geom.Circuit_rowHeight c = none ∧ c.rowHeight = none := by
  obtain ⟨cells, nets, rows⟩ := c
  subst h
  exact ⟨rfl, rfl, rfl, rfl⟩

example : PinsInInt ⟨[⟨4, 2, 0, 0, .N, false, false, .ANY⟩, ⟨3, 2, 10, 5, .W, false, false, .ANY⟩],
    [⟨1, 0, [⟨0, 1, 1⟩, ⟨1, 0, 2⟩]⟩, ⟨1, 0, []⟩], []⟩ := by decide
example : Gen.Geom.Circuit_hpwl ⟨[⟨4, 2, 0, 0, .N, false, false, .ANY⟩, ⟨3, 2, 10, 5, .W, false, false, .ANY⟩],
    [⟨1, 0, [⟨0, 1, 1⟩, ⟨1, 0, 2⟩]⟩, ⟨1, 0, []⟩], []⟩ = 9 + 4 := by decide
/-- beyond the `int` range the sentinel clips: a single pin at x = 3·10^9 has extent 0 in the model but
`3·10^9 − INT_MAX` in the (unbounded-`Int` reading of the) C++ loop -/
example : Gen.Geom.Circuit_hpwl ⟨[⟨1, 1, 3000000000, 0, .N, false, false, .ANY⟩], [⟨1, 0, [⟨0, 0, 0⟩]⟩], []⟩ = 852516353 ∧
    Circuit.hpwl ⟨[⟨1, 1, 3000000000, 0, .N, false, false, .ANY⟩], [⟨1, 0, [⟨0, 0, 0⟩]⟩], []⟩ = 0 := by decide
example : RowsInInt ⟨[], [], [⟨⟨0, 10, 0, 4⟩, .N⟩, ⟨⟨-5, 8, 4, 8⟩, .FS⟩]⟩ := by decide
example : Gen.Geom.Circuit_computePlacementArea ⟨[], [], [⟨⟨0, 10, 0, 4⟩, .N⟩, ⟨⟨-5, 8, 4, 8⟩, .FS⟩]⟩ = ⟨-5, 10, 0, 8⟩ ∧
    Gen.Geom.Circuit_rowHeight ⟨[], [], [⟨⟨0, 10, 0, 4⟩, .N⟩, ⟨⟨-5, 8, 4, 8⟩, .FS⟩]⟩ = some 4 ∧
    Gen.Geom.Circuit_rowHeight ⟨[], [], [⟨⟨0, 10, 0, 4⟩, .N⟩, ⟨⟨-5, 8, 4, 9⟩, .FS⟩]⟩ = none := by decide

end ColoVerif.GeomTie
