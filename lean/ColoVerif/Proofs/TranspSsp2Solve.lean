import ColoVerif.Proofs.CheckedTranspTree
/-
`sendSource(src, sink, quantity)` on a `Good` state does not fail and yields a `Good` state; hence `solve` returns a
plan whenever `check()` passes, demand fits in capacity and `3·|cost| < INT_MAX` (`solve_total`); the final state
carries dual potentials, from which `pot_cert` builds the certificate of minimum cost.
For C07: with non-negative stored costs and totals at most `2^61` the same invariants bound every typed
intermediate, so the checked twins return the same (the second conclusion of each `_total` lemma).
At the end, evaluations of `solve` by the kernel: non-vacuity witnesses, and the instance on which costs beyond
`INT_MAX/3` pass the `INT_MAX` sentinel of `bestSink`.
-/
namespace ColoVerif.Transp
open ColoVerif.Checked

lemma initQueuesC_ok (p : Problem) (alloc : Mat) (sink : Nat) (hs : sink < p.nbSinks)
    (hcost : ∀ i j, i < p.nbSinks → j < p.nbSources → 0 ≤ p.cost i j ∧ p.cost i j ≤ Cmax) :
    initQueuesC p alloc sink = .ok (initQueues p alloc sink) := by
  unfold initQueuesC
  rw [if_pos]
  rw [List.all_eq_true]
  intro src hsrc
  have hs' : src < p.nbSources := by
    have := (List.mem_filter.mp hsrc).1
    simpa using this
  exact destCostsFit_of p sink src (fun i hi => hcost i src hi hs') hs

lemma sendSource3_root_mid (p : Problem) (s : St) (d : Nat → Int) (w : Walk) (m : Int)
    (alloc' : Mat) (rem' : List Int) (qs' : Queues)
    (ha : alloc' = add2 w.alloc w.root w.src m)
    (hr : rem' = s.remCapa.set w.root (s.remCapa.getD w.root 0 - m))
    (hq : qs' = if rem'.getD w.root 0 == 0 then w.queues.setIfInBounds w.root (initQueues p alloc' w.root)
                else w.queues)
    (hw : WInv p s d w.alloc w.queues w.needUpdate) (hroot : w.root < p.nbSinks) (hsrc : w.src < p.nbSources)
    (hm : 0 < m) (hmle : m ≤ s.remCapa.getD w.root 0)
    (hP2 : ∀ k', k' < p.nbSinks → p.cost w.root w.src + d w.root ≤ p.cost k' w.src + d k') :
    Mid p alloc' qs' rem' ∧ Pot p alloc' rem' d := by
  have hl : w.src < (w.alloc.getD w.root []).length := by rw [hw.mid.shape.rows w.root hroot]; exact hsrc
  have hrl : w.root < s.remCapa.length := by rw [hw.mid.shape.rlen]; exact hroot
  -- the same `if` as in the row sums of `add2`, so that the two cancel without a case split
  have hrem : ∀ i, rem'.getD i 0 = s.remCapa.getD i 0 - if i = w.root then m else 0 := fun i => by
    rw [hr, ListFacts.getD_set _ _ i _ 0 hrl]
    split
    · rename_i e; rw [e]
    · rw [Int.sub_zero]
  have hal : ∀ i j, get2 alloc' i j = get2 w.alloc i j + (if i = w.root ∧ j = w.src then m else 0) := by
    intro i j; rw [ha, get2_add2 _ _ _ _ hl]
  have hrowne : ∀ i, i ≠ w.root → alloc'.getD i [] = w.alloc.getD i [] := by
    intro i hi; rw [ha]; exact add2_row_ne _ _ _ _ _ hi
  have hqne : ∀ i, i ≠ w.root → qs'.getD i #[] = w.queues.getD i #[] := by
    intro i hi
    rw [hq]
    split
    · rw [getD_setIfInBounds, if_neg fun e => hi e.1]
    · rfl
  refine ⟨⟨⟨fun i hi => ?_, ?_, ?_⟩, fun i j => ?_, fun i hi hf => ?_, fun i => ?_, fun i => ?_⟩,
    ⟨hw.pot.nn, fun i hi hf => ?_, fun i j k hi hj hk hpos => ?_⟩⟩
  · rw [ha, add2_row_len]; exact hw.mid.shape.rows i hi
  · rw [hq]
    split
    · rw [Array.size_setIfInBounds]; exact hw.mid.shape.qsize
    · exact hw.mid.shape.qsize
  · rw [hr, List.length_set]; exact hw.mid.shape.rlen
  · rw [hal]
    have := hw.mid.nn i j
    split <;> omega
  · by_cases e : i = w.root
    · subst e
      have hc : (rem'.getD w.root 0 == 0) = true := by rw [hf]; rfl
      rw [hq, if_pos hc]
      exact initQueues_row p alloc' w.queues w.root (by rw [hw.mid.shape.qsize]; exact hroot)
    · rw [hrem, if_neg e, Int.sub_zero] at hf
      exact (hw.mid.qrow i hi hf).congr (hrowne i e) (hqne i e)
  · rw [hr]
    exact ListFacts.getD_set_prop (0 ≤ ·) i 0 (by omega) (hw.mid.rnn i)
  · have e1 := (add2?_sums (add2?_ok p.nbSinks p.nbSources w.alloc w.root w.src m hroot hsrc hl)).2 i
    rw [ha, e1, hrem]
    have := hw.mid.row i
    omega
  · rw [hrem] at hf
    exact hw.pot.free i hi (by split at hf <;> omega)
  · rw [hal] at hpos
    by_cases e : i = w.root ∧ j = w.src
    · rw [e.1, e.2]; exact hP2 k hk
    · rw [if_neg e] at hpos
      exact hw.pot.red i j k hi hj hk (by omega)

lemma finishSend_total (p : Problem) (s : St) (queues : Queues) (root : Nat) (nu : Bool) (alloc' : Mat)
    (rem' : List Int) (m : Int) (qs' : Queues) (d : Nat → Int)
    (hq : qs' = if rem'.getD root 0 == 0 then queues.setIfInBounds root (initQueues p alloc' root) else queues)
    (hmid : Mid p alloc' qs' rem') (hpot : Pot p alloc' rem' d) (hdle : ∀ i, i < p.nbSinks → d i ≤ Wmax)
    (hcb : CostBound p) (hcap : ∀ i, i < p.nbSinks → 0 < p.capacity i) (hroot : root < p.nbSinks)
    (hlazy : nu = false → ¬ rem'.getD root 0 = 0 → (∃ f, f < p.nbSinks ∧ rem'.getD f 0 > 0) →
      TreeOK p alloc' queues rem' s.sendCost s.parent) :
    ∃ s', finishSend p s queues root nu alloc' rem' m = .ok (s', m) ∧
      ((∀ i j, i < p.nbSinks → j < p.nbSources → 0 ≤ p.cost i j) →
        finishSendC p s queues root nu alloc' rem' m = .ok (s', m)) ∧ Good p s' ∧ s'.remCapa = rem' := by
  have im : intMax = 2147483647 := rfl
  unfold finishSend finishSendC
  simp only []
  rw [← hq]
  have hqs : (if rem'.getD root 0 == 0 then
        (.ok (queues.setIfInBounds root (initQueues p alloc' root)) : Except Fault Queues)
      else .ok queues) = .ok qs' := by
    rw [hq]; split <;> rfl
  by_cases hc : (nu || rem'.getD root 0 == 0) = true
  · rw [if_pos hc]
    obtain ⟨t, ht, htree⟩ := updateTree_total p alloc' qs' rem' d hmid hpot hdle hcb hcap
    rw [ht]
    refine ⟨_, rfl, fun hnn => ?_, ⟨hmid, ⟨d, hpot⟩, htree⟩, rfl⟩
    obtain ⟨t', hC, hU, _⟩ := updateTreeC_at_mid p alloc' qs' rem' d hmid hpot
      (fun i hi => by have := hdle i hi; unfold Wmax at this; omega) Cmax (hcb.range hnn)
      (by unfold Cmax; omega) (by unfold Cmax; omega) hcap
    obtain rfl : t = t' := Except.ok.inj (ht.symm.trans hU)
    rw [initQueuesC_ok p alloc' root hroot (hcb.range hnn)]
    simp only [hqs, if_pos hc, hC]
  · rw [if_neg hc]
    have hc' : (nu || rem'.getD root 0 == 0) = false := by simpa using hc
    obtain ⟨h1, h2⟩ := Bool.or_eq_false_iff.mp hc'
    have h3 : ¬ rem'.getD root 0 = 0 := by simpa using h2
    have hqq : qs' = queues := by rw [hq, h2]; rfl
    refine ⟨_, rfl, fun hnn => ?_, ⟨hmid, ⟨d, hpot⟩, fun hfree => hqq ▸ hlazy h1 h3 hfree⟩, rfl⟩
    rw [initQueuesC_ok p alloc' root hroot (hcb.range hnn)]
    simp only [hqs, if_neg hc]

/-- what the checked run needs on top of `CostBound`: non-negative stored costs, capacities at most `2^61` -/
def RunFits (p : Problem) : Prop :=
  (∀ i j, i < p.nbSinks → j < p.nbSources → 0 ≤ p.cost i j) ∧ ∀ i, i < p.nbSinks → p.capacity i ≤ Qmax

lemma sendSource3_total (p : Problem) (hcb : CostBound p) (hcap : ∀ i, i < p.nbSinks → 0 < p.capacity i)
    (s : St) (src : Nat) (q : Int) (hg : Good p s) (hsrc : src < p.nbSources)
    (hq : 0 < q) (hfree : ∃ f, f < p.nbSinks ∧ s.remCapa.getD f 0 > 0) :
    ∃ s' m, sendSource3 p s src (bestSink p s.sendCost src) q = .ok (s', m) ∧
      (RunFits p → q ≤ Qmax → sendSource3C p s src (bestSink p s.sendCost src) q = .ok (s', m)) ∧
      Good p s' ∧ 0 < m ∧ m ≤ q ∧
      sumTo p.nbSinks (fun i => s'.remCapa.getD i 0) = sumTo p.nbSinks (fun i => s.remCapa.getD i 0) - m := by
  have tr := hg.tree hfree
  have hn : 0 < p.nbSinks := by obtain ⟨f, hf, _⟩ := hfree; omega
  obtain ⟨hsink, hP2⟩ := bestSink_spec p s.sendCost src hn
    (fun i hi => hcb.sum i src hi hsrc _ (tr.le i hi))
  obtain ⟨k, hk, hdep⟩ := tr.depth _ hsink
  have hedgeM : ∀ i k, i < p.nbSinks → s.parent.getD i none = some k →
      k < p.nbSinks ∧ 0 < (qget s.queues i k).size ∧ 0 < get2 s.alloc i (hget (qget s.queues i k) 0).elt := by
    intro i k hi hpar
    obtain ⟨hf, hk, hne, _⟩ := tr.edge i k hi hpar
    exact ⟨hk, hg.mid.qnonempty hcap i k hi hk hne hf, (hg.mid.top hcap i k hi hk hne hf).2.2⟩
  obtain ⟨ms, root, hms, hmspos, hrootn, hrootpar⟩ :=
    maxSentLoop_total s.alloc s.queues s.parent p.nbSinks hedgeM k (p.nbSinks + 1) _ q hdep (by omega) hsink hq
  have hrootfree := tr.root root hrootn hrootpar
  have hm : min ms (s.remCapa.getD root 0) > 0 := by
    show 0 < min ms (s.remCapa.getD root 0)
    rw [lt_min_iff]; exact ⟨hmspos, hrootfree⟩
  have hw0 : WInv p s (fun i => s.sendCost.getD i 0) s.alloc s.queues false :=
    ⟨hg.mid, tr.pot, fun i k hi hpar _ => (tr.edge i k hi hpar).2.2.2⟩
  obtain ⟨w, hwok, hwokC, hw, hwroot, hwsrc, hwrootn, hP2f⟩ :=
    sendLoop_total p s (fun i => s.sendCost.getD i 0) _ hm hcap tr.edge (p.nbSinks + 1) k _ q ms root
      s.alloc s.queues src false hms (min_le_left _ _) hdep hsink hsrc .refl hw0
      (fun k' hk' => hP2 k' hk')
  have hl : w.src < (w.alloc.getD w.root []).length := by rw [hw.mid.shape.rows w.root hwrootn]; exact hwsrc
  have hrl : w.root < s.remCapa.length := by rw [hg.mid.shape.rlen]; exact hwrootn
  have hmle : min ms (s.remCapa.getD root 0) ≤ s.remCapa.getD w.root 0 := by rw [hwroot]; exact min_le_right _ _
  obtain ⟨hmid', hpot'⟩ := sendSource3_root_mid p s (fun i => s.sendCost.getD i 0) w (min ms (s.remCapa.getD root 0))
    _ _ _ rfl rfl rfl hw hwrootn hwsrc hm hmle hP2f
  obtain ⟨s', hfin, hfinC, hgood, e3⟩ := finishSend_total p s w.queues w.root w.needUpdate _ _
    (min ms (s.remCapa.getD root 0)) _ (fun i => s.sendCost.getD i 0) rfl hmid' hpot' tr.le hcb hcap hwrootn
    (by
      -- the root keeps capacity, so the roots and the full sinks of the tree are those of before
      intro hnu hnz _
      rw [ListFacts.getD_set_eq _ _ _ 0 hrl] at hnz
      refine ⟨hpot', tr.le, fun i hi hpar => ListFacts.getD_set_prop (· > 0) i 0 (by omega) (tr.root i hi hpar),
        fun i k hi hpar => ?_, tr.depth⟩
      obtain ⟨hf, hk, hne, _⟩ := tr.edge i k hi hpar
      refine ⟨?_, hk, hne, hw.tight i k hi hpar hnu⟩
      rw [ListFacts.getD_set_ne _ _ _ _ 0 (by rintro e; rw [← e, hwroot] at hf; omega)]; exact hf)
  have hok : sendSource3 p s src (bestSink p s.sendCost src) q
      = .ok (s', min ms (s.remCapa.getD root 0)) := by
    simp only [sendSource3, hms, hm, if_true, hwok,
      add2?_ok p.nbSinks p.nbSources w.alloc w.root w.src _ hwrootn hwsrc hl, hrl]
    exact hfin
  have hmq : min ms (s.remCapa.getD root 0) ≤ q :=
    (min_le_left _ _).trans (maxSentLoop_eq_ok hms).1
  refine ⟨s', _, hok, fun hf hqQ => ?_, hgood, hm, hmq, ?_⟩
  · obtain ⟨hent, hrem⟩ := hw.mid.ranges (hf.2 w.root hwrootn)
    have hmr : 0 ≤ min ms (s.remCapa.getD root 0) ∧ min ms (s.remCapa.getD root 0) ≤ Qmax :=
      ⟨Int.le_of_lt hm, hmq.trans hqQ⟩
    have hfit1 : fitsInt64 (get2 w.alloc w.root w.src + min ms (s.remCapa.getD root 0)) :=
      between_mono (add_between (hent w.src hwsrc) hmr)
    have hfit2 : fitsInt64 (s.remCapa.getD w.root 0 - min ms (s.remCapa.getD root 0)) :=
      between_mono (sub_between hrem hmr)
    simp only [sendSource3C, hms, hm, if_true, hwokC ⟨hcb.range hf.1, hf.2, hmr.2⟩,
      addI64, subI64, chk64_ok hfit1, chk64_ok hfit2,
      add2?_ok p.nbSinks p.nbSources w.alloc w.root w.src _ hwrootn hwsrc hl, hrl]
    exact hfinC hf.1
  · rw [e3, sumTo_set _ _ _ _ hwrootn hrl]; omega

lemma sendSourceLoop_total (p : Problem) (hcb : CostBound p) (hcap : ∀ i, i < p.nbSinks → 0 < p.capacity i)
    (src : Nat) (hsrc : src < p.nbSources) :
    ∀ (fuel : Nat) (s : St) (rem : Int),
      Good p s → 0 ≤ rem → rem ≤ fuel → rem ≤ sumTo p.nbSinks (fun i => s.remCapa.getD i 0) →
      ∃ s', sendSourceLoop p src fuel s rem = .ok s' ∧
        (RunFits p → rem ≤ Qmax → sendSourceLoopC p src fuel s rem = .ok s') ∧
        Good p s' ∧
        sumTo p.nbSinks (fun i => s'.remCapa.getD i 0) = sumTo p.nbSinks (fun i => s.remCapa.getD i 0) - rem := by
  have hQ : Qmax = 2305843009213693952 := rfl
  intro fuel
  induction fuel with
  | zero =>
    intro s rem hg h0 hf _
    obtain rfl : rem = 0 := by omega
    exact ⟨s, by simp [sendSourceLoop], fun _ _ => by simp [sendSourceLoopC], hg, by omega⟩
  | succ fuel ih =>
    intro s rem hg h0 hf hb
    unfold sendSourceLoop sendSourceLoopC
    by_cases hpos : rem > 0
    · rw [if_pos hpos, if_pos hpos]
      have hfree : ∃ f, f < p.nbSinks ∧ s.remCapa.getD f 0 > 0 :=
        sumTo_pos_exists p.nbSinks (fun i => s.remCapa.getD i 0) (by omega)
      obtain ⟨s1, m, hok, hokC, hg1, hm0, hmq, hbud⟩ := sendSource3_total p hcb hcap s src rem hg hsrc hpos hfree
      have hm' : m > 0 := hm0
      obtain ⟨s', hok', hokC', hg', hbud'⟩ := ih s1 (rem - m) hg1 (by omega) (by push_cast at hf ⊢; omega) (by omega)
      refine ⟨s', ?_, fun hfit hrQ => ?_, hg', by omega⟩
      · rw [hok]
        simp only []
        rw [if_pos hm']
        exact hok'
      · have hsub : fitsInt64 (rem - m) := by unfold fitsInt64; omega
        have tr := hg.tree hfree
        rw [bestSinkC_ok p s.sendCost src Wmax Cmax (fun i hi => ⟨tr.pot.nn i hi, tr.le i hi⟩)
          (fun i hi => hcb.range hfit.1 i src hi hsrc) (by decide)]
        simp only []
        rw [hokC hfit hrQ]
        simp only [if_pos hm', subI64, chk64_ok hsub]
        exact hokC' hfit (by omega)
    · rw [if_neg hpos, if_neg hpos]
      obtain rfl : rem = 0 := by omega
      exact ⟨s, rfl, fun _ _ => rfl, hg, by omega⟩

lemma runSources_total (p : Problem) (hcb : CostBound p) (hcap : ∀ i, i < p.nbSinks → 0 < p.capacity i)
    (hdem : ∀ j, 0 ≤ p.demand j) :
    ∀ (L : List Nat) (s : St),
      Good p s → (∀ j, j ∈ L → j < p.nbSources) →
      (L.map p.demand).sum ≤ sumTo p.nbSinks (fun i => s.remCapa.getD i 0) →
      ∃ s', runSources p L s = .ok s' ∧
        (RunFits p → (∀ j, p.demand j ≤ Qmax) → runSourcesC p L s = .ok s') ∧
        Good p s' := by
  intro L
  induction L with
  | nil =>
    intro s hg _ _
    exact ⟨s, rfl, fun _ _ => rfl, hg⟩
  | cons a L ih =>
    intro s hg hL hb
    simp only [List.map_cons, List.sum_cons] at hb
    have hLnn : 0 ≤ (L.map p.demand).sum := ListFacts.sum_nonneg_int _ fun d hd => by
      obtain ⟨b, _, rfl⟩ := List.mem_map.1 hd
      exact hdem b
    obtain ⟨s1, hok1, hokC1, hg1, hbud1⟩ := sendSourceLoop_total p hcb hcap a (hL a (by simp)) (p.demand a).toNat s
      (p.demand a) hg (hdem a) (by rw [Int.toNat_of_nonneg (hdem a)]) (by omega)
    obtain ⟨s', hok', hokC', hg'⟩ := ih s1 hg1 (fun j hj => hL j (by simp [hj])) (by omega)
    refine ⟨s', ?_, fun hfit hdemQ => ?_, hg'⟩
    · unfold runSources sendSource
      rw [hok1]
      exact hok'
    · unfold runSourcesC sendSourceC
      rw [hokC1 hfit (hdemQ a)]
      exact hokC' hfit hdemQ

lemma zeroAlloc_row (p : Problem) (i : Nat) (hi : i < p.nbSinks) : (p.zeroAlloc.getD i []).length = p.nbSources := by
  unfold Problem.zeroAlloc
  simp [List.getD_eq_getElem?_getD, hi]

lemma initSt_good (p : Problem) (hcap : ∀ i, i < p.nbSinks → 0 < p.capacity i) (hc0 : ∀ i, 0 ≤ p.capacity i) :
    Good p (initSt p) := by
  have hinv := initSt_flow p hc0
  have hz : ∀ i j, ¬ 0 < get2 (initSt p).alloc i j := by
    intro i j; simp [initSt, get2_zeroAlloc]
  have hpot : Pot p (initSt p).alloc (initSt p).remCapa (fun _ => 0) :=
    ⟨fun _ _ => le_refl _, fun _ _ _ => rfl, fun i j k _ _ _ hpos => absurd hpos (hz i j)⟩
  have sc : ∀ i, (initSt p).sendCost.getD i 0 = 0 := fun i => ListFacts.getD_replicate _ i 0
  have pa : ∀ i, (initSt p).parent.getD i none = none := fun i => ListFacts.getD_replicate _ i none
  refine ⟨⟨⟨fun i hi => zeroAlloc_row p i hi, by simp [initSt], rfl⟩,
      fun i j => by simp [initSt, get2_zeroAlloc], fun i hi hf => ?_, hinv.rem, hinv.row⟩,
    ⟨_, hpot⟩, fun _ => ⟨⟨fun i _ => (sc i).ge, fun i _ _ => sc i,
        fun i j k _ _ _ hpos => absurd hpos (hz i j)⟩,
      fun i _ => (sc i).le.trans Wmax_nn, fun i hi _ => hcap i hi,
      fun i k _ hpar => absurd ((pa i).symm.trans hpar) (by simp), fun i hi => ⟨0, by omega, pa i⟩⟩⟩
  have := hcap i hi
  have e : (initSt p).remCapa.getD i 0 = p.capacity i := rfl
  omega

lemma all_pos_getD (l : List Int) (h : l.all (fun d => decide (0 < d)) = true) (i : Nat) (hi : i < l.length) :
    0 < l.getD i 0 := by
  rw [List.all_eq_true] at h
  have := h (l[i]) (List.getElem_mem hi)
  simp only [decide_eq_true_eq] at this
  simpa [List.getD_eq_getElem?_getD, hi] using this

lemma check_pos (p : Problem) (h : p.check = true) :
    (∀ i, i < p.nbSinks → 0 < p.capacity i) ∧ (∀ j, j < p.nbSources → 0 < p.demand j) := by
  unfold Problem.check at h
  simp only [Bool.and_eq_true] at h
  obtain ⟨⟨⟨⟨⟨h1, h2⟩, _⟩, _⟩, _⟩, _⟩ := h
  exact ⟨fun i hi => all_pos_getD _ h2 i hi, fun j hj => all_pos_getD _ h1 j hj⟩

lemma getD_nonneg_of_pos (l : List Int) (h : ∀ i, i < l.length → 0 < l.getD i 0) (i : Nat) : 0 ≤ l.getD i 0 := by
  by_cases hi : i < l.length
  · exact le_of_lt (h i hi)
  · exact (ListFacts.getD_of_le 0 (Nat.not_lt.mp hi)).ge

lemma getD_le_sum (l : List Int) (h : ∀ i, i < l.length → 0 < l.getD i 0) (i : Nat) : l.getD i 0 ≤ max l.sum 0 := by
  by_cases hi : i < l.length
  · have := le_sumTo (fun i => l.getD i 0) l.length i (fun k hk => le_of_lt (h k hk)) hi
    rw [sumTo_list] at this
    omega
  · have := ListFacts.getD_of_le (0 : Int) (Nat.not_lt.mp hi)
    omega

lemma mem_le_sum_of_pos (l : List Int) (h : ∀ i, i < l.length → 0 < l.getD i 0) (x : Int) (hx : x ∈ l) :
    0 ≤ x ∧ x ≤ max l.sum 0 := by
  obtain ⟨i, hi, e'⟩ := ListFacts.exists_getD_of_mem 0 hx
  have h1 := h i hi
  have h2 := getD_le_sum l h i
  omega

lemma run_total (p : Problem) (hc : p.check = true) (hb : p.totalDemand ≤ p.totalCapacity) (hcb : CostBound p) :
    ∃ s, run p = .ok s ∧
      ((∀ i j, i < p.nbSinks → j < p.nbSources → 0 ≤ p.cost i j) → p.totalCapacity ≤ Qmax → runC p = .ok s) ∧
      Good p s := by
  obtain ⟨hcap, hdem⟩ := check_pos p hc
  have hc0 : ∀ i, 0 ≤ p.capacity i := getD_nonneg_of_pos _ hcap
  have hd0 : ∀ j, 0 ≤ p.demand j := getD_nonneg_of_pos _ hdem
  have hperm : (sortedSourcesByDemand p).Perm (List.range p.nbSources) := List.mergeSort_perm _ _
  have hbud : ((sortedSourcesByDemand p).map p.demand).sum
      ≤ sumTo p.nbSinks (fun i => (initSt p).remCapa.getD i 0) := by
    rw [ListFacts.perm_sum_int (hperm.map p.demand), sum_map_range]
    have e1 : sumTo p.nbSources p.demand = p.totalDemand := sumTo_list p.demands
    have e2 : sumTo p.nbSinks (fun i => (initSt p).remCapa.getD i 0) = p.totalCapacity := sumTo_list p.capacities
    rw [e1, e2]; exact hb
  obtain ⟨s, hok, hokC, hg⟩ := runSources_total p hcb hcap hd0 (sortedSourcesByDemand p) (initSt p)
    (initSt_good p hcap hc0) (fun j hj => by simpa using (hperm.mem_iff.mp hj)) hbud
  refine ⟨s, hok, fun hnn hcQ => ?_, hg⟩
  · have hQ : Qmax = 2305843009213693952 := rfl
    have hcQ' : p.capacities.sum ≤ Qmax := hcQ
    have hbal : p.demands.sum ≤ p.capacities.sum := hb
    have hcapQ : ∀ i, i < p.nbSinks → p.capacity i ≤ Qmax := by
      intro i _
      have := getD_le_sum p.capacities hcap i
      unfold Problem.capacity
      omega
    have hdemQ : ∀ j, p.demand j ≤ Qmax := by
      intro j
      have := getD_le_sum p.demands hdem j
      unfold Problem.demand
      omega
    unfold runC
    rw [if_pos]
    · exact hokC ⟨hnn, hcapQ⟩ hdemQ
    · -- `sortedSourcesByDemand` negates every demand
      rw [List.all_eq_true]
      intro x hx
      have := mem_le_sum_of_pos p.demands hdem x hx
      simp only [decide_eq_true_eq]
      unfold fitsInt64
      omega

lemma pot_cert (p : Problem) (x : Mat) (rem : List Int) (d : Nat → Int) (hx : Feasible p x)
    (hp : Pot p x rem d) (hrow : ∀ i, rowSum x p.nbSources i + rem.getD i 0 = p.capacity i)
    (hrnn : ∀ i, 0 ≤ rem.getD i 0) :
    ∃ u v, checkCert p x u v = true := by
  -- the price of a source is its least `cost + d` over the sinks
  obtain ⟨r, hr⟩ : ∃ r : Nat → Nat, ∀ j, 0 < p.nbSinks →
      r j < p.nbSinks ∧ ∀ k, k < p.nbSinks → p.cost (r j) j + d (r j) ≤ p.cost k j + d k :=
    ⟨_, fun j => argminTo_spec (fun k => p.cost k j + d k) p.nbSinks⟩
  obtain ⟨u, hu⟩ : ∃ u : List Int, ∀ j, j < p.nbSources → u.getD j 0 = p.cost (r j) j + d (r j) :=
    ⟨_, fun j hj => ListFacts.getD_map_range_of_lt _ 0 hj⟩
  obtain ⟨v, hv⟩ : ∃ v : List Int, ∀ i, i < p.nbSinks → v.getD i 0 = d i :=
    ⟨_, fun i hi => ListFacts.getD_map_range_of_lt _ 0 hi⟩
  refine ⟨u, v, ?_⟩
  simp only [checkCert, dualOk, slackOk, Bool.and_eq_true, allTo_iff, decide_eq_true_eq]
  refine ⟨⟨(primalOk_iff p x).mpr hx, fun i hi => by rw [hv i hi]; exact hp.nn i hi, fun i hi j hj => ?_⟩,
    fun i hi j hj => ?_, fun i hi => ?_⟩
  · rw [hu j hj, hv i hi]
    have := (hr j (by omega)).2 i hi
    omega
  · by_cases h0 : get2 x i j = 0
    · left; exact h0
    · right
      rw [hu j hj, hv i hi]
      have hpos : 0 < get2 x i j := by have := hx.nonneg i j hi hj; omega
      obtain ⟨hk, hmin⟩ := hr j (by omega)
      have h1 := hp.red i j (r j) hi hj hk hpos
      have h2 := hmin i hi
      omega
  · rw [hv i hi]
    by_cases hf : rem.getD i 0 > 0
    · left; exact hp.free i hi hf
    · right
      have := hrow i; have := hrnn i; omega

lemma costBoundOk_iff (p : Problem) : costBoundOk p = true ↔ CostBound p := by
  simp only [costBoundOk, allTo_iff, Bool.and_eq_true, decide_eq_true_eq]
  constructor
  · intro h i j hi hj; exact h i hi j hj
  · intro h i hi j hj; exact h i j hi hj

/-- C13 for `solve`: it returns a plan, the plan is feasible, and the potentials left in the final state are a
certificate that `checkCert` accepts (hence minimum cost, by `cert_optimal` in `Properties/C13.lean`) -/
lemma solve_total (p : Problem) (hc : p.check = true) (hb : p.totalDemand ≤ p.totalCapacity) (hcb : CostBound p) :
    ∃ q, solve p = .ok q ∧ q.capacities = p.capacities ∧ q.demands = p.demands ∧ q.costs = p.costs ∧
      Feasible p q.allocations ∧ ∃ u v, checkCert p q.allocations u v = true := by
  obtain ⟨s, hok, _, hg⟩ := run_total p hc hb hcb
  obtain ⟨d, hpot⟩ := hg.pot
  have hq : solve p = .ok { p with allocations := s.alloc } := by unfold solve; rw [hok]
  have hfeas := run_feasible p s (getD_nonneg_of_pos _ (check_pos p hc).1)
    (getD_nonneg_of_pos _ (check_pos p hc).2) hok
  refine ⟨_, hq, rfl, rfl, rfl, hfeas, ?_⟩
  exact pot_cert p s.alloc s.remCapa d hfeas hpot hg.mid.row hg.mid.rnn

lemma increaseCapacity_wf (p : Problem) (hc : p.check = true) (hn : 0 < p.nbSinks) (hcb : CostBound p) :
    p.increaseCapacity.check = true ∧ p.increaseCapacity.totalDemand ≤ p.increaseCapacity.totalCapacity ∧
    CostBound p.increaseCapacity := by
  obtain ⟨hcov, hmono, hns, hdems, hcosts, hallocs, _⟩ := increaseCapacity_spec p hn
  have hall : p.increaseCapacity.capacities.all (fun c => decide (0 < c)) = true := by
    simp only [List.all_eq_true, decide_eq_true_eq]
    refine List.forall_mem_iff_forall_getElem.mpr fun i hi => ?_
    have h1 := (check_pos p hc).1 i (hns ▸ hi)
    have h2 := hmono i
    have e : p.increaseCapacity.capacity i = p.increaseCapacity.capacities[i] := by simp [Problem.capacity, hi]
    omega
  refine ⟨?_, hcov, ?_⟩
  · simp only [Problem.check, Problem.nbSources, Bool.and_eq_true, hdems, hcosts, hallocs, hns, hall] at hc ⊢
    tauto
  · simpa only [CostBound, Problem.nbSources, Problem.cost, hdems, hcosts, hns] using hcb

/-- 3 sinks × 3 sources; the second source is split between two sinks (the driver answers
`alloc 2 1 0 | 0 1 0 | 0 0 2`).  Kernel reduction of `solve` gets stuck on it (the well-founded `List.mergeSort` /
`pushHeapLoop` do not unfold), so only the hypotheses are evaluated here. -/
def witnessPb : Problem := Problem.make [3, 1, 2] [2, 2, 2] [[1, 2, 3], [5, 1, 4], [3, 2, 1]]

lemma witness_hyps : witnessPb.check = true ∧ witnessPb.totalDemand ≤ witnessPb.totalCapacity ∧
    costBoundOk witnessPb = true := by decide +kernel

/-- 2 sinks × 1 source, small enough for the kernel to run `solve` -/
def smallPb : Problem := Problem.make [1, 1] [1] [[3], [2]]

lemma small_solve : solve smallPb = .ok { smallPb with allocations := [[0], [1]] } := by
  decide +kernel

lemma small_cert : certifies { smallPb with allocations := [[0], [1]] } [[0], [1]] = true := by
  decide +kernel

/-- costs beyond `INT_MAX/3` (not representable sums in the C++): 2 sinks, 1 source -/
def bigCostPb : Problem := Problem.make [1, 1] [1] [[3000000000], [2500000000]]

lemma bigCost_solve : solve bigCostPb = .ok { bigCostPb with allocations := [[1], [0]] } := by
  decide +kernel

lemma bigCost_hyps : bigCostPb.check = true ∧ bigCostPb.totalDemand ≤ bigCostPb.totalCapacity := by
  decide +kernel

lemma bigCost_better : primalOk bigCostPb [[0], [1]] = true ∧
    costOf bigCostPb [[0], [1]] < costOf bigCostPb [[1], [0]] := by decide +kernel

end ColoVerif.Transp
