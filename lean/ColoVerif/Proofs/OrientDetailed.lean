import ColoVerif.Proofs.DetPlaceLegal
import ColoVerif.Proofs.OrientTable
/-
For C04 (`detailed_orient`, `detailed_orient_exported`): what `DetPlace.Inv` says about orientations (`inv_orient`),
and what a state reached from the construction on a circuit holds cell by cell (`run_fields`).  Which cells keep
their orientation along a history is `Static` / `Lg.Keep.any` (Proofs/DetPlaceFrame).
-/
namespace ColoVerif.DetPlace
open State

theorem table_any (o : Orient) : cellOrientationInRow Polarity.ANY o = Orient.UNKNOWN := rfl

theorem inv_orient {s : State} (h : Inv s) {c : Int} (hc : s.validCell c) (hp : s.row c ≠ -1) :
    s.validRow (s.row c) ∧ s.isIgnored c = false ∧ s.y c = s.rowY (s.row c) ∧
    s.isRowAllowed c (s.row c) = true ∧ s.orient c ≠ Orient.INVALID ∧
    (s.pol c ≠ Polarity.ANY → s.rowOrient (s.row c) ≠ Orient.UNKNOWN →
      s.orient c = cellOrientationInRow (s.pol c) (s.rowOrient (s.row c))) := by
  have C := h.cell hc
  unfold CellOk at C
  have C2 := C.2 hp
  have C1 := C.1 C2.1
  refine ⟨h.placed_row hc hp, by simp [isIgnored, C2.1], C2.2.2.2, by simp [isRowAllowed, C2.2.1], C1.1, ?_⟩
  intro hpol hro
  exact C2.2.2.1 (C04.table_known _ _ hpol hro)

theorem run_prefix {s t : State} : ∀ (ops1 ops2 : List Op), s.run (ops1 ++ ops2) = .ok t →
    ∃ u, s.run ops1 = .ok u ∧ u.run ops2 = .ok t := by
  intro ops1
  induction ops1 generalizing s with
  | nil => intro ops2 e; exact ⟨s, rfl, by simpa using e⟩
  | cons op ops ih =>
    intro ops2 e
    simp only [List.cons_append] at e
    unfold run at e
    split at e
    · cases e
    · rename_i v ev
      obtain ⟨u, h1, h2⟩ := ih ops2 e
      refine ⟨u, ?_, h2⟩
      simp only [run, ev]
      exact h1

theorem run_fields {c : Circuit} {s t : State} {ops : List Op} (e0 : fromIspdCircuit c = .ok s)
    (e : s.run ops = .ok t) :
    ∃ h, c.rowHeight = some h ∧ t.rows = sortRows (c.computeRows (ispdObstacles c h)) ∧
      ∀ (i : Nat) (cl : Cell), c.cells[i]? = some cl →
        t.validCell (Int.ofNat i) ∧ t.pol (Int.ofNat i) = cl.pol ∧ t.width (Int.ofNat i) = ispdWidth h cl ∧
        (cl.pol = Polarity.ANY → t.orient (Int.ofNat i) = cl.orient) ∧
        (ispdWidth h cl = -1 → t.orient (Int.ofNat i) = cl.orient) := by
  obtain ⟨h, hrh, hn, hrows, hf⟩ := fromIspdCircuit_cell e0
  have k := run_static e
  refine ⟨h, hrh, k.rows.trans hrows, fun i cl hcl => ?_⟩
  obtain ⟨hw, _, _, ho, hp⟩ := hf i cl hcl
  refine ⟨?_, k.pol ▸ hp, k.width ▸ hw, fun hany => (k.any (hp.trans hany)).trans ho,
    fun hm => (k.ignored _ (hw.trans hm)).2.2.trans ho⟩
  have := (List.getElem?_eq_some_iff.mp hcl).1
  unfold validCell
  rw [k.nCells, hn]
  simp only [Int.ofNat_eq_natCast]
  omega

end ColoVerif.DetPlace
