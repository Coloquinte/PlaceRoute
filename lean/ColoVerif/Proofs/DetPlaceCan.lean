import ColoVerif.Proofs.DetPlaceInv
/-
`canPlace` succeeds inside `insert` and `swap` (C02 `insert_never_throws`, `swap_never_throws`): on a state that
satisfies `Inv`, a move that `canInsert` / `canSwap` accepts is carried out — the `place` calls inside find their
site exactly as the feasibility test computed it, and the midpoint of a wide enough site lies inside it
(`midpoint_ok`; `Int.tdiv` is the truncating division of the C++).
-/
namespace ColoVerif.DetPlace
open State

theorem tdiv_two_of_nonpos {v : Int} (hs : v ≤ 0) : v.tdiv 2 = -((-v) / 2) := by
  have := Int.neg_tdiv (-v) 2
  rw [Int.neg_neg] at this
  rw [this, Int.tdiv_eq_ediv_of_nonneg (by omega)]

theorem midpoint_ok (b e w : Int) (h : b ≤ e - w) : b ≤ (b + e - w).tdiv 2 ∧ (b + e - w).tdiv 2 + w ≤ e := by
  rcases Int.le_total 0 (b + e - w) with hs | hs
  · rw [Int.tdiv_eq_ediv_of_nonneg hs]; omega
  · rw [tdiv_two_of_nonpos hs]; omega

theorem place_succeeds {s : State} {c r p x : Int} (hnp : s.row c = -1) (hal : s.isRowAllowed c r = true)
    (h1 : s.siteBegin r p ≤ x) (h2 : x + s.width c ≤ s.siteEnd r p) :
    s.place c r p x = .ok (s.placeRaw c r p x) := by
  unfold place canPlace
  have : s.isPlaced c = false := by simp [isPlaced, hnp]
  simp [this, hal, h1, h2]

section
variable {s : State} {c r p r' p' x : Int}

theorem Inv.unplace_siteNext (h : Inv s) (hc : s.validCell c) (hs : Site s r p) (hpc : p ≠ c) :
    (s.unplace c).siteNext r p = if s.siteNext r p = c then s.next c else s.siteNext r p := by
  obtain ⟨hr, rfl | ⟨hv, rfl⟩⟩ := hs
  · exact h.unplace_rowFirst hc hr
  · rw [siteNext_cell (validCell_ne hv), siteNext_cell (validCell_ne hv)]
    exact h.unplace_next hc hv hpc

theorem placeRaw_siteNext_self (s : State) (hc : c ≠ -1) :
    (s.placeRaw c r p x).siteNext r' c = s.siteNext r p := by
  rw [siteNext_cell hc]
  exact placeRaw_next_self s c r p x

theorem placeRaw_siteNext_of_ne (s : State) (hpc : p' ≠ c) (hne : ¬(p' = p ∧ (p = -1 → r' = r))) :
    (s.placeRaw c r p x).siteNext r' p' = s.siteNext r' p' := by
  by_cases hp : p' = -1
  · subst hp
    show (if p = -1 ∧ r' = r then c else s.rowFirst r') = s.rowFirst r'
    exact if_neg fun a => hne ⟨a.1.symm, fun _ => a.2⟩
  · rw [siteNext_cell hp, siteNext_cell hp, placeRaw_next_of_ne hp hpc]
    exact if_neg fun a => hne ⟨a, fun b => absurd (a.trans b) hp⟩

theorem Inv.site_inj (h : Inv s) {c1 c2 : Int} (h1 : s.validCell c1) (h2 : s.validCell c2)
    (r1 : s.row c1 ≠ -1) (r2 : s.row c2 ≠ -1) (ep : s.pred c1 = s.pred c2)
    (er : s.pred c2 = -1 → s.row c1 = s.row c2) : c1 = c2 := by
  have a := h.siteNext_pred h1 r1
  have b := h.siteNext_pred h2 r2
  rw [ep] at a
  by_cases hp : s.pred c2 = -1
  · rw [er hp] at a
    exact a.symm.trans b
  · rw [siteNext_cell hp] at a b
    exact a.symm.trans b

end

theorem Inv.fits {s : State} (h : Inv s) {c : Int} (hc : s.validCell c) (hp : s.row c ≠ -1) :
    s.boundaryBefore c ≤ s.x c ∧ s.x c + s.width c ≤ s.boundaryAfter c := (h.link hc).fits hp

theorem insert_succeeds {s : State} (h : Inv s) {c r p : Int} (hl : s.liveCell c = true) (hs : s.siteOk r p = true)
    (hcan : s.canInsert c r p = .ok true) : ∃ t, s.insert c r p = .ok t := by
  rw [liveCell_iff] at hl
  rw [siteOk_iff] at hs
  obtain ⟨hp, hcp, hsite, hal, hw⟩ := canInsert_true hcan
  -- the site is not the one `c` leaves, so taking `c` out does not change it
  have hnext : (s.unplace c).siteNext r p = s.siteNext r p := by
    rw [h.unplace_siteNext hl.1 hs (Ne.symm hcp)]
    exact if_neg fun a => hsite ((h.siteNext_eq_iff hs hl.1).1 a)
  have he : (s.unplace c).siteEnd r p = s.siteEnd r p := by
    unfold siteEnd
    rw [hnext]
    rfl
  have hm := midpoint_ok (s.siteBegin r p) (s.siteEnd r p) (s.width c) (by omega)
  have hx : (s.positionOnInsert c r p).1 = (s.siteBegin r p + s.siteEnd r p - s.width c).tdiv 2 :=
    congrArg (Int.tdiv · 2) (by omega)
  unfold State.insert
  rw [hcan]
  exact ⟨_, place_succeeds (if_pos rfl) hal (by rw [hx]; exact hm.1) (by rw [he, hx]; exact hm.2)⟩

section
variable {s : State} {c1 c2 a b : Int}

/-- With both cells of a swap out, the site that `b` left runs on to the old successor of `b`, or to that of `a`
when `a` was this successor.  The two cells play mirror roles: `a` is either of them and `b` the other. -/
theorem Inv.swap_siteNext (h : Inv s) (va : s.validCell a) (vb : s.validCell b) (ra : s.row a ≠ -1) (rb : s.row b ≠ -1)
    (hne : a ≠ b) (hab : (a = c1 ∧ b = c2) ∨ (a = c2 ∧ b = c1)) (hn : s.pred b ≠ a) :
    ((s.unplace c1).unplace c2).siteNext (s.row b) (s.pred b) = if s.pred a = b then s.next a else s.next b := by
  have S := h.site_pred vb rb
  have pb := h.pred_ne vb rb
  rw [if_iff_congr (h.next_eq_iff vb va).symm]
  rcases hab with ⟨rfl, rfl⟩ | ⟨rfl, rfl⟩
  · rw [(unplace_inv h va ra).unplace_siteNext vb (S.unplace hn) pb, h.unplace_siteNext va S hn, h.siteNext_pred vb rb,
      if_neg hne.symm, if_pos rfl]
    exact h.unplace_next va vb hne.symm
  · rw [(unplace_inv h vb rb).unplace_siteNext va (S.unplace pb) hn, h.unplace_siteNext vb S pb, h.siteNext_pred vb rb,
      if_pos rfl, h.unplace_next vb va hne, if_neg fun e => hn ((h.next_eq_iff va vb).1 e)]

/-- the two neighbour branches of `swap`, `b` the predecessor of `a`: `a` takes the abscissa of `b`, and `b` goes
right behind it -/
theorem swap_adjacent (h : Inv s) (va : s.validCell a) (vb : s.validCell b) (ra : s.row a ≠ -1) (rb : s.row b ≠ -1)
    (hab : (a = c1 ∧ b = c2) ∨ (a = c2 ∧ b = c1))
    (ala : s.isRowAllowed a (s.row b) = true) (alb : s.isRowAllowed b (s.row a) = true) (hp : s.pred a = b) :
    ∃ v, ((((s.unplace c1).unplace c2).place a (s.row b) (s.pred b) (s.x b)).bind
      fun u => u.place b (s.row a) a (s.x b + s.width a)) = .ok v := by
  have hne : a ≠ b := fun e => h.pred_ne va ra (hp.trans e.symm)
  have ane := validCell_ne va
  obtain ⟨ua, ub⟩ : ((s.unplace c1).unplace c2).row a = -1 ∧ ((s.unplace c1).unplace c2).row b = -1 := by
    rcases hab with ⟨rfl, rfl⟩ | ⟨rfl, rfl⟩
    · exact ⟨(if_neg hne).trans (if_pos rfl), if_pos rfl⟩
    · exact ⟨if_pos rfl, (if_neg hne.symm).trans (if_pos rfl)⟩
  have D := (h.link va).ofPred ra (by rw [hp]; exact validCell_ne vb)
  rw [hp] at D
  have e := h.swap_siteNext va vb ra rb hne hab (h.no_two_cycle va vb ra rb hp)
  rw [if_pos hp] at e
  -- `a`, then `b`, fit between the old predecessor of `b` and the old successor of `a`
  have w := h.placed_width vb rb
  have B : s.x b + s.width a + s.width b ≤ if s.next a = -1 then s.rowMaxX (s.row b) else s.x (s.next a) := by
    have := (h.fits va ra).2
    rw [boundaryAfter, ← D.2.1] at this
    exact Int.le_trans (show _ ≤ s.x a + s.width a by omega) this
  rw [← D.2.1, place_succeeds ua ala (h.fits vb rb).1
    (by rw [siteEnd, e]; exact Int.le_trans (Int.le_add_of_nonneg_right (Int.le_of_lt w)) B)]
  refine ⟨_, place_succeeds ((if_neg hne.symm).trans ub) (D.2.1 ▸ alb) ?_ ?_⟩
  · rw [siteBegin, if_neg ane, placeRaw_x, if_pos rfl]
    exact Int.le_refl _
  · rw [siteEnd, placeRaw_siteNext_self _ ane, placeRaw_x, e, if_neg (h.next_ne va ra)]
    exact B

end

theorem swap_succeeds {s : State} (h : Inv s) {c1 c2 : Int} (hl1 : s.liveCell c1 = true) (hl2 : s.liveCell c2 = true)
    (hcan : s.canSwap c1 c2 = .ok true) : ∃ t, s.swap c1 c2 = .ok t := by
  rw [liveCell_iff] at hl1 hl2
  obtain ⟨hv1, -⟩ := hl1
  obtain ⟨hv2, -⟩ := hl2
  obtain ⟨r1, r2, h12, al1, al2, hfit⟩ := canSwap_true hcan
  unfold State.swap positionsOnSwap
  rw [hcan]
  dsimp only
  by_cases hadj1 : s.pred c1 = c2
  · simp only [if_pos hadj1]
    exact swap_adjacent h hv1 hv2 r1 r2 (.inl ⟨rfl, rfl⟩) al1 al2 hadj1
  by_cases hadj2 : s.pred c2 = c1
  · simp only [if_neg hadj1, if_pos hadj2]
    exact swap_adjacent h hv2 hv1 r2 r1 (.inr ⟨rfl, rfl⟩) al2 al1 hadj2
  -- apart (or in two rows): both go to the middle of the other's site
  simp only [if_neg hadj1, if_neg hadj2]
  have hf := (hfit.resolve_left hadj1).resolve_left hadj2
  have m1 := midpoint_ok (s.boundaryBefore c2) (s.boundaryAfter c2) (s.width c1) (by omega)
  have m2 := midpoint_ok (s.boundaryBefore c1) (s.boundaryAfter c1) (s.width c2) (by omega)
  have e2 := h.swap_siteNext hv1 hv2 r1 r2 h12 (.inl ⟨rfl, rfl⟩) hadj2
  rw [if_neg hadj1] at e2
  have e1 := h.swap_siteNext hv2 hv1 r2 r1 h12.symm (.inr ⟨rfl, rfl⟩) hadj1
  rw [if_neg hadj2] at e1
  have pn1 := h.pred_ne hv1 r1
  rw [place_succeeds (s := (s.unplace c1).unplace c2) ((if_neg h12).trans (if_pos rfl)) al1 m1.1
    (by rw [siteEnd, e2]; exact m1.2)]
  refine ⟨_, place_succeeds ((if_neg h12.symm).trans (if_pos rfl)) al2 ?_ ?_⟩
  · rw [siteBegin, placeRaw_x, if_neg pn1]
    exact m2.1
  · rw [siteEnd, placeRaw_siteNext_of_ne _ pn1 fun a => h12 (h.site_inj hv1 hv2 r1 r2 a.1 a.2), e1, placeRaw_x,
      if_neg (h.next_ne hv1 r1)]
    exact m2.2

theorem step_insert_succeeds {s : State} (h : Inv s) {c r p : Int} (hl : s.liveCell c = true) (hs : s.siteOk r p = true)
    (hcan : s.canInsert c r p = .ok true) : ∃ t, s.step (.insert c r p) = .ok t ∧ Inv t := by
  obtain ⟨t, e⟩ := insert_succeeds h hl hs hcan
  have e' : s.step (.insert c r p) = .ok t := by simp only [step, hl, hs, Bool.and_self, if_true]; exact e
  exact ⟨t, e', step_inv h e'⟩

theorem step_swap_succeeds {s : State} (h : Inv s) {c1 c2 : Int} (hl1 : s.liveCell c1 = true) (hl2 : s.liveCell c2 = true)
    (hcan : s.canSwap c1 c2 = .ok true) : ∃ t, s.step (.swap c1 c2) = .ok t ∧ Inv t := by
  obtain ⟨t, e⟩ := swap_succeeds h hl1 hl2 hcan
  have e' : s.step (.swap c1 c2) = .ok t := by simp only [step, hl1, hl2, Bool.and_self, if_true]; exact e
  exact ⟨t, e', step_inv h e'⟩

end ColoVerif.DetPlace
