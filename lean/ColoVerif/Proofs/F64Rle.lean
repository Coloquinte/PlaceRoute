import ColoVerif.Proofs.F64
/-
Error analysis of a chain of binary64 operations on non-negative values: the relation `Rle a b x y`
("`x ≤ y` up to `a` roundings upwards and `b` downwards"), closed under the rational operations with the
exponents added, and its two atoms `f64_rle`, `rle_f64` (one rounding in the normal range).
-/
namespace ColoVerif.F64

/-- `2^-53`, the unit roundoff of binary64 -/
def u53 : Rat := (2 : Rat) ^ (-53 : Int)

theorem u53_eq : u53 = (2 : Rat) ^ (-53 : Int) := rfl
theorem u53_pos : 0 < u53 := z2_pos _
theorem u53_lt_one : u53 < 1 := by rw [u53_eq, two_zpow_neg53]; norm_num

/-- `0 ≤ x` and `x·(1−u)^b ≤ y·(1+u)^a` for `u = 2^-53`: every bound of a chain of `double` operations on
non-negative values has this form, `x` or `y` being the computed value.  `u` is fixed and this is a structure,
not a `def` with `u` as an argument: the unifier would unfold a `def` and evaluate `(1−u)^b` over `Rat`
whenever two exponents fail to match. -/
structure Rle (a b : Nat) (x y : Rat) : Prop where
  nn : 0 ≤ x
  le : x * (1 - u53) ^ b ≤ y * (1 + u53) ^ a

namespace Rle
variable {x y z x' y' : Rat} {a b a' b' : Nat}

theorem p_pos (a : Nat) : 0 < (1 + u53) ^ a := pow_pos (by linarith [u53_pos]) a
theorem q_pos (b : Nat) : 0 < (1 - u53) ^ b := pow_pos (by linarith [u53_lt_one]) b

theorem nn' (h : Rle a b x y) : 0 ≤ y :=
  le_of_mul_le_mul_right ((zero_mul _).trans_le ((mul_nonneg h.nn (q_pos b).le).trans h.le)) (p_pos a)

theorem of_le (hx : 0 ≤ x) (h : x ≤ y) : Rle 0 0 x y := ⟨hx, by simpa using h⟩

theorem refl (hx : 0 ≤ x) : Rle 0 0 x x := of_le hx le_rfl

theorem up_iff (hx : 0 ≤ x) : Rle a 0 x y ↔ x ≤ y * (1 + u53) ^ a :=
  ⟨fun h => by simpa using h.le, fun h => ⟨hx, by simpa using h⟩⟩

theorem down (h : Rle 0 b x y) : x * (1 - u53) ^ b ≤ y := by simpa using h.le

theorem mul_one_add (hx : 0 ≤ x) : Rle 1 0 (x * (1 + u53)) x :=
  ⟨mul_nonneg hx (by linarith [u53_pos]), by rw [pow_zero, mul_one, pow_one]⟩

theorem trans (h : Rle a b x y) (h' : Rle a' b' y z) : Rle (a + a') (b + b') x z := by
  refine ⟨h.nn, ?_⟩
  calc x * (1 - u53) ^ (b + b') = x * (1 - u53) ^ b * (1 - u53) ^ b' := by rw [pow_add, mul_assoc]
    _ ≤ y * (1 + u53) ^ a * (1 - u53) ^ b' := mul_le_mul_of_nonneg_right h.le (q_pos b').le
    _ = y * (1 - u53) ^ b' * (1 + u53) ^ a := mul_right_comm _ _ _
    _ ≤ z * (1 + u53) ^ a' * (1 + u53) ^ a := mul_le_mul_of_nonneg_right h'.le (p_pos a).le
    _ = z * (1 + u53) ^ (a + a') := by rw [pow_add, mul_assoc, mul_comm ((1 + u53) ^ a')]

theorem mono (ha : a ≤ a') (hb : b ≤ b') (h : Rle a b x y) : Rle a' b' x y := by
  refine ⟨h.nn, ?_⟩
  calc x * (1 - u53) ^ b' ≤ x * (1 - u53) ^ b :=
        mul_le_mul_of_nonneg_left
          (pow_le_pow_of_le_one (by linarith [u53_lt_one]) (by linarith [u53_pos]) hb) h.nn
    _ ≤ y * (1 + u53) ^ a := h.le
    _ ≤ y * (1 + u53) ^ a' :=
        mul_le_mul_of_nonneg_left (pow_le_pow_right₀ (by linarith [u53_pos]) ha) h.nn'

theorem add (h : Rle a b x y) (h' : Rle a b x' y') : Rle a b (x + x') (y + y') :=
  ⟨add_nonneg h.nn h'.nn, by rw [add_mul, add_mul]; exact add_le_add h.le h'.le⟩

theorem mul (h : Rle a b x y) (h' : Rle a' b' x' y') : Rle (a + a') (b + b') (x * x') (y * y') := by
  refine ⟨mul_nonneg h.nn h'.nn, ?_⟩
  calc x * x' * (1 - u53) ^ (b + b') = x * (1 - u53) ^ b * (x' * (1 - u53) ^ b') := by rw [pow_add]; ring
    _ ≤ y * (1 + u53) ^ a * (y' * (1 + u53) ^ a') :=
        mul_le_mul h.le h'.le (mul_nonneg h'.nn (q_pos b').le) (mul_nonneg h.nn' (p_pos a).le)
    _ = y * y' * (1 + u53) ^ (a + a') := by rw [pow_add]; ring

/-- the divisors are compared the other way round -/
theorem div (h : Rle a b x y) (h' : Rle a' b' y' x') (hy' : 0 < y') : Rle (a + a') (b + b') (x / x') (y / y') := by
  have hx' : 0 < x' := by
    by_contra hn
    exact absurd ((mul_pos hy' (q_pos b')).trans_le h'.le)
      (not_lt.mpr (mul_nonpos_of_nonpos_of_nonneg (not_lt.mp hn) (p_pos a').le))
  refine ⟨div_nonneg h.nn hx'.le, ?_⟩
  rw [div_mul_eq_mul_div, div_mul_eq_mul_div, div_le_div_iff₀ hx' hy']
  calc x * (1 - u53) ^ (b + b') * y' = x * y' * (1 - u53) ^ (b + b') := mul_right_comm _ _ _
    _ ≤ y * x' * (1 + u53) ^ (a + a') := (mul h h').le
    _ = y * (1 + u53) ^ (a + a') * x' := mul_right_comm _ _ _

theorem mul_left {c : Rat} (hc : 0 ≤ c) (h : Rle a b x y) : Rle a b (c * x) (c * y) :=
  ⟨mul_nonneg hc h.nn, by rw [mul_assoc, mul_assoc]; exact mul_le_mul_of_nonneg_left h.le hc⟩

theorem div_right {c : Rat} (hc : 0 < c) (h : Rle a b x y) : Rle a b (x / c) (y / c) :=
  ⟨div_nonneg h.nn hc.le, by
    rw [div_mul_eq_mul_div, div_mul_eq_mul_div]; exact div_le_div_of_nonneg_right h.le hc.le⟩

/-- read off a plain bound: `(1+u)^a ≤ K·(1−u)^b` is a numeric fact -/
theorem le_mul {K : Rat} (h : Rle a b x y) (hK : (1 + u53) ^ a ≤ K * (1 - u53) ^ b) : x ≤ y * K :=
  le_of_mul_le_mul_right (h.le.trans ((mul_le_mul_of_nonneg_left hK h.nn').trans_eq (mul_assoc _ _ _).symm))
    (q_pos b)

end Rle

theorem f64_rle {x : Rat} (hx : (2 : Rat) ^ (-1022 : Int) ≤ x) : Rle 1 0 (f64 x) x :=
  (Rle.up_iff (f64_nonneg ((z2_pos _).le.trans hx))).mpr (by rw [pow_one]; exact f64_rel_le hx)

theorem rle_f64 {x : Rat} (hx : x = 0 ∨ (2 : Rat) ^ (-1022 : Int) ≤ x) : Rle 0 1 x (f64 x) := by
  rcases hx with h | h
  · exact ⟨h.ge, by rw [h, f64_zero, zero_mul, zero_mul]⟩
  · exact ⟨(z2_pos _).le.trans h, by rw [pow_zero, mul_one, pow_one]; exact f64_rel_ge h⟩

end ColoVerif.F64
