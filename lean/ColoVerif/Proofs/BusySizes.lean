import ColoVerif.Model.BusySizes
import ColoVerif.Proofs.BusyLemmas
import ColoVerif.Proofs.ListFacts
/-
For the size theorems of C10 (`Model/BusySizes.lean`): preservation of an invariant of the sizes by
`execS` on write-free bodies, by stage traces and by histories — generic in the tables — and what the invariant
`SizesConsistent` says, clause by clause and against the size clauses of `Circuit::check()`.
-/
namespace ColoVerif.BusySizes
open ColoVerif.ApiIR ColoVerif.Busy

theorem envOf_arg (s : Sz) (args : List Arg) (i : Nat) : (envOf s args).arg i = argAt args i := rfl
theorem envOf_nbCells (s : Sz) (args : List Arg) : (envOf s args).nbCells = s.len "cellWidth_" := rfl
theorem envOf_nbNets (s : Sz) (args : List Arg) : (envOf s args).nbNets = s.len "netLimits_" - 1 := rfl

theorem argLen_nonneg {args : List Arg} (h : ArgsOk args) (i : Nat) : 0 ≤ (argAt args i).len :=
  ListFacts.forall_getD (P := fun a : Arg => 0 ≤ a.len) h (Int.le_refl 0) i

theorem argsOk_nil : ArgsOk [] := by intro a ha; cases ha

theorem res_ite {P : SRes → Prop} {c : Prop} [Decidable c] {a b : SRes} (ha : c → P a) (hb : ¬c → P b) :
    P (if c then a else b) := by
  by_cases h : c
  · rw [if_pos h]; exact ha h
  · rw [if_neg h]; exact hb h

theorem andThen_preserves (P : Sz → Prop) (r : SRes) (k : SSt → SRes) (hr : P r.st.sz)
    (hk : ∀ s, P s.sz → P (k s).st.sz) : P (r.andThen k).st.sz := by
  unfold SRes.andThen
  split
  · exact hk _ hr
  · exact hr

theorem absorbThen_preserves (P : Sz → Prop) (r : SRes) (k : SSt → SRes) (hr : P r.st.sz)
    (hk : ∀ s, P s.sz → P (k s).st.sz) : P (r.absorbThen k).st.sz := by
  unfold SRes.absorbThen
  split
  · exact hr
  · exact hr
  · exact hk _ hr

/-- A body without writes changes the sizes only through its calls. -/
theorem execS_ctl_preserves (P : Sz → Prop) (onCall : String → SSt → SRes)
    (hcall : ∀ f s, P s.sz → P (onCall f s).st.sz) (args : List Arg) (free : Int) :
    ∀ (body : List Stmt) (st : SSt), P st.sz → P (execS onCall args free (body.map SStmt.ctl) st).st.sz := by
  intro body
  induction body with
  | nil => intro st h; exact h
  | cons s rest ih =>
    intro st h
    cases s <;> simp only [List.map, execS]
    case throwIf | returnIf | checkNotInUse | assertC => split <;> first | exact h | exact ih st h
    case call f => exact andThen_preserves P _ _ (hcall f st h) (fun s hs => ih s hs)
    case assign | ret => exact h
    all_goals exact ih _ h

theorem runCallS_preserves (P : Sz → Prop) (pcs : List FnDef) (name : String) (stage : SSt → SRes)
    (hstage : ∀ s, P s.sz → P (stage s).st.sz) (st : SSt) (h : P st.sz) : P (runCallS pcs name stage st).st.sz := by
  unfold runCallS
  split
  · exact execS_ctl_preserves P _ (fun _ s hs => hstage s hs) [] 0 _ st h
  · exact h

theorem execS_restore_flag (onCall : String → SSt → SRes) (args : List Arg) (free : Int) (rest : List SStmt) (st : SSt) :
    (execS onCall args free (.ctl .restoreGuard :: rest) st).st.inUse = st.inUse := by
  simp [execS, SRes.restore]

theorem applyW_preserves (P : Sz → Prop) (ws : List (String × WKind))
    (hws : ∀ m n s, (m, WKind.whole) ∈ ws → P s → P (s.set m n))
    (m : String) (kind : WKind) (n : Int) (s : Sz) (hm : (m, kind) ∈ ws) (h : P s) : P (applyW s m kind n) := by
  cases kind with
  | element => exact h
  | whole => exact hws m n s hm h

theorem runSTr_preserves (P : Sz → Prop) (tbl : List SFn) (pcs : List FnDef) (ws : List (String × WKind))
    (hset : ∀ sc st, ArgsOk sc.args → P st.sz → P (runFnS tbl sc st).st.sz)
    (hws : ∀ m n s, (m, WKind.whole) ∈ ws → P s → P (s.set m n)) :
    ∀ (t : STr) (st : SSt), t.argsOk → P st.sz → P (runSTr tbl pcs ws t st).st.sz := by
  intro t
  induction t with
  | done thr => intro st _ h; simpa [runSTr] using h
  | setter sc k ih =>
    intro st ha h
    simp only [runSTr]
    exact absorbThen_preserves P _ _ (hset sc st ha.1 h) (fun s hs => ih s ha.2 hs)
  | nested name inner k ihi ihk =>
    intro st ha h
    simp only [runSTr]
    exact absorbThen_preserves P _ _ (runCallS_preserves P pcs name _ (fun s hs => ihi s ha.1 hs) st h)
      (fun s hs => ihk s ha.2 hs)
  | cbEnd thr k ih =>
    intro st ha h
    simp only [runSTr]
    split
    · exact h
    · exact ih st ha h
  | write m kind n k ih =>
    intro st ha h
    simp only [runSTr]
    split
    · rename_i hm
      exact ih _ ha (applyW_preserves P ws hws m kind n st.sz (by simpa using hm) h)
    · exact h

theorem runApi_preserves (P : Sz → Prop) (T : Tables)
    (hset : ∀ sc st, ArgsOk sc.args → P st.sz → P (runFnS T.setters sc st).st.sz)
    (hexp : ∀ sc st, ArgsOk sc.args → P st.sz → P (runFnS T.expansion sc st).st.sz)
    (hws : ∀ m n s, (m, WKind.whole) ∈ T.placerWrites → P s → P (s.set m n))
    (c : ApiCall) (st : SSt) (ha : c.argsOk) (h : P st.sz) : P (runApi T c st).st.sz := by
  cases c with
  | setter sc => exact hset sc st ha h
  | expansion sc => exact hexp sc st ha h
  | placement name t =>
    exact runCallS_preserves P _ name _ (fun s hs => runSTr_preserves P _ _ _ hset hws t s ha hs) st h

theorem runHistory_preserves (P : Sz → Prop) (T : Tables)
    (hcall : ∀ c st, c.argsOk → P st.sz → P (runApi T c st).st.sz) :
    ∀ (cs : List ApiCall) (st : SSt), (∀ c ∈ cs, c.argsOk) → P st.sz → P (runHistory T cs st).sz := by
  intro cs
  induction cs with
  | nil => intro st _ h; exact h
  | cons c rest ih =>
    intro st ha h
    exact ih _ (fun c' hc' => ha c' (List.mem_cons_of_mem _ hc')) (hcall c st (ha c List.mem_cons_self) h)

theorem runFnS_preserves (P : Sz → Prop) (tbl : List SFn)
    (h : ∀ f ∈ tbl, ∀ (args : List Arg) (free : Int) (st : SSt), ArgsOk args → P st.sz →
      P (execS noCallS args free f.body st).st.sz)
    (sc : SCall) (st : SSt) (ha : ArgsOk sc.args) (hp : P st.sz) : P (runFnS tbl sc st).st.sz := by
  unfold runFnS lookupS
  cases hf : tbl.find? (fun f => f.name == sc.name) with
  | none => exact hp
  | some f => exact h f (List.mem_of_find?_eq_some hf) sc.args sc.free st ha hp

/-- Reading a length after a write.  `Sz.set` is kept folded in the proofs: the `if k = m` it hides compares two
string literals, which is dear to evaluate and cheap to refute by `String.reduceEq`. -/
theorem Sz.len_set_same (s : Sz) (m : String) (v : Int) : (s.set m v).len m = v := if_pos rfl
theorem Sz.len_set_ne (s : Sz) {m k : String} (v : Int) (h : k ≠ m) : (s.set m v).len k = s.len k := if_neg h
theorem Sz.last_set (s : Sz) (m : String) (v : Int) : (s.set m v).last = s.last := rfl

theorem sizesConsistent_def (s : Sz) : SizesConsistent s ↔
    s.len "cellHeight_" = s.len "cellWidth_" ∧ s.len "cellIsFixed_" = s.len "cellWidth_" ∧
    s.len "cellIsObstruction_" = s.len "cellWidth_" ∧ s.len "cellRowPolarity_" = s.len "cellWidth_" ∧
    s.len "cellX_" = s.len "cellWidth_" ∧ s.len "cellY_" = s.len "cellWidth_" ∧
    s.len "cellOrientation_" = s.len "cellWidth_" ∧ 1 ≤ s.len "netLimits_" ∧
    s.len "netWeights_" = s.len "netLimits_" - 1 ∧ s.len "pinCells_" = s.last ∧
    s.len "pinXOffsets_" = s.last ∧ s.len "pinYOffsets_" = s.last :=
  ⟨fun ⟨h1, h2, h3, h4, h5, h6, h7, h8, h9, h10, h11, h12⟩ => ⟨h1, h2, h3, h4, h5, h6, h7, h8, h9, h10, h11, h12⟩,
   fun ⟨h1, h2, h3, h4, h5, h6, h7, h8, h9, h10, h11, h12⟩ => ⟨h1, h2, h3, h4, h5, h6, h7, h8, h9, h10, h11, h12⟩⟩

theorem consistent_set_untracked {s : Sz} {m : String} (n : Int) (hm : m ∉ trackedMembers)
    (h : SizesConsistent s) : SizesConsistent (s.set m n) := by
  have e : ∀ k ∈ trackedMembers, (s.set m n).len k = s.len k :=
    fun k hk => Sz.len_set_ne s n (fun hkm => hm (hkm ▸ hk))
  have mem : ∀ k, k ∈ trackedMembers ↔ k ∈ ["cellWidth_", "cellHeight_", "cellIsFixed_", "cellIsObstruction_",
      "cellRowPolarity_", "cellX_", "cellY_", "cellOrientation_", "netLimits_", "netWeights_", "pinCells_",
      "pinXOffsets_", "pinYOffsets_"] := fun k => Iff.rfl
  rw [sizesConsistent_def] at h ⊢
  simp only [Sz.last_set, e, mem, List.mem_cons, true_or, or_true]
  exact h

theorem consistent_iff (s : Sz) : s.consistent = true ↔ SizesConsistent s := by
  rw [sizesConsistent_def]
  simp only [Sz.consistent, perCellMembers, perPinMembers, Sz.nbCells, Sz.nbNets, Sz.nbPins, List.all_cons,
    List.all_nil, Bool.and_true, Bool.and_eq_true, beq_iff_eq, decide_eq_true_eq, and_assoc]

/-- every size clause of `Circuit::check()` is false on consistent sizes; conversely the size clauses say everything
`SizesConsistent` says except for `cellRowPolarity_`, which `check()` does not look at. -/
theorem checkSizeClauses_pass_iff (s : Sz) :
    checkPasses (checkSizeClauses s) = true ∧ s.len "cellRowPolarity_" = s.nbCells ∧ 0 ≤ s.len "netLimits_" ↔
      SizesConsistent s := by
  rw [sizesConsistent_def]
  simp only [checkPasses, checkSizeClauses, Sz.nbCells, Sz.nbNets, Sz.nbPins, List.all_cons, List.all_nil,
    Bool.and_true, Bool.and_eq_true, Bool.not_eq_true', bne_eq_false_iff_eq, beq_eq_false_iff_ne, ne_eq, true_and]
  constructor
  · intro ⟨⟨h1, h2, h3, h5, h6, h7, h8, h9, h10, h11, h12⟩, h4, h0⟩
    exact ⟨h1, h2, h3, h4, h5, h6, h7, by omega, h9, h10, h11, h12⟩
  · intro ⟨h1, h2, h3, h4, h5, h6, h7, h8, h9, h10, h11, h12⟩
    exact ⟨⟨h1, h2, h3, h5, h6, h7, by omega, h9, h10, h11, h12⟩, h4, by omega⟩

theorem checkSizeClauses_pass {s : Sz} (h : SizesConsistent s) : checkPasses (checkSizeClauses s) = true :=
  ((checkSizeClauses_pass_iff s).mpr h).1

/-- if what the clauses of a translated `check()` say about sizes is what the size clauses say, none of them fires on
consistent sizes -/
theorem no_size_clause_fires {getters : List (String × LExpr)} {clauses : List CheckClause} {s : Sz}
    (h : clauses.filterMap (·.fires getters s) = (checkSizeClauses s).map (·.1)) (hs : SizesConsistent s) :
    ∀ c ∈ clauses, c.fires getters s ≠ some true := by
  intro c hc hfire
  have hm : true ∈ clauses.filterMap (·.fires getters s) := List.mem_filterMap.mpr ⟨c, hc, hfire⟩
  rw [h, List.mem_map] at hm
  obtain ⟨it, hit, ht⟩ := hm
  have := List.all_eq_true.mp (checkSizeClauses_pass hs) it hit
  simp [ht] at this

end ColoVerif.BusySizes
