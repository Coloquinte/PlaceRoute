import ColoVerif.Proofs.LegalizeAbacusLoop
/-
Trivial success (C01 `legalize_trivial_success`), the loop of the Abacus pass: every `placeCell` finds a
segment when the total width is at most the total segment width less one maximum width `W` per segment.
Pigeonhole on `remainingSpace` (in `tsInv_step`): the remaining spaces sum to the total segment width minus the width
placed so far (`TSInv`), before cell `i` of width `w` at least `#segments·W + w`, so some segment has room for it.
In `placeCell` (`TSCtx.scan`, `TSCtx.search`) the early exit needs `bestRow != -1`, so as long as nothing was found
every row is visited; hence a row is found, and the row found was accepted by `evaluatePlacement`.
-/
namespace ColoVerif.Legalize
open ColoVerif ColoVerif.RowLeg

structure TSCtx (S : List Row) (legs : List State) (c : LCell) : Prop where
  hlen : legs.length = S.length
  heights : ∀ k, k < S.length → (rowAt S k).rect.height = c.h
  reach : ∀ k, k < S.length → ∃ h C, Reach (rowAt S k).rect.minX (rowAt S k).rect.maxX h C (legAt legs k)
  wpos : 0 < c.w
  room : ∃ k, k < S.length ∧ canEval S legs c k = true

/-- the best row so far, if there is one, is a row that can take the cell -/
def BestCanEval (S : List Row) (legs : List State) (c : LCell) (b : Option ABest) : Prop :=
  ∀ bb, b = some bb → bb.row < S.length ∧ canEval S legs c bb.row = true

theorem BestCanEval.better {S legs c b} (hq : BestCanEval S legs c b) {r : Nat} (hr : r < S.length)
    (hce : canEval S legs c r = true) (d : Int) : BestCanEval S legs c (abacusBetter b r d) :=
  abacusBetter_some (P := fun bb => bb.row < S.length ∧ canEval S legs c bb.row = true) hq ⟨hr, hce⟩

theorem abacusBetter_ne_none (b : Option ABest) (r : Nat) (d : Int) : abacusBetter b r d ≠ none := by
  cases b with
  | none => exact Option.some_ne_none _
  | some b0 =>
    show (if d < b0.dist then some ⟨r, d⟩ else some b0) ≠ none
    split <;> exact Option.some_ne_none _

/-- one `for` loop of `placeCell`: the legalizers are unchanged, and the best row stays "none" only if it
was "none" before and no row of the loop can take the cell (no early exit without a best row) -/
theorem TSCtx.scan {S legs c} (x : TSCtx S legs c) : ∀ (l : List Nat) (b : Option ABest),
    (∀ r ∈ l, r < S.length) → BestCanEval S legs c b →
    ∃ b', scanRows (abacusTry S c) l (legs, b) = (legs, b') ∧ BestCanEval S legs c b' ∧
      (b' = none → b = none ∧ ∀ r ∈ l, canEval S legs c r = false)
  | [], b, _, hq => ⟨b, rfl, hq, fun h => ⟨h, fun _ hr => nomatch hr⟩⟩
  | r :: l, b, hl, hq => by
    have hr := hl r List.mem_cons_self
    have hl' : ∀ r' ∈ l, r' < S.length := fun r' hr' => hl r' (List.mem_cons_of_mem _ hr')
    have e := abacusTry_eq b (x.heights r hr) (x.hlen ▸ hr) (x.reach r hr)
    split at e
    · rename_i h1
      refine ⟨b, scanRows_cons_true _ _ _ _ _ e, hq, fun hb => ?_⟩
      rw [hb] at h1
      exact absurd h1 Bool.false_ne_true
    · split at e
      · rename_i h2
        obtain ⟨b', e', hq', hn⟩ := x.scan l _ hl' (hq.better hr h2 _)
        refine ⟨b', (scanRows_cons_false _ _ _ _ _ e).trans e', hq', fun hb' => ?_⟩
        exact absurd (hn hb').1 (abacusBetter_ne_none _ _ _)
      · rename_i h2
        obtain ⟨b', e', hq', hn⟩ := x.scan l b hl' hq
        refine ⟨b', (scanRows_cons_false _ _ _ _ _ e).trans e', hq', fun hb' => ⟨(hn hb').1, ?_⟩⟩
        intro r' hr'
        rcases List.mem_cons.mp hr' with rfl | hr'
        · exact Bool.eq_false_iff.mpr h2
        · exact (hn hb').2 r' hr'

theorem startRow_le (S : List Row) (y : Int) : startRow S y ≤ S.length := by
  have := (lowerBound_spec S y).1
  rw [startRow, Int.toNat_le, closestRow]
  split
  · omega
  · split
    · omega
    · split <;> omega

theorem TSCtx.search {S legs c} (x : TSCtx S legs c) :
    ∃ bb, searchRows (abacusTry S c) S.length (startRow S c.ty) (legs, none) = (legs, some bb) ∧
      bb.row < S.length ∧ canEval S legs c bb.row = true := by
  have hinit := startRow_le S c.ty
  generalize startRow S c.ty = init at hinit
  unfold searchRows upRows downRows
  obtain ⟨b1, e1, q1, n1⟩ := x.scan (List.range' init (S.length - init)) none (by
    intro r hr
    have := List.mem_range'_1.mp hr
    omega) (by intro bb hbb; simp at hbb)
  rw [e1]
  obtain ⟨b2, e2, q2, n2⟩ := x.scan (List.range init).reverse b1 (by
    intro r hr
    have := List.mem_range.mp (List.mem_reverse.mp hr)
    omega) q1
  rw [e2]
  cases hb2 : b2 with
  | some bb => exact ⟨bb, rfl, q2 bb hb2⟩
  | none =>
    exfalso
    obtain ⟨hb1, hdown⟩ := n2 hb2
    obtain ⟨_, hup⟩ := n1 hb1
    obtain ⟨k, hk, hce⟩ := x.room
    rcases Nat.lt_or_ge k init with h | h
    · have := hdown k (List.mem_reverse.mpr (List.mem_range.mpr h))
      rw [hce] at this; exact Bool.noConfusion this
    · have := hup k (List.mem_range'_1.mpr ⟨h, by omega⟩)
      rw [hce] at this; exact Bool.noConfusion this

theorem TSCtx.place {a : Abacus} {c : LCell} (x : TSCtx a.rows a.legs c) (i : Nat) :
    ∃ k0, k0 < a.rows.length ∧ canEval a.rows a.legs c k0 = true ∧ abacusPlace a i c = (a.placed k0 i c, true) := by
  obtain ⟨bb, e, h1, h2⟩ := x.search
  refine ⟨bb.row, h1, h2, ?_⟩
  unfold abacusPlace
  rw [e]
  rfl

def doneW (cells : List LCell) (i : Nat) : Int := ((cells.take i).map (·.w)).sum

theorem doneW_succ (cells : List LCell) (i : Nat) (hi : i < cells.length) :
    doneW cells (i + 1) = doneW cells i + (cellAt cells i).w := by
  rw [doneW, doneW, List.take_add_one, List.map_append, List.sum_append, cellAt_eq_getElem cells i hi,
    List.getElem?_eq_getElem hi]
  simp only [Option.toList_some, List.map_cons, List.map_nil, List.sum_cons, List.sum_nil, Int.add_zero]

theorem sum_w_nonneg (cells : List LCell) (hw : ∀ c ∈ cells, 0 < c.w) : 0 ≤ (cells.map (·.w)).sum :=
  ListFacts.sum_nonneg_int _ fun v hv => by
    obtain ⟨c, hc, rfl⟩ := List.mem_map.mp hv
    exact Int.le_of_lt (hw c hc)

theorem doneW_le (cells : List LCell) (hw : ∀ c ∈ cells, 0 < c.w) (i : Nat) :
    doneW cells i ≤ doneW cells cells.length := by
  have h := sum_w_nonneg (cells.drop i) fun c hc => hw c (List.mem_of_mem_drop hc)
  have e : doneW cells cells.length = doneW cells i + ((cells.drop i).map (·.w)).sum := by
    rw [doneW, doneW, List.take_length, ← List.sum_append, ← List.map_append, List.take_append_drop]
  omega

theorem sum_map_set {α : Type} (f : α → Int) : ∀ (l : List α) (k : Nat) (v d : α), k < l.length →
    ((l.set k v).map f).sum = (l.map f).sum - f (l.getD k d) + f v
  | [], _, _, _, h => absurd h (Nat.not_lt_zero _)
  | x :: l, 0, v, d, _ => by
    rw [List.set_cons_zero, List.map_cons, List.map_cons, List.sum_cons, List.sum_cons, List.getD_cons_zero]
    omega
  | x :: l, k + 1, v, d, h => by
    rw [List.set_cons_succ, List.map_cons, List.map_cons, List.sum_cons, List.sum_cons, List.getD_cons_succ,
      sum_map_set f l k v d (Nat.lt_of_succ_lt_succ h)]
    omega

structure TSInv (S : List Row) (cells : List LCell) (i : Nat) (a : Abacus) : Prop extends AbInv S cells i a where
  space : (a.legs.map State.remaining).sum = (S.map fun r => r.rect.width).sum - doneW cells i

structure TrivOK (S : List Row) (H W : Int) (cells : List LCell) : Prop where
  heights : ∀ r ∈ S, r.rect.height = H
  cell : ∀ c ∈ cells, c.h = H ∧ 0 < c.w ∧ c.w ≤ W ∧ c.pol = Polarity.ANY ∧ c.torient ≠ Orient.INVALID
  total : doneW cells cells.length ≤ (S.map fun r => r.rect.width).sum - (S.length : Int) * W

theorem tsInv_init (R : List Row) (cells : List LCell) : TSInv (sortRows R) cells 0 (Abacus.init R) := by
  refine ⟨AbInv.init R cells, ?_⟩
  simp only [Abacus.init, List.map_map, doneW, List.take_zero, List.map_nil, List.sum_nil, Int.sub_zero]
  congr 1
  apply List.map_congr_left
  intro r _
  simp [State.remaining, State.new, State.used, Rect.width]

theorem canEval_any (S : List Row) (legs : List State) (c : LCell) (k : Nat) (hp : c.pol = Polarity.ANY)
    (ho : c.torient ≠ Orient.INVALID) : canEval S legs c k = true ↔ c.w ≤ (legAt legs k).remaining := by
  rw [canEval_iff, and_iff_left]
  rw [getOrientation, hp]
  exact ho

theorem tsInv_step (S : List Row) (H W : Int) (cells : List LCell) (ok : TrivOK S H W cells) (i : Nat)
    (a : Abacus) (inv : TSInv S cells i a) (hi : i < cells.length) :
    TSInv S cells (i + 1) (abacusPlace a i (cellAt cells i)).1 := by
  have hrows := inv.rows
  subst hrows
  obtain ⟨hH, hw, hwW, hpol, hor⟩ := ok.cell _ (cellAt_mem cells i hi)
  -- pigeonhole: some segment has room
  have hroom : ∃ k, k < a.rows.length ∧ canEval a.rows a.legs (cellAt cells i) k = true := by
    apply Classical.byContradiction
    intro hno
    have hall : ∀ x ∈ a.legs.map State.remaining, x ≤ (cellAt cells i).w - 1 := by
      intro x hx
      obtain ⟨s, hs, rfl⟩ := List.mem_map.mp hx
      obtain ⟨k, hk, (e : legAt a.legs k = s)⟩ := ListFacts.exists_getD_of_mem default hs
      have hk' : k < a.rows.length := by rw [← inv.llen]; exact hk
      have := (canEval_any a.rows a.legs (cellAt cells i) k hpol hor).not.mp (fun h => hno ⟨k, hk', h⟩)
      rw [e] at this
      omega
    have h1 := ListFacts.sum_le_mul _ _ hall
    rw [inv.space, List.length_map, inv.llen, Int.mul_comm] at h1
    have h2 := doneW_le cells (fun c hc => (ok.cell c hc).2.1) (i + 1)
    rw [doneW_succ cells i hi] at h2
    have h3 := ok.total
    have h4 : (a.rows.length : Int) * ((cellAt cells i).w - 1) ≤ (a.rows.length : Int) * W :=
      Int.mul_le_mul_of_nonneg_left (by omega) (by omega)
    omega
  have ctx : TSCtx a.rows a.legs (cellAt cells i) :=
    ⟨inv.llen, fun k hk => hH ▸ ok.heights _ (rowAt_mem _ k hk), inv.reach_any, hw, hroom⟩
  obtain ⟨k0, hk0, hce, hplace⟩ := ctx.place i
  rw [hplace]
  have hfit : (cellAt cells i).w ≤ (legAt a.legs k0).remaining :=
    (canEval_any a.rows a.legs _ k0 hpol hor).mp hce
  have hkl : k0 < a.legs.length := by rw [inv.llen]; exact hk0
  refine ⟨inv.toAbInv.placed hk0 hw hfit ((canEval_iff _ _ _ _).mp hce).2, ?_⟩
  · show ((a.legs.set k0 _).map State.remaining).sum = _
    rw [sum_map_set State.remaining a.legs k0 _ default hkl, inv.space, doneW_succ cells i hi]
    have : State.remaining (a.legs.getD k0 default) = (legAt a.legs k0).remaining := rfl
    rw [this, push_remaining]
    omega

end ColoVerif.Legalize
