import ColoVerif.Model.TranspCert
import ColoVerif.Proofs.ListFacts
import Mathlib.Tactic.Ring
/-
Weak duality and complementary slackness for the transportation LP of C13, over finite sums `sumTo`.
-/
namespace ColoVerif.Transp

@[simp] lemma sumTo_zero (f : Nat → Int) : sumTo 0 f = 0 := rfl
@[simp] lemma sumTo_succ (n : Nat) (f : Nat → Int) : sumTo (n + 1) f = sumTo n f + f n := rfl

lemma sumTo_le {n : Nat} {f g : Nat → Int} (h : ∀ i, i < n → f i ≤ g i) : sumTo n f ≤ sumTo n g := by
  induction n with
  | zero => simp
  | succ n ih =>
    have h1 := ih (fun i hi => h i (Nat.lt_succ_of_lt hi))
    have h2 := h n (Nat.lt_succ_self n)
    simp only [sumTo_succ]; omega

lemma sumTo_congr {n : Nat} {f g : Nat → Int} (h : ∀ i, i < n → f i = g i) : sumTo n f = sumTo n g := by
  induction n with
  | zero => simp
  | succ n ih =>
    have h1 := ih (fun i hi => h i (Nat.lt_succ_of_lt hi))
    have h2 := h n (Nat.lt_succ_self n)
    simp only [sumTo_succ]; rw [h1, h2]

lemma sumTo_add (n : Nat) (f g : Nat → Int) : sumTo n (fun i => f i + g i) = sumTo n f + sumTo n g := by
  induction n with
  | zero => simp
  | succ n ih => simp only [sumTo_succ, ih]; ring

lemma sumTo_sub (n : Nat) (f g : Nat → Int) : sumTo n (fun i => f i - g i) = sumTo n f - sumTo n g := by
  induction n with
  | zero => simp
  | succ n ih => simp only [sumTo_succ, ih]; ring

lemma sumTo_mul_left (n : Nat) (c : Int) (f : Nat → Int) : sumTo n (fun i => c * f i) = c * sumTo n f := by
  induction n with
  | zero => simp
  | succ n ih => simp only [sumTo_succ, ih]; ring

lemma sumTo_const_zero (n : Nat) : sumTo n (fun _ => 0) = 0 := by
  induction n with
  | zero => simp
  | succ n ih => simp only [sumTo_succ, ih]; ring

lemma sumTo_eq_zero {n : Nat} {f : Nat → Int} (h : ∀ i, i < n → f i = 0) : sumTo n f = 0 :=
  (sumTo_congr h).trans (sumTo_const_zero n)

lemma sumTo_nonneg {n : Nat} {f : Nat → Int} (h : ∀ j, j < n → 0 ≤ f j) : 0 ≤ sumTo n f := by
  rw [← sumTo_const_zero n]; exact sumTo_le h

lemma sumTo_comm (n m : Nat) (f : Nat → Nat → Int) :
    sumTo n (fun i => sumTo m (fun j => f i j)) = sumTo m (fun j => sumTo n (fun i => f i j)) := by
  induction n with
  | zero => simp [sumTo_const_zero]
  | succ n ih =>
    simp only [sumTo_succ, ih]
    rw [← sumTo_add]

lemma sumTo_lt {f g : Nat → Int} : ∀ n : Nat, (∀ j, j < n → g j ≤ f j) →
    ∀ bv, bv < n → g bv + 1 ≤ f bv → sumTo n g + 1 ≤ sumTo n f := by
  intro n
  induction n with
  | zero => intro _ bv hbv; omega
  | succ n ih =>
    intro h bv hbv hs
    simp only [sumTo_succ]
    have hn := h n (by omega)
    by_cases e : bv = n
    · subst e
      have := sumTo_le (fun j hj => h j (Nat.lt_succ_of_lt hj))
      omega
    · have := ih (fun j hj => h j (by omega)) bv (by omega) hs
      omega

lemma sumTo_le_const {n : Nat} {f : Nat → Int} (c : Int) (h : ∀ j, j < n → f j ≤ c) : sumTo n f ≤ (n : Int) * c := by
  induction n with
  | zero => simp
  | succ n ih =>
    have := ih (fun j hj => h j (by omega))
    have := h n (by omega)
    rw [sumTo_succ, Nat.cast_add_one, add_mul, one_mul]
    omega

lemma sumTo_pos_exists (n : Nat) (f : Nat → Int) (h : 0 < sumTo n f) : ∃ j, j < n ∧ 0 < f j := by
  induction n with
  | zero => simp at h
  | succ n ih =>
    simp only [sumTo_succ] at h
    by_cases h0 : 0 < f n
    · exact ⟨n, by omega, h0⟩
    · obtain ⟨j, hj, hf⟩ := ih (by omega)
      exact ⟨j, by omega, hf⟩

lemma sumTo_add_ite (n : Nat) (f : Nat → Int) (i : Nat) (d : Int) :
    sumTo n (fun k => f k + (if k = i then d else 0)) = sumTo n f + (if i < n then d else 0) := by
  induction n with
  | zero => simp
  | succ n ih =>
    simp only [sumTo_succ, ih]
    by_cases h3 : n = i
    · subst h3
      rw [if_neg (Nat.lt_irrefl _), if_pos rfl, if_pos (Nat.lt_succ_self _)]; omega
    · rw [if_neg h3]
      by_cases h1 : i < n
      · rw [if_pos h1, if_pos (Nat.lt_succ_of_lt h1)]; omega
      · rw [if_neg h1, if_neg (by omega)]; omega

lemma sumTo_set (n : Nat) (l : List Int) (r : Nat) (v : Int) (hr : r < n) (hl : r < l.length) :
    sumTo n (fun i => (l.set r v).getD i 0) = sumTo n (fun i => l.getD i 0) + (v - l.getD r 0) := by
  have : (fun i => (l.set r v).getD i 0) = (fun i => l.getD i 0 + (if i = r then v - l.getD r 0 else 0)) := by
    funext i
    rw [ListFacts.getD_set l r i v 0 hl]
    split
    · rename_i e; rw [e]; omega
    · omega
  rw [this, sumTo_add_ite, if_pos hr]

lemma sumTo_shift (n : Nat) (f : Nat → Int) : sumTo (n + 1) f = f 0 + sumTo n (fun i => f (i + 1)) := by
  induction n with
  | zero => simp
  | succ n ih => rw [sumTo_succ, ih, sumTo_succ]; ring

lemma sumTo_list (l : List Int) : sumTo l.length (fun i => l.getD i 0) = l.sum := by
  induction l with
  | nil => rfl
  | cons a l ih =>
    rw [List.length_cons, sumTo_shift]
    simp only [List.getD_cons_zero, List.getD_cons_succ, List.sum_cons, ih]

lemma sum_map_range (n : Nat) (f : Nat → Int) : ((List.range n).map f).sum = sumTo n f := by
  induction n with
  | zero => rfl
  | succ n ih => rw [List.range_succ, List.map_append, List.sum_append, ih]; simp

lemma le_sumTo (f : Nat → Int) (n j : Nat) (h : ∀ k, k < n → 0 ≤ f k) (hj : j < n) : f j ≤ sumTo n f := by
  rw [← sum_map_range]
  refine ListFacts.le_sum_of_mem _ (fun v hv => ?_) _ (List.mem_map_of_mem (List.mem_range.mpr hj))
  obtain ⟨k, hk, rfl⟩ := List.mem_map.mp hv
  exact h k (List.mem_range.mp hk)

lemma allTo_iff (n : Nat) (f : Nat → Bool) : allTo n f = true ↔ ∀ i, i < n → f i = true := by
  induction n with
  | zero => simp [allTo]
  | succ n ih =>
    simp only [allTo, Bool.and_eq_true, ih]
    constructor
    · rintro ⟨h1, h2⟩ i hi
      rcases Nat.lt_succ_iff_lt_or_eq.mp hi with h | h
      · exact h1 i h
      · rw [h]; exact h2
    · intro h
      exact ⟨fun i hi => h i (Nat.lt_succ_of_lt hi), h n (Nat.lt_succ_self n)⟩

/-- Primal feasibility as a proposition (what C13 states about the plan). -/
structure Feasible (p : Problem) (y : Mat) : Prop where
  nonneg : ∀ i j, i < p.nbSinks → j < p.nbSources → 0 ≤ get2 y i j
  demand : ∀ j, j < p.nbSources → colSum y p.nbSinks j = p.demand j
  capacity : ∀ i, i < p.nbSinks → rowSum y p.nbSources i ≤ p.capacity i

lemma primalOk_iff (p : Problem) (x : Mat) : primalOk p x = true ↔ Feasible p x := by
  simp only [primalOk, Bool.and_eq_true, allTo_iff, decide_eq_true_eq]
  constructor
  · rintro ⟨⟨h1, h2⟩, h3⟩
    exact ⟨fun i j hi hj => h1 i hi j hj, h2, h3⟩
  · rintro ⟨h1, h2, h3⟩
    exact ⟨⟨fun i hi j hj => h1 i j hi hj, h2⟩, h3⟩

def dualVal (p : Problem) (u v : List Int) : Int :=
  sumTo p.nbSources (fun j => u.getD j 0 * p.demand j) - sumTo p.nbSinks (fun i => v.getD i 0 * p.capacity i)

/-- the duality gap of a plan that meets the demands: reduced costs times allocations, plus sink prices times
unused capacities (the Lagrangian rearrangement `Σ_i Σ_j u_j·y_ij = Σ_j u_j·colSum_j`,
`Σ_i Σ_j v_i·y_ij = Σ_i v_i·rowSum_i`) -/
lemma gap_eq (p : Problem) (y : Mat) (u v : List Int)
    (hy : ∀ j, j < p.nbSources → colSum y p.nbSinks j = p.demand j) :
    costOf p y - dualVal p u v =
      sumTo p.nbSinks (fun i => sumTo p.nbSources (fun j =>
        (p.cost i j - (u.getD j 0 - v.getD i 0)) * get2 y i j)) +
      sumTo p.nbSinks (fun i => v.getD i 0 * (p.capacity i - rowSum y p.nbSources i)) := by
  simp only [sub_mul, mul_sub, sumTo_sub, sumTo_mul_left]
  rw [sumTo_comm p.nbSinks p.nbSources (fun i j => u.getD j 0 * get2 y i j)]
  simp only [sumTo_mul_left]
  rw [sumTo_congr (fun j hj => by rw [← hy j hj]; rfl :
    ∀ j, j < p.nbSources → u.getD j 0 * sumTo p.nbSinks (fun i => get2 y i j) = u.getD j 0 * p.demand j)]
  unfold dualVal costOf rowSum
  ring

lemma weak_duality (p : Problem) (y : Mat) (u v : List Int) (hy : Feasible p y) (hd : dualOk p u v = true) :
    dualVal p u v ≤ costOf p y := by
  simp only [dualOk, Bool.and_eq_true, allTo_iff, decide_eq_true_eq] at hd
  rw [← sub_nonneg, gap_eq p y u v hy.demand]
  exact add_nonneg
    (sumTo_nonneg fun i hi => sumTo_nonneg fun j hj =>
      Int.mul_nonneg (sub_nonneg.2 (hd.2 i hi j hj)) (hy.nonneg i j hi hj))
    (sumTo_nonneg fun i hi => Int.mul_nonneg (hd.1 i hi) (sub_nonneg.2 (hy.capacity i hi)))

lemma slack_tight (p : Problem) (x : Mat) (u v : List Int) (hx : Feasible p x) (hs : slackOk p x u v = true) :
    costOf p x = dualVal p u v := by
  simp only [slackOk, Bool.and_eq_true, allTo_iff, decide_eq_true_eq] at hs
  rw [← sub_eq_zero, gap_eq p x u v hx.demand]
  refine (congrArg₂ (· + ·) (sumTo_eq_zero fun i hi => sumTo_eq_zero fun j hj => ?_)
    (sumTo_eq_zero fun i hi => ?_)).trans (add_zero 0)
  · rcases hs.1 i hi j hj with h | h <;> rw [h] <;> ring
  · rcases hs.2 i hi with h | h <;> rw [h] <;> ring

end ColoVerif.Transp
