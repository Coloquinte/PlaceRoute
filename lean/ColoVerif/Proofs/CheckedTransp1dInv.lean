import ColoVerif.Proofs.Transp1dKept
import ColoVerif.Proofs.CheckedArith
import ColoVerif.Model.Transp1dChecked
/-
The magnitude invariant `SI` of the event sweep of the (unbounded) Transp1d model, for C07.  The only
accumulation whose size is not obvious is `slope += events.top().second` in `getSlope` (merged slopes
are pushed back).  `SI` bounds a potential, so that every partial sum of `getSlope` is at most `6·P`
in magnitude for positions in `[-P, P]`, whatever the number of sources and sinks.
The lemmas need the sorted instance only (`Transp1dSorter`); the import of `Transp1dKept` keeps Mathlib's
instances on `Int` in scope, with which the domain `T1dDom` of `CheckedTransp1d` is stated (`pb.s.sum`).
-/
namespace ColoVerif.Transp1d
open ColoVerif.Checked

def dval (sv : Solver) (i j : Nat) : Int :=
  iabs (sv.u.getD i 0 - sv.v.getD (j + 1) 0) + iabs (sv.u.getD (i + 1) 0 - sv.v.getD j 0)
    - iabs (sv.u.getD (i + 1) 0 - sv.v.getD (j + 1) 0) - iabs (sv.u.getD i 0 - sv.v.getD j 0)

theorem delta_inv {sv : Solver} {i j : Nat} {d : Int} (h : delta sv i j = .ok d) :
    i + 1 < sv.u.length ∧ j + 1 < sv.v.length ∧ d = dval sv i j := by
  unfold delta at h
  obtain ⟨a, ha, h⟩ := bind_ok_inv h
  obtain ⟨b, hb, h⟩ := bind_ok_inv h
  obtain ⟨c, hc, h⟩ := bind_ok_inv h
  obtain ⟨e, he, h⟩ := bind_ok_inv h
  obtain ⟨_, h2, rfl⟩ := cost_inv ha
  obtain ⟨h3, _, rfl⟩ := cost_inv hb
  obtain ⟨_, _, rfl⟩ := cost_inv hc
  obtain ⟨_, _, rfl⟩ := cost_inv he
  simp only [checked, Except.ok.injEq] at h
  exact ⟨h3, h2, h.symm⟩

theorem iabs_sub_iabs (x a c : Int) (hac : a ≤ c) :
    iabs (x - c) - iabs (x - a) = a + c - 2 * min c (max a x) := by
  unfold iabs
  by_cases h : x < a
  · rw [if_pos (by omega), if_pos (by omega), Int.max_eq_left (by omega), Int.min_eq_right hac]
    omega
  · rw [if_neg (by omega : ¬ x - a < 0), Int.max_eq_right (by omega)]
    by_cases h' : x < c
    · rw [if_pos (by omega), Int.min_eq_right (by omega)]; omega
    · rw [if_neg (by omega), Int.min_eq_left (by omega)]; omega

theorem clamp_bounds (a c x : Int) (hac : a ≤ c) : a ≤ min c (max a x) ∧ min c (max a x) ≤ c :=
  ⟨Int.le_min.mpr ⟨hac, Int.le_max_left ..⟩, Int.min_le_left ..⟩

theorem iabs_sub_iabs_anti (x y a c : Int) (hxy : x ≤ y) (hac : a ≤ c) :
    0 ≤ (iabs (x - c) - iabs (x - a)) - (iabs (y - c) - iabs (y - a)) := by
  have := iabs_monge x y a c hxy hac
  omega

theorem abs_snk (x a c : Int) (hac : a ≤ c) : iabs (iabs (x - a) - iabs (x - c)) ≤ c - a := by
  have h := iabs_sub_iabs x a c hac
  have := clamp_bounds a c x hac
  exact iabs_le (by omega) (by omega)

def sumAbs : List Event → Int
  | [] => 0
  | e :: es => iabs e.2 + sumAbs es

theorem sumAbs_nonneg (ev : List Event) : 0 ≤ sumAbs ev := by
  induction ev with
  | nil => exact Int.le_refl _
  | cons e es ih => have := iabs_nonneg e.2; simp only [sumAbs]; omega

theorem sumAbs_evInsert (x : Event) (ev : List Event) : sumAbs (evInsert x ev) = iabs x.2 + sumAbs ev := by
  induction ev with
  | nil => rfl
  | cons y ys ih =>
    unfold evInsert
    split
    · rfl
    · simp only [sumAbs, ih]; omega

theorem sumAbs_emplacePos (ev : List Event) (pos sl : Int) :
    sumAbs (emplacePos ev pos sl) ≤ sumAbs ev + iabs sl := by
  unfold emplacePos
  split
  · rw [sumAbs_evInsert]; simp only; omega
  · have := iabs_nonneg sl; omega

theorem sumAbs_popAt (L : Int) (ev : List Event) :
    iabs (popAt L ev).1 + sumAbs (popAt L ev).2 ≤ sumAbs ev := by
  induction ev with
  | nil => exact Int.le_refl _
  | cons e es ih =>
    unfold popAt
    split
    · have := iabs_add_le (popAt L es).1 e.2
      simp only [sumAbs]
      omega
    · have : iabs (0 : Int) = 0 := rfl
      simp only
      omega

structure SB (sv : Solver) (P T : Int) : Prop where
  P0 : 0 ≤ P
  T0 : 0 ≤ T
  ub : ∀ i, -P ≤ sv.u.getD i 0 ∧ sv.u.getD i 0 ≤ P
  vb : ∀ j, -P ≤ sv.v.getD j 0 ∧ sv.v.getD j 0 ≤ P
  Sb : ∀ i, 0 ≤ sv.S.getD i 0 ∧ sv.S.getD i 0 ≤ T
  Db : ∀ j, 0 ≤ sv.D.getD j 0 ∧ sv.D.getD j 0 ≤ T
  sb : ∀ i, 0 ≤ sv.s.getD i 0 ∧ sv.s.getD i 0 ≤ T
  us : ∀ a b, a ≤ b → b < sv.u.length → sv.u.getD a 0 ≤ sv.u.getD b 0
  vs : ∀ a b, a ≤ b → b < sv.v.length → sv.v.getD a 0 ≤ sv.v.getD b 0

/-- telescoped slope of the source events of the boundaries `a ≤ j < c` between two consecutive
sources at `x ≤ y` -/
def srcSlope (sv : Solver) (x y : Int) (a c : Nat) : Int :=
  (iabs (x - sv.v.getD c 0) - iabs (x - sv.v.getD a 0))
    - (iabs (y - sv.v.getD c 0) - iabs (y - sv.v.getD a 0))

/-- what the source events still to come can add -/
def srcBudget (sv : Solver) (x : Int) : Int :=
  iabs (x - sv.v.getD (sv.v.length - 1) 0) - iabs (x - sv.v.getD 0 0)
    + (sv.v.getD (sv.v.length - 1) 0 - sv.v.getD 0 0)

/-- the budget `x` of `SI` before source `i` is pushed: `srcBudget` at the previous source, the upper
bound of `srcBudget` before the first -/
def srcBudgetAt (sv : Solver) : Nat → Int
  | 0 => 2 * (sv.v.getD (sv.v.length - 1) 0 - sv.v.getD 0 0)
  | i + 1 => srcBudget sv (sv.u.getD i 0)

theorem v0_le_vm {sv : Solver} {P T : Int} (sb : SB sv P T) (hm : 0 < sv.v.length) :
    sv.v.getD 0 0 ≤ sv.v.getD (sv.v.length - 1) 0 := sb.vs 0 _ (by omega) (by omega)

theorem srcBudget_bounds {sv : Solver} {P T : Int} (sb : SB sv P T) (hm : 0 < sv.v.length) (x : Int) :
    0 ≤ srcBudget sv x ∧ srcBudget sv x ≤ 2 * (sv.v.getD (sv.v.length - 1) 0 - sv.v.getD 0 0) := by
  have h := v0_le_vm sb hm
  have := clamp_bounds _ _ x h
  rw [srcBudget, iabs_sub_iabs x _ _ h]
  omega

theorem srcBudgetAt_nonneg {sv : Solver} {P T : Int} (sb : SB sv P T) (hm : 0 < sv.v.length) (i : Nat) :
    0 ≤ srcBudgetAt sv i := by
  cases i with
  | zero => have := v0_le_vm sb hm; simp only [srcBudgetAt]; omega
  | succ i => exact (srcBudget_bounds sb hm _).1

theorem srcSlope_add (sv : Solver) (x y : Int) (a b c : Nat) :
    srcSlope sv x y a b + srcSlope sv x y b c = srcSlope sv x y a c := by
  unfold srcSlope; omega

theorem srcSlope_nonneg {sv : Solver} {P T : Int} (sb : SB sv P T) {x y : Int} (hxy : x ≤ y) {a c : Nat}
    (hac : a ≤ c) (hc : c < sv.v.length) : 0 ≤ srcSlope sv x y a c :=
  iabs_sub_iabs_anti _ _ _ _ hxy (sb.vs a c hac hc)

theorem dval_eq_srcSlope (sv : Solver) (i j : Nat) :
    dval sv i j = srcSlope sv (sv.u.getD i 0) (sv.u.getD (i + 1) 0) j (j + 1) := by
  unfold dval srcSlope; omega

/-- the boundaries `a ≤ j < c` are some of the boundaries `0 ≤ j < m - 1` that `srcBudget` accounts
for -/
theorem srcSlope_le_budget {sv : Solver} {P T : Int} (sb : SB sv P T) {x y : Int} (hxy : x ≤ y)
    {a c : Nat} (hac : a ≤ c) (hc : c < sv.v.length) :
    srcSlope sv x y a c ≤ srcBudget sv x - srcBudget sv y := by
  have h1 := srcSlope_nonneg sb hxy (Nat.zero_le a) (by omega)
  have h2 := srcSlope_nonneg sb hxy (by omega : c ≤ sv.v.length - 1) (by omega)
  have h3 := srcSlope_add sv x y 0 a c
  have h4 := srcSlope_add sv x y 0 c (sv.v.length - 1)
  have h5 : srcBudget sv x - srcBudget sv y = srcSlope sv x y 0 (sv.v.length - 1) := by
    unfold srcBudget srcSlope; omega
  omega

theorem sumAbs_getSlopeKeep (st : St) : sumAbs (getSlopeKeep st).2.events ≤ sumAbs st.events := by
  have hp := sumAbs_popAt st.lastPosition st.events
  simp only [getSlopeKeep]
  split
  · rw [sumAbs_evInsert]; simp only; omega
  · have := iabs_nonneg (popAt st.lastPosition st.events).1; omega

/-- state invariant: the potential

    Σ_{e ∈ events} |e.slope|  +  x  +  (v[m-1] - v[lastOccupiedSink])  ≤  6·P

with `x` the source budget `srcBudgetAt sv i` (initially `0 + 2 (v[m-1] - v[0]) + (v[m-1] - v[0])`,
`init_inv`).
* A sink event (pushed once per boundary `l | l+1`, `lastOccupiedSink` only grows) has
  `|cost(i,l) - cost(i,l+1)| ≤ v[l+1] - v[l]` (`abs_snk`), paid for by the last term.
* A source event has slope `delta(i-1, j) = g_j(u[i-1]) - g_j(u[i]) ≥ 0` with
  `g_j(x) = |x - v[j+1]| - |x - v[j]|` non-increasing; the boundaries `b ≤ j < e` of one source
  telescope to `srcSlope`, at most the decrease of `srcBudget ∈ [0, 2 (v[m-1] - v[0])]` from
  `u[i-1]` to `u[i]` (`srcSlope_le_budget`; positions sorted).
* Merging events (`getSlope`, `pushToLastSink`) never increases `Σ |slope|` (`sumAbs_popAt`).
Positions are no part of it: inside the sweep they are only compared and stored, and the bound on
the final positions that `computeAssignment` needs is the geometry of C14 (`run_ok`). -/
structure SI (sv : Solver) (P x : Int) (st : St) : Prop where
  occ : st.lastOcc < sv.v.length
  phi : sumAbs st.events + x + (sv.v.getD (sv.v.length - 1) 0 - sv.v.getD st.lastOcc 0) ≤ 6 * P

theorem SI.slopes {sv : Solver} {P T x : Int} {st : St} (sb : SB sv P T) (h : SI sv P x st)
    (hx : 0 ≤ x) : sumAbs st.events ≤ 6 * P := by
  have h1 := sb.vs st.lastOcc (sv.v.length - 1) (by have := h.occ; omega) (by have := h.occ; omega)
  have := h.phi
  omega

theorem SI.mono {sv : Solver} {P x : Int} {st st' : St} (h : SI sv P x st)
    (ho : st'.lastOcc = st.lastOcc) (he : sumAbs st'.events ≤ sumAbs st.events) : SI sv P x st' :=
  ⟨ho ▸ h.occ, by have := h.phi; rw [ho]; omega⟩

theorem init_inv {sv : Solver} {P T : Int} (sb : SB sv P T) (hm : 0 < sv.v.length) :
    SI sv P (srcBudgetAt sv 0) St.init := by
  refine ⟨hm, ?_⟩
  have h1 := sb.vb (sv.v.length - 1)
  have h2 := sb.vb 0
  have := v0_le_vm sb hm
  simp only [St.init, sumAbs, srcBudgetAt]
  omega

end ColoVerif.Transp1d
