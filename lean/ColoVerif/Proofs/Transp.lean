import ColoVerif.Model.Transp
import ColoVerif.Proofs.TranspCert
import Mathlib.Tactic.Ring
/-
The first-strict-minimum scan `scanMin` behind `toAssignment`, `bestSink` and the selection of `updateTree`;
`toAssignment` (argmax); `increaseCapacity`.
-/
namespace ColoVerif.Transp
open Problem

/-- the common form of the three first-strict-optimum scans of the model (`argmaxFrom` of `toAssignment`,
`bestSinkFrom` of `bestSink`, `pickVisit` of `updateTree`): over `i, …, i + k - 1`, take every selected index
whose key is strictly below the best key so far -/
def scanMin {β : Type} (key : Nat → Int) (sel : Nat → Bool) (mk : Nat → β) : Nat → Nat → β → Int → β
  | 0, _, best, _ => best
  | k + 1, i, best, bc =>
    if sel i && decide (key i < bc) then scanMin key sel mk k (i + 1) (mk i) (key i)
    else scanMin key sel mk k (i + 1) best bc

lemma forall_range_cons {P : Nat → Prop} {i k : Nat} (h0 : P i) (h : ∀ j, i + 1 ≤ j → j < i + 1 + k → P j) :
    ∀ j, i ≤ j → j < i + (k + 1) → P j := by
  intro j h1 h2
  by_cases e : j = i
  · rw [e]; exact h0
  · exact h j (by omega) (by omega)

lemma scanMin_spec {β : Type} (key : Nat → Int) (sel : Nat → Bool) (mk : Nat → β) :
    ∀ (k i : Nat) (best : β) (bc : Int),
      (scanMin key sel mk k i best bc = best ∧ ∀ j, i ≤ j → j < i + k → sel j = true → bc ≤ key j) ∨
      ∃ r, scanMin key sel mk k i best bc = mk r ∧ i ≤ r ∧ r < i + k ∧ sel r = true ∧ key r < bc ∧
        (∀ j, i ≤ j → j < i + k → sel j = true → key r ≤ key j) ∧
        ∀ j, i ≤ j → j < r → sel j = true → key r < key j := by
  intro k
  induction k with
  | zero => intro i best bc; exact Or.inl ⟨rfl, fun j h1 h2 => by omega⟩
  | succ k ih =>
    intro i best bc
    rw [scanMin]
    by_cases hc : (sel i && decide (key i < bc)) = true
    · rw [if_pos hc]
      rw [Bool.and_eq_true, decide_eq_true_eq] at hc
      right
      rcases ih (i + 1) (mk i) (key i) with ⟨e, h⟩ | ⟨r, e, h1, h2, h3, h4, h5, h6⟩
      · exact ⟨i, e, Nat.le_refl i, by omega, hc.1, hc.2, forall_range_cons (fun _ => Int.le_refl _) h,
          fun j hj1 hj2 => by omega⟩
      · refine ⟨r, e, by omega, by omega, h3, Int.lt_trans h4 hc.2,
          forall_range_cons (fun _ => Int.le_of_lt h4) h5, fun j hj1 hj2 hs => ?_⟩
        by_cases ej : j = i
        · rw [ej]; exact h4
        · exact h6 j (by omega) hj2 hs
    · rw [if_neg hc]
      have hi : sel i = true → bc ≤ key i := fun hs => Int.not_lt.mp fun hl =>
        hc (by rw [Bool.and_eq_true, decide_eq_true_eq]; exact ⟨hs, hl⟩)
      rcases ih (i + 1) best bc with ⟨e, h⟩ | ⟨r, e, h1, h2, h3, h4, h5, h6⟩
      · exact Or.inl ⟨e, forall_range_cons hi h⟩
      · refine Or.inr ⟨r, e, by omega, by omega, h3, h4,
          forall_range_cons (fun hs => Int.le_trans (Int.le_of_lt h4) (hi hs)) h5, fun j hj1 hj2 hs => ?_⟩
        by_cases ej : j = i
        · subst ej; exact Int.lt_of_lt_of_le h4 (hi hs)
        · exact h6 j (by omega) hj2 hs

/-- the first index of least key among `0, …, n - 1` (the initial bound `key 0 + 1` lets index 0 in) -/
def argminTo (key : Nat → Int) (n : Nat) : Nat := scanMin key (fun _ => true) id n 0 0 (key 0 + 1)

lemma argminTo_spec (key : Nat → Int) (n : Nat) (hn : 0 < n) :
    argminTo key n < n ∧ ∀ j, j < n → key (argminTo key n) ≤ key j := by
  unfold argminTo
  rcases scanMin_spec key (fun _ => true) id n 0 0 (key 0 + 1) with ⟨_, h⟩ | ⟨r, e, _, h1, _, _, h2, _⟩
  · have := h 0 (Nat.le_refl 0) (by omega) rfl
    omega
  · rw [e]
    exact ⟨by simpa using h1, fun j hj => h2 j (Nat.zero_le j) (by omega) rfl⟩

lemma argmaxFrom_eq (alloc : Mat) (src : Nat) : ∀ (k i best : Nat) (ba : Int),
    argmaxFrom alloc src k i best ba = scanMin (fun i => -get2 alloc i src) (fun _ => true) id k i best (-ba) := by
  intro k
  induction k with
  | zero => intro i best ba; rfl
  | succ k ih =>
    intro i best ba
    rw [argmaxFrom, scanMin, ih, ih]
    simp only [Bool.true_and, decide_eq_true_eq, Int.neg_lt_neg_iff, id]

lemma argmaxFrom_spec (alloc : Mat) (src n : Nat) (hn : 0 < n)
    (h0 : ∀ i, i < n → 0 ≤ get2 alloc i src) :
    argmaxFrom alloc src n 0 0 (-1) < n ∧
    (∀ i, i < n → get2 alloc i src ≤ get2 alloc (argmaxFrom alloc src n 0 0 (-1)) src) ∧
    (∀ i, i < argmaxFrom alloc src n 0 0 (-1) →
      get2 alloc i src < get2 alloc (argmaxFrom alloc src n 0 0 (-1)) src) := by
  rw [argmaxFrom_eq]
  rcases scanMin_spec (fun i => -get2 alloc i src) (fun _ => true) id n 0 0 (- -1) with
    ⟨_, h⟩ | ⟨r, e, _, hlt, _, _, hle, hfirst⟩
  · have := h 0 (Nat.le_refl 0) (by omega) rfl
    have := h0 0 hn
    omega
  · rw [e]
    exact ⟨by simpa using hlt, fun i hi => by have := hle i (Nat.zero_le i) (by omega) rfl; simp only [id]; omega,
      fun i hi => by have := hfirst i (Nat.zero_le i) hi rfl; simp only [id]; omega⟩

lemma toAssignmentOf_getD (alloc : Mat) (n m src : Nat) (hs : src < m) :
    (toAssignmentOf alloc n m).getD src 0 = argmaxFrom alloc src n 0 0 (-1) := by
  simp [toAssignmentOf, List.getD_eq_getElem?_getD, hs]

lemma incCaps_length (a r : Int) : ∀ (cs : List Int) (i : Nat), (incCaps a r i cs).length = cs.length := by
  intro cs
  induction cs with
  | nil => intro i; rfl
  | cons c cs ih => intro i; simp [incCaps, ih]

lemma incCaps_sum_ge (a r : Int) : ∀ (cs : List Int) (i : Nat), r ≤ i →
    (incCaps a r i cs).sum = cs.sum + a * (cs.length : Int) := by
  intro cs
  induction cs with
  | nil => intro i _; simp [incCaps]
  | cons c cs ih =>
    intro i hi
    simp only [incCaps, List.sum_cons, List.length_cons, ih (i + 1) (by push_cast; omega)]
    rw [Nat.cast_add_one cs.length, mul_add, mul_one, if_neg (by omega)]
    omega

lemma incCaps_sum (a r : Int) : ∀ (cs : List Int) (i : Nat), (i : Int) ≤ r → r ≤ i + (cs.length : Int) →
    (incCaps a r i cs).sum = cs.sum + a * (cs.length : Int) + (r - i) := by
  intro cs
  induction cs with
  | nil => intro i h1 h2; simp only [incCaps, List.sum_nil, List.length_nil, Nat.cast_zero] at h2 ⊢; omega
  | cons c cs ih =>
    intro i h1 h2
    simp only [incCaps, List.sum_cons, List.length_cons] at h2 ⊢
    rw [Nat.cast_add_one cs.length] at h2 ⊢
    rw [mul_add, mul_one]
    by_cases hlt : (i : Int) < r
    · rw [if_pos hlt, ih (i + 1) (by push_cast; omega) (by push_cast; omega)]
      push_cast; omega
    · rw [if_neg hlt, incCaps_sum_ge a r cs (i + 1) (by push_cast; omega)]
      omega

lemma incCaps_getD (a r : Int) (ha : 0 ≤ a) : ∀ (cs : List Int) (i k : Nat),
    cs.getD k 0 ≤ (incCaps a r i cs).getD k 0 := by
  intro cs
  induction cs with
  | nil => intro i k; simp [incCaps]
  | cons c cs ih =>
    intro i k
    cases k with
    | zero =>
      simp only [incCaps, List.getD_cons_zero]
      split <;> omega
    | succ k =>
      simp only [incCaps, List.getD_cons_succ]
      exact ih (i + 1) k

lemma tdiv_facts (mis : Int) (n : Nat) (hm : 0 < mis) (hn : 0 < n) :
    0 ≤ Int.tdiv mis n ∧ 0 ≤ mis - Int.tdiv mis n * n ∧ mis - Int.tdiv mis n * n < n := by
  rw [Int.tdiv_eq_ediv_of_nonneg (le_of_lt hm)]
  have hn' : (0 : Int) < n := by exact_mod_cast hn
  have h1 := Int.ediv_mul_add_emod mis n
  have h2 := Int.emod_nonneg mis (ne_of_gt hn')
  have h3 := Int.emod_lt_of_pos mis hn'
  exact ⟨Int.ediv_nonneg (le_of_lt hm) (le_of_lt hn'), by omega, by omega⟩

lemma increaseCapacity_spec (p : Problem) (hn : 0 < p.nbSinks) :
    p.increaseCapacity.totalDemand ≤ p.increaseCapacity.totalCapacity ∧
    (∀ i, p.capacity i ≤ p.increaseCapacity.capacity i) ∧
    p.increaseCapacity.nbSinks = p.nbSinks ∧
    p.increaseCapacity.demands = p.demands ∧ p.increaseCapacity.costs = p.costs ∧
    p.increaseCapacity.allocations = p.allocations ∧
    (p.totalCapacity < p.totalDemand → p.increaseCapacity.totalCapacity = p.totalDemand) := by
  unfold Problem.increaseCapacity
  by_cases hm : p.missing ≤ 0
  · rw [if_pos hm]
    unfold Problem.missing at hm
    refine ⟨by omega, fun _ => le_refl _, rfl, rfl, rfl, rfl, fun h => by omega⟩
  · rw [if_neg hm]
    have hpos : 0 < p.missing := by omega
    obtain ⟨ha, hr0, hrn⟩ := tdiv_facts p.missing p.nbSinks hpos hn
    have htot : (Problem.incCaps p.added (p.missing - p.added * (p.nbSinks : Int)) 0 p.capacities).sum
        = p.totalDemand := by
      rw [incCaps_sum _ _ p.capacities 0 (by rw [Nat.cast_zero]; exact hr0)
        (by rw [Nat.cast_zero, zero_add]; exact le_of_lt hrn)]
      unfold Problem.missing Problem.totalCapacity Problem.nbSinks; push_cast; ring
    refine ⟨?_, ?_, ?_, rfl, rfl, rfl, fun _ => ?_⟩
    · simp only [Problem.totalDemand, Problem.totalCapacity] at htot ⊢
      omega
    · intro i
      exact incCaps_getD _ _ ha p.capacities 0 i
    · simp [Problem.nbSinks, incCaps_length]
    · simpa [Problem.totalCapacity] using htot

end ColoVerif.Transp
