import ColoVerif.Proofs.Transp1dOptDefs
/-
Optimality conditions, in position space, for the positions of the sources on the
cumulative-demand axis (C14; slack and exact balance alike).

`tL sv k x` / `tR sv k x` are the (negated) left and the right derivative of the cost
`f_k(x) = ∫_{S k + x}^{S (k+1) + x} |u k - v(sink(t))| dt` of source `k` placed at position `x`:
  `-f_k'(x-) = c k (sink of its start) - c k (sink of its end)` with the sinks taken left of the
  points, `f_k'(x+)` the same with the sinks taken right of the points.
`Kkt sv q`: for every maximal run of touching sources (equal positions) the marginal cost of
pushing any prefix of the run to the left, and any suffix of the run to the right, is non-negative
(whenever there is room), and the first/last source of the run does not prefer an earlier/later
sink to the one its start/end lies in.
-/
namespace ColoVerif.Transp1d

/-- number of sink ends `D (t+1)`, `t < m`, strictly below `y` -/
def cntLt (D : List Int) (y : Int) : Nat → Nat
  | 0 => 0
  | t + 1 => cntLt D y t + (if D.getD (t + 1) 0 < y then 1 else 0)

/-- number of sink ends `D (t+1)`, `t < m`, at or below `y` -/
def cntLe (D : List Int) (y : Int) : Nat → Nat
  | 0 => 0
  | t + 1 => cntLe D y t + (if D.getD (t + 1) 0 ≤ y then 1 else 0)

/-- the sink `t` with `D t < y ≤ D (t+1)` (for `0 < y ≤ D m`) -/
def sigL (sv : Solver) (y : Int) : Nat := cntLt sv.D y sv.v.length
/-- the sink `t` with `D t ≤ y < D (t+1)` (for `0 ≤ y < D m`) -/
def sigR (sv : Solver) (y : Int) : Nat := cntLe sv.D y sv.v.length

/-- marginal cost of moving source `k`, placed at `x`, to the left -/
def tL (sv : Solver) (k : Nat) (x : Int) : Int :=
  cs sv k (sigL sv (sv.S.getD k 0 + x)) - cs sv k (sigL sv (sv.S.getD (k + 1) 0 + x))

/-- marginal cost of moving source `k`, placed at `x`, to the right -/
def tR (sv : Solver) (k : Nat) (x : Int) : Int :=
  cs sv k (sigR sv (sv.S.getD (k + 1) 0 + x)) - cs sv k (sigR sv (sv.S.getD k 0 + x))

/-- `Σ_{a ≤ k' ≤ k} f k'` -/
def sumIcc (f : Nat → Int) (a k : Nat) : Int := sumTo (k + 1) f - sumTo a f

structure Kkt (sv : Solver) (q : List Int) : Prop where
  /-- pushing a prefix `a..k` of a run (started by `a`, not at the left wall) to the left -/
  s1 : ∀ a k, a ≤ k → k < sv.u.length → (a = 0 ∨ q.getD (a - 1) 0 < q.getD a 0) →
    (∀ k', a ≤ k' → k' ≤ k → q.getD k' 0 = q.getD a 0) → 0 < q.getD a 0 →
    0 ≤ sumIcc (fun k' => tL sv k' (q.getD a 0)) a k
  /-- the first source of a run (not at the left wall) prefers the sink of its start to earlier sinks -/
  s2 : ∀ a, a < sv.u.length → (a = 0 ∨ q.getD (a - 1) 0 < q.getD a 0) → 0 < q.getD a 0 →
    ∀ t, t < sigL sv (sv.S.getD a 0 + q.getD a 0) →
      cs sv a (sigL sv (sv.S.getD a 0 + q.getD a 0)) ≤ cs sv a t
  /-- pushing a suffix `k..b` of a run (ended by `b`, with room on its right) to the right -/
  s3 : ∀ k b, k ≤ b → b < sv.u.length →
    (b + 1 = sv.u.length ∨ q.getD b 0 < q.getD (b + 1) 0) →
    (∀ k', k ≤ k' → k' ≤ b → q.getD k' 0 = q.getD b 0) →
    sv.S.getD (b + 1) 0 + q.getD b 0 < sv.D.getD sv.v.length 0 →
    0 ≤ sumIcc (fun k' => tR sv k' (q.getD b 0)) k b
  /-- the last source of a run (with room on its right) prefers the sink of its end to later sinks -/
  s4 : ∀ b, b < sv.u.length → (b + 1 = sv.u.length ∨ q.getD b 0 < q.getD (b + 1) 0) →
    sv.S.getD (b + 1) 0 + q.getD b 0 < sv.D.getD sv.v.length 0 →
    ∀ t, sigR sv (sv.S.getD (b + 1) 0 + q.getD b 0) < t → t < sv.v.length →
      cs sv b (sigR sv (sv.S.getD (b + 1) 0 + q.getD b 0)) ≤ cs sv b t

/-- what the optimality proof needs from the instance and the positions -/
structure PosDom (sv : Solver) (q : List Int) : Prop where
  si : SortedInst sv
  spos : ∀ w ∈ sv.s, 0 < w
  dpos : ∀ w ∈ sv.d, 0 < w
  len : q.length = sv.u.length
  mono : ∀ i, i + 1 < sv.u.length → q.getD i 0 ≤ q.getD (i + 1) 0
  nn : ∀ i, i < sv.u.length → 0 ≤ q.getD i 0
  le : ∀ i, i < sv.u.length → sv.S.getD (i + 1) 0 + q.getD i 0 ≤ sv.D.getD sv.v.length 0
  slack : sv.S.getD sv.u.length 0 < sv.D.getD sv.v.length 0

end ColoVerif.Transp1d
