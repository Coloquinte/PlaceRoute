import ColoVerif.Proofs.RowLegBasic
import Mathlib.Tactic.Linarith
import Mathlib.Tactic.Ring
import Mathlib.Tactic.LinearCombination
/-
The queue of `RowLegalizer` encodes the convex, non-increasing piecewise-linear function
`eval B x = Σ_{(p,w) ∈ B} w · max 0 (p − x)`: where it vanishes, where it is linear, how steep it is;
and the identities by which the two bounds that `push` inserts account for the new cell's cost.
-/
namespace ColoVerif.RowLeg

def eval : List Bound → Int → Int
  | [], _ => 0
  | β :: B, x => β.weight * max 0 (β.absPos - x) + eval B x

/-- `Σ w · (min p cl − z)`: what the loop of `getDisplacement` integrates. -/
def linc (cl : Int) : List Bound → Int → Int
  | [], _ => 0
  | β :: B, z => β.weight * (min β.absPos cl - z) + linc cl B z

theorem eval_append (x : Int) : ∀ (A B : List Bound), eval (A ++ B) x = eval A x + eval B x
  | [], B => by simp [eval]
  | a :: A, B => by simp only [List.cons_append, eval, eval_append x A B]; omega

theorem eval_reverse (x : Int) : ∀ (A : List Bound), eval A.reverse x = eval A x
  | [] => rfl
  | a :: A => by
    simp only [List.reverse_cons, eval_append, eval, eval_reverse x A]; omega

theorem sumW_reverse : ∀ (A : List Bound), sumW A.reverse = sumW A
  | [] => rfl
  | a :: A => by simp only [List.reverse_cons, sumW_append, sumW, sumW_reverse A]; omega

theorem eval_pqInsert (β : Bound) (x : Int) : ∀ (B : List Bound),
    eval (pqInsert β B) x = β.weight * max 0 (β.absPos - x) + eval B x
  | [] => rfl
  | y :: ys => by
    unfold pqInsert
    split
    · rfl
    · simp only [eval, eval_pqInsert β x ys]; omega

theorem eval_ite_pqInsert (c : Prop) [Decidable c] (β : Bound) (B : List Bound) (x : Int) :
    eval (if c then pqInsert β B else B) x =
      (if c then β.weight * max 0 (β.absPos - x) else 0) + eval B x := by
  by_cases hc : c
  · simp only [if_pos hc, eval_pqInsert]
  · simp only [if_neg hc]; omega

theorem eval_pushQueue (R : List Bound) (b w tgt fin slope curPos x : Int) :
    eval (pushQueue R b w tgt fin slope curPos) x =
      (if tgt > b then (2 * w + min slope 0) * max 0 (min tgt fin - x) else 0)
        + ((if slope > 0 then slope * max 0 (curPos - x) else 0) + eval R x) := by
  simp only [pushQueue, eval_ite_pqInsert]

theorem eval_eq_zero (x : Int) : ∀ (B : List Bound), (∀ β ∈ B, β.absPos ≤ x) → eval B x = 0
  | [], _ => rfl
  | a :: A, h => by
    have h1 := h a (List.mem_cons_self ..)
    have e1 : max 0 (a.absPos - x) = 0 := by omega
    simp only [eval, e1, eval_eq_zero x A (fun β hβ => h β (List.mem_cons_of_mem _ hβ))]
    ring

theorem eval_diff_eq (y y' : Int) (hy : y ≤ y') : ∀ (B : List Bound), (∀ β ∈ B, y' ≤ β.absPos) →
    eval B y - eval B y' = sumW B * (y' - y)
  | [], _ => by simp [eval, sumW]
  | a :: A, h => by
    have h1 := h a (List.mem_cons_self ..)
    have e1 : max 0 (a.absPos - y) = a.absPos - y := by omega
    have e2 : max 0 (a.absPos - y') = a.absPos - y' := by omega
    have ih := eval_diff_eq y y' hy A (fun β hβ => h β (List.mem_cons_of_mem _ hβ))
    simp only [eval, sumW, e1, e2]
    linear_combination ih

theorem eval_diff_bounds (y y' : Int) (hy : y ≤ y') : ∀ (B : List Bound), (∀ β ∈ B, 0 ≤ β.weight) →
    0 ≤ eval B y - eval B y' ∧ eval B y - eval B y' ≤ sumW B * (y' - y)
  | [], _ => by simp [eval, sumW]
  | a :: A, h => by
    have hw := h a (List.mem_cons_self ..)
    have ih := eval_diff_bounds y y' hy A (fun β hβ => h β (List.mem_cons_of_mem _ hβ))
    have d0 : 0 ≤ max 0 (a.absPos - y) - max 0 (a.absPos - y') := by omega
    have d1 : 0 ≤ (y' - y) - (max 0 (a.absPos - y) - max 0 (a.absPos - y')) := by omega
    have p0 := Int.mul_nonneg hw d0
    have p1 := Int.mul_nonneg hw d1
    simp only [eval, sumW]
    constructor
    · linarith [ih.1]
    · linarith [ih.2]

theorem linc_eq_eval (cl z : Int) (hz : z ≤ cl) : ∀ (B : List Bound), (∀ β ∈ B, z ≤ β.absPos) →
    linc cl B z = eval B z - eval B cl
  | [], _ => by simp [linc, eval]
  | a :: A, h => by
    have h1 := h a (List.mem_cons_self ..)
    have ih := linc_eq_eval cl z hz A (fun β hβ => h β (List.mem_cons_of_mem _ hβ))
    have e1 : min a.absPos cl - z = max 0 (a.absPos - z) - max 0 (a.absPos - cl) := by omega
    simp only [linc, eval, e1]
    linear_combination ih

/-- `|z − t| = 2·max 0 (t − z) + (z − t)`: a cell's cost `w·|z − t|` is a bound of weight `2w` at its
target plus a linear term.  Here as a difference between two points `m ≤ f`. -/
theorem natAbs_sub_natAbs {m f t : Int} (h : m ≤ f) :
    ((m - t).natAbs : Int) - ((f - t).natAbs : Int) = 2 * max 0 (min t f - m) - (f - m) := by
  omega

theorem natAbs_diff_right {f y t : Int} (h : f ≤ y) (ht : t ≤ f) :
    ((y - t).natAbs : Int) - ((f - t).natAbs : Int) = y - f := by
  omega

/-- Left of the final position `fin` the two bounds inserted by `push` change `eval` exactly by the
popped weight `slope + w` (which is linear there) plus the new cell's own cost. -/
theorem push_terms_left (w tgt b slope curPos fin x : Int)
    (hneg : slope < 0 → fin ≤ max b tgt) (hcur : 0 < slope → fin ≤ curPos)
    (hbx : b ≤ x) (hxf : x ≤ fin) :
    (if tgt > b then (2 * w + min slope 0) * max 0 (min tgt fin - x) else 0)
      + (if slope > 0 then slope * max 0 (curPos - x) else 0)
      - ((if tgt > b then (2 * w + min slope 0) * max 0 (min tgt fin - fin) else 0)
        + (if slope > 0 then slope * max 0 (curPos - fin) else 0))
    = (slope + w) * (fin - x)
      + w * (((x - tgt).natAbs : Int) - ((fin - tgt).natAbs : Int)) := by
  have e0 : max 0 (min tgt fin - fin) = 0 :=
    Int.max_eq_left (Int.sub_nonpos_of_le (Int.min_le_right _ _))
  -- a target left of the row puts the cell's bound left of `x`
  have e3 : ¬ tgt > b → max 0 (min tgt fin - x) = 0 := fun ht => Int.max_eq_left (Int.sub_nonpos_of_le
    (Int.le_trans (Int.min_le_left _ _) (Int.le_trans (Int.not_lt.mp ht) hbx)))
  rw [natAbs_sub_natAbs hxf, e0]
  by_cases hs : slope > 0
  · have hc := hcur hs
    rw [if_pos hs, if_pos hs, Int.max_eq_right (Int.sub_nonneg_of_le (Int.le_trans hxf hc)),
      Int.max_eq_right (Int.sub_nonneg_of_le hc), Int.min_eq_right (Int.le_of_lt hs)]
    by_cases ht : tgt > b
    · rw [if_pos ht, if_pos ht]; ring
    · rw [if_neg ht, if_neg ht, e3 ht]; ring
  · rw [if_neg hs, if_neg hs]
    by_cases hs0 : slope = 0
    · -- nothing is left of the slope: only the cell's own bound matters
      rw [hs0, Int.min_self]
      by_cases ht : tgt > b
      · rw [if_pos ht, if_pos ht]; ring
      · rw [if_neg ht, if_neg ht, e3 ht]; ring
    · -- `fin` is the target clamped to the row
      have hfin := hneg (by omega)
      rw [Int.min_eq_left (Int.not_lt.mp hs)]
      by_cases ht : tgt > b
      · rw [Int.max_eq_right (Int.le_of_lt ht)] at hfin
        rw [if_pos ht, if_pos ht, Int.min_eq_right hfin, Int.max_eq_right (Int.sub_nonneg_of_le hxf)]
        ring
      · rw [Int.max_eq_left (Int.not_lt.mp ht)] at hfin
        rw [if_neg ht, if_neg ht, e3 ht, Int.le_antisymm (Int.le_trans hfin hbx) hxf]
        ring

end ColoVerif.RowLeg
