import ColoVerif.Proofs.RowLegBasic
import ColoVerif.Proofs.ListFacts
/-
Reachable states of `RowLegalizer` and what is true of all of them structurally: the queue is
sorted and every constraining position leaves room for the cells pushed before it, from which
`getPlacement` is legal.  `Legal` is read from the last cell (`LegalRev`) because the model keeps
its vectors most recent first.
-/
namespace ColoVerif.RowLeg

def LegalRev (b : Int) : Int → List Int → List Int → Prop
  | hi, [], [] => b ≤ hi
  | hi, w :: ws, x :: xs => x + w ≤ hi ∧ LegalRev b x ws xs
  | _, _, _ => False

theorem legal_length (e : Int) : ∀ (ws xs : List Int) (lo : Int), Legal e lo ws xs → xs.length = ws.length
  | [], [], _, _ => rfl
  | [], _ :: _, _, h => by simp [Legal] at h
  | _ :: _, [], _, h => by simp [Legal] at h
  | _ :: ws, _ :: xs, _, h => by
    simp only [Legal] at h
    simp [legal_length e ws xs _ h.2]

theorem legal_snoc (e w x : Int) : ∀ (ws xs : List Int) (lo : Int),
    Legal e lo (ws ++ [w]) (xs ++ [x]) ↔ Legal x lo ws xs ∧ x + w ≤ e
  | [], [], lo => by simp [Legal]
  | [], y :: ys, lo => iff_of_false (fun h => by simpa using legal_length e _ _ _ h) (by simp [Legal])
  | v :: vs, [], lo => iff_of_false (fun h => by simpa using legal_length e _ _ _ h) (by simp [Legal])
  | v :: vs, y :: ys, lo => by
    simp only [List.cons_append, Legal, legal_snoc e w x vs ys, and_assoc]

theorem legalRev_iff (b : Int) : ∀ (ws xs : List Int) (hi : Int),
    LegalRev b hi ws xs ↔ Legal hi b ws.reverse xs.reverse
  | [], [], hi => by simp [Legal, LegalRev]
  | [], x :: xs, hi => iff_of_false (by simp [LegalRev]) (fun h => by simpa using legal_length hi _ _ _ h)
  | w :: ws, [], hi => iff_of_false (by simp [LegalRev]) (fun h => by simpa using legal_length hi _ _ _ h)
  | w :: ws, x :: xs, hi => by
    simp only [LegalRev, List.reverse_cons, legal_snoc, legalRev_iff b ws xs x]
    exact And.comm

theorem legal_lo_le (e : Int) : ∀ (ws xs : List Int) (lo : Int), (∀ w ∈ ws, 0 ≤ w) →
    Legal e lo ws xs → lo ≤ e
  | [], [], _, _, h => h
  | [], _ :: _, _, _, h => by simp [Legal] at h
  | _ :: _, [], _, _, h => by simp [Legal] at h
  | w :: ws, x :: xs, lo, hw, h => by
    simp only [Legal] at h
    have := legal_lo_le e ws xs _ (fun v hv => hw v (List.mem_cons_of_mem _ hv)) h.2
    have := hw w (List.mem_cons_self ..)
    omega

theorem legal_pointwise (e : Int) : ∀ (ws xs : List Int) (lo : Int), (∀ w ∈ ws, 0 ≤ w) →
    Legal e lo ws xs → ∀ (i : Nat) (x w : Int), xs[i]? = some x → ws[i]? = some w →
      lo ≤ x ∧ x + w ≤ e ∧ ∀ x', xs[i + 1]? = some x' → x + w ≤ x'
  | [], _, _, _, _, i, x, w, _, h2 => by simp at h2
  | _ :: _, [], _, _, _, i, x, w, h1, _ => by simp at h1
  | v :: vs, y :: ys, lo, hw, h, 0, x, w, h1, h2 => by
    simp only [List.getElem?_cons_zero, Option.some.injEq] at h1 h2
    subst h1 h2
    simp only [Legal] at h
    have hw' : ∀ u ∈ vs, 0 ≤ u := fun u hu => hw u (List.mem_cons_of_mem _ hu)
    refine ⟨h.1, legal_lo_le e vs ys _ hw' h.2, ?_⟩
    intro x' hx'
    cases ys with
    | nil => simp at hx'
    | cons z zs =>
      simp only [Nat.zero_add, List.getElem?_cons_succ, List.getElem?_cons_zero, Option.some.injEq] at hx'
      subst hx'
      cases vs with
      | nil => simp [Legal] at h
      | cons u us => simp only [Legal] at h; exact h.2.1
  | v :: vs, y :: ys, lo, hw, h, i + 1, x, w, h1, h2 => by
    simp only [List.getElem?_cons_succ] at h1 h2
    simp only [Legal] at h
    have hw' : ∀ u ∈ vs, 0 ≤ u := fun u hu => hw u (List.mem_cons_of_mem _ hu)
    have := legal_pointwise e vs ys _ hw' h.2 i x w h1 h2
    have hv := hw v (List.mem_cons_self ..)
    refine ⟨by omega, this.2.1, ?_⟩
    intro x' hx'
    simp only [List.getElem?_cons_succ] at hx'
    exact this.2.2 x' hx'

theorem runMin_some : ∀ (cs : List Int) (m : Int), runMin (some m) cs = (runMin none cs).map (min m)
  | [], _ => rfl
  | c :: cs, m => by
    simp only [runMin, List.map_cons, runMin_some cs, List.map_map, List.cons.injEq, true_and]
    exact List.map_congr_left fun z _ => Int.min_assoc m c z

theorem runMin_none_cons (c : Int) (cs : List Int) :
    runMin none (c :: cs) = c :: (runMin none cs).map (min c) := by
  simp [runMin, runMin_some]

theorem runMin_length : ∀ (o : Option Int) (cs : List Int), (runMin o cs).length = cs.length
  | _, [] => rfl
  | none, c :: cs => by simp [runMin, runMin_length]
  | some m, c :: cs => by simp [runMin, runMin_length]

/-- Every constraining position leaves room in `[b, e]` for its own cell and the cells pushed before it
(both lists most recent first); widths are positive. -/
def Aligned (b e : Int) : List Int → List Int → Prop
  | [], [] => True
  | c :: cs, w :: ws => 0 < w ∧ b ≤ c ∧ c + w + ws.sum ≤ e ∧ Aligned b e cs ws
  | _, _ => False

theorem aligned_pos (b e : Int) : ∀ cs ws, Aligned b e cs ws → ∀ w ∈ ws, 0 < w
  | [], [], _ => by simp
  | [], _ :: _, h => by simp [Aligned] at h
  | _ :: _, [], h => by simp [Aligned] at h
  | _ :: cs, w :: ws, h => by
    simp only [Aligned] at h
    intro v hv
    rcases List.mem_cons.mp hv with rfl | hv
    · exact h.1
    · exact aligned_pos b e cs ws h.2.2.2 v hv

theorem aligned_sum_nonneg (b e : Int) (cs ws : List Int) (h : Aligned b e cs ws) : 0 ≤ ws.sum :=
  ListFacts.sum_nonneg_int ws fun w hw => Int.le_of_lt (aligned_pos b e cs ws h w hw)

theorem legalRev_runMin (b e : Int) : ∀ (cs ws : List Int) (m hi : Int), Aligned b e cs ws →
    b ≤ m → m + ws.sum ≤ hi →
    LegalRev b hi ws (List.zipWith (· + ·) (runMin (some m) cs) (cumRev ws))
  | [], [], m, hi, _, h1, h2 => by
    simp only [List.sum_nil] at h2
    simp only [runMin, cumRev, List.zipWith_nil_left, LegalRev]
    omega
  | [], _ :: _, _, _, h, _, _ => by simp [Aligned] at h
  | _ :: _, [], _, _, h, _, _ => by simp [Aligned] at h
  | c :: cs, w :: ws, m, hi, h, h1, h2 => by
    simp only [Aligned] at h
    simp only [List.sum_cons] at h2
    simp only [runMin, cumRev, List.zipWith_cons_cons, LegalRev]
    have := Int.min_le_left m c
    exact ⟨by omega, legalRev_runMin b e cs ws _ _ h.2.2.2 (Int.le_min.mpr ⟨h1, h.2.1⟩) (Int.le_refl _)⟩

theorem legalRev_placementRev (b e : Int) : ∀ (cs ws : List Int), Aligned b e cs ws → (ws = [] → b ≤ e) →
    LegalRev b e ws (List.zipWith (· + ·) (runMin none cs) (cumRev ws))
  | [], [], _, h => by simpa [runMin, cumRev, LegalRev] using h rfl
  | [], _ :: _, h, _ => by simp [Aligned] at h
  | _ :: _, [], h, _ => by simp [Aligned] at h
  | c :: cs, w :: ws, h, _ => by
    simp only [Aligned] at h
    simp only [runMin, cumRev, List.zipWith_cons_cons, LegalRev]
    refine ⟨by omega, legalRev_runMin b e cs ws _ _ h.2.2.2 h.2.1 (Int.le_refl _)⟩

/-- `Reach b e h C s`: `s` is reached from `State.new b e` by pushes that fit and
cost queries; `h` lists the pushed `(width, target)` most recent first and `C`
is the sum of the costs reported by the pushes. -/
inductive Reach (b e : Int) : List (Int × Int) → Int → State → Prop
  | new : Reach b e [] 0 (State.new b e)
  | push {h C s} (w t : Int) : Reach b e h C s → 0 < w → w ≤ s.remaining →
      Reach b e ((w, t) :: h) (C + (push s w t).1) (push s w t).2
  | cost {h C s} (w t : Int) : Reach b e h C s → Reach b e h C (getCost s w t).2

theorem reach_run (b e : Int) : ∀ (ops : List Op) (h : List (Int × Int)) (C : Int) (s : State),
    Reach b e h C s → Fits s ops →
    Reach b e ((cells ops).reverse ++ h) (C + pushCostSum s ops) (run s ops)
  | [], h, C, s, hr, _ => by simpa [cells, pushCostSum, run] using hr
  | .push w t :: ops, h, C, s, hr, hf => by
    simp only [Fits] at hf
    have := reach_run b e ops _ _ _ (Reach.push w t hr hf.1 hf.2.1) hf.2.2
    simpa [cells, pushCostSum, run, step, Int.add_assoc] using this
  | .cost w t :: ops, h, C, s, hr, hf => by
    simp only [Fits] at hf
    have := reach_run b e ops _ _ _ (Reach.cost w t hr) hf
    simpa [cells, pushCostSum, run, step] using this

theorem reach_run_new (b e : Int) (ops : List Op) (hf : Fits (State.new b e) ops) :
    Reach b e (cells ops).reverse (pushCostSum (State.new b e) ops) (run (State.new b e) ops) := by
  simpa using reach_run b e ops [] 0 _ Reach.new hf

/-- What holds in every reachable state (structure only; the cost invariant is `CostInv`). -/
structure Inv (b e : Int) (h : List (Int × Int)) (s : State) : Prop where
  hb : s.b = b
  he : s.e = e
  widths : s.widthsRev = h.map Prod.fst
  sorted : Sorted s.bounds
  aligned : Aligned b e s.cposRev s.widthsRev

theorem push_b (s : State) (w t : Int) : (push s w t).2.b = s.b := rfl
theorem push_e (s : State) (w t : Int) : (push s w t).2.e = s.e := rfl
theorem push_cposRev (s : State) (w t : Int) :
    (push s w t).2.cposRev = (displacement s w t).finalAbsPos :: s.cposRev := rfl
theorem push_widthsRev (s : State) (w t : Int) : (push s w t).2.widthsRev = w :: s.widthsRev := rfl

theorem push_used (s : State) (w t : Int) : (push s w t).2.used = w + s.used := by
  simp [State.used, push_widthsRev]

theorem push_remaining (s : State) (w t : Int) : (push s w t).2.remaining = s.remaining - w := by
  simp only [State.remaining, push_used, push_b, push_e]
  omega

theorem reach_inv {b e : Int} {h : List (Int × Int)} {C : Int} {s : State} (hr : Reach b e h C s) :
    Inv b e h s := by
  induction hr with
  | new => exact ⟨rfl, rfl, rfl, List.Pairwise.nil, trivial⟩
  | @push h C s w t _ hw hfit ih =>
    have hf := fin_bounds s w t hfit
    refine ⟨ih.hb, ih.he, ?_, sorted_pushQueue _ _ _ _ _ _ (scan_rest_sorted _ _ _ _ _ _ _ _ ih.sorted), ?_⟩
    · simp [push_widthsRev, ih.widths]
    · rw [push_cposRev, push_widthsRev]
      simp only [Aligned]
      refine ⟨hw, ?_, ?_, ih.aligned⟩
      · rw [← ih.hb]; exact hf.1
      · rw [← ih.he]
        show _ + w + s.used ≤ s.e
        omega
  | @cost h C s w t _ ih =>
    rw [getCost_state s w t ih.sorted]
    exact ih

theorem inv_legalRev {b e : Int} {h : List (Int × Int)} {s : State} (hi : Inv b e h s)
    (hbe : s.widthsRev = [] → b ≤ e) :
    LegalRev b e s.widthsRev (placementRev s) :=
  legalRev_placementRev b e _ _ hi.aligned hbe

theorem reach_legal {b e : Int} {h : List (Int × Int)} {C : Int} {s : State} (hr : Reach b e h C s)
    (hbe : b ≤ e) : Legal e b (widths s) (placement s) := by
  have := inv_legalRev (reach_inv hr) fun _ => hbe
  rw [legalRev_iff] at this
  exact this

theorem run_append (s : State) : ∀ (o1 o2 : List Op), run s (o1 ++ o2) = run (run s o1) o2
  | [], _ => rfl
  | o :: o1, o2 => by simp only [List.cons_append, run]; exact run_append _ o1 o2

theorem fits_append : ∀ (s : State) (o1 o2 : List Op), Fits s o1 → Fits (run s o1) o2 → Fits s (o1 ++ o2)
  | _, [], _, _, h => h
  | s, .push w t :: o1, o2, h1, h2 => by
    simp only [List.cons_append, Fits, run] at *
    exact ⟨h1.1, h1.2.1, fits_append _ o1 o2 h1.2.2 h2⟩
  | s, .cost w t :: o1, o2, h1, h2 => by
    simp only [List.cons_append, Fits, run] at *
    exact fits_append _ o1 o2 h1 h2

theorem cells_append : ∀ (o1 o2 : List Op), cells (o1 ++ o2) = cells o1 ++ cells o2
  | [], _ => rfl
  | .push w t :: o1, o2 => by simp [cells, cells_append o1 o2]
  | .cost w t :: o1, o2 => by simp [cells, cells_append o1 o2]

theorem pushCostSum_append : ∀ (s : State) (o1 o2 : List Op),
    pushCostSum s (o1 ++ o2) = pushCostSum s o1 + pushCostSum (run s o1) o2
  | _, [], _ => by simp [pushCostSum, run]
  | s, .push w t :: o1, o2 => by
    simp only [List.cons_append, pushCostSum, run, pushCostSum_append _ o1 o2]; omega
  | s, .cost w t :: o1, o2 => by
    simp only [List.cons_append, pushCostSum, run, pushCostSum_append _ o1 o2]

theorem reach_pointwise {b e : Int} {h : List (Int × Int)} {C : Int} {s : State} (hr : Reach b e h C s) :
    (placement s).length = h.reverse.length ∧
    ∀ (i : Nat) (x w t : Int), (placement s)[i]? = some x → h.reverse[i]? = some (w, t) →
      b ≤ x ∧ x + w ≤ e ∧ ∀ x', (placement s)[i + 1]? = some x' → x + w ≤ x' := by
  have hi := reach_inv hr
  by_cases hne : h = []
  · subst hne
    have hw : s.widthsRev = [] := by simpa using hi.widths
    simp [placement, placementRev, hw, cumRev]
  · have hl : Legal e b (widths s) (placement s) :=
      (legalRev_iff ..).mp (inv_legalRev hi fun h0 => absurd h0 (by rw [hi.widths]; simpa using hne))
    have hws : widths s = (h.reverse).map Prod.fst := by simp [widths, hi.widths]
    refine ⟨by rw [legal_length e _ _ _ hl, hws]; simp, ?_⟩
    intro i x w t hx hwt
    have hw : (widths s)[i]? = some w := by rw [hws, List.getElem?_map, hwt]; rfl
    have hnn : ∀ v ∈ widths s, 0 ≤ v := by
      intro v hv
      have := aligned_pos b e _ _ hi.aligned v (by simpa [widths] using hv)
      omega
    exact legal_pointwise e _ _ b hnn hl i x w hx hw

end ColoVerif.RowLeg
