import ColoVerif.Proofs.TranspSsp2Inv
import ColoVerif.Proofs.CheckedArith
import ColoVerif.Model.TranspTreeChecked
/-
For C07 `transp_costs_fit`: the `int` sums of `updateTree` and `bestSink` fit, because the labels stay between the
previous potentials and the edge bound `W` (`TreeSpec`, `Proofs/TranspSsp2Tree.lean`).
-/
namespace ColoVerif.Transp
open ColoVerif.Checked

/-- Under `TreeHyp` and `2·W ≤ INT_MAX` the checked `updateTree` (every `movingCost(i, bestVisit) +
sendingCost_[bestVisit]` as an `int` addition) returns what the unbounded model returns. -/
theorem updateTreeC_ok (p : Problem) (qs : Queues) (remCapa : List Int) (w : Nat → Nat → Int) (d' : Nat → Int)
    (W : Int) (h : TreeHyp p.nbSinks qs remCapa w d' W) (h2W : 2 * W ≤ intMax) :
    updateTreeC p qs remCapa = liftS (updateTree p qs remCapa) := by
  by_cases hex : ∃ f, f < p.nbSinks ∧ remCapa.getD f 0 > 0
  · obtain ⟨t, e, eC, _⟩ := treeLoop_spec h (treeFuel p.nbSinks) (initT remCapa) (initT_inv h) (initT_mu h)
    exact (eC h2W hex).trans (congrArg liftS e).symm
  · -- no sink has capacity left: nothing is ever selected
    have hp : pickVisit (initT remCapa) p.nbSinks 0 none intMax = none := by
      rcases pickVisit_top (initT remCapa) p.nbSinks with ⟨e, _⟩ | ⟨bv, _, hbv, hv, _⟩
      · exact e
      · rw [vis_initT (h.len ▸ hbv)] at hv
        exact absurd ⟨bv, hbv, of_decide_eq_true hv⟩ hex
    show treeLoopC p.nbSinks qs remCapa (p.nbSinks * 2147483648 + 1) (initT remCapa) =
      liftS (treeLoop p.nbSinks qs remCapa (p.nbSinks * 2147483648 + 1) (initT remCapa))
    rw [treeLoopC, treeLoop, hp]
    rfl

lemma bestSinkFromC_ok (p : Problem) (sendCost : List Int) (src : Nat) (n : Nat)
    (hfit : ∀ i, i < n → -2147483648 ≤ sendCost.getD i 0 + p.cost i src ∧ sendCost.getD i 0 + p.cost i src ≤ 2147483647) :
    ∀ (k i ret : Nat) (bc : Int), i + k = n →
      bestSinkFromC p sendCost src k i ret bc = .ok (bestSinkFrom p sendCost src k i ret bc) := by
  intro k
  induction k with
  | zero => intro i ret bc _; rfl
  | succ k ih =>
    intro i ret bc hik
    have hf := hfit i (by omega)
    rw [bestSinkFromC, bestSinkFrom, addI32_ok hf]
    simp only
    by_cases hc : sendCost.getD i 0 + p.cost i src < bc
    · rw [if_pos hc, if_pos hc]; exact ih (i + 1) i _ (by omega)
    · rw [if_neg hc, if_neg hc]; exact ih (i + 1) ret bc (by omega)

theorem bestSinkC_ok (p : Problem) (sendCost : List Int) (src : Nat) (W C : Int)
    (hl : ∀ i, i < p.nbSinks → 0 ≤ sendCost.getD i 0 ∧ sendCost.getD i 0 ≤ W)
    (hc : ∀ i, i < p.nbSinks → 0 ≤ p.cost i src ∧ p.cost i src ≤ C) (hWC : W + C ≤ intMax) :
    bestSinkC p sendCost src = .ok (bestSink p sendCost src) := by
  have im : intMax = 2147483647 := rfl
  apply bestSinkFromC_ok p sendCost src p.nbSinks ?_ p.nbSinks 0 0 intMax (by omega)
  intro i hi
  have := hl i hi
  have := hc i hi
  omega

/-- The same at every state of the run: `Mid` / `Pot` are what holds before each call of `updateTree`
(`finishSend_total` in `Proofs/TranspSsp2Solve.lean`); the stored costs lie in `[0, C]` with `2·C ≤ INT_MAX`
(`costsFromIntegers` scales to `C ≤ INT_MAX / (4·nbSinks)`). -/
theorem updateTreeC_at_mid (p : Problem) (alloc : Mat) (qs : Queues) (rem : List Int) (d : Nat → Int)
    (hm : Mid p alloc qs rem) (hp : Pot p alloc rem d) (hdle : ∀ i, i < p.nbSinks → d i ≤ intMax)
    (C : Int) (hC : ∀ i j, i < p.nbSinks → j < p.nbSources → 0 ≤ p.cost i j ∧ p.cost i j ≤ C)
    (h2C : 2 * C ≤ intMax) (hC0 : 0 ≤ C) (hcap : ∀ i, i < p.nbSinks → 0 < p.capacity i) :
    ∃ t, updateTreeC p qs rem = .ok t ∧ updateTree p qs rem = .ok t ∧
      TreeSpec p.nbSinks rem (wOf qs) d C t := by
  have im : intMax = 2147483647 := rfl
  have hyp := treeHyp_of_mid p alloc qs rem d hm hp hdle C hC0 (by omega)
    (fun i k j hi hk hj => (sub_between (hC k j hk hj) (hC i j hi hj)).2.trans (by omega)) hcap
  obtain ⟨t, ht, spec⟩ := updateTree_spec p qs rem (wOf qs) d C hyp
  refine ⟨t, ?_, ht, spec⟩
  rw [updateTreeC_ok p qs rem (wOf qs) d C hyp h2C, ht]
  rfl

theorem movingCostC_ok (p : Problem) (src snk1 snk2 : Nat) (C : Int)
    (h1 : 0 ≤ p.cost snk1 src ∧ p.cost snk1 src ≤ C) (h2 : 0 ≤ p.cost snk2 src ∧ p.cost snk2 src ≤ C)
    (hC : C ≤ intMax) : movingCostC p src snk1 snk2 = .ok (p.movingCost src snk1 snk2) := by
  have im : intMax = 2147483647 := rfl
  exact subI32_ok ⟨by omega, by omega⟩

end ColoVerif.Transp
