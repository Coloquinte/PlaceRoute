import ColoVerif.Proofs.Transp1dOptSweepDefs
/-
`flushPositions`: the final position of source `k` is the minimum of the recorded positions
`p k, …, p (n-1)`; the facts recorded per source give the optimality conditions `Kkt` of the final
positions.
-/
namespace ColoVerif.Transp1d

private theorem take_succ_rev (l : List Int) (k : Nat) (h : k < l.length) :
    (l.take (k + 1)).reverse = l.getD k 0 :: (l.take k).reverse := by
  rw [List.take_succ_eq_append_getElem h, List.reverse_append, List.getD_eq_getElem?_getD,
    List.getElem?_eq_getElem h]
  rfl

private theorem take_rev_length (l : List Int) (k : Nat) (h : k ≤ l.length) :
    ((l.take k).reverse).length = k := by
  rw [List.length_reverse, List.length_take]; omega

theorem facts_suffix (sv : Solver) : ∀ l₁ l₂ : List Int, Facts sv (l₁ ++ l₂) → Facts sv l₂
  | [], _, h => h
  | _ :: l₁, l₂, h => facts_suffix sv l₁ l₂ h.2

theorem facts_at (sv : Solver) (l : List Int) (hf : Facts sv l.reverse) (k : Nat)
    (h : k < l.length) : FactsTop sv (l.getD k 0) ((l.take k).reverse) := by
  rw [← List.take_append_drop (k + 1) l, List.reverse_append, take_succ_rev l k h] at hf
  exact (facts_suffix sv _ _ hf).1

theorem flush_last (mx : Int) (l : List Int) (k : Nat) (h : k + 1 = l.length) :
    (flush mx l).getD k 0 = min (l.getD k 0) mx := by
  rw [flush_getD mx l k (by omega), runMin_drop mx l k (by omega), h, List.drop_length]
  rfl

theorem lamU_start (sv : Solver) (l : List Int) (x : Int) (a : Nat) (ha : a ≤ l.length)
    (hs : a = 0 ∨ l.getD (a - 1) 0 < x) : lamU sv ((l.take a).reverse) x = 0 := by
  cases a with
  | zero => rfl
  | succ a =>
    rw [take_succ_rev l a ha]
    exact if_neg (Int.not_le.mpr (hs.resolve_left (Nat.succ_ne_zero a)))

theorem lamU_run (sv : Solver) (l : List Int) (x : Int) (a : Nat)
    (hs : a = 0 ∨ l.getD (a - 1) 0 < x) : ∀ n, a ≤ n → n ≤ l.length →
    (∀ k', a ≤ k' → k' < n → x ≤ l.getD k' 0) →
    lamU sv ((l.take n).reverse) x
      = sumTo n (fun k' => tL sv k' x) - sumTo a (fun k' => tL sv k' x)
  | 0, ha, _, _ => by rw [Nat.le_zero.mp ha, Int.sub_self]; rfl
  | n + 1, ha, hn, hr => by
    by_cases h : a = n + 1
    · rw [← h, lamU_start sv l x a (h ▸ hn) hs, Int.sub_self]
    · have han : a ≤ n := Nat.le_of_lt_succ (Nat.lt_of_le_of_ne ha h)
      rw [take_succ_rev l n hn, lamU, if_pos (hr n han (Nat.lt_succ_self n)),
        take_rev_length l n (Nat.le_of_lt hn),
        lamU_run sv l x a hs n han (Nat.le_of_lt hn) fun k' h1 h2 => hr k' h1 (Nat.lt_succ_of_lt h2),
        sumTo]
      omega

private theorem lamRj_zero (sv : Solver) (l : List Int) (x : Int) : lamRj sv l x 0 = 0 := by
  cases l <;> rfl

theorem lamRj_run (sv : Solver) (l : List Int) (x : Int) (c : Nat) : ∀ j, c + j ≤ l.length →
    (∀ k', c ≤ k' → k' < c + j → x ≤ l.getD k' 0) →
    lamRj sv ((l.take (c + j)).reverse) x j
      = sumTo (c + j) (fun k' => tR sv k' x) - sumTo c (fun k' => tR sv k' x)
  | 0, _, _ => by rw [lamRj_zero, Nat.add_zero, Int.sub_self]
  | j + 1, h, hr => by
    have hlt : c + j < l.length := h
    rw [← Nat.add_assoc, take_succ_rev l (c + j) hlt, lamRj,
      if_pos (hr (c + j) (Nat.le_add_right c j) (Nat.lt_succ_self _)),
      take_rev_length l (c + j) (Nat.le_of_lt hlt),
      lamRj_run sv l x c j (Nat.le_of_lt hlt) fun k' h1 h2 => hr k' h1 (Nat.lt_succ_of_lt h2), sumTo]
    omega

/-- the flushed positions as a running minimum of the recorded ones (the cap `mx` is inactive) -/
structure FlushRel (p q : List Int) : Prop where
  step : ∀ k, k + 1 < p.length → q.getD k 0 = min (p.getD k 0) (q.getD (k + 1) 0)
  last : ∀ k, k + 1 = p.length → q.getD k 0 = p.getD k 0

theorem FlushRel.le {p q : List Int} (h : FlushRel p q) (k : Nat) (hk : k < p.length) :
    q.getD k 0 ≤ p.getD k 0 := by
  by_cases h1 : k + 1 < p.length
  · rw [h.step k h1]; exact Int.min_le_left _ _
  · rw [h.last k (by omega)]

/-- the recorded position of the source before a run start is below the run -/
theorem FlushRel.start {p q : List Int} (h : FlushRel p q) (a : Nat) (ha : a < p.length)
    (hs : a = 0 ∨ q.getD (a - 1) 0 < q.getD a 0) :
    a = 0 ∨ p.getD (a - 1) 0 < q.getD a 0 := by
  cases a with
  | zero => exact Or.inl rfl
  | succ a =>
    have h1 := h.step a ha
    have h2 := hs.resolve_left (Nat.succ_ne_zero a)
    rw [Nat.add_sub_cancel] at h2 ⊢
    exact Or.inr (by omega)

/-- the last source of a run sits at its recorded position -/
theorem FlushRel.stop {p q : List Int} (h : FlushRel p q) (b : Nat) (hb : b < p.length)
    (hs : b + 1 = p.length ∨ q.getD b 0 < q.getD (b + 1) 0) : q.getD b 0 = p.getD b 0 := by
  rcases hs with h0 | h0
  · exact h.last b h0
  · by_cases h1 : b + 1 < p.length
    · have := h.step b h1; omega
    · exact h.last b (by omega)

theorem flushRel (sv : Solver) (pRaw : List Int) (hlen : pRaw.length = sv.u.length)
    (hf : Facts sv pRaw.reverse) :
    FlushRel pRaw (flush (sv.D.getD sv.v.length 0 - sv.S.getD sv.u.length 0) pRaw) := by
  refine ⟨fun k hk => flush_step _ _ k hk, fun k hk => ?_⟩
  have hk' : k < pRaw.length := hk ▸ Nat.lt_succ_self k
  have h := (facts_at sv pRaw hf k hk').fit
  rw [take_rev_length pRaw k (Nat.le_of_lt hk'), hk, hlen] at h
  rw [flush_last _ _ k hk]
  omega

theorem facts_kkt (sv : Solver) (pRaw : List Int) (hlen : pRaw.length = sv.u.length)
    (hf : Facts sv pRaw.reverse) :
    Kkt sv (flush (sv.D.getD sv.v.length 0 - sv.S.getD sv.u.length 0) pRaw) := by
  have hr := flushRel sv pRaw hlen hf
  generalize flush (sv.D.getD sv.v.length 0 - sv.S.getD sv.u.length 0) pRaw = q at hr ⊢
  have hF := facts_at sv pRaw hf
  refine ⟨fun a k hak hk hs hrun hpos => ?_, fun a ha hs hpos t ht => ?_,
    fun k b hkb hb hs hrun hroom => ?_, fun b hb hs hroom t ht htm => ?_⟩
  · -- the run `a..k` is what `lamU` of source `k` sums over at `q a`
    rw [← hlen] at hk
    have hge : ∀ k', a ≤ k' → k' ≤ k → q.getD a 0 ≤ pRaw.getD k' 0 :=
      fun k' h1 h2 => hrun k' h1 h2 ▸ hr.le k' (Nat.lt_of_le_of_lt h2 hk)
    have h1 := (hF k hk).f1 (q.getD a 0) hpos (hge k hak (Nat.le_refl _))
    rw [← take_succ_rev pRaw k hk,
      lamU_run sv pRaw (q.getD a 0) a (hr.start a (Nat.lt_of_le_of_lt hak hk) hs) (k + 1)
        (Nat.le_succ_of_le hak) hk fun k' h1 h2 => hge k' h1 (Nat.le_of_lt_succ h2)] at h1
    exact h1
  · rw [← hlen] at ha
    have h2 := (hF a ha).f2 (q.getD a 0) hpos (hr.le a ha) fun y hy => by
      cases a with
      | zero => cases hy
      | succ a =>
        rw [take_succ_rev pRaw a (Nat.le_of_lt ha)] at hy
        rw [← Option.some.inj hy]
        exact (hr.start (a + 1) ha hs).resolve_left (Nat.succ_ne_zero a)
    rw [take_rev_length pRaw a (Nat.le_of_lt ha)] at h2
    exact h2 t ht
  · -- source `b` sits at its recorded position, and `lamRj` of source `b` sums over `k..b`
    have hqb := hr.stop b (hlen ▸ hb) (hlen ▸ hs)
    rw [← hlen] at hb
    rw [hqb] at hroom hrun ⊢
    have h3 := (hF b hb).f3 (by rw [take_rev_length pRaw b (Nat.le_of_lt hb)]; exact hroom) (b + 1 - k)
    have e : k + (b + 1 - k) = b + 1 := by omega
    have hR := lamRj_run sv pRaw (pRaw.getD b 0) k (b + 1 - k) (e.symm ▸ hb) fun k' h1 h2 =>
      hrun k' h1 (by omega) ▸ hr.le k' (by omega)
    rw [e] at hR
    rw [← take_succ_rev pRaw b hb, hR] at h3
    exact h3
  · have hqb := hr.stop b (hlen ▸ hb) (hlen ▸ hs)
    rw [← hlen] at hb
    have h4 := (hF b hb).f4
    rw [take_rev_length pRaw b (Nat.le_of_lt hb), ← hqb] at h4
    exact h4 hroom t ht htm

end ColoVerif.Transp1d
