import ColoVerif.Proofs.DetAccepted
import ColoVerif.Proofs.DetReorderWriteback
import ColoVerif.Proofs.RowNbhSpec
/-!
`DetailedPlacer::runReordering` as modelled (Model/DetReorderPass.lean) never fails and is a history of accepted
moves (`runReordering_spec`).  On an `Inv` placement a window of distinct valid placed cells is registered without
exception (`addCells_spec`) and registers distinct valid cells (`addCells_registered`), so it is the pass of
`reorderWindow_placer`; the write-back of the kept leaf goes through (`writeback_succeeds`) because that leaf is
well-formed (`Book.bestwf`: the enumeration only recurses under the `allocatedWidth <= width && isRowAllowed` test
and packs positions from `minPos`).  `GroupInv` is what carries over from one window of a group of rows to the next.
-/
namespace ColoVerif.DetPlace
open State

theorem reorderWindow_info_cells {p q : Placer} {ops : List Op} {info : WindowInfo} {w : List Int}
    (e : p.reorderWindow w = .ok (q, ops, info)) :
    ∃ rr0, addCells p.pl (RowReord.new (p.xt, p.yt)) w = .ok rr0 ∧ info.cells = sortDesc rr0.cells := by
  unfold Placer.reorderWindow at e
  split at e
  · cases e
  · rename_i rr0 e0
    split at e
    · cases e
    · injection e with e
      have e3 := congrArg (·.2.2) e
      simp only [] at e3
      refine ⟨rr0, e0, ?_⟩
      rw [← e3]
      exact run_cells modelStore p.pl rr0

theorem windowOk_of_inv {p : Placer} (h : Inv p.pl) {w : List Int} (hn : w.Nodup)
    (hw : ∀ c ∈ w, p.pl.validCell c ∧ p.pl.row c ≠ -1) : WindowOk p w := by
  intro q ops info e
  obtain ⟨rr0, e0, hc⟩ := reorderWindow_info_cells e
  obtain ⟨h1, h2⟩ := addCells_registered p.pl h w _ rr0 hn hw e0
  rw [hc]
  have hp := sortDesc_perm rr0.cells
  exact ⟨hp.symm.nodup h1, fun k hk => (hw k (h2 k (hp.mem_iff.1 hk))).1⟩

/-- what the windows of one group of rows keep, `s0` being the placement when the group starts -/
structure GroupInv (c : Circuit) (s0 : State) (p : Placer) : Prop where
  total : TotalInv c s0 p
  placed : Lg.AllPlaced p.pl

theorem GroupInv.run {c : Circuit} {s0 : State} {p q : Placer} {ops : List Op} (h : GroupInv c s0 p)
    (e : p.run ops = .ok q) : GroupInv c s0 q := by
  obtain ⟨hs, e'⟩ := run_sync ops p q h.total.sync e
  exact ⟨⟨hs, run_inv h.total.sweep.inv e', h.total.sweep.static.trans (run_static e')⟩, Lg.run_allPlaced h.placed e'⟩

theorem reorderWindow_total (V : Value) (s : State) (h : Inv s) (w : List Int) (hn : w.Nodup)
    (hw : ∀ c ∈ w, s.validCell c ∧ s.row c ≠ -1) : ∃ t, s.reorderWindow V w = .ok t := by
  obtain ⟨G, segs, af, R, e0⟩ := addCells_spec s h w hn hw
  obtain ⟨_, _, r3, r4, hb, _⟩ := run_spec V s (RowReord.start s (s.x, s.y) G segs af) (start_fresh ..) R.inv.1
    (fun c hc => (hw c (R.mem c hc)).1.1) rfl
  unfold State.reorderWindow
  rw [e0]
  simp only []
  split
  · rename_i himp
    have hwf := hb.bestwf himp
    rw [r4, r3] at hwf
    unfold RowReord.bestRegions
    rw [r3, r4]
    exact writeback_succeeds h hw R (sortDesc segs.flatten) (sortDesc_perm _) _ _ hwf
  · exact ⟨s, rfl⟩

theorem placer_reorderWindow_total {c : Circuit} (p : Placer) (hs : Sync c p) (h : Inv p.pl) (w : List Int) (hn : w.Nodup)
    (hw : ∀ k ∈ w, p.pl.validCell k ∧ p.pl.row k ≠ -1) : ∃ r, p.reorderWindow w = .ok r := by
  obtain ⟨G, segs, af, R, e0⟩ := addCells_spec p.pl h w hn hw
  have em := e0 (p.xt, p.yt)
  have hvalid : ∀ k ∈ segs.flatten, p.pl.validCell k := fun k hk => (hw k (R.mem k hk)).1
  obtain ⟨rrp0, ep, -, -, -, hsim⟩ := window_lockstep c p hs w _ em hvalid
  cases (e0 (p.pl.x, p.pl.y)).symm.trans ep
  obtain ⟨g1, g2, g3, g4, g5, g6, g7, g8, g10, g11, g12⟩ := core_fields hsim.core
  obtain ⟨_, _, r3, r4, hb, _⟩ := run_spec (circuitValue c) p.pl _ (start_fresh ..) R.inv.1
    (fun k hk => (hs.valid (hvalid k hk)).1) rfl
  unfold Placer.reorderWindow
  rw [em]
  simp only []
  have hwb : ∃ q, p.writeback ((RowReord.start p.pl (p.xt, p.yt) G segs af).run modelStore p.pl) = .ok q := by
    unfold Placer.writeback
    split
    · rename_i himp
      have hwf := hb.bestwf (g8 ▸ himp)
      rw [r4, r3] at hwf
      obtain ⟨t, et⟩ := writeback_succeeds h hw R (sortDesc segs.flatten) (sortDesc_perm _) _ _ hwf
      have hbr : ((RowReord.start p.pl (p.xt, p.yt) G segs af).run modelStore p.pl).bestRegions =
          leafRegions G ((RowReord.start p.pl (p.pl.x, p.pl.y) G segs af).run (pureStore (circuitValue c)) p.pl).bestOrder
            ((RowReord.start p.pl (p.pl.x, p.pl.y) G segs af).run (pureStore (circuitValue c)) p.pl).bestPositions := by
        unfold RowReord.bestRegions; rw [← g1, ← g6, ← g7, r4]; rfl
      rw [hbr, ← g2, r3]
      refine (map_eq_ok (f := (·.pl)) (b := t) ?_).imp fun _ h => h.1
      rw [Placer.reorderWriteback_pl]
      exact et
    · exact ⟨_, rfl⟩
  obtain ⟨q, eq⟩ := hwb
  rw [eq]
  exact ⟨_, rfl⟩

theorem windowsLoop_spec {c : Circuit} {s0 : State} (ws : List (List Int)) : ∀ (p : Placer), GroupInv c s0 p →
    (∀ w ∈ ws, w.Nodup ∧ ∀ k ∈ w, s0.validCell k ∧ s0.width k ≠ -1) →
    ∃ r, p.reorderWindowsLoop ws = .ok r ∧ Reaches c p r.1 ∧ p.run r.2.1 = .ok r.1 := by
  induction ws with
  | nil => exact fun p hj _ => ⟨(p, [], []), rfl, Reaches.refl hj.total.sync, rfl⟩
  | cons w ws ih =>
    intro p hj hws
    obtain ⟨hn, hw⟩ := hws w (List.mem_cons_self ..)
    have hw' : ∀ k ∈ w, p.pl.validCell k ∧ p.pl.row k ≠ -1 := fun k hk =>
      have v := validCell_congr hj.total.sweep.static.nCells (hw k hk).1
      ⟨v, hj.placed k v (by rw [hj.total.sweep.static.width]; exact (hw k hk).2)⟩
    obtain ⟨⟨q, ops, info⟩, e⟩ := placer_reorderWindow_total p hj.total.sync hj.total.sweep.inv w hn hw'
    obtain ⟨h1, h2⟩ := window_reaches hj.total.sync (windowOk_of_inv hj.total.sweep.inv hn hw') e
    obtain ⟨r', e', g1, g2⟩ := ih q (hj.run h2) (fun w' hw' => hws w' (List.mem_cons_of_mem _ hw'))
    refine ⟨(r'.1, ops ++ r'.2.1, info :: r'.2.2), ?_, h1.trans g1, run_append h2 g2⟩
    unfold Placer.reorderWindowsLoop
    rw [e]
    simp only []
    rw [e']

theorem reorderingOnRows_spec {c : Circuit} {s0 : State} {p : Placer} {rows : List Int} (m : Int) (hj : GroupInv c s0 p)
    (hn : rows.Nodup) (hr : ∀ x ∈ rows, p.pl.validRow x) :
    ∃ r, p.runReorderingOnRows rows m = .ok r ∧ Reaches c p r.1 ∧ p.run r.2.1 = .ok r.1 := by
  have hok := reorderWindows_ok p.pl hj.total.sweep.inv rows hn hr m
  exact windowsLoop_spec (s0 := p.pl) _ p ⟨⟨hj.total.sync, hj.total.sweep.inv, .refl _⟩, hj.placed⟩ fun w hw =>
    ⟨(hok w hw).1, fun k hk => by
      obtain ⟨v1, v2, _⟩ := (hok w hw).2 k hk
      have := hj.total.sweep.inv.placed_width v1 v2
      exact ⟨v1, by omega⟩⟩

theorem reorderRowsLoop_spec {c : Circuit} {s0 : State} (nbh : RowNbh) (m : Int)
    (hnb : ∀ r, s0.validRow r → (r :: nbh.rowsAbove r).Nodup ∧ ∀ j ∈ nbh.rowsAbove r, s0.validRow j)
    (rs : List Int) : ∀ (p : Placer), GroupInv c s0 p → (∀ r ∈ rs, s0.validRow r) →
      ∃ x, Placer.reorderRowsLoop nbh m p rs = .ok x ∧ Reaches c p x.1 ∧ p.run x.2.1 = .ok x.1 := by
  induction rs with
  | nil => exact fun p hj _ => ⟨(p, [], []), rfl, Reaches.refl hj.total.sync, rfl⟩
  | cons r rs ih =>
    intro p hj hrs
    have hr := hrs r (List.mem_cons_self ..)
    obtain ⟨n1, n2⟩ := hnb r hr
    obtain ⟨y, ey, g1, g2⟩ := reorderingOnRows_spec m hj n1 fun x hx =>
      validRow_congr hj.total.sweep.static.rows ((List.mem_cons.1 hx).elim (· ▸ hr) (n2 x))
    obtain ⟨z, ez, k1, k2⟩ := ih y.1 (hj.run g2) (fun r' hr' => hrs r' (List.mem_cons_of_mem _ hr'))
    refine ⟨(z.1, y.2.1 ++ z.2.1, y.2.2 ++ z.2.2), ?_, g1.trans k1, run_append g2 k2⟩
    unfold Placer.reorderRowsLoop
    rw [ey]
    simp only []
    rw [ez]

/-- `runReordering(maxNbRows, maxNbCells)` never fails and is a history of accepted moves, on an object in
sync whose placement satisfies `Inv` with every optimised cell placed — whatever `maxNbRows`, `maxNbCells`;
the logged write-backs replay to the result. -/
theorem runReordering_spec {c : Circuit} (p : Placer) (a b : Int) (hs : Sync c p) (hi : Inv p.pl)
    (ha : Lg.AllPlaced p.pl) : ∃ r, p.runReordering a b = .ok r ∧ Reaches c p r.1 ∧ p.run r.2.1 = .ok r.1 := by
  unfold Placer.runReordering
  split
  · exact ⟨_, rfl, Reaches.refl hs, rfl⟩
  · exact reorderRowsLoop_spec (s0 := p.pl) (RowNbh.ofRows p.pl.rows (a - 1)) b
      (fun r _ => rowsAbove_ok p.pl.rows (a - 1) r) (State.intsUpTo p.pl.nRows) p ⟨⟨hs, hi, .refl _⟩, ha⟩
      (fun r hr => (mem_intsUpTo _ _).1 hr)

theorem runReordering_total {c : Circuit} (p : Placer) (a b : Int) (hs : Sync c p) (hi : Inv p.pl)
    (ha : Lg.AllPlaced p.pl) : ∃ r, p.runReordering a b = .ok r :=
  (runReordering_spec p a b hs hi ha).imp fun _ h => h.1

theorem runReordering_reaches {c : Circuit} {p q : Placer} {a b : Int} {ops : List Op} {infos : List WindowInfo}
    (hs : Sync c p) (hi : Inv p.pl) (ha : Lg.AllPlaced p.pl) (e : p.runReordering a b = .ok (q, ops, infos)) :
    Reaches c p q ∧ p.run ops = .ok q ∧ Inv q.pl ∧ Lg.AllPlaced q.pl := by
  obtain ⟨r, er, h1, h2⟩ := runReordering_spec p a b hs hi ha
  rw [e] at er
  cases er
  have hj := GroupInv.run (s0 := p.pl) ⟨⟨hs, hi, .refl _⟩, ha⟩ h2
  exact ⟨h1, h2, hj.total.sweep.inv, hj.placed⟩

end ColoVerif.DetPlace
