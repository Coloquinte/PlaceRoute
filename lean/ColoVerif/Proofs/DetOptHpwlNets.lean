import ColoVerif.Model.DetIncr
import ColoVerif.Proofs.IncrNetTopology
/-!
Link from the incremental net model (C09) to the HPWL claim of C05: the value of a good `IncrNetModel`
is a function of its net CSR (`NetsEq`, frozen when the model is built) and of the current cell
positions only (`posValue`). The position vector of the full topology is `posList n f`, and one
`updateCellPos` is a `List.set` on it.
-/
namespace ColoVerif.DetPlace
open ColoVerif

/-- the part of an `IncrNetModel` that `updateCellPos` never writes and that determines the value
together with `cellPos_` -/
def NetsEq (m m' : IncrNet.Model) : Prop :=
  m.netLimits = m'.netLimits ∧ m.netCells = m'.netCells ∧ m.netPinOffsets = m'.netPinOffsets

theorem NetsEq.refl (m : IncrNet.Model) : NetsEq m m := ⟨rfl, rfl, rfl⟩
theorem NetsEq.symm {m m' : IncrNet.Model} (h : NetsEq m m') : NetsEq m' m := ⟨h.1.symm, h.2.1.symm, h.2.2.symm⟩
theorem NetsEq.trans {a b c : IncrNet.Model} (h : NetsEq a b) (h' : NetsEq b c) : NetsEq a c :=
  ⟨h.1.trans h'.1, h.2.1.trans h'.2.1, h.2.2.trans h'.2.2⟩

/-- the cell-to-net CSR, which `updateCellPos` reads and never writes either -/
def CellCsrEq (m m' : IncrNet.Model) : Prop :=
  m.cellLimits = m'.cellLimits ∧ m.cellNets = m'.cellNets ∧ m.cellPinOffsets = m'.cellPinOffsets

theorem CellCsrEq.symm {m m' : IncrNet.Model} (h : CellCsrEq m m') : CellCsrEq m' m := ⟨h.1.symm, h.2.1.symm, h.2.2.symm⟩
theorem CellCsrEq.trans {a b c : IncrNet.Model} (h : CellCsrEq a b) (h' : CellCsrEq b c) : CellCsrEq a c :=
  ⟨h.1.trans h'.1, h.2.1.trans h'.2.1, h.2.2.trans h'.2.2⟩

def posValue (m : IncrNet.Model) (P : List Int) : Int := IncrNet.scratchValue { m with cellPos := P }

theorem posValue_self (m : IncrNet.Model) : posValue m m.cellPos = IncrNet.scratchValue m := rfl

theorem posValue_congr {m m' : IncrNet.Model} (h : NetsEq m m') (P : List Int) : posValue m P = posValue m' P := by
  obtain ⟨h1, h2, h3⟩ := h
  simp only [posValue, IncrNet.scratchValue, IncrNet.Model.nbNets, IncrNet.Model.netPinPositions, IncrNet.Model.netPins,
    IncrNet.Model.nbNetPins, IncrNet.Model.pinCell, IncrNet.Model.netPinOffset, h1, h2, h3]

theorem good_posValue {m : IncrNet.Model} (h : IncrNet.Good m) : m.value = posValue m m.cellPos := by
  rw [posValue_self]; exact IncrNet.good_value m h

theorem update_good {m : IncrNet.Model} (h : IncrNet.Good m) (k : Nat) (v : Int) : IncrNet.Good (m.updateCellPos k v) :=
  IncrNet.run_good m [(k, v)] h

theorem update_netsEq (m : IncrNet.Model) (k : Nat) (v : Int) : NetsEq (m.updateCellPos k v) m := by
  obtain ⟨X, Y, h⟩ := IncrNet.update_frame m k v
  rw [h]; exact ⟨rfl, rfl, rfl⟩

theorem update_cellPos (m : IncrNet.Model) (k : Nat) (v : Int) : (m.updateCellPos k v).cellPos = m.cellPos.set k v := by
  obtain ⟨X, Y, h⟩ := IncrNet.update_frame m k v
  rw [h]

/-- the maintained bounds and value are determined by the CSRs and the positions: they are what
`IncrNetModel::check()` recomputes -/
theorem good_ext {m m' : IncrNet.Model} (h : IncrNet.Good m) (h' : IncrNet.Good m') (hn : NetsEq m m')
    (hc : CellCsrEq m m')
    (hp : m.cellPos = m'.cellPos) : m = m' := by
  have c1 := (IncrNet.inv_iff_consistent m).mp h.inv
  have c2 := (IncrNet.inv_iff_consistent m').mp h'.inv
  obtain ⟨h1, h2, h3⟩ := hn
  obtain ⟨h4, h5, h6⟩ := hc
  have e1 : m.netMinMaxPos = m'.netMinMaxPos := by
    rw [c1.1, c2.1]
    simp only [IncrNet.Model.computeAllMinMaxPos, IncrNet.Model.nbNets, h1]
    apply List.map_congr_left
    intro n _
    simp only [IncrNet.Model.computeNetMinMaxPos,
      IncrNet.Model.netPinPositions, IncrNet.Model.netPins, IncrNet.Model.nbNetPins, IncrNet.Model.pinCell,
      IncrNet.Model.netPinOffset, h1, h2, h3, hp]
  have e2 : m.value = m'.value := by
    rw [c1.2, c2.2]
    simp only [IncrNet.Model.computeValue, IncrNet.Model.nbNets, h1, e1]
  cases m; cases m'
  simp only [IncrNet.Model.mk.injEq]
  simp only at h1 h2 h3 h4 h5 h6 hp e1 e2
  exact ⟨hp, h1, h2, h3, h4, h5, h6, e1, e2⟩

theorem update_cellCsr (m : IncrNet.Model) (k : Nat) (v : Int) : CellCsrEq (m.updateCellPos k v) m := by
  obtain ⟨X, Y, h⟩ := IncrNet.update_frame m k v
  rw [h]; exact ⟨rfl, rfl, rfl⟩

/-- `cellPos_` of `x/yTopology(circuit)`: the `n` cells at `f`, then the extra fixed cell at 0 -/
def posList (n : Nat) (f : Int → Int) : List Int := (List.range n).map (fun (i : Nat) => f (i : Int)) ++ [0]

theorem posList_length (n : Nat) (f : Int → Int) : (posList n f).length = n + 1 := by simp [posList]

theorem posList_getElem? (n : Nat) (f : Int → Int) (i : Nat) :
    (posList n f)[i]? = if i < n then some (f i) else if i = n then some 0 else none := by
  unfold posList
  by_cases hi : i < n
  · rw [List.getElem?_append_left (by simpa using hi)]; simp [hi]
  · rw [List.getElem?_append_right (by simpa using hi)]
    by_cases hn : i = n
    · subst hn; simp
    · have : i - n ≠ 0 := by omega
      simp [hi, hn]; omega

theorem posList_congr (n : Nat) (f g : Int → Int) (h : ∀ i : Nat, i < n → f (i : Int) = g (i : Int)) :
    posList n f = posList n g := by
  unfold posList
  congr 1
  apply List.map_congr_left
  intro i hi
  exact h i (List.mem_range.mp hi)

theorem posList_set (n : Nat) (f : Int → Int) (k v : Int) (h0 : 0 ≤ k) (hk : k < n) :
    (posList n f).set k.toNat v = posList n (upd f k v) := by
  unfold posList
  rw [List.set_append_left _ _ (by rw [List.length_map, List.length_range]; exact (Int.toNat_lt h0).2 hk)]
  congr 1
  refine List.ext_getElem (by rw [List.length_set, List.length_map, List.length_map]) fun i h1 h2 => ?_
  rw [List.getElem_set, List.getElem_map, List.getElem_map, List.getElem_range]
  by_cases hik : k.toNat = i
  · rw [if_pos hik, ← hik, Int.toNat_of_nonneg h0, upd_same]
  · rw [if_neg hik, upd_other f k i v fun e => hik (by rw [← e, Int.toNat_natCast])]

end ColoVerif.DetPlace
