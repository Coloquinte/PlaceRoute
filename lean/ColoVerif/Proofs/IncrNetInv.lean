import ColoVerif.Model.IncrNet
import ColoVerif.Proofs.ListFacts
/-
`IncrNetModel::updateCellPos` keeps the stored bounds and value equal to their recomputation (`update_inv`,
behind C09 `incr_inv`).  `Partial m stale` is that invariant outside a set of stale nets: writing
`cellPos_[cell]` makes exactly the nets containing `cell` stale, and `WF` (the cell→net CSR is the transpose
of the net→cell CSR) says these are the nets `recomputeNet` is then called on.
-/
namespace ColoVerif.IncrNet
open ColoVerif Model

def Partial (m : Model) (stale : Nat → Prop) : Prop :=
  m.netMinMaxPos.length = m.nbNets ∧
  (∀ n, n < m.nbNets → ¬ stale n → m.netMinMaxPos.getD n (0, 0) = m.computeNetMinMaxPos n) ∧
  m.value = m.computeValue

/-- the maintained bounds and value equal their from-scratch recomputation -/
def Inv (m : Model) : Prop := Partial m (fun _ => False)

/-- the cell→net CSR is the exact transpose of the net→cell CSR -/
def WF (m : Model) : Prop :=
  ∀ cell, m.cellNetList cell = (m.allPins.filter (fun p => p.2.1 == cell)).map (·.1)

theorem Partial.mono {m : Model} {s s' : Nat → Prop} (h : Partial m s) (hs : ∀ k, k < m.nbNets → s k → s' k) :
    Partial m s' :=
  ⟨h.1, fun n hn hns => h.2.1 n hn (fun hsn => hns (hs n hn hsn)), h.2.2⟩

theorem recompute_partial (m : Model) (stale : Nat → Prop) (n : Nat) (hn : n < m.nbNets) (h : Partial m stale) :
    Partial (m.recomputeNet n) (fun k => stale k ∧ k ≠ n) := by
  obtain ⟨hlen, hpt, hval⟩ := h
  have hn' : n < m.netMinMaxPos.length := by omega
  refine ⟨?_, ?_, ?_⟩
  · show (m.netMinMaxPos.set n _).length = m.nbNets
    simp [hlen]
  · intro k hk hns
    show (m.netMinMaxPos.set n (m.computeNetMinMaxPos n)).getD k (0, 0) = m.computeNetMinMaxPos k
    by_cases hkn : k = n
    · subst hkn; exact ListFacts.getD_set_eq _ _ _ _ hn'
    · rw [ListFacts.getD_set_ne _ _ _ _ _ (Ne.symm hkn)]
      exact hpt k hk (fun hs => hns ⟨hs, hkn⟩)
  · show m.value + _ = ((List.range m.nbNets).map fun net =>
        ((m.netMinMaxPos.set n (m.computeNetMinMaxPos n)).getD net (0, 0)).2
          - ((m.netMinMaxPos.set n (m.computeNetMinMaxPos n)).getD net (0, 0)).1).sum
    rw [ListFacts.sum_range_update _ (fun net => (m.netMinMaxPos.getD net (0, 0)).2 - (m.netMinMaxPos.getD net (0, 0)).1) n
      m.nbNets hn (fun k hk => by rw [ListFacts.getD_set_ne _ _ _ _ _ (Ne.symm hk)])]
    rw [ListFacts.getD_set_eq _ _ _ _ hn', hval]
    rfl

theorem foldl_recompute_partial {stale' : Nat → Prop} : ∀ (ns : List Nat) (m : Model) (stale : Nat → Prop),
    (∀ n ∈ ns, n < m.nbNets) → Partial m stale → (∀ k, k < m.nbNets → stale k → k ∉ ns → stale' k) →
    Partial (ns.foldl recomputeNet m) stale'
  | [], _, _, _, h, hs => h.mono fun k hk hsk => hs k hk hsk List.not_mem_nil
  | n :: ns, m, stale, hns, h, hs =>
    foldl_recompute_partial ns (m.recomputeNet n) _ (fun k hk => hns k (List.mem_cons_of_mem _ hk))
      (recompute_partial m stale n (hns n List.mem_cons_self) h)
      fun k hk ⟨hsk, hkn⟩ hkns => hs k hk hsk fun hm => (List.mem_cons.mp hm).elim hkn hkns

theorem foldl_recompute_frame : ∀ (ns : List Nat) (m : Model),
    ∃ X Y, ns.foldl recomputeNet m = { m with netMinMaxPos := X, value := Y }
  | [], m => ⟨m.netMinMaxPos, m.value, rfl⟩
  | n :: ns, m => by
    obtain ⟨X, Y, h⟩ := foldl_recompute_frame ns (m.recomputeNet n)
    exact ⟨X, Y, by rw [List.foldl_cons, h]; rfl⟩

theorem update_frame (m : Model) (cell : Nat) (pos : Int) :
    ∃ X Y, m.updateCellPos cell pos = { m with cellPos := m.cellPos.set cell pos, netMinMaxPos := X, value := Y } := by
  obtain ⟨X, Y, h⟩ := foldl_recompute_frame (m.cellNetList cell) (m.setPos cell pos)
  exact ⟨X, Y, by unfold updateCellPos; rw [h]; rfl⟩

theorem mem_allPins_iff (m : Model) (q : Nat × Nat × Int) :
    q ∈ m.allPins ↔ q.1 < m.nbNets ∧ (q.2.1, q.2.2) ∈ m.netPins q.1 := by
  unfold allPins
  rw [List.mem_flatMap]
  constructor
  · rintro ⟨net, hnet, hq⟩
    obtain ⟨p, hp, rfl⟩ := List.mem_map.mp hq
    exact ⟨List.mem_range.mp hnet, hp⟩
  · exact fun ⟨h1, h2⟩ => ⟨q.1, List.mem_range.mpr h1, List.mem_map.mpr ⟨_, h2, rfl⟩⟩

theorem WF.mem_cellNetList {m : Model} (hwf : WF m) {cell n : Nat} :
    n ∈ m.cellNetList cell ↔ n < m.nbNets ∧ ∃ p ∈ m.netPins n, p.1 = cell := by
  rw [hwf cell, List.mem_map]
  constructor
  · rintro ⟨q, hq, rfl⟩
    obtain ⟨hq, hc⟩ := List.mem_filter.mp hq
    obtain ⟨h1, h2⟩ := (mem_allPins_iff m q).mp hq
    exact ⟨h1, _, h2, by simpa using hc⟩
  · rintro ⟨hn, p, hp, rfl⟩
    exact ⟨(n, p.1, p.2), List.mem_filter.mpr ⟨(mem_allPins_iff m _).mpr ⟨hn, hp⟩, by simp⟩, rfl⟩

theorem WF.update {m : Model} (hwf : WF m) (cell : Nat) (pos : Int) : WF (m.updateCellPos cell pos) := by
  obtain ⟨X, Y, hxy⟩ := update_frame m cell pos
  rw [hxy]
  exact hwf

theorem compute_setPos_of_not_mem (m : Model) (cell : Nat) (pos : Int) (n : Nat)
    (h : ∀ p ∈ m.netPins n, p.1 ≠ cell) :
    (m.setPos cell pos).computeNetMinMaxPos n = m.computeNetMinMaxPos n := by
  have : (m.setPos cell pos).netPinPositions n = m.netPinPositions n := by
    show (m.netPins n).map (fun p => (m.cellPos.set cell pos).getD p.1 0 + p.2) = (m.netPins n).map _
    apply List.map_congr_left
    intro p hp
    rw [ListFacts.getD_set_ne _ _ _ _ _ (Ne.symm (h p hp))]
  unfold computeNetMinMaxPos
  rw [this]

theorem update_inv (m : Model) (cell : Nat) (pos : Int) (hwf : WF m) (h : Inv m) :
    Inv (m.updateCellPos cell pos) ∧ WF (m.updateCellPos cell pos) := by
  refine ⟨?_, hwf.update cell pos⟩
  have h0 : Partial (m.setPos cell pos) (fun k => ∃ p ∈ m.netPins k, p.1 = cell) := by
    refine ⟨h.1, ?_, h.2.2⟩
    intro n hn hns
    have hnot : ∀ p ∈ m.netPins n, p.1 ≠ cell := fun p hp hpc => hns ⟨p, hp, hpc⟩
    rw [compute_setPos_of_not_mem m cell pos n hnot]
    exact h.2.1 n hn (fun f => f)
  exact foldl_recompute_partial (m.cellNetList cell) (m.setPos cell pos) _ (fun n hn => (hwf.mem_cellNetList.mp hn).1) h0
    fun k hk hp hnot => hnot (hwf.mem_cellNetList.mpr ⟨hk, hp⟩)

def run (m : Model) (ops : List (Nat × Int)) : Model := ops.foldl (fun m o => m.updateCellPos o.1 o.2) m

theorem run_inv : ∀ (ops : List (Nat × Int)) (m : Model), WF m → Inv m → Inv (run m ops) ∧ WF (run m ops)
  | [], _, hwf, h => ⟨h, hwf⟩
  | o :: ops, m, hwf, h => by
    have h1 := update_inv m o.1 o.2 hwf h
    exact run_inv ops (m.updateCellPos o.1 o.2) h1.2 h1.1

/-- `Inv` in the form of `IncrNetModel::check()` -/
theorem inv_iff_consistent (m : Model) :
    Inv m ↔ (m.netMinMaxPos = m.computeAllMinMaxPos ∧ m.value = m.computeValue) := by
  constructor
  · intro ⟨hlen, hpt, hval⟩
    refine ⟨(ListFacts.range_map_getD_id m.netMinMaxPos (0, 0)).symm.trans ?_, hval⟩
    rw [hlen]
    exact List.map_congr_left fun n hn => hpt n (List.mem_range.mp hn) (fun f => f)
  · intro ⟨hmm, hval⟩
    refine ⟨by rw [hmm]; simp [computeAllMinMaxPos], fun n hn _ => ?_, hval⟩
    rw [hmm]
    exact ListFacts.getD_map_range_of_lt _ _ hn

end ColoVerif.IncrNet
