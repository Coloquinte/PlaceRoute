import ColoVerif.Model.NetAsm
import ColoVerif.Proofs.ListFacts
import Mathlib.Tactic.Ring
import Mathlib.Tactic.Linarith
/-
The invariant `AsmInv` carried through the assembly (`addFixedPin`, `addMovingPin`, `addPin`, `addCell`): the
system is the normal-equation system of a quadratic `Q` (`IsHalfGradient`), positive semidefinite when the
weights are non-negative; and (`FinInv`) a row whose `hasNonZero_` flag is false is empty with a zero right-hand
side.  The latter needs valid cell indices (`CellOk`: `-1` or `< nbCells`, what `NetModel::check` enforces): with
an out-of-range index the C++ writes outside its vectors.  `Inv` keeps the first part, from which every solution
of `A x = b` minimises `Q` (`Inv.lsq`).
-/
namespace ColoVerif.NetAsm

theorem addAt_length (l : List Rat) (i : Nat) (v : Rat) : (addAt l i v).length = l.length := by
  induction l generalizing i with
  | nil => rfl
  | cons x xs ih => cases i <;> simp [addAt, ih]

theorem addAt_getD_ne (l : List Rat) (i j : Nat) (v : Rat) (h : j ≠ i) :
    (addAt l i v).getD j 0 = l.getD j 0 := by
  induction l generalizing i j with
  | nil => rfl
  | cons a as ih =>
    cases i with
    | zero =>
      cases j with
      | zero => exact absurd rfl h
      | succ j' => rfl
    | succ i' =>
      cases j with
      | zero => rfl
      | succ j' => exact ih i' j' (fun e => h (congrArg Nat.succ e))

theorem addAt_getD_self {l : List Rat} {i : Nat} (v : Rat) (h : i < l.length) :
    (addAt l i v).getD i 0 = l.getD i 0 + v := by
  induction l generalizing i with
  | nil => exact absurd h (Nat.not_lt_zero _)
  | cons a as ih =>
    cases i with
    | zero => rfl
    | succ j => exact ih (Nat.lt_of_succ_lt_succ h)

theorem linFrom_addAt (k : Nat) (l : List Rat) (i : Nat) (v : Rat) (t : Nat → Rat) (h : i < l.length) :
    linFrom k (addAt l i v) t = linFrom k l t + v * t (k + i) := by
  induction l generalizing i k with
  | nil => exact absurd h (Nat.not_lt_zero _)
  | cons x xs ih =>
    cases i with
    | zero => simp only [addAt, linFrom, Nat.add_zero]; ring
    | succ j =>
      simp only [addAt, linFrom, ih (k + 1) j (Nat.lt_of_succ_lt_succ h)]
      rw [Nat.add_assoc k 1 j, Nat.add_comm 1 j]; ring

theorem lin_addAt (l : List Rat) (i : Nat) (v : Rat) (t : Nat → Rat) (h : i < l.length) :
    lin (addAt l i v) t = lin l t + v * t i := by
  unfold lin; rw [linFrom_addAt 0 l i v t h, Nat.zero_add]

theorem linFrom_zero (k : Nat) (l : List Rat) (t : Nat → Rat) (h : ∀ i, l.getD i 0 = 0) : linFrom k l t = 0 := by
  induction l generalizing k with
  | nil => rfl
  | cons r rs ih =>
    have h0 : r = 0 := h 0
    rw [linFrom, h0, zero_mul, zero_add]
    exact ih (k + 1) (fun i => h (i + 1))

theorem linFrom_replicate_zero (k n : Nat) (t : Nat → Rat) : linFrom k (List.replicate n 0) t = 0 :=
  linFrom_zero k _ t (fun i => ListFacts.getD_replicate n i 0)

theorem linFrom_append_zeros (k : Nat) (l : List Rat) (n : Nat) (t : Nat → Rat) :
    linFrom k (l ++ List.replicate n 0) t = linFrom k l t := by
  induction l generalizing k with
  | nil => exact linFrom_replicate_zero k n t
  | cons x xs ih => simp [linFrom, ih]

theorem getD_append_zeros (l : List Rat) (n i : Nat) : (l ++ List.replicate n 0).getD i 0 = l.getD i 0 := by
  induction l generalizing i with
  | nil => exact (ListFacts.getD_replicate n i 0).trans (by cases i <;> rfl)
  | cons a as ih =>
    cases i with
    | zero => rfl
    | succ i => exact ih i

theorem getD_set_true (l : List Bool) (i j : Nat) :
    (l.set i true).getD j true = if j = i then true else l.getD j true := by
  rw [List.getD_eq_getElem?_getD, List.getD_eq_getElem?_getD, List.getElem?_set]
  by_cases h : i = j
  · subst h; rw [if_pos rfl, if_pos rfl]; split <;> rfl
  · rw [if_neg h, if_neg (Ne.symm h)]

theorem getD_set_true_self (l : List Bool) (i : Nat) : (l.set i true).getD i true = true := by
  rw [getD_set_true, if_pos rfl]

theorem getD_set_true_of {l : List Bool} {j : Nat} (i : Nat) (h : l.getD j true = true) :
    (l.set i true).getD j true = true := by
  rw [getD_set_true]; split
  · rfl
  · exact h

theorem of_getD_set_true {l : List Bool} {i j : Nat} (h : (l.set i true).getD j true = false) :
    j ≠ i ∧ l.getD j true = false := by
  rw [getD_set_true] at h
  by_cases e : j = i
  · rw [if_pos e] at h; exact Bool.noConfusion h
  · rw [if_neg e] at h; exact ⟨e, h⟩

structure FinInv (s : Sys) : Prop where
  rhsLen : s.rhs.length = s.matSize
  nzLen : s.nz.length = s.matSize
  rows : ∀ e ∈ s.mat, e.1 < s.matSize ∧ s.nz.getD e.1 true = true
  zero : ∀ i, s.nz.getD i true = false → s.rhs.getD i 0 = 0

theorem FinInv.row_ne {s : Sys} (h : FinInv s) {i : Nat} (hi : s.nz.getD i true = false) :
    ∀ e ∈ s.mat, e.1 ≠ i := by
  intro e he heq
  have := (h.rows e he).2
  rw [heq, hi] at this
  exact Bool.noConfusion this

theorem init_fin (n : Nat) : FinInv (Sys.init n) := by
  refine ⟨by simp [Sys.init, Sys.matSize], by simp [Sys.init, Sys.matSize], ?_, ?_⟩
  · intro e he; exact absurd he List.not_mem_nil
  · intro i _
    exact ListFacts.getD_replicate n i 0

/-- What both pin operations do to the flags: new entries go to flagged rows, and the right-hand side
moves only at a row that gets flagged. -/
theorem FinInv.touch {s : Sys} (h : FinInv s) (c : Nat) (v : Rat) (es : List (Nat × Nat × Rat))
    (hes : ∀ e ∈ es, e.1 < s.matSize ∧ (s.nz.set c true).getD e.1 true = true) :
    FinInv { s with mat := es ++ s.mat, rhs := addAt s.rhs c v, nz := s.nz.set c true } := by
  refine ⟨?_, ?_, ?_, ?_⟩
  · show (addAt s.rhs c v).length = s.matSize
    rw [addAt_length]; exact h.rhsLen
  · show (s.nz.set c true).length = s.matSize
    rw [List.length_set]; exact h.nzLen
  · intro e he
    rcases List.mem_append.1 he with he' | he'
    · exact hes e he'
    · exact ⟨(h.rows e he').1, getD_set_true_of c (h.rows e he').2⟩
  · intro i hi
    obtain ⟨e, hi'⟩ := of_getD_set_true (l := s.nz) hi
    show (addAt s.rhs c v).getD i 0 = 0
    rw [addAt_getD_ne _ _ _ _ e]
    exact h.zero i hi'

theorem addFixedPin_fin {s : Sys} (c : Nat) (o pos w : Rat) (hc : c < s.matSize) (h : FinInv s) :
    FinInv (addFixedPin s c o pos w) :=
  h.touch c _ [(c, c, w)] (List.forall_mem_singleton.2 ⟨hc, getD_set_true_self ..⟩)

theorem addMovingPin_fin {s : Sys} (c1 c2 : Nat) (o1 o2 w : Rat) (h1 : c1 < s.matSize) (h2 : c2 < s.matSize)
    (h : FinInv s) : FinInv (addMovingPin s c1 c2 o1 o2 w) := by
  unfold addMovingPin
  split
  · exact h
  · have f1 : ((s.nz.set c1 true).set c2 true).getD c1 true = true :=
      getD_set_true_of c2 (getD_set_true_self ..)
    have f2 : ((s.nz.set c1 true).set c2 true).getD c2 true = true := getD_set_true_self ..
    exact (h.touch c1 _ [] (fun _ he => nomatch he)).touch c2 _
      [(c2, c2, w), (c1, c1, w), (c2, c1, -w), (c1, c2, -w)]
      (by simp only [List.forall_mem_cons]
          exact ⟨⟨h2, f2⟩, ⟨h1, f1⟩, ⟨h2, f2⟩, ⟨h1, f1⟩, fun _ he => nomatch he⟩)

theorem addCell_matSize (s : Sys) (init : Rat) : (addCell s init).matSize = s.matSize + 1 := rfl

theorem addCell_fin {s : Sys} (init : Rat) (h : FinInv s) : FinInv (addCell s init) := by
  refine ⟨?_, ?_, ?_, ?_⟩
  · show (s.rhs ++ [0]).length = s.matSize + 1
    rw [List.length_append, h.rhsLen]; rfl
  · show (s.nz ++ [false]).length = s.matSize + 1
    rw [List.length_append, h.nzLen]; rfl
  · intro e he
    obtain ⟨a, b⟩ := h.rows e he
    refine ⟨Nat.lt_succ_of_lt a, ?_⟩
    show (s.nz ++ [false]).getD e.1 true = true
    rw [ListFacts.getD_append_left _ _ _ (h.nzLen ▸ a)]; exact b
  · intro i hi
    refine (getD_append_zeros s.rhs 1 i).trans ?_
    by_cases hlt : i < s.matSize
    · have hi' : (s.nz ++ [false]).getD i true = false := hi
      rw [ListFacts.getD_append_left _ _ _ (h.nzLen ▸ hlt)] at hi'
      exact h.zero i hi'
    · exact ListFacts.getD_of_le 0 (h.rhsLen ▸ Nat.le_of_not_lt hlt)

/-- `nonneg`: the weights are non-negative; nothing but `psd` depends on their sign. -/
structure AsmInv (nonneg : Prop) (s : Sys) (Q : (Nat → Rat) → Rat) : Prop extends FinInv s where
  grad : IsHalfGradient s Q
  psd : nonneg → ∀ t, 0 ≤ bilin s.mat t t

variable {nonneg : Prop} {Q : (Nat → Rat) → Rat}

theorem AsmInv.congr {s : Sys} {Q' : (Nat → Rat) → Rat} (h : AsmInv nonneg s Q) (e : ∀ x, Q x = Q' x) :
    AsmInv nonneg s Q' := by
  have : Q = Q' := funext e
  rw [← this]; exact h

theorem sq_nonneg' (a : Rat) : 0 ≤ sq a := by unfold sq; exact mul_self_nonneg a

/-- Both pin operations add one spring `w (ℓ(x) + o)²`, `ℓ` linear, to the quadratic: `w ℓ ℓᵀ` to the
matrix and `−w o ℓ` to the right-hand side. -/
theorem spring_inv {s s' : Sys} (L : (Nat → Rat) → Rat) (o w : Rat)
    (hL : ∀ x t, L (fun i => x i + t i) = L x + L t)
    (hmat : ∀ x t, bilin s'.mat x t = w * L x * L t + bilin s.mat x t)
    (hrhs : ∀ t, lin s'.rhs t = lin s.rhs t - w * o * L t)
    (hw : nonneg → 0 ≤ w) (fin : FinInv s') (h : AsmInv nonneg s Q) :
    AsmInv nonneg s' (fun x => Q x + w * sq (L x + o)) := by
  refine ⟨fin, fun x t => ?_, fun hn t => ?_⟩
  · show Q _ + w * sq (L _ + o) = _
    rw [hL, h.grad x t, hmat, hmat, hrhs]; unfold sq; ring
  · rw [hmat, mul_assoc]
    exact add_nonneg (mul_nonneg (hw hn) (mul_self_nonneg _)) (h.psd hn t)

theorem addFixedPin_inv {s : Sys} (c : Nat) (o pos w : Rat)
    (hc : c < s.matSize) (hw : nonneg → 0 ≤ w) (h : AsmInv nonneg s Q) :
    AsmInv nonneg (addFixedPin s c o pos w) (fun x => Q x + w * sq (x c + o - pos)) :=
  (spring_inv (fun x => x c) (o - pos) w (fun _ _ => rfl) (fun _ _ => rfl)
    (fun t => by
      show lin (addAt s.rhs c _) t = _
      rw [lin_addAt _ _ _ _ (h.rhsLen ▸ hc)]; ring)
    hw (addFixedPin_fin c o pos w hc h.toFinInv) h).congr (fun x => by rw [add_sub_assoc])

theorem addMovingPin_inv {s : Sys} (c1 c2 : Nat) (o1 o2 w : Rat)
    (h1 : c1 < s.matSize) (h2 : c2 < s.matSize) (hw : nonneg → 0 ≤ w) (h : AsmInv nonneg s Q) :
    AsmInv nonneg (addMovingPin s c1 c2 o1 o2 w) (fun x => Q x + w * sq ((x c1 + o1) - (x c2 + o2))) := by
  have fin := addMovingPin_fin c1 c2 o1 o2 w h1 h2 h.toFinInv
  unfold addMovingPin at fin ⊢
  by_cases hne : c1 = c2
  · -- the C++ returns early, and two offsets on one cell differ by a constant
    subst hne
    rw [if_pos rfl]
    refine ⟨h.toFinInv, fun x t => ?_, h.psd⟩
    simp only [h.grad x t, sq]; ring
  · rw [if_neg hne] at fin ⊢
    have h1' : c1 < s.rhs.length := h.rhsLen ▸ h1
    have h2' : c2 < (addAt s.rhs c1 (w * (o2 - o1))).length := by rw [addAt_length]; exact h.rhsLen ▸ h2
    exact (spring_inv (fun x => x c1 - x c2) (o1 - o2) w (fun x t => by ring)
      (fun x t => by simp only [bilin]; ring)
      (fun t => by
        show lin (addAt (addAt s.rhs c1 _) c2 _) t = _
        rw [lin_addAt _ _ _ _ h2', lin_addAt _ _ _ _ h1']; ring)
      hw fin h).congr (fun x => by simp only [sq]; ring)

/-- A cell index that `addPin` may receive: `-1` or a valid unknown. -/
def CellOk (n : Nat) (c : Int) : Prop := c = -1 ∨ (0 ≤ c ∧ c < (n : Int))

theorem cellOk_mono {n m : Nat} (h : n ≤ m) {c : Int} (hc : CellOk n c) : CellOk m c := by
  rcases hc with hc | ⟨a, b⟩
  · exact Or.inl hc
  · exact Or.inr ⟨a, by omega⟩

theorem cellOk_nat (M sc : Nat) (h : sc < M) : CellOk M (sc : Int) := Or.inr ⟨by omega, by omega⟩

theorem toNat_lt_of_cellOk {n : Nat} {c : Int} (h : CellOk n c) (hc : c ≠ -1) : c.toNat < n := by
  rcases h with h | ⟨a, b⟩
  · exact absurd h hc
  · omega

theorem netOk_cellOk {nb m : Nat} (h : nb ≤ m) {n : Net} (hn : NetOk nb n) :
    ∀ p ∈ n.pins, CellOk m p.1 := fun p hp => cellOk_mono h (hn p hp)

theorem addPin_cases {P : Sys → Prop} (s : Sys) (c1 c2 : Int) (o1 o2 w : Rat)
    (same : c1 = c2 → P s)
    (left : c1 = -1 → c2 ≠ -1 → P (addFixedPin s c2.toNat o2 o1 w))
    (right : c1 ≠ -1 → c2 = -1 → P (addFixedPin s c1.toNat o1 o2 w))
    (moving : c1 ≠ c2 → c1 ≠ -1 → c2 ≠ -1 → P (addMovingPin s c1.toNat c2.toNat o1 o2 w)) :
    P (addPin s c1 c2 o1 o2 w) := by
  unfold addPin
  by_cases e : c1 = c2
  · rw [if_pos e]; exact same e
  · rw [if_neg e]
    by_cases e1 : c1 = -1
    · rw [if_pos e1]; exact left e1 (fun e2 => e (e1.trans e2.symm))
    · rw [if_neg e1]
      by_cases e2 : c2 = -1
      · rw [if_pos e2]; exact right e1 e2
      · rw [if_neg e2]; exact moving e e1 e2

theorem addMovingPin_frame (s : Sys) (c1 c2 : Nat) (o1 o2 w : Rat) :
    (addMovingPin s c1 c2 o1 o2 w).nbCells = s.nbCells
      ∧ (addMovingPin s c1 c2 o1 o2 w).matSize = s.matSize := by
  unfold addMovingPin; split <;> exact ⟨rfl, rfl⟩

theorem addPin_frame (s : Sys) (c1 c2 : Int) (o1 o2 w : Rat) :
    (addPin s c1 c2 o1 o2 w).nbCells = s.nbCells ∧ (addPin s c1 c2 o1 o2 w).matSize = s.matSize :=
  addPin_cases (P := fun r => r.nbCells = s.nbCells ∧ r.matSize = s.matSize) s c1 c2 o1 o2 w
    (fun _ => ⟨rfl, rfl⟩) (fun _ _ => ⟨rfl, rfl⟩) (fun _ _ => ⟨rfl, rfl⟩) (fun _ _ _ => addMovingPin_frame ..)

theorem pinVal_fixed (x : Nat → Rat) (o : Rat) : pinVal x ((-1 : Int), o) = 0 + o := rfl

theorem pinVal_cell (x : Nat → Rat) {c : Int} (h : c ≠ -1) (o : Rat) : pinVal x (c, o) = x c.toNat + o := by
  unfold pinVal; rw [if_neg h]

theorem addPin_inv {s : Sys} (c1 c2 : Int) (o1 o2 w : Rat)
    (h1 : CellOk s.matSize c1) (h2 : CellOk s.matSize c2) (hw : nonneg → 0 ≤ w) (h : AsmInv nonneg s Q) :
    AsmInv nonneg (addPin s c1 c2 o1 o2 w)
      (fun x => Q x + w * sq (pinVal x (c1, o1) - pinVal x (c2, o2))) := by
  apply addPin_cases (P := fun r => AsmInv nonneg r _)
  · rintro rfl
    refine ⟨h.toFinInv, fun x t => ?_, h.psd⟩
    simp only [h.grad x t, sq, pinVal]; ring
  · rintro rfl e2
    exact (addFixedPin_inv c2.toNat o2 o1 w (toNat_lt_of_cellOk h2 e2) hw h).congr
      (fun x => by rw [pinVal_fixed, pinVal_cell x e2]; simp only [sq]; ring)
  · rintro e1 rfl
    exact (addFixedPin_inv c1.toNat o1 o2 w (toNat_lt_of_cellOk h1 e1) hw h).congr
      (fun x => by rw [pinVal_fixed, pinVal_cell x e1]; simp only [sq]; ring)
  · intro _ e1 e2
    exact (addMovingPin_inv c1.toNat c2.toNat o1 o2 w (toNat_lt_of_cellOk h1 e1)
      (toNat_lt_of_cellOk h2 e2) hw h).congr (fun x => by rw [pinVal_cell x e1, pinVal_cell x e2])

theorem addCell_inv {s : Sys} (init : Rat) (h : AsmInv nonneg s Q) :
    AsmInv nonneg (addCell s init) Q := by
  refine ⟨addCell_fin init h.toFinInv, ?_, h.psd⟩
  intro x t
  have e : lin (s.rhs ++ [0]) t = lin s.rhs t := linFrom_append_zeros 0 s.rhs 1 t
  show Q _ = Q x + 2 * (bilin s.mat x t - lin (s.rhs ++ [0]) t) + bilin s.mat t t
  rw [e]; exact h.grad x t

theorem init_inv (n : Nat) : AsmInv nonneg (Sys.init n) (fun _ => 0) := by
  refine ⟨init_fin n, ?_, fun _ t => le_refl _⟩
  intro x t; simp [Sys.init, bilin, lin, linFrom_replicate_zero]

theorem rabs_nonneg (a : Rat) : 0 ≤ rabs a := by
  unfold rabs; split
  · exact neg_nonneg.2 (le_of_lt ‹_›)
  · exact not_lt.1 ‹_›

theorem le_rmax_left (a b : Rat) : a ≤ rmax a b := by
  unfold rmax; split
  · exact le_of_lt ‹_›
  · exact le_refl a

theorem le_rmax_right (a b : Rat) : b ≤ rmax a b := by
  unfold rmax; split
  · exact le_refl b
  · exact not_lt.1 ‹_›

theorem rmax_cases (a b : Rat) : rmax a b = a ∨ rmax a b = b := by
  unfold rmax; split
  · exact Or.inr rfl
  · exact Or.inl rfl

theorem rmin_le_left (a b : Rat) : rmin a b ≤ a := by
  unfold rmin; split
  · exact le_of_lt ‹_›
  · exact le_refl a

theorem rmin_le_right (a b : Rat) : rmin a b ≤ b := by
  unfold rmin; split
  · exact le_refl b
  · exact not_lt.1 ‹_›

theorem rmin_cases (a b : Rat) : rmin a b = a ∨ rmin a b = b := by
  unfold rmin; split
  · exact Or.inr rfl
  · exact Or.inl rfl

theorem div_rmax_nonneg_left {w a : Rat} (b : Rat) (hw : 0 ≤ w) (ha : 0 ≤ a) : 0 ≤ w / rmax a b :=
  div_nonneg hw (le_trans ha (le_rmax_left a b))

theorem div_rmax_nonneg_right {w b : Rat} (a : Rat) (hw : 0 ≤ w) (hb : 0 ≤ b) : 0 ≤ w / rmax a b :=
  div_nonneg hw (le_trans hb (le_rmax_right a b))

theorem bipW_nonneg (w e d : Rat) (hw : 0 ≤ w) : 0 ≤ w / rmax e (rabs d) :=
  div_rmax_nonneg_right e hw (rabs_nonneg d)

structure Inv (s : Sys) (Q : (Nat → Rat) → Rat) : Prop where
  grad : IsHalfGradient s Q
  psd : ∀ t, 0 ≤ bilin s.mat t t

theorem Inv.congr {s : Sys} {Q Q' : (Nat → Rat) → Rat} (h : Inv s Q) (e : ∀ x, Q x = Q' x) : Inv s Q' := by
  have : Q = Q' := funext e
  rw [← this]; exact h

theorem AsmInv.inv {s : Sys} {Q : (Nat → Rat) → Rat} (h : AsmInv True s Q) : Inv s Q :=
  ⟨h.grad, h.psd trivial⟩

theorem inv_minimizes (s : Sys) (Q : (Nat → Rat) → Rat) (h : Inv s Q) (x : Nat → Rat)
    (hx : ∀ t, bilin s.mat x t = lin s.rhs t) (y : Nat → Rat) : Q x ≤ Q y := by
  have g := h.grad x (fun i => y i - x i)
  have p := h.psd (fun i => y i - x i)
  have e : (fun i => x i + (y i - x i)) = y := by funext i; ring
  rw [e, hx] at g
  linarith

/-- Nothing is asked of the shapes: a row beyond the right-hand side reads `0`, and padding the right-hand
side with zeros changes neither side. -/
theorem weak_of_rows (x t : Nat → Rat) (mat : List (Nat × Nat × Rat)) : ∀ rhs : List Rat,
    (∀ i, rowDot mat x i = rhs.getD i 0) → bilin mat x t = lin rhs t := by
  induction mat with
  | nil => intro rhs hx; exact (linFrom_zero 0 rhs t (fun i => (hx i).symm)).symm
  | cons e es ih =>
    intro rhs hx
    have he : e.1 < (rhs ++ List.replicate (e.1 + 1) 0).length := by
      rw [List.length_append, List.length_replicate]; omega
    -- move the entry `e` to the (padded) right-hand side
    have key := ih (addAt (rhs ++ List.replicate (e.1 + 1) 0) e.1 (-(e.2.2 * x e.2.1))) (fun i => by
      have hi : (if e.1 = i then e.2.2 * x e.2.1 else 0) + rowDot es x i = rhs.getD i 0 := hx i
      by_cases h : e.1 = i
      · subst h; rw [addAt_getD_self _ he, getD_append_zeros, ← hi, if_pos rfl]; ring
      · rw [addAt_getD_ne _ _ _ _ (Ne.symm h), getD_append_zeros, ← hi, if_neg h, zero_add])
    rw [bilin, key, lin_addAt _ _ _ _ he]; unfold lin; rw [linFrom_append_zeros]; ring

theorem solves_weak (s : Sys) (x : Nat → Rat) (hx : Solves s x) (t : Nat → Rat) :
    bilin s.mat x t = lin s.rhs t :=
  weak_of_rows x t s.mat s.rhs hx

theorem inv_solution_minimizes (s : Sys) (Q : (Nat → Rat) → Rat) (h : Inv s Q) (x : Nat → Rat)
    (hx : Solves s x) (y : Nat → Rat) : Q x ≤ Q y :=
  inv_minimizes s Q h x (solves_weak s x hx) y

theorem Inv.lsq {s : Sys} {Q : (Nat → Rat) → Rat} (h : Inv s Q) :
    IsHalfGradient s Q ∧ ∀ x, Solves s x → ∀ y, Q x ≤ Q y :=
  ⟨h.grad, inv_solution_minimizes s Q h⟩

end ColoVerif.NetAsm
