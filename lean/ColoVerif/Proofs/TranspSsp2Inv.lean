import ColoVerif.Proofs.TranspSsp2Walk
import ColoVerif.Proofs.TranspSsp2Tree
/-
The invariant between two augmentations (`Good`, `TreeOK`).  The column sums are not part of it: flow conservation
holds for every run (`Proofs/TranspSsp2Nonneg.lean`).  `updateTree` on a state with `Mid` and `Pot` terminates, and
its labels are again dual potentials with a tight, acyclic tree (`updateTree_total`).
-/
namespace ColoVerif.Transp

/-- bound on the labels: `3·Wmax = 2·intMax − 2` -/
def Wmax : Int := 1431655764

/-- `3·|cost| < intMax`: no sum `sendingCost_ + cost` formed by the solver can reach the sentinel
`INT_MAX` (on non-negative inputs the fixed-point scaling `costsFromIntegers` yields
`cost ≤ INT_MAX/(4·nbSinks)`) -/
def CostBound (p : Problem) : Prop :=
  ∀ i j, i < p.nbSinks → j < p.nbSources → 3 * p.cost i j < intMax ∧ -intMax < 3 * p.cost i j

/-- the shortest-path tree: `sendingCost_` is a dual potential (at most `Wmax`), the roots of `sinkParent_` are the
sinks with free capacity, its edges are tight, and it is acyclic -/
structure TreeOK (p : Problem) (alloc : Mat) (qs : Queues) (remCapa : List Int) (sendCost : List Int)
    (parent : List (Option Nat)) : Prop where
  pot : Pot p alloc remCapa (fun i => sendCost.getD i 0)
  le : ∀ i, i < p.nbSinks → sendCost.getD i 0 ≤ Wmax
  root : ∀ i, i < p.nbSinks → parent.getD i none = none → remCapa.getD i 0 > 0
  edge : ∀ i k, i < p.nbSinks → parent.getD i none = some k →
    remCapa.getD i 0 = 0 ∧ k < p.nbSinks ∧ k ≠ i ∧
    sendCost.getD i 0 = (hget (qget qs i k) 0).cost + sendCost.getD k 0
  depth : ∀ i, i < p.nbSinks → ∃ k, k < p.nbSinks ∧ depthIs parent k i

/-- the state between two augmentations: `Mid`, some dual potentials, and, while some sink has capacity left, the
shortest-path tree -/
structure Good (p : Problem) (s : St) : Prop where
  mid : Mid p s.alloc s.queues s.remCapa
  pot : ∃ d, Pot p s.alloc s.remCapa d
  tree : (∃ f, f < p.nbSinks ∧ s.remCapa.getD f 0 > 0) →
    TreeOK p s.alloc s.queues s.remCapa s.sendCost s.parent

lemma bestSinkFrom_eq (p : Problem) (sc : List Int) (src : Nat) : ∀ (k i ret : Nat) (bc : Int),
    bestSinkFrom p sc src k i ret bc = scanMin (fun i => sc.getD i 0 + p.cost i src) (fun _ => true) id k i ret bc := by
  intro k
  induction k with
  | zero => intro i ret bc; rfl
  | succ k ih =>
    intro i ret bc
    rw [bestSinkFrom, scanMin, ih, ih]
    simp only [Bool.true_and, decide_eq_true_eq, id]

lemma bestSink_spec (p : Problem) (sc : List Int) (src : Nat) (hn : 0 < p.nbSinks)
    (hlt : ∀ i, i < p.nbSinks → sc.getD i 0 + p.cost i src < intMax) :
    bestSink p sc src < p.nbSinks ∧
    ∀ k, k < p.nbSinks → p.cost (bestSink p sc src) src + sc.getD (bestSink p sc src) 0 ≤ p.cost k src + sc.getD k 0 := by
  unfold bestSink
  rw [bestSinkFrom_eq]
  rcases scanMin_spec (fun i => sc.getD i 0 + p.cost i src) (fun _ => true) id p.nbSinks 0 0 intMax with
    ⟨_, h⟩ | ⟨r, e, _, h1, _, _, h2, _⟩
  · have := h 0 (Nat.le_refl 0) (by omega) rfl
    have := hlt 0 hn
    omega
  · rw [e]
    exact ⟨by simpa using h1, fun k hk => by have := h2 k (Nat.zero_le k) (by omega) rfl; simp only [id]; omega⟩

lemma Wmax_lt : Wmax < intMax := by unfold Wmax intMax; omega
lemma Wmax_nn : 0 ≤ Wmax := by unfold Wmax; omega

lemma CostBound.diff {p : Problem} (h : CostBound p) (i k j : Nat) (hi : i < p.nbSinks) (hk : k < p.nbSinks)
    (hj : j < p.nbSources) : p.cost k j - p.cost i j ≤ Wmax := by
  have h1 := h i j hi hj
  have h2 := h k j hk hj
  unfold Wmax; unfold intMax at h1 h2; omega

lemma CostBound.sum {p : Problem} (h : CostBound p) (i j : Nat) (hi : i < p.nbSinks) (hj : j < p.nbSources)
    (x : Int) (hx : x ≤ Wmax) : x + p.cost i j < intMax := by
  have h1 := h i j hi hj
  unfold Wmax at hx; unfold intMax at h1 ⊢; omega

lemma CostBound.range {p : Problem} (hcb : CostBound p)
    (hnn : ∀ i j, i < p.nbSinks → j < p.nbSources → 0 ≤ p.cost i j) (i j : Nat) (hi : i < p.nbSinks)
    (hj : j < p.nbSources) : 0 ≤ p.cost i j ∧ p.cost i j ≤ Cmax := by
  have := (hcb i j hi hj).1
  have im : intMax = 2147483647 := rfl
  unfold Cmax
  exact ⟨hnn i j hi hj, by omega⟩

/-- the edge costs `movingCost(i, k)` that `updateTree` reads from the queues -/
def wOf (qs : Queues) (i k : Nat) : Int := if i = k then 0 else (hget (qget qs i k) 0).cost

lemma movingCostQ_wOf {p : Problem} {alloc : Mat} {qs : Queues} {rem : List Int} (h : Mid p alloc qs rem)
    (hcap : ∀ i, i < p.nbSinks → 0 < p.capacity i) (i k : Nat) (hi : i < p.nbSinks) (hk : k < p.nbSinks)
    (hf : rem.getD i 0 = 0) : movingCostQ qs i k = .ok (wOf qs i k) := by
  unfold wOf
  by_cases e : i = k
  · subst e
    rw [if_pos rfl]
    exact movingCostQ_self qs i
  · rw [if_neg e]
    exact movingCostQ_ok qs i k e (h.qnonempty hcap i k hi hk (fun hh => e hh.symm) hf)

lemma treeHyp_of_mid (p : Problem) (alloc : Mat) (qs : Queues) (rem : List Int) (d : Nat → Int)
    (hm : Mid p alloc qs rem) (hp : Pot p alloc rem d) (hdle : ∀ i, i < p.nbSinks → d i ≤ intMax)
    (W : Int) (hW0 : 0 ≤ W) (hWl : W < intMax)
    (hdiff : ∀ i k j, i < p.nbSinks → k < p.nbSinks → j < p.nbSources → p.cost k j - p.cost i j ≤ W)
    (hcap : ∀ i, i < p.nbSinks → 0 < p.capacity i) :
    TreeHyp p.nbSinks qs rem (wOf qs) d W := by
  have hfull : ∀ i, rem.getD i 0 ≤ 0 → rem.getD i 0 = 0 := fun i h => by have := hm.rnn i; omega
  refine ⟨hm.shape.rlen, fun i k hi hk hf => movingCostQ_wOf hm hcap i k hi hk (hfull i hf),
    fun i k hi hk hf => ?_, hWl, hW0, hp.nn, hdle, hp.free, fun i k hi hk hf => ?_⟩
  · unfold wOf
    by_cases e : i = k
    · rw [if_pos e]; exact hW0
    · rw [if_neg e]
      obtain ⟨h1, h2, _⟩ := hm.top hcap i k hi hk (fun hh => e hh.symm) (hfull i hf)
      rw [h2]; exact hdiff i k _ hi hk h1
  · unfold wOf
    by_cases e : i = k
    · rw [if_pos e, e]; omega
    · rw [if_neg e]
      obtain ⟨h1, h2, h3⟩ := hm.top hcap i k hi hk (fun hh => e hh.symm) (hfull i hf)
      have := hp.red i _ k hi h1 hk h3
      omega

lemma TreeSpec.range {n : Nat} {rem : List Int} {w : Nat → Nat → Int} {d : Nat → Int} {W : Int} {t : Tree}
    (spec : TreeSpec n rem w d W t) (hd : ∀ i, i < n → 0 ≤ d i) (hW : 0 ≤ W)
    (hfree : ∃ f, f < n ∧ rem.getD f 0 > 0) (i : Nat) (hi : i < n) :
    0 ≤ t.sendCost.getD i 0 ∧ t.sendCost.getD i 0 ≤ W := by
  refine ⟨(hd i hi).trans (spec.lower i hi), ?_⟩
  by_cases hf : rem.getD i 0 > 0
  · rw [(spec.free i hi hf).1]; exact hW
  · exact (spec.full hfree i hi (by omega)).1

lemma treeOK_of_spec (p : Problem) (alloc : Mat) (qs : Queues) (rem : List Int) (d : Nat → Int) (t : Tree)
    (hm : Mid p alloc qs rem) (hp : Pot p alloc rem d)
    (spec : TreeSpec p.nbSinks rem (wOf qs) d Wmax t)
    (hfree : ∃ f, f < p.nbSinks ∧ rem.getD f 0 > 0) :
    TreeOK p alloc qs rem t.sendCost t.parent := by
  have hfull : ∀ i, ¬ rem.getD i 0 > 0 → rem.getD i 0 = 0 := fun i h => by have := hm.rnn i; omega
  have hr := spec.range hp.nn Wmax_nn hfree
  refine ⟨⟨fun i hi => (hr i hi).1, fun i hi hf => (spec.free i hi hf).1, fun i j k hi hj hk hpos => ?_⟩,
    fun i hi => (hr i hi).2, fun i hi hpar => ?_, fun i k hi hpar => ?_, spec.depth⟩
  · by_cases hf : rem.getD i 0 > 0
    · have h1 := (spec.free i hi hf).1
      have h2 := hp.red i j k hi hj hk hpos
      have h3 := hp.free i hi hf
      have h4 := spec.lower k hk
      omega
    · by_cases e : k = i
      · rw [e]
      · have hf0 := hfull i hf
        have hq := (hm.qrow i hi hf0).2 k hk e
        obtain ⟨el, hel, helj⟩ := hq.mem j hj (by omega)
        have hc := (hq.cost el hel).2
        have htop := isHeap_top_le _ hq.heap el hel
        have hedge := spec.edge hfree i k hi hk (by omega)
        unfold wOf at hedge
        rw [if_neg (fun hh => e hh.symm)] at hedge
        rw [helj] at hc
        unfold Problem.movingCost at hc
        omega
  · by_contra hf
    obtain ⟨_, k, _, _, hk, _⟩ := spec.full hfree i hi (by omega)
    rw [hpar] at hk; exact absurd hk (by simp)
  · by_cases hf : rem.getD i 0 > 0
    · rw [(spec.free i hi hf).2] at hpar; exact absurd hpar (by simp)
    · obtain ⟨_, k', hk', hne', hpar', htight⟩ := spec.full hfree i hi (by omega)
      obtain rfl : k = k' := Option.some.inj (hpar.symm.trans hpar')
      unfold wOf at htight
      rw [if_neg (fun hh => hne' hh.symm)] at htight
      exact ⟨hfull i hf, hk', hne', htight⟩

lemma updateTree_total (p : Problem) (alloc : Mat) (qs : Queues) (rem : List Int) (d : Nat → Int)
    (hm : Mid p alloc qs rem) (hp : Pot p alloc rem d) (hdle : ∀ i, i < p.nbSinks → d i ≤ Wmax)
    (hcb : CostBound p) (hcap : ∀ i, i < p.nbSinks → 0 < p.capacity i) :
    ∃ t, updateTree p qs rem = .ok t ∧
      ((∃ f, f < p.nbSinks ∧ rem.getD f 0 > 0) → TreeOK p alloc qs rem t.sendCost t.parent) := by
  obtain ⟨t, ht, spec⟩ := updateTree_spec p qs rem (wOf qs) d Wmax
    (treeHyp_of_mid p alloc qs rem d hm hp (fun i hi => (hdle i hi).trans Wmax_lt.le) Wmax Wmax_nn Wmax_lt hcb.diff hcap)
  exact ⟨t, ht, fun hfree => treeOK_of_spec p alloc qs rem d t hm hp spec hfree⟩

end ColoVerif.Transp
