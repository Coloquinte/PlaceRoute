import ColoVerif.Model.Busy
import ColoVerif.Gen.Api
/-
Generic lemmas about the IR semantics of `Model/Busy.lean`: each turns a decidable syntactic
condition on a statement list (checked by `decide` on the generated tables in `Properties/`) into
a statement about every execution.  At the end, the two evaluations over `Gen/Api.lean` that the
theorems of C10 about placement calls share.
-/
namespace ColoVerif.Busy
open ColoVerif.ApiIR

/-- a condition read as a proposition (`Cond.eval` decides it) -/
def Cond.holds (env : Env) : Int → Cond → Prop
  | x, .lt a b => Expr.eval env x a < Expr.eval env x b
  | x, .le a b => Expr.eval env x a ≤ Expr.eval env x b
  | x, .eq a b => Expr.eval env x a = Expr.eval env x b
  | x, .or a b => Cond.holds env x a ∨ Cond.holds env x b
  | x, .and a b => Cond.holds env x a ∧ Cond.holds env x b
  | x, .not a => ¬Cond.holds env x a
  | _, .empty i => (env.arg i).len = 0
  | _, .sorted i => sortedInts (env.arg i).vals = true
  | _, .anyElem i c => ∃ y ∈ (env.arg i).vals, Cond.holds env y c

theorem Cond.eval_iff (env : Env) : ∀ (c : Cond) (x : Int), Cond.eval env x c = true ↔ Cond.holds env x c := by
  intro c
  induction c <;> intro x <;> simp [Cond.eval, Cond.holds, ← Bool.not_eq_true, *]

theorem exec_guardFirst (oc : String → St → Res) (env : Env) :
    ∀ (body : List Stmt) (st : St), guardFirst body = true → st.inUse = true →
      exec oc env body st = ⟨.thrown, st, []⟩ := by
  intro body
  induction body with
  | nil => intro st h; cases h
  | cons s rest ih =>
    intro st h hu
    cases s <;> simp only [guardFirst, Bool.false_eq_true] at h <;> simp only [exec, hu, if_true]
    case throwIf => split <;> first | rfl | exact ih st h hu

def restoringFirst : List Stmt → Bool
  | .restoreGuard :: _ => true
  | _ => false

theorem exec_restoringFirst (oc : String → St → Res) (env : Env) (body : List Stmt) (st : St)
    (h : restoringFirst body = true) : (exec oc env body st).st.inUse = st.inUse := by
  cases body with
  | nil => simp [restoringFirst] at h
  | cons s rest =>
    cases s with
    | restoreGuard => simp [exec, Res.restore]
    | _ => simp [restoringFirst] at h

theorem exec_preConds (oc : String → St → Res) (env : Env) :
    ∀ (body : List Stmt) (st : St), (∃ c ∈ preConds body, Cond.eval env 0 c = true) →
      exec oc env body st = ⟨.thrown, st, []⟩ := by
  intro body
  induction body with
  | nil => intro st h; simp [preConds] at h
  | cons s rest ih =>
    intro st ⟨c', hm, he⟩
    cases s with
    | throwIf c =>
      simp only [preConds, List.mem_cons] at hm
      simp only [exec]
      split
      · rfl
      · rename_i hc
        rcases hm with rfl | hm
        · exact absurd he hc
        · exact ih st ⟨c', hm, he⟩
    | checkNotInUse =>
      simp only [preConds] at hm
      simp only [exec]
      split
      · rfl
      · exact ih st ⟨c', hm, he⟩
    | _ => simp only [preConds, List.not_mem_nil] at hm

/-- no statement of the body sets or guards the flag, or calls out -/
def flagFree : List Stmt → Bool
  | [] => true
  | .setInUse _ :: _ => false
  | .scopeGuard :: _ => false
  | .restoreGuard :: _ => false
  | .call _ :: _ => false
  | _ :: rest => flagFree rest

theorem exec_flagFree (oc : String → St → Res) (env : Env) :
    ∀ (body : List Stmt) (st : St), flagFree body = true → (exec oc env body st).st.inUse = st.inUse := by
  intro body
  induction body with
  | nil => intro st _; rfl
  | cons s rest ih =>
    intro st h
    -- the first statement ends the run in `st`, or the run goes on from a state with the same flag
    cases s <;> simp only [flagFree, Bool.false_eq_true] at h <;> simp only [exec]
    case throwIf | returnIf | checkNotInUse | assertC => split <;> first | rfl | exact ih st h
    all_goals exact ih _ h

theorem lookup_mem (tbl : List FnDef) (n : String) (f : FnDef) (h : lookup tbl n = some f) : f ∈ tbl := by
  unfold lookup at h
  exact List.mem_of_find?_eq_some h

theorem runSetter_flag (tbl : List FnDef) (hff : ∀ f ∈ tbl, flagFree f.body = true) (sc : SetterCall) (st : St) :
    (runSetter tbl sc st).st.inUse = st.inUse := by
  unfold runSetter
  cases hl : lookup tbl sc.name with
  | none => simp
  | some f => simpa using exec_flagFree noCall sc.env f.body st (hff f (lookup_mem tbl sc.name f hl))

theorem andThen_flag (r : Res) (k : St → Res) (b : Bool) (h1 : r.st.inUse = b)
    (h2 : ∀ s, s.inUse = b → (k s).st.inUse = b) : (r.andThen k).st.inUse = b := by
  unfold Res.andThen
  split
  · simpa using h2 r.st h1
  · exact h1

theorem absorbThen_flag (r : Res) (line : String) (k : St → Res) (b : Bool) (h1 : r.st.inUse = b)
    (h2 : ∀ s, s.inUse = b → (k s).st.inUse = b) : (r.absorbThen line k).st.inUse = b := by
  unfold Res.absorbThen
  split
  · exact h1
  · exact h1
  · simpa using h2 r.st h1

theorem runCall_flag (pcs : List FnDef) (hpc : ∀ f ∈ pcs, restoringFirst f.body = true) (name : String)
    (stage : St → Res) (st : St) : (runCall pcs name stage st).st.inUse = st.inUse := by
  unfold runCall
  cases hl : lookup pcs name with
  | none => simp
  | some f => simpa using exec_restoringFirst _ emptyEnv f.body st (hpc f (lookup_mem pcs name f hl))

theorem runTr_flag (tbl pcs : List FnDef) (hff : ∀ f ∈ tbl, flagFree f.body = true)
    (hpc : ∀ f ∈ pcs, restoringFirst f.body = true) :
    ∀ (t : Tr) (st : St), (runTr tbl pcs t st).st.inUse = st.inUse := by
  intro t
  induction t with
  | done thr => intro st; simp [runTr]
  | setter sc k ih =>
    intro st
    simp only [runTr]
    exact absorbThen_flag _ _ _ _ (runSetter_flag tbl hff sc st) (fun s hs => by rw [ih s, hs])
  | nested name inner k _ ih =>
    intro st
    simp only [runTr]
    exact absorbThen_flag _ _ _ _ (runCall_flag pcs hpc name _ st) (fun s hs => by rw [ih s, hs])
  | cbEnd thr k ih =>
    intro st
    by_cases ht : thr = true
    · simp [runTr, ht]
    · simp [runTr, ht, ih st]

def guardedCall : List Stmt → Bool
  | [.scopeGuard, .call _] => true
  | [.restoreGuard, .call _] => true
  | _ => false

def restoringCall : List Stmt → Bool
  | [.restoreGuard, .call _] => true
  | _ => false

theorem guardedCall_shape (b : List Stmt) (h : guardedCall b = true) :
    ∃ n, b = [.scopeGuard, .call n] ∨ b = [.restoreGuard, .call n] := by
  unfold guardedCall at h
  split at h
  · exact ⟨_, Or.inl rfl⟩
  · exact ⟨_, Or.inr rfl⟩
  · simp at h

theorem restoringCall_shape (b : List Stmt) (h : restoringCall b = true) : ∃ n, b = [.restoreGuard, .call n] := by
  unfold restoringCall at h
  split at h
  · exact ⟨_, rfl⟩
  · simp at h

theorem restoringCall_first (b : List Stmt) (h : restoringCall b = true) : restoringFirst b = true := by
  obtain ⟨n, rfl⟩ := restoringCall_shape b h
  rfl

theorem restoringCall_guarded (b : List Stmt) (h : restoringCall b = true) : guardedCall b = true := by
  obtain ⟨n, rfl⟩ := restoringCall_shape b h
  rfl

theorem andThen_out_ne_normal (r : Res) (k : St → Res) (hk : ∀ s, (k s).out ≠ .normal) :
    (r.andThen k).out ≠ .normal := by
  unfold Res.andThen
  split
  · simpa using hk r.st
  · rename_i h
    intro h'
    exact h h'

theorem andThen_of_ne_normal (r : Res) (k : St → Res) (h : r.out ≠ .normal) : r.andThen k = r := by
  unfold Res.andThen
  split
  · rename_i h'; exact absurd h' h
  · rfl

theorem andThen_out_of_normal (r : Res) (k : St → Res) (h : r.out = .normal) : (r.andThen k).out = (k r.st).out := by
  unfold Res.andThen
  simp [h]

/-- a call statement at the end of a body: the result is the callee's -/
theorem andThen_done (r : Res) : r.andThen (fun s => (⟨.normal, s, []⟩ : Res)) = r := by
  unfold Res.andThen
  split
  · rename_i h
    obtain ⟨o, st, log⟩ := r
    cases h
    rw [List.append_nil]
  · rfl

theorem exec_guardedCall_out (stage : St → Res) (env : Env) (b : List Stmt) (h : guardedCall b = true) (st : St) :
    (exec (fun _ s => stage s) env b st).out = (stage { st with inUse := true }).out := by
  obtain ⟨n, hb | hb⟩ := guardedCall_shape b h <;> subst hb
  · simp [exec, Res.release, andThen_done]
  · simp [exec, Res.restore, andThen_done]

theorem exec_restoringCall (stage : St → Res) (env : Env) (b : List Stmt) (h : restoringCall b = true) (st : St) :
    exec (fun _ s => stage s) env b st = (stage { st with inUse := true }).restore st.inUse := by
  obtain ⟨n, rfl⟩ := restoringCall_shape b h
  simp [exec, andThen_done]

/-- every way through the trace that reaches the end of the stage finds it throwing -/
def Tr.endsThrowing : Tr → Bool
  | .done thr => thr
  | .setter _ k => k.endsThrowing
  | .nested _ _ k => k.endsThrowing
  | .cbEnd thr k => thr || k.endsThrowing

theorem absorbThen_out_ne_normal (r : Res) (line : String) (k : St → Res) (hk : ∀ s, (k s).out ≠ .normal) :
    (r.absorbThen line k).out ≠ .normal := by
  unfold Res.absorbThen
  split
  · simp
  · simp
  · simpa using hk r.st

theorem runTr_throws (tbl pcs : List FnDef) :
    ∀ (t : Tr) (st : St), t.endsThrowing = true → (runTr tbl pcs t st).out ≠ .normal := by
  intro t
  induction t with
  | done thr => intro st h; simp only [Tr.endsThrowing] at h; simp [runTr, h]
  | setter sc k ih =>
    intro st h
    simp only [runTr]
    exact absorbThen_out_ne_normal _ _ _ (fun s => ih s h)
  | nested name inner k _ ih =>
    intro st h
    simp only [runTr]
    exact absorbThen_out_ne_normal _ _ _ (fun s => ih s h)
  | cbEnd thr k ih =>
    intro st h
    by_cases ht : thr = true
    · simp [runTr, ht]
    · have hf : thr = false := by simpa using ht
      subst hf
      simp only [Tr.endsThrowing, Bool.false_or] at h
      simpa [runTr] using ih st h

theorem execPlacement_propagates (tbl pcs : List FnDef) (b : List Stmt) (h : guardedCall b = true)
    (t : Tr) (ht : t.endsThrowing = true) (st : St) : (execPlacement tbl pcs b t st).out ≠ .normal := by
  unfold execPlacement
  rw [exec_guardedCall_out _ emptyEnv b h st]
  exact runTr_throws tbl pcs t _ ht

/-- how a call ends for its caller: it comes back or it throws -/
def Outcome.ended (o : Outcome) : Prop := o = .normal ∨ o = .thrown

/-- how a body ends that neither aborts nor gets stuck: as `ended`, or by an early `return` -/
def Outcome.good (o : Outcome) : Prop := o.ended ∨ o = .returned

theorem exec_assertFree (oc : String → St → Res) (env : Env) :
    ∀ (body : List Stmt) (st : St), assertFree body = true → (exec oc env body st).out.good := by
  intro body
  induction body with
  | nil => intro st _; exact Or.inl (Or.inl rfl)
  | cons s rest ih =>
    intro st h
    cases s <;> simp only [assertFree, Bool.false_eq_true] at h <;> simp only [exec]
    case throwIf | returnIf | checkNotInUse => split <;> first | exact ih st h | simp [Outcome.good, Outcome.ended]
    case ret => simp [Outcome.good]
    all_goals exact ih _ h

theorem runSetter_good (tbl : List FnDef) (haf : ∀ f ∈ tbl, assertFree f.body = true) (sc : SetterCall) (st : St)
    (hk : (lookup tbl sc.name).isSome = true) : (runSetter tbl sc st).out.good := by
  unfold runSetter
  cases hl : lookup tbl sc.name with
  | none => simp [hl] at hk
  | some f => simpa using exec_assertFree noCall sc.env f.body st (haf f (lookup_mem tbl sc.name f hl))

/-- every setter and every nested placement call named in the trace (at any depth) exists -/
def Tr.known (tbl pcs : List FnDef) : Tr → Bool
  | .done _ => true
  | .setter sc k => (lookup tbl sc.name).isSome && k.known tbl pcs
  | .nested name inner k => (lookup pcs name).isSome && inner.known tbl pcs && k.known tbl pcs
  | .cbEnd _ k => k.known tbl pcs

theorem absorbThen_ended (r : Res) (line : String) (k : St → Res) (hr : r.out.good)
    (hk : ∀ s, (k s).out.ended) : (r.absorbThen line k).out.ended := by
  unfold Res.absorbThen
  split
  · rename_i h; simp [Outcome.good, Outcome.ended, h] at hr
  · rename_i h; simp [Outcome.good, Outcome.ended, h] at hr
  · simpa using hk r.st

theorem runCall_ended (pcs : List FnDef) (hpc : ∀ f ∈ pcs, guardedCall f.body = true) (name : String)
    (stage : St → Res) (st : St) (hk : (lookup pcs name).isSome = true) (hs : ∀ s, (stage s).out.ended) :
    (runCall pcs name stage st).out.ended := by
  unfold runCall
  cases hl : lookup pcs name with
  | none => simp [hl] at hk
  | some f =>
    simp only [exec_guardedCall_out stage emptyEnv f.body (hpc f (lookup_mem pcs name f hl)) st]
    exact hs _

theorem runTr_ended (tbl pcs : List FnDef) (haf : ∀ f ∈ tbl, assertFree f.body = true)
    (hpc : ∀ f ∈ pcs, guardedCall f.body = true) :
    ∀ (t : Tr) (st : St), t.known tbl pcs = true → (runTr tbl pcs t st).out.ended := by
  intro t
  induction t with
  | done thr => intro st _; by_cases ht : thr = true <;> simp [runTr, ht, Outcome.ended]
  | setter sc k ih =>
    intro st h
    simp only [Tr.known, Bool.and_eq_true] at h
    simp only [runTr]
    exact absorbThen_ended _ _ _ (runSetter_good tbl haf sc st h.1) (fun s => ih s h.2)
  | nested name inner k ihi ih =>
    intro st h
    simp only [Tr.known, Bool.and_eq_true] at h
    simp only [runTr]
    exact absorbThen_ended _ _ _ (Or.inl (runCall_ended pcs hpc name _ st h.1.1 (fun s => ihi s h.1.2)))
      (fun s => ih s h.2)
  | cbEnd thr k ih =>
    intro st h
    simp only [Tr.known] at h
    by_cases ht : thr = true
    · simp [runTr, ht, Outcome.ended]
    · simpa [runTr, ht] using ih st h

theorem execPlacement_ended (tbl pcs : List FnDef) (haf : ∀ f ∈ tbl, assertFree f.body = true)
    (hpc : ∀ f ∈ pcs, guardedCall f.body = true) (b : List Stmt)
    (hb : guardedCall b = true) (t : Tr) (st : St) (hk : t.known tbl pcs = true) :
    (execPlacement tbl pcs b t st).out.ended := by
  unfold execPlacement
  rw [exec_guardedCall_out _ emptyEnv b hb st]
  exact runTr_ended tbl pcs haf hpc t _ hk

/-- some pin cell of argument `i` is outside `[0, nbCells)` -/
def pinOutOfRange (i : Nat) : Cond := .anyElem i (.or (.lt .elem (.lit 0)) (.le .nbCells .elem))

theorem runCtor_safeFrom (e : Int) :
    ∀ (evs : List CtorEv) (k : Option (Int × Int)), safeFrom k evs = true →
      (∀ a b, k = some (a, b) → a ≤ e ∧ e ≤ b) → runCtor e evs = .ok ∨ runCtor e evs = .threw := by
  intro evs
  induction evs with
  | nil => intro k _ _; exact Or.inl rfl
  | cons ev rest ih =>
    intro k hs hk
    cases ev with
    | effortCheck lo hi =>
      rw [runCtor]
      split
      · exact Or.inr rfl
      · obtain _ | ⟨a, b⟩ := k
        · exact ih _ hs (by rintro a b ⟨⟩; omega)
        · have := hk a b rfl
          exact ih _ hs (by rintro a' b' ⟨⟩; omega)
    | arrayIndex _ _ _ | assertRange _ _ =>
      obtain _ | ⟨a, b⟩ := k
      · cases hs
      · simp only [safeFrom, Bool.and_eq_true, decide_eq_true_eq] at hs
        have := hk a b rfl
        rw [runCtor, if_pos (by omega)]
        exact ih _ hs.2 hk
    | enter r | leave r => exact ih k hs hk

theorem runCtor_checksFirst (e lo hi : Int) (he : e < lo ∨ e > hi) :
    ∀ (evs : List CtorEv), checksFirst lo hi evs = true → runCtor e evs = .threw := by
  intro evs
  induction evs with
  | nil => intro h; cases h
  | cons ev rest ih =>
    intro h
    cases ev with
    | effortCheck a b =>
      simp only [checksFirst, Bool.and_eq_true, decide_eq_true_eq] at h
      obtain ⟨rfl, rfl⟩ := h
      simp [runCtor, he]
    | enter r | leave r => exact ih h
    | _ => cases h

theorem placement_calls_restoring : ∀ f ∈ Gen.Api.placementCalls, restoringCall f.body = true := by decide +kernel

theorem setters_plain : ∀ f ∈ Gen.Api.setters, flagFree f.body = true ∧ assertFree f.body = true := by decide +kernel

end ColoVerif.Busy
