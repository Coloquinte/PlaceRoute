import ColoVerif.Proofs.IncrNetBuild
/-
`IncrNetModel::xTopology / yTopology (circuit, cells)`: the built model is `Good` and its value is the 1-D
half-perimeter wirelength of the circuit (`topology_value`).  The pins of cells outside `cells` are folded into at
most two pseudo-pins (their min and max) on an extra cell `fixedCell` at position 0: a span only depends on the
hull (`span_hull`), and the nets `addNet` drops have at most one pin, hence span 0.  A run of `updateCellPos`
calls only writes `cellPos_`, the stored bounds and the value (`run_frame`), so `Good` and `WFOff` persist;
`placer_run` splits a history on the x/y pair of models of `DetailedPlacer` (`PlacerModels`) into one per model.
-/
namespace ColoVerif.IncrNet
open ColoVerif Model ColoVerif.C09

theorem span_hull (l l' : List Int) (h1 : ∀ x ∈ l', x ∈ l)
    (h2 : ∀ x ∈ l, ∃ a ∈ l', ∃ b ∈ l', a ≤ x ∧ x ≤ b) : span l' = span l := by
  apply isSpan_unique l' _ _ (span_isSpan l')
  rcases span_isSpan l with ⟨hl, hv⟩ | ⟨lo, hi, hlo, hhi, hb, hv⟩
  · left
    refine ⟨?_, hv⟩
    cases l' with
    | nil => rfl
    | cons x xs => have := h1 x (by simp); rw [hl] at this; simp at this
  · right
    obtain ⟨a, ha, _, _, hale, _⟩ := h2 lo hlo
    obtain ⟨_, _, b, hb', _, hble⟩ := h2 hi hhi
    have ea : a = lo := by have := (hb a (h1 a ha)).1; omega
    have eb : b = hi := by have := (hb b (h1 b hb')).2; omega
    subst ea; subst eb
    exact ⟨a, b, ha, hb', fun x hx => hb x (h1 x hx), hv⟩

theorem span_short (l : List Int) (h : l.length ≤ 1) : span l = 0 := by
  match l, h with
  | [], _ => rfl
  | [x], _ => simp [span, maxOf, minOf]

theorem cellIndexFrom_cases (cell : Nat) : ∀ (cs : List Nat) (i : Nat) (best : Option Nat),
    (cell ∉ cs ∧ cellIndexFrom cell cs i best = best) ∨
    ∃ k, cs[k]? = some cell ∧ cellIndexFrom cell cs i best = some (i + k)
  | [], _, _ => Or.inl ⟨List.not_mem_nil, rfl⟩
  | c :: cs, i, best => by
    rcases cellIndexFrom_cases cell cs (i + 1) (if c = cell then some i else best) with ⟨h1, h2⟩ | ⟨k, h1, h2⟩
    · by_cases hc : c = cell
      · exact Or.inr ⟨0, by rw [hc]; rfl, by rw [cellIndexFrom, h2, if_pos hc]; rfl⟩
      · exact Or.inl ⟨by simp [h1, Ne.symm hc], by rw [cellIndexFrom, h2, if_neg hc]⟩
    · exact Or.inr ⟨k + 1, h1, by rw [cellIndexFrom, h2, Nat.add_right_comm, Nat.add_assoc]⟩

theorem cellIndex_spec (cells : List Nat) (cell k : Nat) (h : cellIndex cells cell = some k) :
    k < cells.length ∧ cells.getD k 0 = cell := by
  rcases cellIndexFrom_cases cell cells 0 none with ⟨_, h2⟩ | ⟨j, h1, h2⟩
  · cases h2.symm.trans h
  · obtain rfl : 0 + j = k := Option.some.inj (h2.symm.trans h)
    rw [Nat.zero_add, List.getD_eq_getElem?_getD, h1]
    exact ⟨(List.getElem?_eq_some_iff.mp h1).1, rfl⟩

theorem cellIndex_none (cells : List Nat) (cell : Nat) (h : cellIndex cells cell = none) : cell ∉ cells := by
  rcases cellIndexFrom_cases cell cells 0 none with ⟨h1, _⟩ | ⟨j, _, h2⟩
  · exact h1
  · cases h2.symm.trans h

theorem mem_pseudoPins (K : Nat) (F : List Int) (q : Pin1) :
    q ∈ pseudoPins K F ↔ (F ≠ [] ∧ (q = (K, Circuit.lmin intMax F) ∨ q = (K, Circuit.lmax intMin F))) := by
  unfold pseudoPins
  by_cases hF : F = []
  · simp [hF]
  · have : F.isEmpty = false := by simpa using hF
    simp only [this, Bool.false_eq_true, if_false]
    by_cases hne : (Circuit.lmin intMax F != Circuit.lmax intMin F) = true
    · simp [hne, hF]
    · have heq : Circuit.lmin intMax F = Circuit.lmax intMin F := by simpa using hne
      simp [hF, heq]

def absPos (off : Cell → Pin → Int) (pos : Cell → Int) (c : Circuit) (p : Pin) : Int :=
  pos (c.cell p.cell) + off (c.cell p.cell) p

/-- `cellPos_` of the built model: the selected cells, then `fixedCell` at 0 -/
def topoPos (pos : Cell → Int) (c : Circuit) (cells : List Nat) : List Int :=
  cells.map (fun i => pos (c.cell i)) ++ [0]

theorem topoPos_getD_lt (pos : Cell → Int) (c : Circuit) (cells : List Nat) (k : Nat) (hk : k < cells.length) :
    (topoPos pos c cells).getD k 0 = pos (c.cell (cells.getD k 0)) := by
  unfold topoPos
  rw [ListFacts.getD_append_left _ _ _ (by rwa [List.length_map]), ListFacts.getD_map_of_lt _ 0 0 hk]

theorem topoPos_getD_fixed (pos : Cell → Int) (c : Circuit) (cells : List Nat) :
    (topoPos pos c cells).getD cells.length 0 = 0 := by
  unfold topoPos
  simp only [List.getD_eq_getElem?_getD]
  rw [List.getElem?_append_right (by simp)]
  simp

theorem mem_fixedPositions (off : Cell → Pin → Int) (pos : Cell → Int) (c : Circuit) (cells : List Nat) (n : Net) (y : Int) :
    y ∈ fixedPositions off pos c cells n ↔ ∃ p ∈ n.pins, cellIndex cells p.cell = none ∧ y = absPos off pos c p := by
  unfold fixedPositions absPos
  rw [List.mem_filterMap]
  constructor
  · rintro ⟨p, hp, h⟩
    cases hc : cellIndex cells p.cell with
    | none => rw [hc] at h; exact ⟨p, hp, hc, by simpa using h.symm⟩
    | some k => rw [hc] at h; simp at h
  · rintro ⟨p, hp, hc, rfl⟩
    exact ⟨p, hp, by rw [hc]⟩

theorem mem_selectedPins (off : Cell → Pin → Int) (c : Circuit) (cells : List Nat) (n : Net) (q : Pin1) :
    q ∈ selectedPins off c cells n ↔ ∃ p ∈ n.pins, ∃ k, cellIndex cells p.cell = some k ∧ q = (k, off (c.cell p.cell) p) := by
  unfold selectedPins
  rw [List.mem_filterMap]
  constructor
  · rintro ⟨p, hp, h⟩
    cases hc : cellIndex cells p.cell with
    | none => rw [hc] at h; simp at h
    | some k => rw [hc] at h; exact ⟨p, hp, k, hc, by simpa using h.symm⟩
  · rintro ⟨p, hp, k, hc, rfl⟩
    exact ⟨p, hp, by rw [hc]; rfl⟩

theorem mem_reducedNet (off : Cell → Pin → Int) (pos : Cell → Int) (c : Circuit) (cells : List Nat) (n : Net)
    (q : Pin1) (hq : q ∈ reducedNet off pos c cells n) :
    (∃ p ∈ n.pins, ∃ k, cellIndex cells p.cell = some k ∧ q = (k, off (c.cell p.cell) p)) ∨
    (q.1 = cells.length ∧ ∃ p ∈ n.pins, cellIndex cells p.cell = none ∧ q.2 = absPos off pos c p) := by
  rcases List.mem_append.mp hq with hq | hq
  · exact Or.inl ((mem_selectedPins off c cells n q).mp hq)
  · obtain ⟨hF, hq⟩ := (mem_pseudoPins _ _ q).mp hq
    have hmem : q.1 = cells.length ∧ q.2 ∈ fixedPositions off pos c cells n := by
      rcases hq with rfl | rfl
      · exact ⟨rfl, (lmin_mem _ _ hF).1⟩
      · exact ⟨rfl, (lmax_mem _ _ hF).1⟩
    obtain ⟨p, hp, hc, he⟩ := (mem_fixedPositions off pos c cells n _).mp hmem.2
    exact Or.inr ⟨hmem.1, p, hp, hc, he⟩

theorem reducedNet_span (off : Cell → Pin → Int) (pos : Cell → Int) (c : Circuit) (cells : List Nat) (n : Net) :
    span ((reducedNet off pos c cells n).map fun p => (topoPos pos c cells).getD p.1 0 + p.2)
      = span (n.pins.map (absPos off pos c)) := by
  have hsel : ∀ p k, cellIndex cells p.cell = some k →
      (topoPos pos c cells).getD k 0 + off (c.cell p.cell) p = absPos off pos c p := by
    intro p k hk
    obtain ⟨hk1, hk2⟩ := cellIndex_spec cells p.cell k hk
    rw [topoPos_getD_lt pos c cells k hk1, hk2]; rfl
  have hfix : ∀ y : Int, (topoPos pos c cells).getD cells.length 0 + y = y := fun y => by
    rw [topoPos_getD_fixed]; omega
  apply span_hull
  · -- every model pin position is a circuit pin position
    intro x hx
    obtain ⟨q, hq, rfl⟩ := List.mem_map.mp hx
    rcases mem_reducedNet off pos c cells n q hq with ⟨p, hp, k, hk, rfl⟩ | ⟨h1, p, hp, _, he⟩
    · exact List.mem_map.mpr ⟨p, hp, (hsel p k hk).symm⟩
    · exact List.mem_map.mpr ⟨p, hp, by rw [h1, hfix, he]⟩
  · -- every circuit pin position lies between two model pin positions
    intro x hx
    obtain ⟨p, hp, rfl⟩ := List.mem_map.mp hx
    cases hc : cellIndex cells p.cell with
    | some k =>
      have hin : absPos off pos c p ∈ (reducedNet off pos c cells n).map fun p => (topoPos pos c cells).getD p.1 0 + p.2 :=
        List.mem_map.mpr ⟨(k, off (c.cell p.cell) p),
          List.mem_append_left _ ((mem_selectedPins off c cells n _).mpr ⟨p, hp, k, hc, rfl⟩), hsel p k hc⟩
      exact ⟨_, hin, _, hin, Int.le_refl _, Int.le_refl _⟩
    | none =>
      have hy : absPos off pos c p ∈ fixedPositions off pos c cells n :=
        (mem_fixedPositions off pos c cells n _).mpr ⟨p, hp, hc, rfl⟩
      have hF := List.ne_nil_of_mem hy
      have pseudo : ∀ v, v = Circuit.lmin intMax (fixedPositions off pos c cells n) ∨
          v = Circuit.lmax intMin (fixedPositions off pos c cells n) →
          v ∈ (reducedNet off pos c cells n).map fun p => (topoPos pos c cells).getD p.1 0 + p.2 := fun v hv =>
        List.mem_map.mpr ⟨(cells.length, v), List.mem_append_right _ ((mem_pseudoPins _ _ _).mpr
          ⟨hF, hv.imp (congrArg _) (congrArg _)⟩), hfix v⟩
      exact ⟨_, pseudo _ (Or.inl rfl), _, pseudo _ (Or.inr rfl), (lmin_mem intMax _ hF).2 _ hy,
        (lmax_mem intMin _ hF).2 _ hy⟩

theorem reducedNet_range (off : Cell → Pin → Int) (pos : Cell → Int) (c : Circuit) (cells : List Nat) (n : Net)
    (q : Pin1) (hq : q ∈ reducedNet off pos c cells n) : q.1 < cells.length + 1 := by
  rcases mem_reducedNet off pos c cells n q hq with ⟨p, _, k, hk, rfl⟩ | ⟨h1, _⟩
  · exact Nat.lt_succ_of_lt (cellIndex_spec cells p.cell k hk).1
  · rw [h1]; exact Nat.lt_succ_self _

/-- the nets handed to `addNet` -/
def reducedNets (off : Cell → Pin → Int) (pos : Cell → Int) (c : Circuit) (cells : List Nat) : List (List Pin1) :=
  c.nets.map (reducedNet off pos c cells)

theorem topology_eq (off : Cell → Pin → Int) (pos : Cell → Int) (c : Circuit) (cells : List Nat) :
    topology off pos c cells =
      ((reducedNets off pos c cells).foldl Builder.addNet (Builder.new (cells.length + 1))).build (topoPos pos c cells) := by
  unfold topology reducedNets topoPos
  rw [List.foldl_map]

theorem reducedNets_range (off : Cell → Pin → Int) (pos : Cell → Int) (c : Circuit) (cells : List Nat) :
    ∀ l ∈ reducedNets off pos c cells, ∀ p ∈ l, p.1 < cells.length + 1 := by
  intro l hl p hp
  obtain ⟨n, _, rfl⟩ := List.mem_map.mp hl
  exact reducedNet_range off pos c cells n p hp

theorem topoPos_length (pos : Cell → Int) (c : Circuit) (cells : List Nat) :
    (topoPos pos c cells).length = cells.length + 1 := by
  simp [topoPos]

theorem topology_wfOff (off : Cell → Pin → Int) (pos : Cell → Int) (c : Circuit) (cells : List Nat) :
    WFOff (topology off pos c cells) := by
  rw [topology_eq]
  exact builder_wfOff _ _ _ (topoPos_length pos c cells) (reducedNets_range off pos c cells)

theorem topology_Good (off : Cell → Pin → Int) (pos : Cell → Int) (c : Circuit) (cells : List Nat) :
    Good (topology off pos c cells) := by
  rw [topology_eq]
  exact builder_Good _ _ _ (topoPos_length pos c cells) (reducedNets_range off pos c cells)

theorem topology_repr (off : Cell → Pin → Int) (pos : Cell → Int) (c : Circuit) (cells : List Nat) :
    Repr (topology off pos c cells) (kept (reducedNets off pos c cells)) := by
  rw [topology_eq]
  exact build_repr _ _ _ (builder_repr _ _)

theorem topology_cellPos (off : Cell → Pin → Int) (pos : Cell → Int) (c : Circuit) (cells : List Nat) :
    (topology off pos c cells).cellPos = topoPos pos c cells := by
  rw [topology_eq]; rfl

theorem topology_value (off : Cell → Pin → Int) (pos : Cell → Int) (c : Circuit) (cells : List Nat) :
    (topology off pos c cells).value = (c.nets.map fun n => span (n.pins.map (absPos off pos c))).sum := by
  have hg := topology_Good off pos c cells
  have hrepr := topology_repr off pos c cells
  rw [inv_value _ hg.inv hg.nonempty, hrepr.scratchValue, topology_cellPos]
  unfold kept
  rw [ListFacts.sum_map_filter_zero]
  · unfold reducedNets
    rw [List.map_map]
    congr 1
    apply List.map_congr_left
    intro n _
    exact reducedNet_span off pos c cells n
  · intro l _ hl
    apply span_short
    rw [List.length_map]
    exact Nat.le_of_not_lt (by simpa using hl)

def applyOps (pos : List Int) (ops : List (Nat × Int)) : List Int := ops.foldl (fun P o => P.set o.1 o.2) pos

theorem run_frame : ∀ (ops : List (Nat × Int)) (m : Model),
    ∃ X Y, run m ops = { m with cellPos := applyOps m.cellPos ops, netMinMaxPos := X, value := Y }
  | [], m => ⟨m.netMinMaxPos, m.value, rfl⟩
  | o :: ops, m => by
    obtain ⟨X1, Y1, h1⟩ := update_frame m o.1 o.2
    obtain ⟨X, Y, h⟩ := run_frame ops (m.updateCellPos o.1 o.2)
    refine ⟨X, Y, ?_⟩
    show run (m.updateCellPos o.1 o.2) ops = _
    rw [h, h1]
    rfl

theorem run_good (m : Model) (ops : List (Nat × Int)) (h : Good m) : Good (run m ops) := by
  obtain ⟨hi, hw⟩ := run_inv ops m h.wf h.inv
  refine ⟨hw, hi, ?_⟩
  obtain ⟨X, Y, hxy⟩ := run_frame ops m
  rw [hxy]
  exact h.nonempty

theorem good_value (m : Model) (h : Good m) : m.value = scratchValue m := inv_value m h.inv h.nonempty

theorem run_wfOff (m : Model) (ops : List (Nat × Int)) (h : WFOff m) : WFOff (run m ops) := by
  obtain ⟨X, Y, hxy⟩ := run_frame ops m
  rw [hxy]
  exact h

/-- non-vacuity of `WFOff`: a two-net, three-cell model built by the builder -/
example : cellPinList ((([[(0, 1), (1, -2)], [(1, 3), (2, 4), (0, 5)]] : List (List Pin1)).foldl Builder.addNet
    (Builder.new 3)).build [0, 0, 0]) 1 = [(0, -2), (1, 3)] := by decide

theorem placer_run : ∀ (ops : List (Nat × Int × Int)) (p : PlacerModels),
    p.run ops = ⟨run p.x (ops.map fun o => (o.1, o.2.1)), run p.y (ops.map fun o => (o.1, o.2.2))⟩
  | [], _ => rfl
  | o :: ops, p => placer_run ops (p.updateCellPos o.1 o.2.1 o.2.2)

end ColoVerif.IncrNet
