import ColoVerif.Model.ExpandF
import ColoVerif.Proofs.Expand
import ColoVerif.Proofs.F64
/-
C18 for the cell expansion as compiled (`Model/ExpandF.lean`), the facts that need no error bound: rounding is
monotone and fixes 1, `0.999f` and every `int` up to `2^53` (`double`) resp. `2^24` (`float`), so lower bounds on
widths and factors pass through every rounding ("not narrower", `adjust_ge`, `regionFactor_mono`); the carry loop
only adds columns; the width update is `Expand.scaleWidths applyOne`; the maximum over the expansion map does
not see the order `std::sort` leaves (`regionMax_perm`).  The error bounds are in `Proofs/ExpandFBound.lean`.
-/
namespace ColoVerif
namespace ExpandF
open Expand (truncRat cellArea movableArea maxRowWidth active regionMax FrameCell Pointwise)
open F64

theorem f32'_le_one {x : Rat} (h : x ≤ 1) : f32' x ≤ 1 := f32'_le_of_fix f32'_one h

theorem isI32_abs {n : Int} (h : isI32 n = true) : |n| ≤ 2 ^ 31 := by
  simp only [isI32, Bool.and_eq_true, decide_eq_true_eq] at h
  rw [abs_le]; constructor <;> omega

theorem abs53_of_abs31 {n : Int} (h : |n| ≤ 2 ^ 31) : |n| ≤ 2 ^ 53 := le_trans h (by norm_num)

theorem d_exact (n : Int) (h : |n| ≤ 2 ^ 53) : d n = (n : Rat) := f64_exact_int n h

theorem d_nonneg {n : Int} (h : 0 ≤ n) : 0 ≤ d n := f64_nonneg (by exact_mod_cast h)

theorem d_ge_one {n : Int} (h : 0 < n) : 1 ≤ d n := f64_ge_one (Int.cast_one_le_of_pos h)

theorem frame_expandCells (f cap : Rat) : ∀ (l : List Cell) (m : Rat), Pointwise FrameCell l (expandCells f cap m l)
  | [], _ => .refl FrameCell.refl _
  | cl :: rest, _ => .cons (FrameCell.ite_active cl _) (frame_expandCells f cap rest _)

theorem applyFactors_eq : ∀ (l : List Cell) (es : List Rat), applyFactors l es = Expand.scaleWidths applyOne l es
  | [], _ => by simp [applyFactors, Expand.scaleWidths]
  | _ :: _, [] => rfl
  | cl :: rest, e :: es => by simp only [applyFactors, Expand.scaleWidths, applyFactors_eq rest es]

theorem frame_applyFactors (l : List Cell) (es : List Rat) : Pointwise FrameCell l (applyFactors l es) :=
  applyFactors_eq l es ▸ Expand.scaleWidths_frame _ l es

theorem carryLoop_fst_ge (h : Rat) : ∀ (fuel : Nat) (w : Int) (m : Rat), w ≤ (carryLoop h fuel w m).1
  | 0, w, m => by simp [carryLoop]
  | fuel + 1, w, m => by
    simp only [carryLoop]
    split
    · have := carryLoop_fst_ge h fuel (w + 1) (f64 (m - h)); omega
    · exact le_refl _

theorem fracW_ind {P : Rat → Prop} (f cap : Rat) (cl : Cell) (hcap : P cap) (hsw : P (scaledW f cl)) :
    P (fracW f cap cl) := by
  unfold fracW capTo
  split <;> assumption

theorem stepCell_not_narrower (f cap m : Rat) (cl : Cell) (hf : 1 ≤ f) (hw : |cl.w| ≤ 2 ^ 53)
    (hcap : (cl.w : Rat) ≤ cap) : cl.w ≤ (stepCell f cap m cl).w := by
  unfold stepCell
  split
  · rename_i ha
    have hq : (0 : Rat) ≤ (cl.w : Rat) := by exact_mod_cast ((Expand.active_iff cl).mp ha).2.2.le
    have hfr : (cl.w : Rat) ≤ fracW f cap cl := by
      refine fracW_ind f cap cl hcap ?_
      unfold scaledW
      rw [d_exact _ hw]
      exact f64_ge_of_fix (f64_exact_int _ hw) (le_mul_of_one_le_right hq hf)
    have ht := Expand.le_truncRat cl.w (fracW f cap cl) (le_trans hq hfr) hfr
    have hc : truncRat (fracW f cap cl) ≤ (carry f cap m cl).1 := carryLoop_fst_ge _ _ _ _
    show cl.w ≤ (carry f cap m cl).1
    omega
  · exact le_refl _

theorem expandCells_not_narrower (f cap : Rat) (hf : 1 ≤ f) : ∀ (l : List Cell) (m : Rat),
    Pointwise (fun a b => |a.w| ≤ 2 ^ 53 → (a.w : Rat) ≤ cap → a.w ≤ b.w) l (expandCells f cap m l)
  | [], _ => .refl (fun _ _ _ => le_refl _) _
  | cl :: rest, m => .cons (stepCell_not_narrower f cap m cl hf) (expandCells_not_narrower f cap hf rest _)

theorem densityOf_nonneg {A R : Int} (hA : 0 ≤ A) (hR : 0 ≤ R) : 0 ≤ densityOf A R := by
  unfold densityOf
  exact f64_nonneg (div_nonneg (d_nonneg hA) (d_nonneg hR))

theorem densityOf_pos {A R : Int} (hA : 0 ≤ A) (hR : 0 ≤ R) (hne : densityOf A R ≠ 0) : 0 < densityOf A R :=
  lt_of_le_of_ne (densityOf_nonneg hA hR) (Ne.symm hne)

theorem lt_of_not_noopOf {A R : Int} {t : Rat} (hn : ¬ noopOf A R t) : densityOf A R < t :=
  not_le.mp (fun h => hn (Or.inr (Or.inr h)))

theorem factorOf_ge_one (A R : Int) (t : Rat) (hd : 0 < densityOf A R) (hn : ¬ noopOf A R t) :
    1 ≤ factorOf A R t := by
  unfold factorOf
  exact f64_ge_one ((le_div_iff₀ hd).mpr (by linarith [lt_of_not_noopOf hn]))

theorem expandCellsByFactor_eq_some {c c' : Circuit} {efs : List Rat} {maxD margin ret : Rat}
    (h : expandCellsByFactor c efs maxD margin = some (c', ret)) :
    efs.length = c.cells.length ∧ (∀ e ∈ efs, minFactor ≤ e) ∧
    (c' = c ∨ (density c margin < maxD ∧
      c' = { c with cells := applyFactors c.cells (effectiveFactors c efs maxD margin) })) := by
  unfold expandCellsByFactor at h
  split at h
  · simp at h
  · rename_i hrej
    simp only [factorsRejected, Bool.or_eq_true, decide_eq_true_eq, List.any_eq_true, not_or,
      not_exists, not_and, ne_eq, not_not, not_lt] at hrej
    simp only [Option.some.injEq] at h
    unfold byFactorWith at h
    refine ⟨hrej.1, hrej.2, ?_⟩
    split at h
    · exact Or.inl (Prod.mk.inj h).1.symm
    · rename_i hn
      exact Or.inr ⟨lt_of_not_noopOf hn, (Prod.mk.inj h).1.symm⟩

theorem effectiveFactors_length (c : Circuit) (efs : List Rat) (maxD margin : Rat) :
    (effectiveFactors c efs maxD margin).length = efs.length := by
  unfold effectiveFactors effectiveOf
  split
  · exact List.length_map _
  · rfl

theorem scaledF_mono (w : Int) {e e' : Rat} (hw : 0 ≤ w) (he : e ≤ e') : scaledF w e ≤ scaledF w e' := by
  unfold scaledF
  have h0 : 0 ≤ f32' (w : Rat) := f32'_nonneg (by exact_mod_cast hw)
  exact f32'_mono (mul_le_mul_of_nonneg_left he h0)

theorem scaledF_ge (w : Int) (e : Rat) (hw0 : 0 ≤ w) (hw : |w| ≤ 2 ^ 24) (he : 1 ≤ e) :
    (w : Rat) ≤ scaledF w e := by
  unfold scaledF
  rw [f32'_exact_int w hw]
  exact f32'_ge_of_fix (f32'_exact_int w hw) (le_mul_of_one_le_right (by exact_mod_cast hw0) he)

/-- `e = 1.0 + (e - 1.0) * ratio` with `0 ≤ ratio ≤ 1` keeps a lower bound `μ ≤ 1` of the factor, provided
`μ` and `μ - 1` are `double`s and `μ` is a `float`: rounding is monotone at every step -/
theorem adjust_ge (μ ρ e : Rat) (hμ : μ ≤ 1) (h64 : f64 μ = μ) (hsub : f64 (μ - 1) = μ - 1) (h32 : f32' μ = μ)
    (hρ0 : 0 ≤ ρ) (hρ1 : ρ ≤ 1) (he : μ ≤ e) : μ ≤ adjust ρ e := by
  unfold adjust
  have h0 : μ ≤ f64 e := f64_ge_of_fix h64 he
  have h1 : μ - 1 ≤ f64 (f64 e - 1) := f64_ge_of_fix hsub (sub_le_sub_right h0 1)
  -- x·ρ ≥ min x 0 ≥ μ - 1
  have h2 : μ - 1 ≤ f64 (f64 e - 1) * ρ := by
    rcases le_total 0 (f64 (f64 e - 1)) with hx | hx
    · exact le_trans (sub_nonpos.mpr hμ) (mul_nonneg hx hρ0)
    · exact le_trans h1 (le_mul_of_le_one_right hx hρ1)
  have h3 : μ - 1 ≤ f64 (f64 (f64 e - 1) * ρ) := f64_ge_of_fix hsub h2
  have h4 : μ ≤ f64 (1 + f64 (f64 (f64 e - 1) * ρ)) := f64_ge_of_fix h64 (le_add_of_sub_left_le h3)
  exact f32'_ge_of_fix h32 h4

theorem minFactor_facts : f64 minFactor = minFactor ∧ f64 (minFactor - 1) = minFactor - 1 ∧
    f32' minFactor = minFactor ∧ minFactor ≤ 1 := by
  decide +kernel

theorem half_le_minFactor : (1 / 2 : Rat) ≤ minFactor := by decide +kernel

/-- the ratio of `expandCellsByFactor` is in `[0, 1]` whenever it is used -/
theorem ratioOf_bounds (maxD dn ed : Rat) (h1 : dn < maxD) (h2 : maxD < ed) :
    0 ≤ ratioOf maxD dn ed ∧ ratioOf maxD dn ed ≤ 1 := by
  unfold ratioOf
  have hn : 0 ≤ f64 (maxD - dn) := f64_nonneg (by linarith)
  have hd : 0 ≤ f64 (ed - dn) := f64_nonneg (by linarith)
  have hle : f64 (maxD - dn) ≤ f64 (ed - dn) := f64_mono (by linarith)
  refine ⟨f64_nonneg (div_nonneg hn hd), f64_le_one ?_⟩
  rcases eq_or_lt_of_le hd with h0 | h0
  · rw [← h0, div_zero]; norm_num
  · exact (div_le_iff₀ h0).mpr (by linarith)

theorem effectiveOf_mem_ge (μ : Rat) (hμ : μ ≤ 1) (h64 : f64 μ = μ) (hsub : f64 (μ - 1) = μ - 1)
    (h32 : f32' μ = μ) (efs : List Rat) (maxD dn ed : Rat) (hd : dn < maxD) (he : ∀ e ∈ efs, μ ≤ e) :
    ∀ e ∈ effectiveOf efs maxD dn ed, μ ≤ e := by
  unfold effectiveOf
  split
  · rename_i hadj
    obtain ⟨r0, r1⟩ := ratioOf_bounds maxD dn ed hd hadj
    intro e' he'
    obtain ⟨e, hem, rfl⟩ := List.mem_map.mp he'
    exact adjust_ge μ _ e hμ h64 hsub h32 r0 r1 (he e hem)
  · exact he

/-- never below the acceptance threshold `0.999f` -/
theorem effectiveFactors_ge_min (c : Circuit) (efs : List Rat) (maxD margin : Rat) (hd : density c margin < maxD)
    (he : ∀ e ∈ efs, minFactor ≤ e) : ∀ e ∈ effectiveFactors c efs maxD margin, minFactor ≤ e :=
  effectiveOf_mem_ge minFactor minFactor_facts.2.2.2 minFactor_facts.1 minFactor_facts.2.1 minFactor_facts.2.2.1
    efs maxD _ _ hd he

theorem effectiveFactors_ge_one (c : Circuit) (efs : List Rat) (maxD margin : Rat) (hd : density c margin < maxD)
    (he : ∀ e ∈ efs, 1 ≤ e) : ∀ e ∈ effectiveFactors c efs maxD margin, 1 ≤ e :=
  effectiveOf_mem_ge 1 le_rfl f64_one (by rw [sub_self, f64_zero]) f32'_one efs maxD _ _ hd he

theorem le_applyOne (w : Int) (e : Rat) : truncRat (scaledF w e) ≤ applyOne w e := by
  unfold applyOne; split
  · exact le_max_left _ _
  · exact le_refl _

theorem applyOne_ge (w : Int) (e : Rat) (he : 1 ≤ e) : w ≤ applyOne w e := by
  unfold applyOne; rw [if_pos he]; exact le_max_right _ _

/-- for a width that converts to `float` exactly the repair changes nothing -/
theorem applyOne_eq_of_small (w : Int) (e : Rat) (hw0 : 0 ≤ w) (hw : |w| ≤ 2 ^ 24) :
    applyOne w e = truncRat (scaledF w e) := by
  unfold applyOne; split
  · rename_i he
    have h2 := scaledF_ge w e hw0 hw he
    have hq : (0 : Rat) ≤ (w : Rat) := by exact_mod_cast hw0
    exact max_eq_left (Expand.le_truncRat w _ (le_trans hq h2) h2)
  · rfl

/-- the first disjunct: fixed cells, and cells beyond the end of `es` -/
theorem applyFactors_ge (μ : Rat) (hμ : 0 ≤ μ) (l : List Cell) (es : List Rat) (he : ∀ e ∈ es, μ ≤ e) :
    Pointwise (fun a b => 0 ≤ a.w → b.w = a.w ∨ truncRat (scaledF a.w μ) ≤ b.w) l (applyFactors l es) := by
  rw [applyFactors_eq]
  refine Expand.scaleWidths_pointwise _ (fun _ _ => Or.inl rfl) l es (fun cl _ _ e hem hw => Or.inr ?_)
  have h0 : 0 ≤ scaledF cl.w μ := f32'_nonneg (mul_nonneg (f32'_nonneg (by exact_mod_cast hw)) hμ)
  exact le_trans (Expand.truncRat_mono h0 (scaledF_mono cl.w hw (he e hem))) (le_applyOne cl.w e)

theorem applyFactors_not_narrower (l : List Cell) (es : List Rat) (he : ∀ e ∈ es, 1 ≤ e) :
    Pointwise (fun a b => a.w ≤ b.w) l (applyFactors l es) :=
  applyFactors_eq l es ▸ Expand.scaleWidths_pointwise _ (fun a => le_refl a.w) l es
    (fun cl _ _ e hem => applyOne_ge cl.w e (he e hem))

theorem regionMax_perm (place : Rect) {l₁ l₂ : List (Rect × Rat)} (h : l₁.Perm l₂) (acc : Rat) :
    regionMax place acc l₁ = regionMax place acc l₂ :=
  le_antisymm (Expand.regionMax_mono place h.subset acc) (Expand.regionMax_mono place h.symm.subset acc)

theorem sortedMap_perm (cmap : List (Rect × Rat)) (fp pf : Rat) :
    (sortedMap cmap fp pf).Perm (expansionMap cmap fp pf) := by
  unfold sortedMap
  exact List.mergeSort_perm _ _

theorem mem_expansionMap (cmap : List (Rect × Rat)) (fp pf : Rat) (r : Rect) (e : Rat) :
    (r, e) ∈ expansionMap cmap fp pf ↔ ∃ cg, (r, cg) ∈ cmap ∧ cg > 1 ∧ e = regionFactor fp pf cg :=
  Expand.mem_expansionMapWith (regionFactor fp pf) cmap r e

theorem mem_sortedMap (cmap : List (Rect × Rat)) (fp pf : Rat) (r : Rect) (e : Rat) :
    (r, e) ∈ sortedMap cmap fp pf ↔ ∃ cg, (r, cg) ∈ cmap ∧ cg > 1 ∧ e = regionFactor fp pf cg := by
  rw [(sortedMap_perm cmap fp pf).mem_iff]
  exact mem_expansionMap cmap fp pf r e

theorem regionFactor_mono (fp pf : Rat) (hpf : 0 ≤ pf) {c₁ c₂ : Rat} (h : c₁ ≤ c₂) :
    regionFactor fp pf c₁ ≤ regionFactor fp pf c₂ := by
  unfold regionFactor
  have h1 : f32' (c₁ - 1) ≤ f32' (c₂ - 1) := f32'_mono (by linarith)
  have h2 : f32' (f32' (c₁ - 1) * pf) ≤ f32' (f32' (c₂ - 1) * pf) :=
    f32'_mono (mul_le_mul_of_nonneg_right h1 hpf)
  have h3 : f32' (f32' (f32' (c₁ - 1) * pf) + fp) ≤ f32' (f32' (f32' (c₂ - 1) * pf) + fp) :=
    f32'_mono (by linarith)
  exact f32'_mono (f64_mono (by linarith))

/-- at congestion 1 the factor is `f32' (f64 (f32' fp + 1))` -/
theorem regionFactor_ge_one (fp pf cg : Rat) (hfp : 0 ≤ fp) (hpf : 0 ≤ pf) (hc : 1 ≤ cg) :
    1 ≤ regionFactor fp pf cg := by
  refine le_trans ?_ (regionFactor_mono fp pf hpf hc)
  unfold regionFactor
  rw [sub_self, f32'_zero, zero_mul, f32'_zero, zero_add]
  exact f32'_ge_one (f64_ge_one (le_add_of_nonneg_left (f32'_nonneg hfp)))

end ExpandF
end ColoVerif
