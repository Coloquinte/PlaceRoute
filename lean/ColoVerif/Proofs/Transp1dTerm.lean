import ColoVerif.Model.Transp1dLocal
import ColoVerif.Proofs.InsertionSort
import ColoVerif.Proofs.Transp1dBasic
/-
The sweep of `Transportation1dSolver` is total on the domain: no access is out of range and the
`while` loop of `push` ends within its fuel (measure `mu`).  The loop invariant is `EvInv` (the event
queue is sorted by decreasing position, no event lies above `lastPosition`) together with
`D[lastOccupiedSink] - S[i+1] ≤ lastPosition` (the current source reaches the last occupied sink).
`pushLoop_total` and `pushAll_total` carry any further property `P` that each step preserves, so that
other invariants of the sweep are proved along the same walk.
-/
namespace ColoVerif.Transp1d

structure Solver.WF (sv : Solver) : Prop where
  hs : sv.s.length = sv.u.length
  hd : sv.d.length = sv.v.length
  hS : sv.S.length = sv.u.length + 1
  hD : sv.D.length = sv.v.length + 1

theorem Solver.WF.getS {sv : Solver} (wf : sv.WF) {i : Nat} (h : i ≤ sv.u.length) :
    get sv.S i = .ok (sv.S.getD i 0) :=
  get_ok _ _ (by rw [wf.hS]; exact Nat.lt_succ_of_le h) 0

theorem Solver.WF.getD {sv : Solver} (wf : sv.WF) {j : Nat} (h : j ≤ sv.v.length) :
    get sv.D j = .ok (sv.D.getD j 0) :=
  get_ok _ _ (by rw [wf.hD]; exact Nat.lt_succ_of_le h) 0

theorem cost_ok (sv : Solver) (i j : Nat) (hi : i < sv.u.length) (hj : j < sv.v.length) :
    cost sv i j = .ok (iabs (sv.u.getD i 0 - sv.v.getD j 0)) := by
  simp [cost, get_ok _ _ hi 0, get_ok _ _ hj 0, bind, Except.bind, pure, Except.pure]

theorem cost_inv {sv : Solver} {i j : Nat} {c : Int} (h : cost sv i j = .ok c) :
    i < sv.u.length ∧ j < sv.v.length ∧ c = iabs (sv.u.getD i 0 - sv.v.getD j 0) := by
  unfold cost at h
  obtain ⟨a, ha, h⟩ := bind_ok_inv h
  obtain ⟨b, hb, h⟩ := bind_ok_inv h
  obtain ⟨h1, rfl⟩ := get_inv ha
  obtain ⟨h2, rfl⟩ := get_inv hb
  simp only [pure, Except.pure, Except.ok.injEq] at h
  exact ⟨h1, h2, h.symm⟩

/-- what source `a + 1` pays more than source `a` in sink `j` -/
def dG (sv : Solver) (a j : Nat) : Int := cs sv (a + 1) j - cs sv a j

/-- the value of `delta(a, j)`, over the total cost `cs` -/
def dl (sv : Solver) (a j : Nat) : Int := dG sv a j - dG sv a (j + 1)

theorem delta_eq (sv : Solver) (a j : Nat) (ha : a + 1 < sv.u.length) (hj : j + 1 < sv.v.length) :
    delta sv a j = .ok (dl sv a j) := by
  simp only [delta, cost_ok sv a (j + 1) (by omega) hj, cost_ok sv (a + 1) j ha (by omega),
    cost_ok sv (a + 1) (j + 1) ha hj, cost_ok sv a j (by omega) (by omega),
    bind, Except.bind, pure, Except.pure, dl, dG, cs]
  congr 1
  omega

theorem updOpt_spec (sv : Solver) (i : Nat) (hi : i < sv.u.length) (k j : Nat)
    (hj : j < sv.v.length) (hk : sv.v.length ≤ j + k) :
    ∃ o, updOpt sv i k j = .ok o ∧ o < sv.v.length ∧ j ≤ o ∧
      (∀ t, j ≤ t → t < o → cs sv i (t + 1) ≤ cs sv i t) ∧
      (o + 1 = sv.v.length ∨ cs sv i o < cs sv i (o + 1)) := by
  induction k generalizing j with
  | zero => exact absurd hj (Nat.not_lt.mpr hk)
  | succ k ih =>
    unfold updOpt
    by_cases h : j + 1 < sv.nbSinks
    · have h' : j + 1 < sv.v.length := h
      simp only [h, if_true, cost_ok sv i j hi hj, cost_ok sv i (j + 1) hi h', bind, Except.bind]
      split
      · rename_i hc
        obtain ⟨o, e, k1, k2, k3, k4⟩ := ih (j + 1) h' (by rw [Nat.add_right_comm]; exact hk)
        refine ⟨o, e, k1, Nat.le_of_succ_le k2, fun t ht ht' => ?_, k4⟩
        rcases Nat.eq_or_lt_of_le ht with htj | htj
        · rw [← htj]; exact hc
        · exact k3 t htj ht'
      · rename_i hc
        exact ⟨j, rfl, hj, Nat.le_refl _, fun t ht ht' => absurd ht (Nat.not_le.mpr ht'),
          Or.inr (Int.lt_of_not_ge hc)⟩
    · simp only [h, if_false]
      exact ⟨j, rfl, hj, Nat.le_refl _, fun t ht ht' => absurd ht (Nat.not_le.mpr ht'),
        Or.inl (Nat.le_antisymm hj (Nat.le_of_not_lt h))⟩

def SortedEv (ev : List Event) : Prop := List.Pairwise (fun a b => b.1 ≤ a.1) ev

def below (L : Int) (ev : List Event) : Nat := (ev.filter fun e => decide (e.1 < L)).length

def ind (p : Prop) [Decidable p] : Nat := if p then 1 else 0

theorem ind_le (p : Prop) [Decidable p] : ind p ≤ 1 := by unfold ind; split <;> omega
theorem ind_pos {p : Prop} [Decidable p] (h : p) : ind p = 1 := by simp [ind, h]
theorem ind_neg {p : Prop} [Decidable p] (h : ¬ p) : ind p = 0 := by simp [ind, h]

theorem ind_mono {p q : Prop} [Decidable p] [Decidable q] (h : p → q) : ind p ≤ ind q := by
  by_cases hp : p
  · rw [ind_pos hp, ind_pos (h hp)]; exact Nat.le_refl _
  · rw [ind_neg hp]; exact Nat.zero_le _

theorem below_nil (L : Int) : below L [] = 0 := rfl

theorem below_cons (L : Int) (e : Event) (es : List Event) :
    below L (e :: es) = ind (e.1 < L) + below L es := by
  unfold below ind
  by_cases h : e.1 < L
  · simp [h]; omega
  · simp [h]

theorem below_le_length (L : Int) (ev : List Event) : below L ev ≤ ev.length :=
  List.length_filter_le _ _

theorem below_mono (L L' : Int) (h : L' ≤ L) (ev : List Event) : below L' ev ≤ below L ev := by
  induction ev with
  | nil => exact Nat.le_refl _
  | cons e es ih =>
    rw [below_cons, below_cons]
    have := ind_mono fun h1 : e.1 < L' => Int.lt_of_lt_of_le h1 h
    omega

theorem below_perm {l l' : List Event} (p : l.Perm l') (L : Int) : below L l = below L l' :=
  (p.filter _).length_eq

/-- when `L` moves down onto a point of `ev`, one point fewer lies strictly below it -/
theorem below_lt_of_mem {L : Int} {e : Event} {ev : List Event} (he : e ∈ ev) (h : e.1 < L) :
    below e.1 ev < below L ev := by
  have p := List.perm_cons_erase he
  rw [below_perm p, below_perm p, below_cons, below_cons, ind_pos h, ind_neg (Int.lt_irrefl _)]
  have := below_mono L e.1 (Int.le_of_lt h) (ev.erase e)
  omega

theorem evInsert_perm (x : Event) (l : List Event) : (evInsert x l).Perm (x :: l) :=
  insert_perm evInsert (fun _ => rfl) (fun _ _ _ => (ite_eq_or_eq ..).symm) x l

theorem mem_evInsert (x y : Event) (l : List Event) : y ∈ evInsert x l ↔ y = x ∨ y ∈ l :=
  (evInsert_perm x l).mem_iff.trans List.mem_cons

theorem length_evInsert (x : Event) (l : List Event) : (evInsert x l).length = l.length + 1 :=
  (evInsert_perm x l).length_eq

theorem below_evInsert (L : Int) (x : Event) (l : List Event) :
    below L (evInsert x l) = below L l + ind (x.1 < L) := by
  rw [below_perm (evInsert_perm x l)]
  exact (below_cons L x l).trans (Nat.add_comm _ _)

theorem sorted_evInsert (x : Event) (l : List Event) (h : SortedEv l) : SortedEv (evInsert x l) :=
  insert_pairwise evInsert (fun a b => b.1 ≤ a.1) (fun _ _ _ h1 h2 => Int.le_trans h2 h1) (fun _ => rfl)
    (fun a b bs => by
      rw [show evInsert a (b :: bs) = if evLt b a then a :: b :: bs else b :: evInsert a bs from rfl]
      by_cases hc : evLt b a = true
      · rw [if_pos hc]
        simp [evLt] at hc
        exact Or.inr ⟨rfl, by omega⟩
      · rw [if_neg hc]
        simp [evLt] at hc
        exact Or.inl ⟨rfl, by omega⟩) x l h

theorem mem_emplacePos (ev : List Event) (pos sl : Int) (y : Event) :
    y ∈ emplacePos ev pos sl → y = (pos, sl) ∨ y ∈ ev := by
  unfold emplacePos
  split
  · exact (mem_evInsert _ _ _).mp
  · exact Or.inr

theorem sorted_emplacePos (ev : List Event) (pos sl : Int) (h : SortedEv ev) :
    SortedEv (emplacePos ev pos sl) := by
  unfold emplacePos
  split
  · exact sorted_evInsert _ _ h
  · exact h

theorem below_emplacePos_le (L : Int) (ev : List Event) (pos sl : Int) :
    below L (emplacePos ev pos sl) ≤ below L ev + ind (pos < L) := by
  unfold emplacePos
  split
  · rw [below_evInsert]; exact Nat.le_refl _
  · omega

theorem mem_popAt (L : Int) (ev : List Event) (y : Event) : y ∈ (popAt L ev).2 → y ∈ ev := by
  induction ev with
  | nil => simp [popAt]
  | cons e es ih =>
    unfold popAt
    split
    · intro h; exact List.mem_cons_of_mem _ (ih h)
    · exact id

theorem sorted_popAt (L : Int) (ev : List Event) (h : SortedEv ev) : SortedEv (popAt L ev).2 := by
  induction ev with
  | nil => simpa [popAt] using h
  | cons e es ih =>
    unfold popAt
    split
    · unfold SortedEv at h; rw [List.pairwise_cons] at h; exact ih h.2
    · exact h

theorem below_popAt (L : Int) (ev : List Event) : below L (popAt L ev).2 = below L ev := by
  induction ev with
  | nil => rfl
  | cons e es ih =>
    unfold popAt
    split
    · rename_i he
      rw [below_cons, ih, ind_neg (by omega)]; omega
    · rfl

theorem lt_popAt (L : Int) (ev : List Event) (hs : SortedEv ev) (hle : ∀ e ∈ ev, e.1 ≤ L) :
    ∀ e ∈ (popAt L ev).2, e.1 < L := by
  induction ev with
  | nil => simp [popAt]
  | cons e es ih =>
    unfold SortedEv at hs; rw [List.pairwise_cons] at hs
    unfold popAt
    split
    · exact ih hs.2 (fun y hy => hle y (List.mem_cons_of_mem _ hy))
    · rename_i hne
      intro y hy
      simp only [List.mem_cons] at hy
      have h1 := hle e (List.mem_cons_self ..)
      rcases hy with rfl | hy
      · omega
      · have := hs.1 y hy
        omega

theorem topOr_ge (mp : Int) (ev : List Event) : mp ≤ topOr mp ev := by
  unfold topOr; split
  · exact Int.le_refl _
  · exact Int.le_max_left _ _

theorem topOr_ge_mem (mp : Int) (ev : List Event) (hs : SortedEv ev) : ∀ e ∈ ev, e.1 ≤ topOr mp ev := by
  cases ev with
  | nil => simp
  | cons x xs =>
    unfold SortedEv at hs; rw [List.pairwise_cons] at hs
    intro e he
    simp only [topOr]
    simp only [List.mem_cons] at he
    rcases he with rfl | he
    · exact Int.le_max_right _ _
    · exact Int.le_trans (hs.1 e he) (Int.le_max_right _ _)

theorem topOr_cases (mp : Int) (ev : List Event) :
    topOr mp ev = mp ∨ ∃ e es, ev = e :: es ∧ topOr mp ev = e.1 ∧ mp < e.1 := by
  cases ev with
  | nil => exact Or.inl rfl
  | cons x xs =>
    simp only [topOr]
    by_cases h : mp < x.1
    · right; exact ⟨x, xs, rfl, by omega, h⟩
    · left; omega

/-- `lastPosition` moves from `L` down onto `topOr mp rest`, the highest point below it (`rest`: the events
strictly below `L`; `mp`: the bound of the loop), and an event is emplaced there: the queue stays sorted
below the new position, and one point fewer lies strictly below it -/
theorem topOr_step {L mp s : Int} {rest : List Event} (hs : SortedEv rest) (hlt : ∀ e ∈ rest, e.1 < L)
    (hmp : mp < L) :
    topOr mp rest < L ∧ SortedEv (emplacePos rest (topOr mp rest) s) ∧
      (∀ e ∈ emplacePos rest (topOr mp rest) s, e.1 ≤ topOr mp rest) ∧
      below (topOr mp rest) (emplacePos rest (topOr mp rest) s) + ind (mp < topOr mp rest)
        < below L rest + ind (mp < L) := by
  obtain ⟨e, he, hx, hlt'⟩ : ∃ e ∈ ((mp, 0) :: rest : List Event), e.1 = topOr mp rest ∧ e.1 < L := by
    rcases topOr_cases mp rest with h | ⟨e, es, h1, h2, _⟩
    · exact ⟨_, .head _, h.symm, hmp⟩
    · exact ⟨e, h1 ▸ .tail _ (.head _), h2.symm, hlt e (h1 ▸ .head _)⟩
  refine ⟨hx ▸ hlt', sorted_emplacePos _ _ _ hs, fun x hx' => ?_, ?_⟩
  · rcases mem_emplacePos _ _ _ _ hx' with rfl | hx'
    · exact Int.le_refl _
    · exact topOr_ge_mem mp rest hs x hx'
  · have key := below_lt_of_mem he hlt'
    have hb := below_emplacePos_le (topOr mp rest) rest (topOr mp rest) s
    rw [ind_neg (Int.lt_irrefl _)] at hb
    simp only [hx, below_cons] at key
    omega

/-- what the event-only steps preserve -/
structure Keeps (sv : Solver) (st st' : St) : Prop where
  pRev : st'.pRev = st.pRev
  occ : st'.lastOcc < sv.v.length
  opt : st'.optSink = st.optSink
  pos : 0 ≤ st'.lastPosition

theorem Keeps.trans {sv : Solver} {st st1 st2 : St} (k : Keeps sv st st1) (l : Keeps sv st1 st2) :
    Keeps sv st st2 :=
  ⟨l.pRev.trans k.pRev, l.occ, l.opt.trans k.opt, l.pos⟩

/-- invariant of the sweep between two `push`es -/
structure Inv (sv : Solver) (st : St) : Prop where
  occ : st.lastOcc < sv.v.length
  opt : st.optSink < sv.v.length
  pos : 0 ≤ st.lastPosition
  pnn : ∀ x ∈ st.pRev, 0 ≤ x

/-- what the termination argument needs from the instance: prefix sums are monotone and the total
supply does not exceed the total demand -/
structure Solver.Dom (sv : Solver) : Prop where
  wf : sv.WF
  Dmono : ∀ a b, a ≤ b → b ≤ sv.v.length → sv.D.getD a 0 ≤ sv.D.getD b 0
  Smono : ∀ a b, a ≤ b → b ≤ sv.u.length → sv.S.getD a 0 ≤ sv.S.getD b 0
  slack : sv.S.getD sv.u.length 0 ≤ sv.D.getD sv.v.length 0
  base : sv.D.getD 0 0 - sv.S.getD 0 0 ≤ 0

structure EvInv (st : St) : Prop where
  sorted : SortedEv st.events
  le : ∀ e ∈ st.events, e.1 ≤ st.lastPosition

/-- The measure of the `while` loop of `push`: twice the sinks left to occupy, plus the points strictly
below `lastPosition` among the events and the bound `max (D[j+1] - S[i+1]) 0` of the loop.
`pushToNewSink` lowers the first term by 2 and adds at most one event; `pushToLastSink` moves
`lastPosition` down onto the highest of those points.  The measure is below
`loopFuel = 2 * nbSinks + events.size() + 3`, so `outOfFuel` is impossible. -/
def mu (sv : Solver) (i : Nat) (st : St) : Nat :=
  2 * (sv.v.length - 1 - st.lastOcc) + below st.lastPosition st.events
    + ind (max (sv.D.getD (st.lastOcc + 1) 0 - sv.S.getD (i + 1) 0) 0 < st.lastPosition)

theorem pushToLastSink_dec (sv : Solver) (dom : sv.Dom) (i : Nat) (hi : i < sv.u.length) (st : St)
    (hocc : st.lastOcc < sv.v.length) (ei : EvInv st)
    (hc : sv.D.getD (st.lastOcc + 1) 0 - sv.S.getD (i + 1) 0 < st.lastPosition)
    (hL : 0 < st.lastPosition) :
    ∃ st', pushToLastSink sv i st = .ok st' ∧ Keeps sv st st' ∧ EvInv st' ∧
      mu sv i st' < mu sv i st ∧
      sv.D.getD st'.lastOcc 0 - sv.S.getD (i + 1) 0 ≤ st'.lastPosition := by
  have wf := dom.wf
  have hD1 := dom.Dmono st.lastOcc (st.lastOcc + 1) (by omega) (by omega)
  obtain ⟨_, k1, k2, k3⟩ := topOr_step (s := (popAt st.lastPosition st.events).1)
    (sorted_popAt _ _ ei.sorted) (lt_popAt _ _ ei.sorted ei.le) (Int.max_lt.mpr ⟨hc, hL⟩)
  unfold pushToLastSink
  simp only [wf.getD (j := st.lastOcc + 1) hocc,
    wf.getS (i := i + 1) hi, bind, Except.bind, pure, Except.pure]
  refine ⟨_, rfl, ⟨rfl, hocc, rfl, Int.le_trans (Int.le_max_right _ _) (topOr_ge _ _)⟩, ⟨k1, k2⟩, ?_,
    Int.le_trans (Int.le_trans (Int.sub_le_sub_right hD1 _) (Int.le_max_left _ 0)) (topOr_ge _ _)⟩
  rw [below_popAt] at k3
  unfold mu
  dsimp only
  omega

/-- both event loops of the model emplace, for `l = j, j+1, …`, an event at `pos l` with slope
`sl l` -/
def emplLoop (pos sl : Nat → Int) : Nat → Nat → List Event → List Event
  | 0, _, ev => ev
  | cnt + 1, j, ev => emplLoop pos sl cnt (j + 1) (emplacePos ev (pos j) (sl j))

theorem emplLoop_spec (pos sl : Nat → Int) (cnt j : Nat) (ev : List Event) :
    (SortedEv ev → SortedEv (emplLoop pos sl cnt j ev)) ∧
    (∀ e ∈ emplLoop pos sl cnt j ev, e ∈ ev ∨ ∃ l, j ≤ l ∧ l < j + cnt ∧ e.1 = pos l) ∧
    ∀ L, below L (emplLoop pos sl cnt j ev) ≤ below L ev + cnt := by
  induction cnt generalizing j ev with
  | zero => exact ⟨id, fun e he => Or.inl he, fun L => Nat.le_refl _⟩
  | succ cnt ih =>
    obtain ⟨k1, k2, k3⟩ := ih (j + 1) (emplacePos ev (pos j) (sl j))
    refine ⟨fun hs => k1 (sorted_emplacePos _ _ _ hs), fun x hx => ?_, fun L => ?_⟩
    · rcases k2 x hx with h | ⟨l, h1, h2, h3⟩
      · rcases mem_emplacePos _ _ _ _ h with rfl | h'
        · exact Or.inr ⟨j, Nat.le_refl _, by omega, rfl⟩
        · exact Or.inl h'
      · exact Or.inr ⟨l, by omega, by omega, h3⟩
    · have := k3 L
      have := below_emplacePos_le L ev (pos j) (sl j)
      have := ind_le (pos j < L)
      show below L (emplLoop pos sl cnt (j + 1) _) ≤ _
      omega

theorem srcEvLoop_eq (sv : Solver) (wf : sv.WF) (a : Nat) (ha : a + 1 < sv.u.length)
    (cnt j : Nat) (ev : List Event) (h : cnt = 0 ∨ j + cnt < sv.v.length) :
    srcEvLoop sv (a + 1) cnt j ev
      = .ok (emplLoop (fun l => sv.D.getD (l + 1) 0 - sv.S.getD (a + 1) 0) (dl sv a) cnt j ev) := by
  induction cnt generalizing j ev with
  | zero => rfl
  | succ cnt ih =>
    have hj : j + (cnt + 1) < sv.v.length := h.resolve_left (Nat.succ_ne_zero cnt)
    rw [srcEvLoop]
    simp only [wf.getD (by omega : j + 1 ≤ sv.v.length), wf.getS (Nat.le_of_lt ha), Nat.add_sub_cancel,
      delta_eq sv a j ha (by omega), bind, Except.bind]
    exact ih (j + 1) _ (Or.inr (by omega))

theorem snkEvLoop_eq (sv : Solver) (wf : sv.WF) (i : Nat) (hi : i < sv.u.length) (lp : Int)
    (cnt l : Nat) (ev : List Event) (h : l + cnt < sv.v.length) :
    snkEvLoop sv i lp cnt l ev
      = .ok (emplLoop (fun l => min (sv.D.getD (l + 1) 0 - sv.S.getD i 0) lp)
          (fun l => cs sv i l - cs sv i (l + 1)) cnt l ev) := by
  induction cnt generalizing l ev with
  | zero => rfl
  | succ cnt ih =>
    rw [snkEvLoop]
    simp only [wf.getD (by omega : l + 1 ≤ sv.v.length), wf.getS (Nat.le_of_lt hi),
      cost_ok sv i l hi (by omega), cost_ok sv i (l + 1) hi (by omega), bind, Except.bind, cs]
    exact ih (l + 1) _ (by omega)

theorem pushNewSinkEvents_eq (sv : Solver) (wf : sv.WF) (i j : Nat) (hi : i < sv.u.length)
    (hj : j < sv.v.length) (st : St) :
    pushNewSinkEvents sv i j st = .ok { st with
      events := emplLoop (fun l => min (sv.D.getD (l + 1) 0 - sv.S.getD i 0) st.lastPosition)
        (fun l => cs sv i l - cs sv i (l + 1)) (j - st.lastOcc) st.lastOcc st.events
      lastOcc := max st.lastOcc j } := by
  unfold pushNewSinkEvents
  by_cases h0 : j ≤ st.lastOcc
  · rw [if_pos h0, Nat.sub_eq_zero_of_le h0, Nat.max_eq_left h0]; rfl
  · rw [if_neg h0, snkEvLoop_eq sv wf i hi _ _ _ _ (by omega), Nat.max_eq_right (by omega)]; rfl

theorem pushNewSinkEvents_spec (sv : Solver) (wf : sv.WF) (i j : Nat) (hi : i < sv.u.length)
    (hj : j < sv.v.length) (st : St) (ei : EvInv st) :
    ∃ ev, pushNewSinkEvents sv i j st = .ok { st with events := ev, lastOcc := max st.lastOcc j } ∧
      EvInv { st with events := ev, lastOcc := max st.lastOcc j } ∧
      ∀ L, below L ev ≤ below L st.events + (j - st.lastOcc) := by
  obtain ⟨k1, k2, k3⟩ := emplLoop_spec (fun l => min (sv.D.getD (l + 1) 0 - sv.S.getD i 0)
    st.lastPosition) (fun l => cs sv i l - cs sv i (l + 1)) (j - st.lastOcc) st.lastOcc st.events
  refine ⟨_, pushNewSinkEvents_eq sv wf i j hi hj st, ⟨k1 ei.sorted, fun e he => ?_⟩, k3⟩
  rcases k2 e he with h | ⟨l, _, _, h⟩
  · exact ei.le e h
  · exact h ▸ Int.min_le_right _ _

/-- the measure drops when a new sink is occupied, even with one more event below `lastPosition` -/
theorem mu_drop_sink (m occ b b' : Nat) (lp ab ab' : Int) (hocc : occ + 1 < m) (hb : b' ≤ b + 1)
    (hc : ab < lp) :
    2 * (m - 1 - (occ + 1)) + b' + ind (max ab' 0 < lp) < 2 * (m - 1 - occ) + b + ind (max ab 0 < lp) := by
  have := ind_mono fun h : max ab' 0 < lp => (by omega : max ab 0 < lp)
  omega

theorem pushToNewSink_dec (sv : Solver) (wf : sv.WF) (i : Nat) (hi : i < sv.u.length) (st : St)
    (hocc : st.lastOcc + 1 < sv.v.length) (hpos : 0 ≤ st.lastPosition) (ei : EvInv st)
    (hc : sv.D.getD (st.lastOcc + 1) 0 - sv.S.getD (i + 1) 0 < st.lastPosition) :
    ∃ st', pushToNewSink sv i st = .ok st' ∧ Keeps sv st st' ∧ EvInv st' ∧
      mu sv i st' < mu sv i st ∧
      sv.D.getD st'.lastOcc 0 - sv.S.getD (i + 1) 0 ≤ st'.lastPosition := by
  unfold pushToNewSink
  obtain ⟨ev, e, ei', k⟩ := pushNewSinkEvents_spec sv wf i (st.lastOcc + 1) hi hocc st ei
  rw [Nat.max_eq_right (Nat.le_succ _)] at e ei'
  refine ⟨_, e, ⟨rfl, hocc, rfl, hpos⟩, ei', ?_, Int.le_of_lt hc⟩
  unfold mu
  exact mu_drop_sink _ _ _ _ _ _ _ hocc
    (Nat.add_sub_cancel_left (n := st.lastOcc) (m := 1) ▸ k st.lastPosition) hc

theorem getSlopeKeep_spec (st : St) (ei : EvInv st) :
    ∃ ev, (getSlopeKeep st).2 = { st with events := ev } ∧ EvInv { st with events := ev } ∧
      below st.lastPosition ev = below st.lastPosition st.events := by
  have hr_sorted := sorted_popAt st.lastPosition st.events ei.sorted
  have hr_lt := lt_popAt st.lastPosition st.events ei.sorted ei.le
  have hr_below := below_popAt st.lastPosition st.events
  refine ⟨_, rfl, ⟨?_, ?_⟩, ?_⟩
  · split
    · exact sorted_evInsert _ _ hr_sorted
    · exact hr_sorted
  · intro e he
    split at he
    · rcases (mem_evInsert _ _ _).mp he with rfl | he
      · exact Int.le_refl _
      · exact Int.le_of_lt (hr_lt e he)
    · exact Int.le_of_lt (hr_lt e he)
  · split
    · rw [below_evInsert, ind_neg (Int.lt_irrefl _), hr_below]; rfl
    · exact hr_below

theorem pushOnce_dec (sv : Solver) (dom : sv.Dom) (i : Nat) (hi : i < sv.u.length) (st : St)
    (hocc : st.lastOcc < sv.v.length) (hpos : 0 ≤ st.lastPosition) (ei : EvInv st)
    (hc : sv.D.getD (st.lastOcc + 1) 0 - sv.S.getD (i + 1) 0 < st.lastPosition) :
    ∃ st', pushOnce sv i st = .ok st' ∧ Keeps sv st st' ∧ EvInv st' ∧
      mu sv i st' < mu sv i st ∧
      sv.D.getD st'.lastOcc 0 - sv.S.getD (i + 1) 0 ≤ st'.lastPosition := by
  unfold pushOnce
  by_cases h1 : st.lastOcc + 1 = sv.nbSinks
  · simp only [h1, if_true]
    -- once the last sink is occupied, what is left of the supply fits into it
    have := dom.Smono (i + 1) sv.u.length hi (Nat.le_refl _)
    have := dom.slack
    exact pushToLastSink_dec sv dom i hi st hocc ei hc (by rw [show _ = sv.v.length from h1] at hc; omega)
  · have h1' : st.lastOcc + 1 < sv.v.length := by
      have : ¬ st.lastOcc + 1 = sv.v.length := h1
      omega
    simp only [h1, if_false]
    by_cases h2 : st.lastPosition = 0
    · simp only [h2, if_true]
      exact pushToNewSink_dec sv dom.wf i hi st h1' hpos ei hc
    · simp only [h2, if_false, cost_ok sv i (st.lastOcc + 1) hi h1', cost_ok sv i st.lastOcc hi hocc,
        bind, Except.bind]
      -- `getSlope` only merges the events at `lastPosition`: a step from its state is a step from `st`
      obtain ⟨ev, eg, g1, g6⟩ := getSlopeKeep_spec st ei
      have hmu : mu sv i { st with events := ev } = mu sv i st := congrArg (2 * _ + · + _) g6
      rw [eg, ← hmu]
      split
      · obtain ⟨st', e, k, h⟩ := pushToNewSink_dec sv dom.wf i hi { st with events := ev } h1' hpos g1 hc
        exact ⟨st', e, ⟨k.pRev, k.occ, k.opt, k.pos⟩, h⟩
      · obtain ⟨st', e, k, h⟩ := pushToLastSink_dec sv dom i hi { st with events := ev } hocc g1 hc
          (show 0 < st.lastPosition by omega)
        exact ⟨st', e, ⟨k.pRev, k.occ, k.opt, k.pos⟩, h⟩

/-- `P` is any property that every iteration keeps: the invariants of later modules ride on this one
walk of the loop. -/
theorem pushLoop_total (sv : Solver) (dom : sv.Dom) (i : Nat) (hi : i < sv.u.length) (P : St → Prop)
    (hP : ∀ st st', P st → sv.D.getD (st.lastOcc + 1) 0 - sv.S.getD (i + 1) 0 < st.lastPosition →
      pushOnce sv i st = .ok st' → P st')
    (fuel : Nat) (st : St) (hocc : st.lastOcc < sv.v.length) (hpos : 0 ≤ st.lastPosition)
    (ei : EvInv st) (hJ : sv.D.getD st.lastOcc 0 - sv.S.getD (i + 1) 0 ≤ st.lastPosition)
    (hf : mu sv i st < fuel) (h0 : P st) :
    ∃ st', pushLoop sv i fuel st = .ok st' ∧ Keeps sv st st' ∧ EvInv st' ∧
      sv.D.getD st'.lastOcc 0 - sv.S.getD (i + 1) 0 ≤ st'.lastPosition ∧
      ¬ sv.D.getD (st'.lastOcc + 1) 0 - sv.S.getD (i + 1) 0 < st'.lastPosition ∧ P st' := by
  have wf := dom.wf
  induction fuel generalizing st with
  | zero => omega
  | succ fuel ih =>
    unfold pushLoop
    simp only [wf.getD (j := st.lastOcc + 1) hocc,
      wf.getS (i := i + 1) hi, bind, Except.bind]
    split
    · rename_i hc
      obtain ⟨st1, e, k, k1, k2, k3⟩ := pushOnce_dec sv dom i hi st hocc hpos ei hc
      simp only [e]
      obtain ⟨st2, e2, l, l1⟩ := ih st1 k.occ k.pos k1 k3 (by omega) (hP st st1 h0 hc e)
      exact ⟨st2, e2, k.trans l, l1⟩
    · rename_i hc
      exact ⟨st, rfl, ⟨rfl, hocc, rfl, hpos⟩, ei, hJ, hc, h0⟩

theorem pushNewSourceEvents_zero (sv : Solver) (st : St) : pushNewSourceEvents sv 0 st = .ok st := by
  simp [pushNewSourceEvents, pure, Except.pure]

theorem pushNewSourceEvents_eq (sv : Solver) (wf : sv.WF) (a : Nat) (ha : a + 1 < sv.u.length)
    (st : St) (hocc : st.lastOcc < sv.v.length) :
    pushNewSourceEvents sv (a + 1) st = .ok { st with
      events := emplLoop (fun l => sv.D.getD (l + 1) 0 - sv.S.getD (a + 1) 0) (dl sv a)
        (min (lowerBound sv.v (sv.u.getD (a + 1) 0)) st.lastOcc - (upperBound sv.v (sv.u.getD a 0) - 1))
        (upperBound sv.v (sv.u.getD a 0) - 1) st.events } := by
  have hmin := Nat.min_le_right (lowerBound sv.v (sv.u.getD (a + 1) 0)) st.lastOcc
  unfold pushNewSourceEvents
  simp only [Nat.add_one_ne_zero, if_false, Nat.add_sub_cancel, get_ok sv.u a (by omega) 0,
    get_ok sv.u (a + 1) ha 0, bind, Except.bind]
  rw [srcEvLoop_eq sv wf a ha _ _ _ (by omega)]
  rfl

theorem pushNewSourceEvents_spec (sv : Solver) (dom : sv.Dom) (i : Nat) (hi : i < sv.u.length)
    (st : St) (hocc : st.lastOcc < sv.v.length) (ei : EvInv st)
    (hJ : sv.D.getD st.lastOcc 0 - sv.S.getD i 0 ≤ st.lastPosition) :
    ∃ ev, pushNewSourceEvents sv i st = .ok { st with events := ev } ∧
      EvInv { st with events := ev } := by
  cases i with
  | zero => exact ⟨_, pushNewSourceEvents_zero sv st, ei⟩
  | succ a =>
    -- the new events lie at boundaries `b ≤ j' < e ≤ lastOccupiedSink`
    have hmin := Nat.min_le_right (lowerBound sv.v (sv.u.getD (a + 1) 0)) st.lastOcc
    obtain ⟨k1, k2, _⟩ := emplLoop_spec (fun l => sv.D.getD (l + 1) 0 - sv.S.getD (a + 1) 0) (dl sv a)
      (min (lowerBound sv.v (sv.u.getD (a + 1) 0)) st.lastOcc - (upperBound sv.v (sv.u.getD a 0) - 1))
      (upperBound sv.v (sv.u.getD a 0) - 1) st.events
    refine ⟨_, pushNewSourceEvents_eq sv dom.wf a hi st hocc, k1 ei.sorted, fun x hx => ?_⟩
    rcases k2 x hx with h | ⟨l, h1, h2, h3⟩
    · exact ei.le x h
    · have := dom.Dmono (l + 1) st.lastOcc (by omega) (by omega)
      simp only at h3 ⊢
      omega

theorem mu_lt_loopFuel (sv : Solver) (i : Nat) (st : St) : mu sv i st < loopFuel sv st := by
  unfold mu loopFuel Solver.nbSinks
  have h1 := below_le_length st.lastPosition st.events
  have h2 := ind_le (max (sv.D.getD (st.lastOcc + 1) 0 - sv.S.getD (i + 1) 0) 0 < st.lastPosition)
  omega

theorem push_total (sv : Solver) (dom : sv.Dom) (i : Nat) (hi : i < sv.u.length) (st : St)
    (inv : Inv sv st) (ei : EvInv st)
    (hJ : sv.D.getD st.lastOcc 0 - sv.S.getD i 0 ≤ st.lastPosition) :
    ∃ st', push sv i st = .ok st' ∧ Inv sv st' ∧ st'.pRev.length = st.pRev.length + 1 ∧ EvInv st' ∧
      sv.D.getD st'.lastOcc 0 - sv.S.getD (i + 1) 0 ≤ st'.lastPosition ∧
      st'.lastPosition ≤ sv.D.getD (st'.lastOcc + 1) 0 - sv.S.getD (i + 1) 0 := by
  have wf := dom.wf
  unfold push
  obtain ⟨o, e1, ho, _⟩ := updOpt_spec sv i hi sv.nbSinks st.optSink inv.opt (Nat.le_add_left _ _)
  obtain ⟨ev1, e2, ei1⟩ :=
    pushNewSourceEvents_spec sv dom i hi { st with optSink := o } inv.occ ⟨ei.sorted, ei.le⟩ hJ
  obtain ⟨ev2, e3, ei2, _⟩ := pushNewSinkEvents_spec sv wf i o hi ho
    { st with optSink := o, events := ev1,
              lastPosition := max st.lastPosition (sv.D.getD o 0 - sv.S.getD i 0) }
    ⟨ei1.sorted, fun e he => Int.le_trans (ei1.le e he) (Int.le_max_left _ _)⟩
  simp only [e1, e2, wf.getD (Nat.le_of_lt ho), wf.getS (Nat.le_of_lt hi), e3, bind, Except.bind]
  have hS := dom.Smono i (i + 1) (Nat.le_succ i) hi
  obtain ⟨st3, e4, k, ei3, m1, m2, _⟩ := pushLoop_total sv dom i hi (fun _ => True)
    (fun _ _ _ _ _ => trivial) _ _ (Nat.max_lt.mpr ⟨inv.occ, ho⟩)
    (Int.le_trans inv.pos (Int.le_max_left _ _)) ei2
    (by
      show sv.D.getD (max st.lastOcc o) 0 - _ ≤ max st.lastPosition _
      rcases Nat.le_total st.lastOcc o with hc | hc
      · rw [Nat.max_eq_right hc]
        exact Int.le_trans (Int.sub_le_sub_left hS _) (Int.le_max_right _ _)
      · rw [Nat.max_eq_left hc]
        exact Int.le_trans (Int.le_trans (Int.sub_le_sub_left hS _) hJ) (Int.le_max_left _ _))
    (mu_lt_loopFuel sv i _) trivial
  simp only [e4, pure, Except.pure]
  refine ⟨_, rfl, ⟨k.occ, k.opt ▸ ho, k.pos, ?_⟩, by simp only [List.length_cons, k.pRev],
    ⟨ei3.sorted, ei3.le⟩, m1, Int.not_lt.mp m2⟩
  intro x hx
  rcases List.mem_cons.mp hx with rfl | hx
  · exact k.pos
  · exact inv.pnn x (k.pRev ▸ hx)

/-- `P i` is any property of the state before source `i` that every `push` carries to the next
source. -/
theorem pushAll_total (sv : Solver) (dom : sv.Dom) (P : Nat → St → Prop)
    (hP : ∀ i st st', i < sv.u.length → P i st → push sv i st = .ok st' → P (i + 1) st')
    (cnt i : Nat) (h : i + cnt ≤ sv.u.length)
    (st : St) (inv : Inv sv st) (ei : EvInv st)
    (hJ : sv.D.getD st.lastOcc 0 - sv.S.getD i 0 ≤ st.lastPosition) (h0 : P i st) :
    ∃ st', pushAll sv cnt i st = .ok st' ∧ Inv sv st' ∧ st'.pRev.length = st.pRev.length + cnt ∧
      P (i + cnt) st' := by
  induction cnt generalizing i st with
  | zero => exact ⟨st, rfl, inv, rfl, h0⟩
  | succ cnt ih =>
    unfold pushAll
    obtain ⟨st1, e, inv1, hl, ei1, hJ1, _⟩ := push_total sv dom i (by omega) st inv ei hJ
    obtain ⟨st2, e2, inv2, hl2, h2⟩ := ih (i + 1) (by omega) st1 inv1 ei1 hJ1
      (hP i st st1 (by omega) h0 e)
    simp only [e, bind, Except.bind]
    exact ⟨st2, e2, inv2, by omega, Nat.add_right_comm i 1 cnt ▸ h2⟩

end ColoVerif.Transp1d
