import ColoVerif.Model.RowLegSpec
import ColoVerif.Proofs.InsertionSort
/-
The priority queue of `RowLegalizer` as a list sorted in descending order: insertion keeps it
sorted, popping a prefix and pushing it back is the identity (so `getCost` does not change the
state), and a loop-invariant rule for the `while` loop of `getDisplacement`.
-/
namespace ColoVerif.RowLeg

theorem Bound.lt_iff (a b : Bound) :
    Bound.lt a b = true ↔ a.absPos < b.absPos ∨ (a.absPos = b.absPos ∧ a.weight < b.weight) := by
  simp [Bound.lt]

/-- `a` may stand before `b` in the descending queue. -/
def Bound.GE (a b : Bound) : Prop := ¬ (Bound.lt a b = true)

theorem Bound.ge_iff (a b : Bound) :
    Bound.GE a b ↔ b.absPos < a.absPos ∨ (b.absPos = a.absPos ∧ b.weight ≤ a.weight) := by
  unfold Bound.GE
  rw [Bound.lt_iff]
  omega

theorem Bound.ge_trans {a b c : Bound} (h1 : Bound.GE a b) (h2 : Bound.GE b c) : Bound.GE a c := by
  rw [Bound.ge_iff] at *
  omega

theorem Bound.ge_of_lt {a b : Bound} (h : Bound.lt b a = true) : Bound.GE a b := by
  rw [Bound.ge_iff]
  rw [Bound.lt_iff] at h
  omega

theorem Bound.eq_of_ge_ge {a b : Bound} (h1 : Bound.GE a b) (h2 : Bound.GE b a) : a = b := by
  rw [Bound.ge_iff] at *
  cases a; cases b
  simp only [Bound.mk.injEq] at *
  omega

theorem Bound.absPos_le_of_ge {a b : Bound} (h : Bound.GE a b) : b.absPos ≤ a.absPos := by
  rw [Bound.ge_iff] at h
  omega

def Sorted (l : List Bound) : Prop := l.Pairwise Bound.GE

theorem Sorted.tail {x : Bound} {l : List Bound} (h : Sorted (x :: l)) : Sorted l :=
  (List.pairwise_cons.mp h).2

theorem Sorted.head {x : Bound} {l : List Bound} (h : Sorted (x :: l)) : ∀ a ∈ l, Bound.GE x a :=
  (List.pairwise_cons.mp h).1

theorem pqInsert_perm (x : Bound) (l : List Bound) : (pqInsert x l).Perm (x :: l) :=
  insert_perm pqInsert (fun _ => rfl) (fun _ _ _ => (ite_eq_or_eq ..).symm) x l

theorem mem_pqInsert (x a : Bound) (l : List Bound) : a ∈ pqInsert x l ↔ a = x ∨ a ∈ l :=
  (pqInsert_perm x l).mem_iff.trans List.mem_cons

theorem sorted_pqInsert (x : Bound) (l : List Bound) : Sorted l → Sorted (pqInsert x l) :=
  insert_pairwise pqInsert Bound.GE (fun _ _ _ => Bound.ge_trans) (fun _ => rfl)
    (fun a b _ => (Decidable.em (Bound.lt b a = true)).symm.imp (fun h => ⟨if_neg h, h⟩)
      fun h => ⟨if_pos h, Bound.ge_of_lt h⟩) x l

theorem Sorted.absPos_le_head {x : Bound} {l : List Bound} (h : Sorted (x :: l)) :
    ∀ a ∈ x :: l, a.absPos ≤ x.absPos := by
  intro a ha
  rcases List.mem_cons.mp ha with rfl | ha
  · exact Int.le_refl _
  · exact Bound.absPos_le_of_ge (h.head a ha)

theorem mem_ite_pqInsert {c : Prop} [Decidable c] {x a : Bound} {l : List Bound} :
    a ∈ (if c then pqInsert x l else l) ↔ (c ∧ a = x) ∨ a ∈ l := by
  by_cases hc : c
  · rw [if_pos hc, mem_pqInsert]; simp only [hc, true_and]
  · rw [if_neg hc]; simp only [hc, false_and, false_or]

theorem sorted_ite_pqInsert (c : Prop) [Decidable c] (x : Bound) (l : List Bound) (h : Sorted l) :
    Sorted (if c then pqInsert x l else l) := by
  by_cases hc : c
  · rw [if_pos hc]; exact sorted_pqInsert x l h
  · rw [if_neg hc]; exact h

/-- The queue that `push` leaves behind, given the outcome `R`, `slope`, `curPos` of the scan:
the remaining slope becomes a bound at the last popped position, and the new cell contributes
a bound at its (clamped) target unless the target is left of the row. -/
def pushQueue (R : List Bound) (b w tgt fin slope curPos : Int) : List Bound :=
  let q1 := if slope > 0 then pqInsert ⟨curPos, slope⟩ R else R
  if tgt > b then pqInsert ⟨min tgt fin, 2 * w + min slope 0⟩ q1 else q1

theorem mem_pushQueue {β : Bound} {R : List Bound} {b w tgt fin slope curPos : Int} :
    β ∈ pushQueue R b w tgt fin slope curPos ↔
      (tgt > b ∧ β = ⟨min tgt fin, 2 * w + min slope 0⟩) ∨ (slope > 0 ∧ β = ⟨curPos, slope⟩) ∨ β ∈ R := by
  simp only [pushQueue, mem_ite_pqInsert]

theorem sorted_pushQueue {R : List Bound} (b w tgt fin slope curPos : Int) (h : Sorted R) :
    Sorted (pushQueue R b w tgt fin slope curPos) :=
  sorted_ite_pqInsert _ _ _ (sorted_ite_pqInsert _ _ _ h)

theorem foldl_insert_perm : ∀ passed rest : List Bound,
    (passed.foldl (fun q x => pqInsert x q) rest).Perm (passed ++ rest)
  | [], _ => .refl _
  | x :: xs, rest =>
    (foldl_insert_perm xs (pqInsert x rest)).trans (((pqInsert_perm x rest).append_left xs).trans List.perm_middle)

theorem foldl_insert_sorted : ∀ passed rest : List Bound, Sorted rest →
    Sorted (passed.foldl (fun q x => pqInsert x q) rest)
  | [], _, h => h
  | x :: xs, rest, h => foldl_insert_sorted xs _ (sorted_pqInsert x rest h)

def sumW : List Bound → Int
  | [] => 0
  | β :: B => β.weight + sumW B

theorem sumW_append : ∀ (A B : List Bound), sumW (A ++ B) = sumW A + sumW B
  | [], B => by simp [sumW]
  | a :: A, B => by simp only [List.cons_append, sumW, sumW_append A B]; omega

theorem sumW_nonneg : ∀ (B : List Bound), (∀ β ∈ B, 0 ≤ β.weight) → 0 ≤ sumW B
  | [], _ => Int.le_refl 0
  | a :: A, h => by
    have := sumW_nonneg A (fun β hβ => h β (List.mem_cons_of_mem _ hβ))
    have := h a (List.mem_cons_self ..)
    simp only [sumW]; omega

theorem le_clamp {b lim x r : Int} (h1 : r ≤ lim) (h2 : r ≤ x) : r ≤ min lim (max b x) :=
  Int.le_min.mpr ⟨h1, Int.le_trans h2 (Int.le_max_right b x)⟩

theorem clamp_le {b lim x y : Int} (hb : b ≤ y) (hx : x ≤ y) : min lim (max b x) ≤ y :=
  Int.le_trans (Int.min_le_right _ _) (Int.max_le.mpr ⟨hb, hx⟩)

theorem clamp_ge {b lim : Int} (x : Int) (hbl : b ≤ lim) : b ≤ min lim (max b x) :=
  Int.le_min.mpr ⟨hbl, Int.le_max_left b x⟩

/-- Continuation condition of the `while` loop of `getDisplacement`. -/
def popCond (tgt lim slope : Int) (t : Bound) : Prop :=
  (slope < 0 ∧ tgt < t.absPos) ∨ lim < t.absPos

theorem popCond_iff (tgt lim slope : Int) (t : Bound) :
    ((decide (slope < 0) && decide (t.absPos > tgt)) || decide (t.absPos > lim)) = true ↔
      popCond tgt lim slope t := by
  unfold popCond
  simp

/-- Loop-invariant rule for `scan`.  `acc` is the list of popped bounds, most recent first; at the exit the loop
condition fails on the head of the remaining queue. -/
theorem scan_rule (width tgt lim climit : Int)
    (motive : List Bound → Int → Int → Int → List Bound → Prop)
    (hstep : ∀ t rest slope curPos curCost acc, motive (t :: rest) slope curPos curCost acc →
      popCond tgt lim slope t →
      motive rest (slope + t.weight) t.absPos
        (curCost + (min curPos climit - min t.absPos climit) * (slope + width)) (t :: acc)) :
    ∀ (B : List Bound) (slope curPos curCost : Int) (acc : List Bound),
      motive B slope curPos curCost acc →
      ∃ accF, (scan width tgt lim climit B slope curPos curCost acc).passed = accF.reverse ∧
        motive (scan width tgt lim climit B slope curPos curCost acc).rest
          (scan width tgt lim climit B slope curPos curCost acc).slope
          (scan width tgt lim climit B slope curPos curCost acc).curPos
          (scan width tgt lim climit B slope curPos curCost acc).curCost accF ∧
        (∀ t ∈ (scan width tgt lim climit B slope curPos curCost acc).rest.head?,
          ¬ popCond tgt lim (scan width tgt lim climit B slope curPos curCost acc).slope t)
  | [], slope, curPos, curCost, acc, h => ⟨acc, by simp [scan], by simpa [scan] using h, by simp [scan]⟩
  | t :: rest, slope, curPos, curCost, acc, h => by
    by_cases hc : popCond tgt lim slope t
    · rw [scan, if_pos ((popCond_iff ..).mpr hc)]
      exact scan_rule width tgt lim climit motive hstep rest _ _ _ _ (hstep t rest slope curPos curCost acc h hc)
    · rw [scan, if_neg fun h => hc ((popCond_iff ..).mp h)]
      refine ⟨acc, rfl, h, ?_⟩
      simp only [List.head?_cons, Option.mem_def, Option.some.injEq]
      rintro _ rfl
      exact hc

theorem scan_split (width tgt lim climit : Int) (B : List Bound) (slope curPos curCost : Int) :
    (scan width tgt lim climit B slope curPos curCost []).passed ++
      (scan width tgt lim climit B slope curPos curCost []).rest = B := by
  obtain ⟨accF, h1, h2, _⟩ := scan_rule width tgt lim climit
    (fun rest _ _ _ acc => acc.reverse ++ rest = B)
    (by intro t rest _ _ _ acc h _; simpa using h) B slope curPos curCost [] (by simp)
  rw [h1, h2]

theorem scan_rest_sorted (width tgt lim climit : Int) (B : List Bound) (slope curPos curCost : Int)
    (h : Sorted B) : Sorted (scan width tgt lim climit B slope curPos curCost []).rest := by
  have hs := scan_split width tgt lim climit B slope curPos curCost
  rw [← hs] at h
  exact (List.pairwise_append.mp h).2.1

/-- `getCost` pushes the popped bounds back: the queue it leaves is sorted and has the same bounds as before, and a
sorted queue is determined by its bounds (bounds that compare equal are identical). -/
theorem getCost_state (s : State) (w t : Int) (h : Sorted s.bounds) : (getCost s w t).2 = s := by
  have hq : (getCost s w t).2.bounds = s.bounds :=
    List.Perm.eq_of_pairwise (fun _ _ _ _ => Bound.eq_of_ge_ge)
      (foldl_insert_sorted _ _ (scan_rest_sorted _ _ _ _ _ _ _ _ h)) h
      ((foldl_insert_perm _ _).trans (.of_eq (scan_split ..)))
  cases s
  exact congrArg _ hq

theorem getCost_fst (s : State) (w t : Int) : (getCost s w t).1 = (push s w t).1 := rfl

theorem fin_bounds (s : State) (w t : Int) (h : w ≤ s.remaining) :
    s.b ≤ (displacement s w t).finalAbsPos ∧ (displacement s w t).finalAbsPos ≤ s.e - s.used - w := by
  simp only [State.remaining] at h
  exact ⟨clamp_ge _ (by omega), Int.min_le_left _ _⟩

end ColoVerif.RowLeg
