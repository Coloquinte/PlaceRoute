import ColoVerif.Proofs.LegalizeIdemCircuit
import ColoVerif.Proofs.OrientLegalize
/-
For C11, on top of `legalizeWith_fixed_seg`.  Legalizing twice: what the first call returns on a single-row design
of the domain is again in the domain (`legalize_dom`), single-row, legal (`legalizeWith_legal`, C01) and
orientation-legal: every cell carries the orientation `getOrientation` prescribes in a free segment under it, which
is not INVALID, and that segment is the only free segment containing the cell (`CellOrient.seg`).
For `legalize_idempotent_single_segment`: cells of one segment listed left to right (`RowLeg.InOrder`) have strictly
increasing exact keys when `0 ≤ orderingWidth ≤ 1`.
-/
namespace ColoVerif.Legalize
open ColoVerif ColoVerif.RowLeg

/-- Legalizing twice = legalizing once, for every single-row design of the domain and every key rounding that
keeps the left-to-right order on the first result. -/
theorem legalizeWith_twice_seg (rnd : Rat → Rat) (p : Params) (c c' : Circuit) (hd : DomL c) (hs : SingleRow c)
    (h : legalizeWith rnd p c = .ok c') (hk : KeyOrderSeg rnd p c'.computeRows (movable c')) :
    legalizeWith rnd p c' = .ok c' := by
  obtain ⟨hrows, hcr, hpw⟩ := legalize_facts rnd p c c' hd h
  have hrh : Circuit.rowHeight c' = Circuit.rowHeight c := by unfold Circuit.rowHeight; rw [hrows]
  have hsr : SingleRow c' := by
    intro b hb hf
    obtain ⟨a, ha, haf, _, _, hh, _⟩ := legalize_cell rnd p c c' hd h b hb hf
    rw [hrh, hh]
    exact hs a ha haf
  have hol : OrientLegal c' := by
    intro b hb hf
    obtain ⟨a, _, hfr, hab⟩ := pointwise_mem_right hpw b hb
    obtain ⟨r, _, _, hu, _, hni, heq, _⟩ := hab.seg hd.1 (dom_rowsOK c hd) (hfr.2.2.1.trans hf)
    refine ⟨hni, fun r' hr' y1 x1 x2 => ?_⟩
    -- `r'` is the segment the cell was put in
    obtain rfl := hu r' (hcr ▸ hr') ⟨y1, x1, x2⟩
    exact (Decidable.em _).imp_right fun hne => (heq hne).symm
  exact legalizeWith_fixed_seg rnd p _ (legalizeWith_ok rnd p c c' h).1
    (domL_spelled c' (legalize_dom rnd p c c' hd h)) hsr (legalizeWith_legal rnd p c c' hd h)
    hol hk

theorem legalizeWith_twice (rnd : Rat → Rat) (p : Params) (c c' : Circuit) (hd : DomL c) (hs : SingleRow c)
    (h : legalizeWith rnd p c = .ok c') (hk : KeyOrder rnd p (movable c')) :
    legalizeWith rnd p c' = .ok c' :=
  legalizeWith_twice_seg rnd p c c' hd hs h (hk.toSeg _)

theorem inOrder_mem (e : Int) : ∀ (cs : List (Int × Int)) (lo : Int), InOrder e lo cs → ∀ c ∈ cs, 0 < c.1 ∧ lo ≤ c.2
  | [], _, _, c, hc => by simp at hc
  | d :: ds, lo, h, c, hc => by
    obtain ⟨hw, hlo, _, hr⟩ := h
    rcases List.mem_cons.mp hc with rfl | hc
    · exact ⟨hw, hlo⟩
    · have := inOrder_mem e ds _ hr c hc; omega

theorem inOrder_pairwise (e : Int) (ww wy wh : Rat) (h0 : 0 ≤ ww) (h1 : ww ≤ 1) (ty hh : Int) :
    ∀ (cs : List LCell) (lo : Int), (∀ c ∈ cs, c.ty = ty ∧ c.h = hh) →
      InOrder e lo (cs.map fun c => (c.w, c.tx)) →
      cs.Pairwise fun c1 c2 => orderKey id ww wy wh c1 < orderKey id ww wy wh c2
  | [], _, _, _ => List.Pairwise.nil
  | c :: cs, lo, hs, h => by
    obtain ⟨hw, _, _, hr⟩ := h
    refine List.Pairwise.cons ?_ (inOrder_pairwise e ww wy wh h0 h1 ty hh cs _ (fun d hd => hs d (by simp [hd])) hr)
    intro d hd
    have hm : (d.w, d.tx) ∈ cs.map fun c => (c.w, c.tx) := List.mem_map.mpr ⟨d, hd, rfl⟩
    obtain ⟨hpos, hlo⟩ := inOrder_mem e _ _ hr _ hm
    exact orderKey_lt_exact ww wy wh h0 h1 c d (by rw [(hs c (by simp)).1, (hs d (by simp [hd])).1])
      (by rw [(hs c (by simp)).2, (hs d (by simp [hd])).2]) hw hpos hlo

end ColoVerif.Legalize
