import ColoVerif.Proofs.NetAsmScale
import ColoVerif.Proofs.NetAsmLsq
import Mathlib.Tactic.Ring
/-
`MatrixCreator::finalize` adds an *unscaled* entry `(i, i, 1e-8f)` for every unknown `i` whose
`hasNonZero_` flag is still false.  By `FinInv` such a row is empty and has a zero right-hand side,
so the regularisation rows read `1e-8 · x_i = 0` whatever the weights are, all other rows scale with
the weights, and the *finalized* systems for weights `W` and `k·W` have the same solutions.
-/
namespace ColoVerif.NetAsm

theorem finalizeBody_frame (s : Sys) (i : Nat) :
    (finalizeBody s i).rhs = s.rhs ∧ (finalizeBody s i).initial = s.initial
      ∧ (finalizeBody s i).nbCells = s.nbCells ∧ (finalizeBody s i).nbSupps = s.nbSupps :=
  ⟨rfl, rfl, rfl, rfl⟩

theorem foldl_finalizeBody (is : List Nat) : ∀ (s : Sys), is.Nodup →
    is.foldl finalizeBody s = { s with
      mat := ((is.filter (fun i => s.nz.getD i true = false)).reverse.map (fun i => (i, i, tiny))) ++ s.mat
      nz := is.foldl (fun nz i => nz.set i true) s.nz } := by
  induction is with
  | nil => intro s _; rfl
  | cons j js ih =>
    intro s hnd
    obtain ⟨hj, hjs⟩ := List.nodup_cons.1 hnd
    have hf : js.filter (fun i => (finalizeBody s j).nz.getD i true = false)
        = js.filter (fun i => s.nz.getD i true = false) :=
      List.filter_congr fun i hi => by
        show decide ((s.nz.set j true).getD i true = false) = _
        rw [getD_set_true, if_neg (fun e : i = j => hj (e ▸ hi))]
    rw [List.foldl_cons, ih _ hjs, hf]
    by_cases hc : s.nz.getD j true = false
    · simp [-List.getD_eq_getElem?_getD, finalizeBody, hc]
    · simp [-List.getD_eq_getElem?_getD, finalizeBody, hc]

theorem finalize_eq (s : Sys) : finalize s = { s with
    mat := regEntries s ++ s.mat, nz := (List.range s.matSize).foldl (fun nz i => nz.set i true) s.nz } :=
  foldl_finalizeBody _ s List.nodup_range

theorem regEntries_scale (k : Rat) (s : Sys) : regEntries (s.scale k) = regEntries s := rfl

theorem mem_regEntries (s : Sys) (e : Nat × Nat × Rat) (he : e ∈ regEntries s) :
    e = (e.1, e.1, tiny) ∧ e.1 < s.matSize ∧ s.nz.getD e.1 true = false := by
  unfold regEntries at he
  simp only [List.mem_map, List.mem_reverse, List.mem_filter, List.mem_range, decide_eq_true_eq] at he
  obtain ⟨i, ⟨hi, hc⟩, rfl⟩ := he
  exact ⟨rfl, hi, hc⟩

theorem bilin_append (a b : List (Nat × Nat × Rat)) (x t : Nat → Rat) :
    bilin (a ++ b) x t = bilin a x t + bilin b x t := by
  induction a with
  | nil => simp [bilin]
  | cons e es ih => simp only [List.cons_append, bilin, ih]; ring

theorem diagQ_expand (es : List (Nat × Nat × Rat)) (hd : ∀ e ∈ es, e.2.1 = e.1) (x t : Nat → Rat) :
    diagQ es (fun i => x i + t i) = diagQ es x + 2 * bilin es x t + bilin es t t := by
  induction es with
  | nil => simp [diagQ, bilin]
  | cons e es ih =>
    have he := hd e (List.mem_cons_self ..)
    simp only [diagQ, bilin, ih (fun e' h' => hd e' (List.mem_cons_of_mem _ h')), he, sq]
    ring

theorem diag_psd (es : List (Nat × Nat × Rat)) (hd : ∀ e ∈ es, e.2.1 = e.1 ∧ 0 ≤ e.2.2) (t : Nat → Rat) :
    0 ≤ bilin es t t := by
  induction es with
  | nil => exact le_refl _
  | cons e es ih =>
    obtain ⟨he, hv⟩ := hd e (List.mem_cons_self ..)
    show 0 ≤ e.2.2 * t e.2.1 * t e.1 + bilin es t t
    rw [he, mul_assoc]
    exact add_nonneg (mul_nonneg hv (mul_self_nonneg _)) (ih (fun e' h' => hd e' (List.mem_cons_of_mem _ h')))

theorem tiny_nonneg : (0 : Rat) ≤ tiny := div_nonneg (Nat.ofNat_nonneg _) (Nat.ofNat_nonneg _)

theorem regEntries_diag (s : Sys) : ∀ e ∈ regEntries s, e.2.1 = e.1 ∧ 0 ≤ e.2.2 := by
  intro e he
  obtain ⟨a, _, _⟩ := mem_regEntries s e he
  rw [a]
  exact ⟨rfl, tiny_nonneg⟩

theorem finalize_inv (s : Sys) (Q : (Nat → Rat) → Rat) (h : Inv s Q) :
    Inv (finalize s) (fun x => Q x + regQ s x) := by
  rw [finalize_eq]
  refine ⟨?_, ?_⟩
  · intro x t
    have g := h.grad x t
    have d := diagQ_expand (regEntries s) (fun e he => (regEntries_diag s e he).1) x t
    show _ = _ + 2 * (bilin (regEntries s ++ s.mat) x t - lin s.rhs t) + bilin (regEntries s ++ s.mat) t t
    rw [bilin_append, bilin_append]
    simp only [regQ, g, d]
    ring
  · intro t
    show 0 ≤ bilin (regEntries s ++ s.mat) t t
    rw [bilin_append]
    exact add_nonneg (diag_psd (regEntries s) (regEntries_diag s) t) (h.psd t)

theorem rowDot_empty (mat : List (Nat × Nat × Rat)) (x : Nat → Rat) (i : Nat) (h : ∀ e ∈ mat, e.1 ≠ i) :
    rowDot mat x i = 0 := by
  induction mat with
  | nil => rfl
  | cons e es ih =>
    simp only [rowDot]
    rw [ih (fun e' he' => h e' (List.mem_cons_of_mem _ he'))]
    simp [h e (List.mem_cons_self ..)]

theorem rowDot_append (a b : List (Nat × Nat × Rat)) (x : Nat → Rat) (i : Nat) :
    rowDot (a ++ b) x i = rowDot a x i + rowDot b x i := by
  induction a with
  | nil => exact (zero_add _).symm
  | cons e es ih => simp only [List.cons_append, rowDot, ih, add_assoc]

theorem solves_finalize_scale (k : Rat) (hk : k ≠ 0) (s : Sys) (h : FinInv s) (x : Nat → Rat) :
    Solves (finalize (s.scale k)) x ↔ Solves (finalize s) x := by
  unfold Solves
  refine forall_congr' (fun i => ?_)
  rw [finalize_eq, finalize_eq, regEntries_scale]
  show rowDot (regEntries s ++ (s.scale k).mat) x i = (s.scale k).rhs.getD i 0 ↔ rowDot (regEntries s ++ s.mat) x i = _
  rw [rowDot_append, rowDot_append, scale_mat, scale_rhs, rowDot_scale, getD_scale]
  by_cases hc : s.nz.getD i true = false
  · -- the row reads `1e-8 · x_i = 0` in both systems
    rw [rowDot_empty _ x i (h.row_ne hc), h.zero i hc, mul_zero]
  · -- no regularisation entry: the row is multiplied by `k`
    have : rowDot (regEntries s) x i = 0 :=
      rowDot_empty _ x i (fun e he heq => hc (heq ▸ (mem_regEntries s e he).2.2))
    rw [this, zero_add, zero_add]
    exact ⟨mul_left_cancel₀ hk, fun e => by rw [e]⟩

end ColoVerif.NetAsm
