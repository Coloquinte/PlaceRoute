import ColoVerif.Proofs.LegalizeFrame
import Mathlib.Algebra.Order.Field.Rat
/-
For C11 and the trivial-success clause of C01: `sortKeys`, the insertion sort by which the model renders the
`std::stable_sort` of `computeCellOrder`, returns a sorted permutation (Proofs/InsertionSort), so the cell order is a
permutation of the indices, sorted by (key, index).
-/
namespace ColoVerif.Legalize
open ColoVerif

theorem keyLt_iff (a b : Rat × Nat) : keyLt a b = true ↔ a.1 < b.1 ∨ (a.1 = b.1 ∧ a.2 < b.2) := by
  simp [keyLt]

theorem keyLt_asymm (a b : Rat × Nat) : keyLt a b = true → ¬ keyLt b a = true := by
  simp only [keyLt_iff]
  rintro (h | ⟨h1, h2⟩) (h' | ⟨h1', h2'⟩)
  · exact lt_asymm h h'
  · rw [h1'] at h; exact lt_irrefl _ h
  · rw [h1] at h'; exact lt_irrefl _ h'
  · omega

theorem keyLe_trans (a b c : Rat × Nat) : ¬ keyLt b a = true → ¬ keyLt c b = true → ¬ keyLt c a = true := by
  simp only [keyLt_iff, not_or, not_and, not_lt]
  rintro ⟨h1, h2⟩ ⟨h3, h4⟩
  refine ⟨le_trans h1 h3, fun hca => ?_⟩
  have e1 : b.1 = a.1 := le_antisymm (by rw [← hca]; exact h3) h1
  have e2 : c.1 = b.1 := by rw [hca, e1]
  have := h2 e1
  have := h4 e2
  omega

theorem sortKeys_perm (l : List (Rat × Nat)) : (sortKeys l).Perm l :=
  foldr_insert_perm insertKey (fun _ => rfl) (fun _ _ _ => ite_eq_or_eq ..) l

theorem sortKeys_sorted (l : List (Rat × Nat)) : SortedBy keyLt (sortKeys l) :=
  foldr_insert_pairwise insertKey _ keyLe_trans (fun _ => rfl)
    (fun a b _ => if hc : keyLt b a = true then .inl ⟨if_pos hc, keyLt_asymm b a hc⟩ else .inr ⟨if_neg hc, hc⟩) l

theorem keyed_eq_map (rnd : Rat → Rat) (ww wy wh : Rat) : ∀ (cells : List LCell) (s : Nat),
    keyed rnd ww wy wh s cells =
      (List.range cells.length).map fun i => (orderKey rnd ww wy wh (cellAt cells i), s + i)
  | [], _ => rfl
  | c :: cs, s => by
    rw [keyed, keyed_eq_map rnd ww wy wh cs (s + 1), List.length_cons, List.range_succ_eq_map, List.map_cons,
      List.map_map]
    refine congrArg _ (List.map_congr_left fun i _ => ?_)
    simp only [Function.comp_apply, cellAt, List.getD_cons_succ, Prod.mk.injEq, true_and]
    omega

theorem computeCellOrder_perm (rnd : Rat → Rat) (ww wy wh : Rat) (cells : List LCell) :
    (computeCellOrder rnd ww wy wh cells).Perm (List.range cells.length) := by
  unfold computeCellOrder
  have e : (keyed rnd ww wy wh 0 cells).map (·.2) = List.range cells.length := by
    rw [keyed_eq_map, List.map_map]
    simp [Function.comp_def]
  rw [← e]
  exact (sortKeys_perm _).map _

theorem computeCellOrder_sorted (rnd : Rat → Rat) (ww wy wh : Rat) (cells : List LCell) :
    (computeCellOrder rnd ww wy wh cells).Pairwise fun i j =>
      ¬ keyLt (orderKey rnd ww wy wh (cellAt cells j), j) (orderKey rnd ww wy wh (cellAt cells i), i) = true := by
  unfold computeCellOrder
  rw [List.pairwise_map]
  have hs := sortKeys_sorted (keyed rnd ww wy wh 0 cells)
  refine List.Pairwise.imp_of_mem ?_ hs
  have key : ∀ a ∈ sortKeys (keyed rnd ww wy wh 0 cells), (orderKey rnd ww wy wh (cellAt cells a.2), a.2) = a := by
    intro a ha
    rw [(sortKeys_perm _).mem_iff, keyed_eq_map] at ha
    obtain ⟨i, _, rfl⟩ := List.mem_map.mp ha
    rw [Nat.zero_add]
  intro a b ha hb hab
  rw [key a ha, key b hb]
  exact hab

end ColoVerif.Legalize
