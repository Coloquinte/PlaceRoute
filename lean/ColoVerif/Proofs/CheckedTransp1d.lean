import ColoVerif.Proofs.CheckedTransp1dInv
/-
C07 for the 1-D transportation solver: on the domain `T1dDom` the checked twin
(`Model/Transp1dChecked.lean`: every `long long` operation of
`Transportation1d pb(u,v,s,d); pb.balanceDemand(); pb.assign();` typed) never faults and returns
what the unbounded model returns.  The potential and the state invariant `SI` that bound the
slopes are in `CheckedTransp1dInv.lean`; each loop of the sweep is walked once here (`Sim`), for
the invariant and for the absence of faults that the invariant pays for.
-/
namespace ColoVerif.Transp1d
open ColoVerif.Checked

theorem C_bind_def {α β : Type} (x : C α) (f : α → C β) : x >>= f = C.bind x f := rfl

theorem bindE_congr {α β : Type} {x : M α} {f : α → C β} {g : α → M β}
    (h : ∀ a, x = .ok a → f a = liftE (g a)) : C.bind (liftE x) f = liftE (x >>= g) := by
  cases x with
  | error e => rfl
  | ok a => exact h a rfl

theorem bindC_congr {α β : Type} {xc : C α} {x : M α} (hx : xc = liftE x) {f : α → C β} {g : α → M β}
    (h : ∀ a, x = .ok a → f a = liftE (g a)) : C.bind xc f = liftE (x >>= g) := by
  rw [hx]; exact bindE_congr h

theorem bindF_ok {α β : Type} {x : Except Fault α} {a : α} (h : x = .ok a) (f : α → C β) :
    C.bind (liftF x) f = f a := by
  rw [h]; rfl

theorem liftF_ok {α : Type} {x : Except Fault α} {a : α} (h : x = .ok a) :
    liftF x = liftE (pure a) := by
  rw [h]; rfl

theorem absI64_ok' {s : String} {a : Int} (h : iabs a ≤ 9223372036854775807) :
    absI64 s a = .ok (iabs a) := chk64_ok ⟨by have := iabs_nonneg a; omega, h⟩

/-- room in `long long` for positions in `[-P, P]` and cumulated quantities in `[0, T]` (`SB`, `PB`).
`8·P` is what `pushOnce` adds: a merged slope (at most `6·P` by `SI.slopes`) and a cost (at most `2·P`). -/
structure NB (P T : Int) : Prop where
  hP : 8 * P ≤ 9223372036854775807
  hT : 4 * T ≤ 9223372036854775807

theorem SB.subDS {sv : Solver} {P T : Int} (sb : SB sv P T) (nb : NB P T) (site : String) (j i : Nat) :
    subI64 site (sv.D.getD j 0) (sv.S.getD i 0) = .ok (sv.D.getD j 0 - sv.S.getD i 0) := by
  have := nb.hT
  have := sb.Db j
  have := sb.Sb i
  exact subI64_ok' (by omega)

theorem cost_bound {sv : Solver} {P T : Int} (sb : SB sv P T) (i j : Nat) :
    0 ≤ iabs (sv.u.getD i 0 - sv.v.getD j 0) ∧ iabs (sv.u.getD i 0 - sv.v.getD j 0) ≤ 2 * P := by
  have := sb.ub i; have := sb.vb j
  exact ⟨iabs_nonneg _, iabs_le (by omega) (by omega)⟩

theorem costC_eq {sv : Solver} {P T : Int} (sb : SB sv P T) (nb : NB P T) (i j : Nat) :
    costC sv i j = liftE (cost sv i j) := by
  have := nb.hP
  unfold costC cost
  simp only [C_bind_def]
  apply bindE_congr; intro a ha
  apply bindE_congr; intro b hb
  obtain ⟨_, rfl⟩ := get_inv ha
  obtain ⟨_, rfl⟩ := get_inv hb
  have h1 := sb.ub i; have h2 := sb.vb j
  have h3 := cost_bound sb i j
  rw [bindF_ok (subI64_ok' (by omega))]
  exact liftF_ok (absI64_ok' (by omega))

theorem deltaC_eq {sv : Solver} {P T : Int} (sb : SB sv P T) (nb : NB P T) (i j : Nat) :
    deltaC sv i j = liftE (delta sv i j) := by
  have := nb.hP
  unfold deltaC delta
  simp only [C_bind_def, costC_eq sb nb]
  apply bindE_congr; intro a ha
  apply bindE_congr; intro b hb
  apply bindE_congr; intro c hc
  apply bindE_congr; intro e he
  obtain ⟨_, _, rfl⟩ := cost_inv ha
  obtain ⟨_, _, rfl⟩ := cost_inv hb
  obtain ⟨_, _, rfl⟩ := cost_inv hc
  obtain ⟨_, _, rfl⟩ := cost_inv he
  have h1 := cost_bound sb i (j + 1)
  have h2 := cost_bound sb (i + 1) j
  have h3 := cost_bound sb (i + 1) (j + 1)
  have h4 := cost_bound sb i j
  rw [bindF_ok (addI64_ok (by omega)), bindF_ok (subI64_ok' (by omega))]
  exact liftF_ok (subI64_ok' (by omega))

theorem dval_bound {sv : Solver} {P T : Int} (sb : SB sv P T) (i j : Nat) :
    -(4 * P) ≤ dval sv i j ∧ dval sv i j ≤ 4 * P := by
  have h1 := cost_bound sb i (j + 1)
  have h2 := cost_bound sb (i + 1) j
  have h3 := cost_bound sb (i + 1) (j + 1)
  have h4 := cost_bound sb i j
  unfold dval; omega

theorem updOptC_eq {sv : Solver} {P T : Int} (sb : SB sv P T) (nb : NB P T) (i : Nat) :
    ∀ (k j : Nat), updOptC sv i k j = liftE (updOpt sv i k j) := by
  intro k
  induction k with
  | zero => intro j; rfl
  | succ k ih =>
    intro j
    unfold updOptC updOpt
    by_cases hj : j + 1 < sv.nbSinks
    · simp only [if_pos hj, C_bind_def, costC_eq sb nb]
      apply bindE_congr; intro c0 _
      apply bindE_congr; intro c1 _
      by_cases hc : c1 ≤ c0
      · simp only [if_pos hc]; exact ih (j + 1)
      · simp only [if_neg hc]; rfl
    · simp only [if_neg hj]; rfl

/-- the checked computation `c` runs without fault, as the unbounded `m` does, and every result of
`m` satisfies `Q` -/
structure Sim {α : Type} (c : C α) (m : M α) (Q : α → Prop) : Prop where
  eq : c = liftE m
  post : ∀ r, m = .ok r → Q r

theorem Sim.pure {α : Type} {a : α} {Q : α → Prop} (h : Q a) : Sim (Pure.pure a) (Pure.pure a) Q :=
  ⟨rfl, fun _ e => by cases e; exact h⟩

theorem Sim.mono {α : Type} {c : C α} {m : M α} {P Q : α → Prop} (h : Sim c m P)
    (hpq : ∀ r, P r → Q r) : Sim c m Q :=
  ⟨h.eq, fun r e => hpq r (h.post r e)⟩

theorem Sim.bind {α β : Type} {xc : C α} {x : M α} {P : α → Prop} (hx : Sim xc x P) {f : α → C β}
    {g : α → M β} {Q : β → Prop} (h : ∀ a, x = .ok a → P a → Sim (f a) (g a) Q) :
    Sim (C.bind xc f) (x >>= g) Q := by
  rw [hx.eq]
  cases x with
  | error e => exact ⟨rfl, fun r e => by cases e⟩
  | ok a => exact h a rfl (hx.post a rfl)

theorem Sim.bindE {α β : Type} {x : M α} {f : α → C β} {g : α → M β} {Q : β → Prop}
    (h : ∀ a, x = .ok a → Sim (f a) (g a) Q) : Sim (C.bind (liftE x) f) (x >>= g) Q :=
  Sim.bind (P := fun _ => True) ⟨rfl, fun _ _ => trivial⟩ fun a e _ => h a e

theorem Sim.get {β : Type} {l : List Int} {i : Nat} {f : Int → C β} {g : Int → M β} {Q : β → Prop}
    (h : i < l.length → Sim (f (l.getD i 0)) (g (l.getD i 0)) Q) :
    Sim (C.bind (liftE (get l i)) f) (get l i >>= g) Q :=
  Sim.bindE fun a ha => by obtain ⟨hi, rfl⟩ := get_inv ha; exact h hi

theorem srcEvLoop_sim {sv : Solver} {P T : Int} (sb : SB sv P T) (nb : NB P T) (i : Nat) :
    ∀ (cnt j : Nat) (ev : List Event),
      Sim (srcEvLoopC sv (i + 1) cnt j ev) (srcEvLoop sv (i + 1) cnt j ev) fun ev' =>
        (cnt = 0 ∨ (j + cnt < sv.v.length ∧ i + 1 < sv.u.length)) ∧
        sumAbs ev' ≤ sumAbs ev + srcSlope sv (sv.u.getD i 0) (sv.u.getD (i + 1) 0) j (j + cnt) := by
  intro cnt
  induction cnt with
  | zero =>
    intro j ev
    have := srcSlope_add sv (sv.u.getD i 0) (sv.u.getD (i + 1) 0) j j j
    exact Sim.pure ⟨Or.inl rfl, by show _ ≤ _ + srcSlope sv _ _ j j; omega⟩
  | succ cnt ih =>
    intro j ev
    unfold srcEvLoopC srcEvLoop
    simp only [C_bind_def, deltaC_eq sb nb]
    apply Sim.get; intro _
    apply Sim.get; intro _
    apply Sim.bindE; intro dl hd
    rw [Nat.add_sub_cancel] at hd
    obtain ⟨d1, d2, rfl⟩ := delta_inv hd
    rw [bindF_ok (sb.subDS nb _ _ _)]
    refine (ih (j + 1) _).mono ?_
    intro ev' ⟨k2, k3⟩
    refine ⟨Or.inr ⟨by omega, d1⟩, ?_⟩
    -- the new event's slope `delta(i, j)` is the non-negative `srcSlope … j (j + 1)`
    have hs := sumAbs_emplacePos ev (sv.D.getD (j + 1) 0 - sv.S.getD (i + 1) 0) (dval sv i j)
    have hnn := srcSlope_nonneg sb (sb.us i (i + 1) (by omega) d1) (by omega : j ≤ j + 1) d2
    have hadd := srcSlope_add sv (sv.u.getD i 0) (sv.u.getD (i + 1) 0) j (j + 1) (j + 1 + cnt)
    have hdv : iabs (dval sv i j) = srcSlope sv (sv.u.getD i 0) (sv.u.getD (i + 1) 0) j (j + 1) := by
      rw [dval_eq_srcSlope, iabs, if_neg (by omega)]
    rw [show j + (cnt + 1) = j + 1 + cnt by omega]
    omega

theorem pushNewSourceEvents_sim {sv : Solver} {P T : Int} (sb : SB sv P T) (nb : NB P T) {i : Nat}
    {st : St} (inv : SI sv P (srcBudgetAt sv i) st) (hi : i < sv.u.length) :
    Sim (pushNewSourceEventsC sv i st) (pushNewSourceEvents sv i st)
      (SI sv P (srcBudgetAt sv (i + 1))) := by
  have hm : 0 < sv.v.length := by have := inv.occ; omega
  have hphi := inv.phi
  unfold pushNewSourceEventsC pushNewSourceEvents
  cases i with
  | zero =>
    refine Sim.pure ⟨inv.occ, ?_⟩
    have := (srcBudget_bounds sb hm (sv.u.getD 0 0)).2
    simp only [srcBudgetAt] at hphi ⊢
    omega
  | succ i =>
    simp only [if_neg (Nat.add_one_ne_zero i), C_bind_def]
    apply Sim.bindE; intro up _
    apply Sim.bindE; intro ui _
    apply Sim.bind (srcEvLoop_sim sb nb i _ _ _); intro ev _ ⟨k2, k3⟩
    refine Sim.pure ⟨inv.occ, ?_⟩
    have hxy : sv.u.getD i 0 ≤ sv.u.getD (i + 1) 0 := sb.us i (i + 1) (by omega) hi
    generalize upperBound sv.v up - 1 = b at k2 k3
    generalize min (lowerBound sv.v ui) st.lastOcc - b = cnt at k2 k3
    have hG : srcSlope sv (sv.u.getD i 0) (sv.u.getD (i + 1) 0) b (b + cnt)
        ≤ srcBudget sv (sv.u.getD i 0) - srcBudget sv (sv.u.getD (i + 1) 0) := by
      rcases k2 with rfl | k2
      · have := srcSlope_add sv (sv.u.getD i 0) (sv.u.getD (i + 1) 0) b b b
        have := srcSlope_le_budget sb hxy (Nat.zero_le 0) hm
        have := srcSlope_add sv (sv.u.getD i 0) (sv.u.getD (i + 1) 0) 0 0 0
        show srcSlope sv _ _ b b ≤ _
        omega
      · exact srcSlope_le_budget sb hxy (by omega) k2.1
    simp only [srcBudgetAt] at hphi ⊢
    omega

theorem snkEvLoop_sim {sv : Solver} {P T : Int} (sb : SB sv P T) (nb : NB P T) (i : Nat) (lp : Int) :
    ∀ (cnt l : Nat) (ev : List Event),
      Sim (snkEvLoopC sv i lp cnt l ev) (snkEvLoop sv i lp cnt l ev) fun ev' =>
        (cnt = 0 ∨ l + cnt < sv.v.length) ∧
        sumAbs ev' ≤ sumAbs ev + (sv.v.getD (l + cnt) 0 - sv.v.getD l 0) := by
  have := nb.hT; have := nb.hP
  intro cnt
  induction cnt with
  | zero =>
    intro l ev
    exact Sim.pure ⟨Or.inl rfl, by simp only [Nat.add_zero]; omega⟩
  | succ cnt ih =>
    intro l ev
    unfold snkEvLoopC snkEvLoop
    simp only [C_bind_def, costC_eq sb nb]
    apply Sim.get; intro _
    apply Sim.get; intro _
    apply Sim.bindE; intro c0 hc0
    apply Sim.bindE; intro c1 hc1
    obtain ⟨_, _, rfl⟩ := cost_inv hc0
    obtain ⟨_, d2, rfl⟩ := cost_inv hc1
    have h3 := cost_bound sb i l; have h4 := cost_bound sb i (l + 1)
    rw [bindF_ok (sb.subDS nb _ _ _), bindF_ok (subI64_ok' (by omega))]
    refine (ih (l + 1) _).mono ?_
    intro ev' ⟨k2, k3⟩
    refine ⟨Or.inr ?_, ?_⟩
    · rcases k2 with k2 | k2 <;> omega
    · have hs := sumAbs_emplacePos ev (min (sv.D.getD (l + 1) 0 - sv.S.getD i 0) lp)
        (iabs (sv.u.getD i 0 - sv.v.getD l 0) - iabs (sv.u.getD i 0 - sv.v.getD (l + 1) 0))
      have hv : sv.v.getD l 0 ≤ sv.v.getD (l + 1) 0 := sb.vs l (l + 1) (by omega) d2
      have hb := abs_snk (sv.u.getD i 0) _ _ hv
      rw [show l + 1 + cnt = l + (cnt + 1) by omega] at k3
      omega

theorem pushNewSinkEvents_sim {sv : Solver} {P T x : Int} (sb : SB sv P T) (nb : NB P T) (i j : Nat)
    {st : St} (inv : SI sv P x st) :
    Sim (pushNewSinkEventsC sv i j st) (pushNewSinkEvents sv i j st) (SI sv P x) := by
  unfold pushNewSinkEventsC pushNewSinkEvents
  by_cases h0 : j ≤ st.lastOcc
  · simp only [if_pos h0]; exact Sim.pure inv
  · simp only [if_neg h0, C_bind_def]
    apply Sim.bind (snkEvLoop_sim sb nb i _ _ _ _); intro ev _ ⟨k2, k3⟩
    rw [show st.lastOcc + (j - st.lastOcc) = j by omega] at k2 k3
    refine Sim.pure ⟨by rcases k2 with k2 | k2 <;> omega, ?_⟩
    have := inv.phi
    simp only
    omega

theorem popAtC_eq (L : Int) : ∀ (ev : List Event) (acc : Int),
    iabs acc + sumAbs ev ≤ 9223372036854775807 →
    popAtC L acc ev = .ok (acc + (popAt L ev).1, (popAt L ev).2) := by
  intro ev
  induction ev with
  | nil => intro acc _; simp [popAtC, popAt]
  | cons e es ih =>
    intro acc h
    unfold popAtC popAt
    simp only [sumAbs] at h
    have hn := sumAbs_nonneg es
    by_cases he : e.1 = L
    · simp only [if_pos he]
      have h1 := iabs_add_le acc e.2
      have h2 := le_iabs (acc + e.2)
      rw [addI64_ok (by omega)]
      simp only [andThen]
      rw [ih (acc + e.2) (by omega)]
      have : acc + e.2 + (popAt L es).1 = acc + ((popAt L es).1 + e.2) := by omega
      rw [this]
    · simp only [if_neg he, Int.add_zero]

theorem getSlopeKeepC_eq (st : St) (h : sumAbs st.events ≤ 9223372036854775807) :
    getSlopeKeepC st = .ok (getSlopeKeep st) := by
  unfold getSlopeKeepC
  rw [popAtC_eq _ _ 0 (by have : iabs 0 = 0 := rfl; omega)]
  simp only [andThen, Int.zero_add]
  rfl

theorem pushToLastSink_sim {sv : Solver} {P T x : Int} (sb : SB sv P T) (nb : NB P T) (i : Nat)
    {st : St} (inv : SI sv P x st) (hx : 0 ≤ x) :
    Sim (pushToLastSinkC sv i st) (pushToLastSink sv i st) (SI sv P x) := by
  have := nb.hP
  have hs := inv.slopes sb hx
  unfold pushToLastSinkC pushToLastSink
  simp only [C_bind_def]
  apply Sim.get; intro _
  apply Sim.get; intro _
  rw [bindF_ok (sb.subDS nb _ _ _),
    bindF_ok (popAtC_eq _ _ 0 (by have : iabs 0 = 0 := rfl; omega))]
  simp only [Int.zero_add]
  -- merging the popped events into one never increases `Σ |slope|`
  refine Sim.pure (inv.mono rfl ?_)
  have hp := sumAbs_popAt st.lastPosition st.events
  have := sumAbs_emplacePos (popAt st.lastPosition st.events).2
    (topOr (max (sv.D.getD (st.lastOcc + 1) 0 - sv.S.getD (i + 1) 0) 0) (popAt st.lastPosition st.events).2)
    (popAt st.lastPosition st.events).1
  simp only
  omega

theorem pushOnce_sim {sv : Solver} {P T x : Int} (sb : SB sv P T) (nb : NB P T) (i : Nat) {st : St}
    (inv : SI sv P x st) (hx : 0 ≤ x) :
    Sim (pushOnceC sv i st) (pushOnce sv i st) (SI sv P x) := by
  have := nb.hP
  have hs := inv.slopes sb hx
  unfold pushOnceC pushOnce
  by_cases h1 : st.lastOcc + 1 = sv.nbSinks
  · simp only [if_pos h1]; exact pushToLastSink_sim sb nb i inv hx
  · simp only [if_neg h1]
    by_cases h2 : st.lastPosition = 0
    · simp only [if_pos h2]; exact pushNewSinkEvents_sim sb nb i _ inv
    · simp only [if_neg h2, C_bind_def, costC_eq sb nb]
      apply Sim.bindE; intro right _
      rw [bindF_ok (getSlopeKeepC_eq st (by omega))]
      apply Sim.bindE; intro c hc
      obtain ⟨_, _, rfl⟩ := cost_inv hc
      have hc := cost_bound sb i st.lastOcc
      have hp := sumAbs_popAt st.lastPosition st.events
      have hsl : (getSlopeKeep st).1 = (popAt st.lastPosition st.events).1 := rfl
      have hle := le_iabs (popAt st.lastPosition st.events).1
      have hn := sumAbs_nonneg (popAt st.lastPosition st.events).2
      rw [bindF_ok (addI64_ok (by omega))]
      -- `getSlope` only merges events: both continuations start from a state within the invariant
      have inv' : SI sv P x (getSlopeKeep st).2 := inv.mono rfl (sumAbs_getSlopeKeep st)
      by_cases h3 : right ≤ (getSlopeKeep st).1 + iabs (sv.u.getD i 0 - sv.v.getD st.lastOcc 0)
      · simp only [if_pos h3]; exact pushNewSinkEvents_sim sb nb i _ inv'
      · simp only [if_neg h3]; exact pushToLastSink_sim sb nb i inv' hx

theorem pushLoop_sim {sv : Solver} {P T x : Int} (sb : SB sv P T) (nb : NB P T) (i : Nat) (hx : 0 ≤ x) :
    ∀ (fuel : Nat) (st : St), SI sv P x st →
      Sim (pushLoopC sv i fuel st) (pushLoop sv i fuel st) (SI sv P x) := by
  intro fuel
  induction fuel with
  | zero => intro st _; exact ⟨rfl, fun _ h => by cases h⟩
  | succ fuel ih =>
    intro st inv
    unfold pushLoopC pushLoop
    simp only [C_bind_def]
    apply Sim.get; intro _
    apply Sim.get; intro _
    rw [bindF_ok (sb.subDS nb _ _ _)]
    by_cases hc : sv.D.getD (st.lastOcc + 1) 0 - sv.S.getD (i + 1) 0 < st.lastPosition
    · simp only [if_pos hc]
      exact (pushOnce_sim sb nb i inv hx).bind fun st1 _ inv1 => ih st1 inv1
    · simp only [if_neg hc]; exact Sim.pure inv

theorem push_sim {sv : Solver} {P T : Int} (sb : SB sv P T) (nb : NB P T) {i : Nat} {st : St}
    (inv : SI sv P (srcBudgetAt sv i) st) (hi : i < sv.u.length) :
    Sim (pushC sv i st) (push sv i st) (SI sv P (srcBudgetAt sv (i + 1))) := by
  have hm : 0 < sv.v.length := by have := inv.occ; omega
  unfold pushC push
  simp only [C_bind_def, updOptC_eq sb nb]
  apply Sim.bindE; intro o _
  apply Sim.bind (pushNewSourceEvents_sim sb nb (st := { st with optSink := o }) ⟨inv.occ, inv.phi⟩ hi)
  intro st1 _ inv1
  apply Sim.get; intro _
  apply Sim.get; intro _
  rw [bindF_ok (sb.subDS nb _ _ _)]
  apply Sim.bind (pushNewSinkEvents_sim sb nb i o
    (st := { st1 with lastPosition := max st1.lastPosition (sv.D.getD o 0 - sv.S.getD i 0) })
    ⟨inv1.occ, inv1.phi⟩); intro st2 _ inv2
  apply Sim.bind (pushLoop_sim sb nb i (srcBudgetAt_nonneg sb hm (i + 1)) _ st2 inv2)
  intro st3 _ inv3
  exact Sim.pure ⟨inv3.occ, inv3.phi⟩

theorem pushAll_sim {sv : Solver} {P T : Int} (sb : SB sv P T) (nb : NB P T) :
    ∀ (cnt i : Nat) (st : St), i + cnt ≤ sv.u.length → SI sv P (srcBudgetAt sv i) st →
      Sim (pushAllC sv cnt i st) (pushAll sv cnt i st) fun _ => True := by
  intro cnt
  induction cnt with
  | zero => intro i st _ _; exact Sim.pure trivial
  | succ cnt ih =>
    intro i st hle inv
    unfold pushAllC pushAll
    simp only [C_bind_def]
    exact Sim.bind (push_sim sb nb inv (by omega)) fun st1 _ inv1 => ih (i + 1) st1 (by omega) inv1

theorem runC_eq {sv : Solver} {P T : Int} (sb : SB sv P T) (nb : NB P T)
    (hm : sv.u.length = 0 ∨ 0 < sv.v.length) : runC sv = liftE (run sv) := by
  have hall : Sim (pushAllC sv sv.nbSources 0 St.init) (pushAll sv sv.nbSources 0 St.init)
      fun _ => True := by
    rcases hm with h | h
    · rw [show sv.nbSources = 0 from h]; exact Sim.pure trivial
    · exact pushAll_sim sb nb _ 0 _ (by simp [Solver.nbSources]) (init_inv sb h)
  unfold runC run
  simp only [C_bind_def]
  apply bindC_congr hall.eq; intro st _
  unfold lastD
  apply bindE_congr; intro td htd
  apply bindE_congr; intro sn hsn
  obtain ⟨_, rfl⟩ := get_inv htd
  obtain ⟨_, rfl⟩ := get_inv hsn
  rw [bindF_ok (sb.subDS nb _ _ _)]
  rfl

theorem assignLoopC_eq {sv : Solver} {P T : Int} (sb : SB sv P T) (nb : NB P T) :
    ∀ (ps : List Int) (i cs : Nat) (rest : List Int), (∀ y ∈ ps, -T ≤ y ∧ y ≤ T) →
      assignLoopC sv ps i cs rest = liftE (assignLoop sv ps i cs rest) := by
  have := nb.hT
  intro ps
  induction ps with
  | nil => intro i cs rest _; rfl
  | cons pi ps ih =>
    intro i cs rest h
    unfold assignLoopC assignLoop
    simp only [C_bind_def]
    apply bindE_congr; intro si hsi
    apply bindE_congr; intro ci hci
    obtain ⟨_, rfl⟩ := get_inv hsi
    obtain ⟨_, rfl⟩ := get_inv hci
    have h1 := sb.Sb i; have h2 := sb.sb i
    have h3 := h pi (List.mem_cons_self ..)
    have hd : Int.tdiv (sv.s.getD i 0) 2 = sv.s.getD i 0 / 2 := Int.tdiv_eq_ediv_of_nonneg h2.1
    rw [bindF_ok (addI64_ok (by omega)), bindF_ok (divI64_ok' (by decide) (by omega)),
      bindF_ok (addI64_ok (by omega))]
    apply bindE_congr; intro r _
    apply bindC_congr (ih (i + 1) r.1 r.2 (fun y hy => h y (List.mem_cons_of_mem _ hy))); intro tl _
    rfl

theorem computeAssignmentC_eq {sv : Solver} {P T : Int} (sb : SB sv P T) (nb : NB P T) (p : List Int)
    (hp : ∀ y ∈ p, -T ≤ y ∧ y ≤ T) : computeAssignmentC sv p = liftE (computeAssignment sv p) :=
  assignLoopC_eq sb nb p 0 0 _ hp

theorem sumFirstC_eq (site : String) : ∀ (l : List Int) (acc : Int), (∀ x ∈ l, 0 ≤ x) → 0 ≤ acc →
    acc + l.sum ≤ 9223372036854775807 → sumFirstC site acc l.length l = liftE (.ok (acc + l.sum)) := by
  intro l
  induction l with
  | nil => intro acc _ _ _; exact congrArg (fun a => liftE (.ok a)) (Int.add_zero acc).symm
  | cons x xs ih =>
    intro acc hnn hacc hsum
    have h1 := hnn x (List.mem_cons_self ..)
    have hxs : ∀ y ∈ xs, 0 ≤ y := fun y hy => hnn y (List.mem_cons_of_mem _ hy)
    have h2 := ListFacts.sum_nonneg_int xs hxs
    simp only [List.sum_cons] at hsum ⊢
    rw [List.length_cons, sumFirstC]
    simp only [C_bind_def]
    rw [bindF_ok (addI64_ok (by omega)), ih (acc + x) hxs (by omega) (by omega), Int.add_assoc]

theorem M_ok_bind {α β : Type} (a : α) (f : α → M β) : (Except.ok a >>= f) = f a := rfl

theorem bindE_ok {α β : Type} (a : α) (f : α → C β) : C.bind (liftE (Except.ok a)) f = f a := rfl

structure PB (pb : Problem) (P T : Int) : Prop where
  hs : pb.s.length = pb.u.length
  hd : pb.d.length = pb.v.length
  ub : ∀ x ∈ pb.u, -P ≤ x ∧ x ≤ P
  vb : ∀ x ∈ pb.v, -P ≤ x ∧ x ≤ P
  snn : ∀ x ∈ pb.s, 0 ≤ x
  dnn : ∀ x ∈ pb.d, 0 ≤ x
  ssum : pb.s.sum ≤ T
  dsum : pb.d.sum ≤ T

theorem totalsC_eq {pb : Problem} {P T : Int} (h : PB pb P T) (nb : NB P T) :
    totalSupplyC pb = liftE (.ok pb.s.sum) ∧ totalDemandC pb = liftE (.ok pb.d.sum) := by
  have := nb.hT; have := h.ssum; have := h.dsum
  unfold totalSupplyC totalDemandC Problem.nbSources Problem.nbSinks
  rw [← h.hs, ← h.hd, sumFirstC_eq _ _ 0 h.snn (Int.le_refl _) (by omega),
    sumFirstC_eq _ _ 0 h.dnn (Int.le_refl _) (by omega), Int.zero_add, Int.zero_add]
  exact ⟨rfl, rfl⟩

theorem checkC_eq {pb : Problem} {P T : Int} (h : PB pb P T) (nb : NB P T) :
    checkC pb = liftE (check pb) := by
  have hshape : checkShape pb = true := by
    simp only [checkShape, Bool.and_eq_true, beq_iff_eq, List.all_eq_true, decide_eq_true_eq]
    exact ⟨⟨⟨h.hs, h.hd⟩, h.snn⟩, h.dnn⟩
  have hck : checkOk pb = (checkShape pb && decide (pb.s.sum ≤ pb.d.sum)) := rfl
  unfold checkC check
  rw [hck, hshape, (totalsC_eq h nb).1, (totalsC_eq h nb).2]
  simp only [if_true, C_bind_def, bindE_ok, Bool.true_and]
  by_cases hle : pb.s.sum ≤ pb.d.sum
  · simp only [if_pos hle, decide_eq_true hle]; rfl
  · simp only [if_neg hle, decide_eq_false hle]; rfl

theorem incrFirstC_sim (site : String) (x : Int) (B : Int) (hB : B + x ≤ 9223372036854775807) (hx : 0 ≤ x) :
    ∀ (k : Nat) (l : List Int), (∀ y ∈ l, 0 ≤ y ∧ y ≤ B) →
      Sim (incrFirstC site k x l) (incrFirst k x l) fun r => ∀ y ∈ r, 0 ≤ y ∧ y ≤ B + x := by
  intro k
  induction k with
  | zero => intro l h; exact Sim.pure fun y hy => by have := h y hy; omega
  | succ k ih =>
    intro l h
    cases l with
    | nil => exact ⟨rfl, fun _ e => by cases e⟩
    | cons y ys =>
      have h1 := h y (List.mem_cons_self ..)
      unfold incrFirstC incrFirst
      simp only [C_bind_def]
      rw [bindF_ok (addI64_ok (by omega))]
      apply Sim.bind (ih ys fun z hz => h z (List.mem_cons_of_mem _ hz)); intro r _ hr
      exact Sim.pure fun z hz => by
        rcases List.mem_cons.mp hz with rfl | hz
        · omega
        · exact hr z hz

theorem balanceDemandC_eq {pb : Problem} {P T : Int} (h : PB pb P T) (nb : NB P T)
    (hm : 0 < pb.v.length) : balanceDemandC pb = liftE (balanceDemand pb) := by
  have := nb.hT
  have hs0 := ListFacts.sum_nonneg_int _ h.snn
  have hd0 := ListFacts.sum_nonneg_int _ h.dnn
  have hsT := h.ssum
  have hdT := h.dsum
  unfold balanceDemandC balanceDemand
  simp only [C_bind_def, (totalsC_eq h nb).1, (totalsC_eq h nb).2, totalSupply_val h.hs,
    totalDemand_val h.hd, bindE_ok, M_ok_bind]
  rw [bindF_ok (subI64_ok' (by omega))]
  by_cases hle : pb.s.sum - pb.d.sum ≤ 0
  · simp only [if_pos hle]; rfl
  · have hne : ¬ pb.nbSinks = 0 := by unfold Problem.nbSinks; omega
    have hne' : ¬ ((pb.nbSinks : Nat) : Int) = 0 := by omega
    simp only [if_neg hle, if_neg hne]
    obtain ⟨q0, q1, r0, r1⟩ := tdiv_rest (pb.s.sum - pb.d.sum) pb.nbSinks (by omega) (by omega)
    rw [bindF_ok (divI64_ok' hne' (by omega))]
    generalize Int.tdiv (pb.s.sum - pb.d.sum) pb.nbSinks = q at *
    have hprod : 0 ≤ q * (pb.nbSinks : Int) := Int.mul_nonneg q0 (by omega)
    have hdb : ∀ y ∈ pb.d, 0 ≤ y ∧ y ≤ T := fun y hy =>
      ⟨h.dnn y hy, Int.le_trans (ListFacts.le_sum_of_mem _ h.dnn y hy) hdT⟩
    have h1 := incrFirstC_sim "balanceDemand: d[i] += added" q T (by omega) q0 pb.nbSinks pb.d hdb
    apply bindC_congr h1.eq; intro d1 hd1
    rw [bindF_ok (mulI64_ok (by omega)), bindF_ok (subI64_ok' (by omega))]
    apply bindC_congr (incrFirstC_sim _ 1 (T + q) (by omega) (by omega) _ _ (h1.post d1 hd1)).eq; intro d2 _
    rfl

theorem prefixFromC_eq (site : String) : ∀ (l : List Int) (acc : Int), (∀ x ∈ l, 0 ≤ x) → 0 ≤ acc →
    acc + l.sum ≤ 9223372036854775807 → prefixFromC site acc l = .ok (prefixFrom acc l) := by
  intro l
  induction l with
  | nil => intro acc _ _ _; rfl
  | cons c cs ih =>
    intro acc hnn hacc hsum
    have h1 := hnn c (List.mem_cons_self ..)
    have hcs : ∀ y ∈ cs, 0 ≤ y := fun y hy => hnn y (List.mem_cons_of_mem _ hy)
    have h2 := ListFacts.sum_nonneg_int cs hcs
    simp only [List.sum_cons] at hsum
    simp (disch := omega) only [prefixFromC, prefixFrom, checked, ih (acc + c) hcs (by omega) (by omega)]

theorem mkSolverC_eq (u v s d : List Int) (hs : ∀ x ∈ s, 0 ≤ x) (hd : ∀ x ∈ d, 0 ≤ x)
    (hss : s.sum ≤ 9223372036854775807) (hds : d.sum ≤ 9223372036854775807) :
    mkSolverC u v s d = .ok (mkSolver u v s d) := by
  unfold mkSolverC
  rw [prefixFromC_eq _ d 0 hd (Int.le_refl _) (by omega), prefixFromC_eq _ s 0 hs (Int.le_refl _) (by omega)]
  rfl

theorem convertC_eq {pb : Problem} {P T : Int} (h : PB pb P T) (nb : NB P T) :
    convertC ⟨ord pb.u pb.s, ord pb.v pb.d⟩ pb = liftE (convert ⟨ord pb.u pb.s, ord pb.v pb.d⟩ pb) := by
  have := nb.hT
  have hs := h.hs
  have hd := h.hd
  rw [convert_ok pb hs hd]
  unfold convertC
  have h1 : ∀ i ∈ ord pb.u pb.s, i < pb.u.length := fun i hi => ((mem_ord _ _ i).mp hi).1
  have h2 : ∀ i ∈ ord pb.v pb.d, i < pb.v.length := fun i hi => ((mem_ord _ _ i).mp hi).1
  simp only [gather_ok pb.u _ h1, gather_ok pb.s _ (fun i hi => by rw [hs]; exact h1 i hi),
    gather_ok pb.v _ h2, gather_ok pb.d _ (fun i hi => by rw [hd]; exact h2 i hi), C_bind_def, bindE_ok]
  have k1 : ((ord pb.u pb.s).map fun i => pb.s.getD i 0).sum = pb.s.sum := sum_ord pb.u pb.s hs h.snn
  have k2 : ((ord pb.v pb.d).map fun i => pb.d.getD i 0).sum = pb.d.sum := sum_ord pb.v pb.d hd h.dnn
  have p1 : ∀ x ∈ (ord pb.u pb.s).map (fun i => pb.s.getD i 0), 0 ≤ x :=
    fun x hx => Int.le_of_lt (sortedSolver_spos pb x hx)
  have p2 : ∀ x ∈ (ord pb.v pb.d).map (fun i => pb.d.getD i 0), 0 ≤ x :=
    fun x hx => Int.le_of_lt (sortedSolver_dpos pb x hx)
  rw [mkSolverC_eq _ _ _ _ p1 p2
    (by rw [k1]; have := h.ssum; omega) (by rw [k2]; have := h.dsum; omega)]
  rfl

theorem prefixFrom_getD_bounds : ∀ (l : List Int) (acc : Int) (i : Nat), (∀ x ∈ l, 0 ≤ x) → 0 ≤ acc →
    0 ≤ (prefixFrom acc l).getD i 0 ∧ (prefixFrom acc l).getD i 0 ≤ acc + l.sum := by
  intro l
  induction l with
  | nil =>
    intro acc i _ h
    cases i with
    | zero => exact ⟨h, Int.le_of_eq (Int.add_zero acc).symm⟩
    | succ i => exact ⟨Int.le_refl _, by rw [List.sum_nil, Int.add_zero]; exact h⟩
  | cons c cs ih =>
    intro acc i hnn h
    have h1 := hnn c (List.mem_cons_self ..)
    have hcs : ∀ y ∈ cs, 0 ≤ y := fun y hy => hnn y (List.mem_cons_of_mem _ hy)
    have h2 := ListFacts.sum_nonneg_int cs hcs
    rw [List.sum_cons, prefixFrom]
    cases i with
    | zero => exact ⟨h, by show acc ≤ _; omega⟩
    | succ i => have := ih (acc + c) i hcs (by omega); rw [List.getD_cons_succ]; omega

theorem SortedInst.sb {sv : Solver} (si : SortedInst sv) {P T : Int} (hP : 0 ≤ P)
    (hu : ∀ x ∈ sv.u, -P ≤ x ∧ x ≤ P) (hv : ∀ x ∈ sv.v, -P ≤ x ∧ x ≤ P)
    (hs : sv.s.sum ≤ T) (hd : sv.d.sum ≤ T) : SB sv P T := by
  have hT : 0 ≤ T := Int.le_trans (ListFacts.sum_nonneg_int _ si.snn) hs
  have hP0 : -P ≤ 0 ∧ 0 ≤ P := ⟨by omega, hP⟩
  refine ⟨hP, hT, ListFacts.forall_getD hu hP0, ListFacts.forall_getD hv hP0, fun i => ?_, fun i => ?_,
    ListFacts.forall_getD (P := fun x => 0 ≤ x ∧ x ≤ T)
      (fun x hx => ⟨si.snn x hx, Int.le_trans (ListFacts.le_sum_of_mem _ si.snn x hx) hs⟩) ⟨Int.le_refl _, hT⟩,
    sorted_getD _ si.us, sorted_getD _ si.vs⟩
  · have := si.eS ▸ prefixFrom_getD_bounds sv.s 0 i si.snn (Int.le_refl _)
    omega
  · have := si.eD ▸ prefixFrom_getD_bounds sv.d 0 i si.dnn (Int.le_refl _)
    omega

theorem sortedSolver_SB {pb : Problem} {P T : Int} (h : PB pb P T) (hP : 0 ≤ P) :
    SB (sortedSolver pb) P T :=
  have hP0 : -P ≤ 0 ∧ 0 ≤ P := ⟨by omega, hP⟩
  (sortedSolver_inst pb).sb hP (List.forall_mem_map.2 fun k _ => ListFacts.forall_getD h.ub hP0 k)
    (List.forall_mem_map.2 fun k _ => ListFacts.forall_getD h.vb hP0 k)
    (Int.le_trans (Int.le_of_eq (sum_ord pb.u pb.s h.hs h.snn)) h.ssum)
    (Int.le_trans (Int.le_of_eq (sum_ord pb.v pb.d h.hd h.dnn)) h.dsum)

theorem assignC_eq_of_bounds {pb : Problem} {P T : Int} (h : PB pb P T) (nb : NB P T) (hP : 0 ≤ P) :
    assignC pb = liftE (assign pb) := by
  unfold assignC assign
  simp only [C_bind_def]
  apply bindC_congr (checkC_eq h nb); intro _ hck
  have hv : checkOk pb = true := by
    unfold check at hck
    by_cases hc : checkOk pb = true
    · exact hc
    · rw [if_neg hc] at hck; cases hck
  apply bindE_congr; intro so hso
  rw [mkSorter_ok pb h.hs h.hd] at hso
  simp only [Except.ok.injEq] at hso
  subst hso
  apply bindC_congr (convertC_eq h nb); intro sv hsv
  rw [convert_ok pb h.hs h.hd] at hsv
  simp only [Except.ok.injEq] at hsv
  subst hsv
  have sb := sortedSolver_SB h hP
  apply bindC_congr (runC_eq sb nb (sortedSolver_sink_of_source pb hv)); intro p hp
  -- the positions are inside `[0, D.back()]` (C14), so `p[i] + S[i] + s[i] / 2` fits
  obtain ⟨_, e, post⟩ := run_ok _ (sortedSolver_dom pb hv) (sortedSolver_sink_of_source pb hv)
  cases hp.symm.trans e
  have hb : ∀ y ∈ p, -T ≤ y ∧ y ≤ T := fun y hy => by
    obtain ⟨i, hi, rfl⟩ := ListFacts.exists_getD_of_mem 0 hy
    have := post.nn i (post.len ▸ hi); have := post.le i (post.len ▸ hi)
    have := sb.Db (sortedSolver pb).v.length; have := sb.Sb (sortedSolver pb).u.length
    omega
  apply bindC_congr (computeAssignmentC_eq sb nb p hb); intro a _
  rfl

/-- `dsum` survives `balanceDemand` because the demands grow to at most the total supply -/
theorem PB.balance {pb : Problem} {P T : Int} (h : PB pb P T) (hm : 0 < pb.v.length) :
    ∃ pb', balanceDemand pb = .ok pb' ∧ PB pb' P T ∧ pb'.s.sum ≤ pb'.d.sum ∧ pb'.u = pb.u := by
  obtain ⟨pb', e, eu, ev, es, el, hle, hge, hsame, hbal⟩ := balanceDemand_spec pb h.hs h.hd (Or.inl hm)
  refine ⟨pb', e, ⟨by rw [es, eu]; exact h.hs, by rw [el, ev]; exact h.hd, by rw [eu]; exact h.ub,
    by rw [ev]; exact h.vb, by rw [es]; exact h.snn, nonneg_of_getD_le el hge h.dnn,
    by rw [es]; exact h.ssum, ?_⟩, hle, eu⟩
  by_cases hc : pb.s.sum ≤ pb.d.sum
  · rw [hsame hc]; exact h.dsum
  · have := hbal (by omega); rw [es] at this; have := h.ssum; omega

/-- `assignC_eq` over any bounds `P`, `T` with `8·P` and `4·T` representable -/
theorem balanceThenAssignC_eq_of_bounds {pb : Problem} {P T : Int} (h : PB pb P T) (nb : NB P T)
    (hP : 0 ≤ P) (hm : 0 < pb.v.length) :
    balanceThenAssignC pb = .ok (balanceThenAssign pb) := by
  obtain ⟨pb', e, h', _⟩ := h.balance hm
  unfold balanceThenAssignC balanceThenAssign
  rw [balanceDemandC_eq h nb hm, e]
  exact assignC_eq_of_bounds h' nb hP

/-- The C07 domain of `Transportation1d` as `improveX/YTransport` call it: one supply per source
and one demand per sink, at least one sink (bin), fewer than `2^31 - 1` sources and sinks (all
`int` index arithmetic stays in range), positions of magnitude at most `2^60 - 1`, non-negative
supplies and demands with totals at most `2^61 - 1`. -/
def T1dDom (pb : Problem) : Prop :=
  pb.s.length = pb.u.length ∧ pb.d.length = pb.v.length ∧ 0 < pb.v.length ∧
  pb.u.length < 2147483647 ∧ pb.v.length < 2147483647 ∧
  (∀ x ∈ pb.u, -1152921504606846975 ≤ x ∧ x ≤ 1152921504606846975) ∧
  (∀ x ∈ pb.v, -1152921504606846975 ≤ x ∧ x ≤ 1152921504606846975) ∧
  (∀ x ∈ pb.s, 0 ≤ x) ∧ (∀ x ∈ pb.d, 0 ≤ x) ∧
  pb.s.sum ≤ 2305843009213693951 ∧ pb.d.sum ≤ 2305843009213693951

instance (pb : Problem) : Decidable (T1dDom pb) := by unfold T1dDom; exact inferInstance

theorem T1dDom.pb {pb : Problem} (h : T1dDom pb) : PB pb 1152921504606846975 2305843009213693951 := by
  obtain ⟨h1, h2, _, _, _, h6, h7, h8, h9, h10, h11⟩ := h
  exact ⟨h1, h2, h6, h7, h8, h9, h10, h11⟩

/-- **No signed overflow in the 1-D transportation solver** on `T1dDom`: the checked run never
faults and equals the unbounded model (`Model/Transp1d.lean`, C14). -/
theorem assignC_eq (pb : Problem) (h : T1dDom pb) :
    balanceThenAssignC pb = .ok (balanceThenAssign pb) :=
  balanceThenAssignC_eq_of_bounds h.pb ⟨by decide, by decide⟩ (by decide) h.2.2.1

/-- on `T1dDom` the call sequence returns normally (no fault, no exception): one sink per source -/
theorem assignC_total (pb : Problem) (h : T1dDom pb) :
    ∃ a, balanceThenAssignC pb = .ok (.ok a) ∧ balanceThenAssign pb = .ok a ∧ a.length = pb.u.length := by
  obtain ⟨pb', eb, h', hle, eu⟩ := h.pb.balance h.2.2.1
  obtain ⟨a, ea, hl, _⟩ := assign_total pb' ((checkOk_iff pb').mpr ⟨h'.hs, h'.hd, h'.snn, h'.dnn, hle⟩)
  have eu2 : balanceThenAssign pb = .ok a := by
    unfold balanceThenAssign
    rw [eb]
    exact ea
  refine ⟨a, ?_, eu2, by rw [hl, eu]⟩
  rw [assignC_eq pb h, eu2]

end ColoVerif.Transp1d
