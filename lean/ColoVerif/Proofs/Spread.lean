import ColoVerif.Model.Spread
import ColoVerif.Proofs.ListFacts
import Mathlib.Algebra.BigOperators.Group.List.Basic
import Mathlib.Tactic.Linarith
import Mathlib.Tactic.Ring
/-
C06 over `Rat`: `spreadCells` keeps positive-demand cells strictly inside `(lo, hi)`, the bin loop of `spreadCoordX/Y`
carries this to every bin.  Both loops have their arithmetic left open so that `Proofs/SpreadF.lean` reuses them.
-/
namespace ColoVerif.Spread

theorem getD_nonneg {α : Type} [Zero α] [Preorder α] (l : List α) (hnn : ∀ d ∈ l, 0 ≤ d) (c : Nat) :
    0 ≤ l.getD c 0 :=
  ListFacts.forall_getD hnn (le_refl _) c

theorem sum_nonneg (l : List Rat) (hnn : ∀ d ∈ l, 0 ≤ d) : 0 ≤ l.sum := by
  induction l with
  | nil => exact le_refl _
  | cons x xs ih =>
    rw [List.sum_cons]
    exact add_nonneg (hnn x List.mem_cons_self) (ih fun d hd => hnn d (List.mem_cons_of_mem _ hd))

theorem getD_le_sum (l : List Rat) (hnn : ∀ d ∈ l, 0 ≤ d) (i : Nat) : l.getD i 0 ≤ l.sum := by
  induction l generalizing i with
  | nil => exact le_refl _
  | cons x xs ih =>
    have hxs : ∀ d ∈ xs, 0 ≤ d := fun d hd => hnn d (List.mem_cons_of_mem _ hd)
    rw [List.sum_cons]
    cases i with
    | zero => exact le_add_of_nonneg_right (sum_nonneg xs hxs)
    | succ i => exact le_add_of_nonneg_of_le (hnn x List.mem_cons_self) (ih hxs i)

theorem sumRat_eq (l : List Rat) : sumRat l = l.sum := List.sum_eq_foldl.symm

theorem indexed_eq_zipIdx (ts : List Rat) (k : Nat) : indexed ts k = ts.zipIdx k := by
  induction ts generalizing k with
  | nil => rfl
  | cons t ts ih => simp [indexed, ih]

theorem sortedOrder_perm (targets : List Rat) : (sortedOrder targets).Perm targets.zipIdx := by
  unfold sortedOrder
  rw [indexed_eq_zipIdx]
  exact List.mergeSort_perm _ _

theorem mem_sortedOrder (targets : List Rat) (i : Nat) (h : i < targets.length) :
    (targets.getD i 0, i) ∈ sortedOrder targets := by
  rw [(sortedOrder_perm targets).mem_iff, List.mem_zipIdx_iff_getElem?, List.getD_eq_getElem?_getD,
    List.getElem?_eq_getElem h]
  rfl

def ordSum (demands : List Rat) (l : List (Rat × Nat)) : Rat :=
  (l.map fun e => demands.getD e.2 0).sum

theorem ordSum_cons (demands : List Rat) (e : Rat × Nat) (l : List (Rat × Nat)) :
    ordSum demands (e :: l) = demands.getD e.2 0 + ordSum demands l := List.sum_cons

theorem ordSum_sortedOrder (targets demands : List Rat) (hlen : demands.length = targets.length) :
    ordSum demands (sortedOrder targets) = demands.sum := by
  have hp := ((sortedOrder_perm targets).map Prod.snd).map (demands.getD · 0)
  rw [List.zipIdx_map_snd, ← hlen, List.map_map] at hp
  rw [ordSum, show (fun e : Rat × Nat => demands.getD e.2 0) = (demands.getD · 0) ∘ Prod.snd from rfl, hp.sum_eq]
  congr 1
  apply List.ext_getElem
  · simp
  · intro i _ h; simp [List.getElem?_eq_getElem h]

-- `spreadStep` and `SpreadF.spreadStepF` are of the form `hstep`.
section Loop
variable {step : Rat × List Rat → Rat × Nat → Rat × List Rat} {demands : List Rat}
  {next val : Rat × List Rat → Rat × Nat → Rat}
  (hstep : ∀ st e, step st e =
    if demands.getD e.2 0 ≤ 0 then st else (next st e, st.2.set e.2 (val st e)))
include hstep

theorem foldl_step_length (l : List (Rat × Nat)) (st : Rat × List Rat) :
    (l.foldl step st).2.length = st.2.length := by
  induction l generalizing st with
  | nil => rfl
  | cons e l ih =>
    rw [List.foldl_cons, ih, hstep]
    split
    · rfl
    · exact List.length_set

/-- Under an invariant `I` of the running share and the rest of the order that makes every written value satisfy `P`,
a coordinate that satisfies `P` keeps doing so, and one with a positive-demand entry still to come does at the end. -/
theorem foldl_step_inside (I : Rat → List (Rat × Nat) → Prop) (P : Rat → Prop)
    (hskip : ∀ d e l, I d (e :: l) → demands.getD e.2 0 ≤ 0 → I d l)
    (hwrite : ∀ st e l, I st.1 (e :: l) → 0 < demands.getD e.2 0 → P (val st e) ∧ I (next st e) l)
    (j : Nat) :
    ∀ (l : List (Rat × Nat)) (st : Rat × List Rat), I st.1 l → j < st.2.length →
      ((∀ e ∈ l, e.2 = j → demands.getD j 0 ≤ 0) → P (st.2.getD j 0)) → P ((l.foldl step st).2.getD j 0)
  | [], _, _, _, h => h fun _ he => nomatch he
  | e :: l, st, hI, hj, h => by
    rw [List.foldl_cons, hstep]
    by_cases hd : demands.getD e.2 0 ≤ 0
    · rw [if_pos hd]
      exact foldl_step_inside I P hskip hwrite j l st (hskip _ _ _ hI hd) hj fun hl =>
        h (List.forall_mem_cons.mpr ⟨fun hej => hej ▸ hd, hl⟩)
    · rw [if_neg hd]
      obtain ⟨hP, hI'⟩ := hwrite _ _ _ hI (not_le.mp hd)
      refine foldl_step_inside I P hskip hwrite j l _ hI' (by rw [List.length_set]; exact hj) fun hl => ?_
      by_cases hej : e.2 = j
      · subst hej
        exact (ListFacts.getD_set_eq _ _ _ (0 : Rat) hj).symm ▸ hP
      · exact (ListFacts.getD_set_ne _ _ _ _ (0 : Rat) hej).symm ▸ h (List.forall_mem_cons.mpr ⟨fun h' => absurd h' hej, hl⟩)
end Loop

theorem coordAt_inside (dem lo hi : Rat) (h0 : 0 < dem) (h1 : dem < 1) (hlh : lo < hi) :
    lo < coordAt dem lo hi ∧ coordAt dem lo hi < hi := by
  have hd : 0 < hi - lo := sub_pos.mpr hlh
  have e1 : coordAt dem lo hi - lo = dem * (hi - lo) := by unfold coordAt; ring
  have e2 : hi - coordAt dem lo hi = (1 - dem) * (hi - lo) := by unfold coordAt; ring
  exact ⟨sub_pos.mp (e1 ▸ mul_pos h0 hd), sub_pos.mp (e2 ▸ mul_pos (sub_pos.mpr h1) hd)⟩

theorem share_step {d h r : Rat} (h0 : 0 ≤ d) (hh : 0 < h) (hr : 0 ≤ r) (h1 : d + (h + h + r) ≤ 1) :
    (0 < d + h ∧ d + h < 1) ∧ 0 ≤ d + h + h ∧ d + h + h + r ≤ 1 :=
  ⟨⟨by linarith, by linarith⟩, by linarith, by linarith⟩

theorem spreadCells_length (targets demands : List Rat) (lo hi : Rat) :
    (spreadCells targets demands lo hi).length = targets.length :=
  (foldl_step_length (fun _ _ => rfl) _ _).trans List.length_replicate

/-- the running share stays in `[0, 1]`: what is still to be added is the demand of the rest of the order over the total -/
theorem spreadCells_inside (targets demands : List Rat) (lo hi : Rat)
    (hlen : demands.length = targets.length) (hnn : ∀ d ∈ demands, 0 ≤ d) (hlh : lo < hi)
    (i : Nat) (hi' : i < targets.length) (hpos : 0 < demands.getD i 0) :
    lo < (spreadCells targets demands lo hi).getD i 0 ∧
    (spreadCells targets demands lo hi).getD i 0 < hi := by
  have hrest : ∀ l, 0 ≤ ordSum demands l := fun l =>
    sum_nonneg _ fun x hx => by
      obtain ⟨e, _, rfl⟩ := List.mem_map.mp hx
      exact getD_nonneg demands hnn e.2
  have hS : 0 < demands.sum := lt_of_lt_of_le hpos (getD_le_sum demands hnn i)
  have hinv : 0 < 1 / sumRat demands := by rw [sumRat_eq]; exact one_div_pos.mpr hS
  unfold spreadCells spreadLoop
  refine foldl_step_inside (fun _ _ => rfl)
    (fun d l => 0 ≤ d ∧ d + ordSum demands l * (1 / sumRat demands) ≤ 1) (fun v => lo < v ∧ v < hi)
    ?_ ?_ i _ _ ⟨le_refl _, ?_⟩ (by rw [List.length_replicate]; exact hi')
    fun h => absurd hpos (not_lt.mpr (h _ (mem_sortedOrder targets i hi') rfl))
  · intro d e l ⟨h0, h1⟩ _
    rw [ordSum_cons, add_mul] at h1
    exact ⟨h0, le_trans (add_le_add (le_refl d) (le_add_of_nonneg_left
      (mul_nonneg (getD_nonneg demands hnn e.2) hinv.le))) h1⟩
  · intro st e l ⟨h0, h1⟩ hp
    have hh : 0 < halfShare demands (1 / sumRat demands) e.2 := mul_pos (mul_pos (by norm_num) hp) hinv
    have h2 : demands.getD e.2 0 * (1 / sumRat demands) =
        halfShare demands (1 / sumRat demands) e.2 + halfShare demands (1 / sumRat demands) e.2 := by
      unfold halfShare; ring
    rw [ordSum_cons, add_mul, h2] at h1
    obtain ⟨⟨a, b⟩, c⟩ := share_step h0 hh (mul_nonneg (hrest l) hinv.le) h1
    exact ⟨coordAt_inside _ lo hi a b hlh, c⟩
  · rw [ordSum_sortedOrder targets demands hlen, sumRat_eq, zero_add, mul_one_div_cancel hS.ne']

theorem scatter_length (ret : List Rat) (cells : List Nat) (vals : List Rat) :
    (scatter ret cells vals).length = ret.length := by
  fun_induction scatter ret cells vals with
  | case1 ret c cs v vs ih => rw [ih, List.length_set]
  | case2 => rfl

theorem scatter_other (ret : List Rat) (cells : List Nat) (vals : List Rat) (j : Nat) (hj : j ∉ cells) :
    (scatter ret cells vals).getD j 0 = ret.getD j 0 := by
  fun_induction scatter ret cells vals with
  | case1 ret c cs v vs ih =>
    rw [ih fun h => hj (List.mem_cons_of_mem _ h), ListFacts.getD_set_ne _ _ _ _ 0 fun h => hj (List.mem_cons.mpr (Or.inl h.symm))]
  | case2 => rfl

theorem scatter_forall (P : Nat → Rat → Prop) (ret : List Rat) (cells : List Nat) (vals : List Rat)
    (hlen : cells.length = vals.length) (hnd : cells.Nodup) (hr : ∀ c ∈ cells, c < ret.length)
    (hP : ∀ k, k < cells.length → P (cells.getD k 0) (vals.getD k 0)) :
    ∀ c ∈ cells, P c ((scatter ret cells vals).getD c 0) := by
  induction cells generalizing ret vals with
  | nil => exact fun c hc => nomatch hc
  | cons c cs ih =>
    cases vals with
    | nil => cases hlen
    | cons v vs =>
      obtain ⟨hc, hnd'⟩ := List.nodup_cons.mp hnd
      intro c' hc'
      rcases List.mem_cons.mp hc' with rfl | hmem
      · rw [scatter, scatter_other _ _ _ _ hc, ListFacts.getD_set_eq _ _ _ 0 (hr c' List.mem_cons_self)]
        exact hP 0 (Nat.succ_pos _)
      · exact ih (ret.set c v) vs (Nat.succ.inj hlen) hnd'
          (fun x hx => by rw [List.length_set]; exact hr x (List.mem_cons_of_mem _ hx))
          (fun k hk => hP (k + 1) (Nat.succ_lt_succ hk)) c' hmem

/-- `binStep` and `SpreadF.binStepF` are of the form `hstep`; `P b c v`: what is claimed of the value `v` bin `b` gives cell `c` -/
theorem foldl_scatter_inside {step : List Rat → Bin → List Rat} {coords : Bin → List Rat}
    (hstep : ∀ ret b, step ret b = scatter ret b.cells (coords b)) (P : Bin → Nat → Rat → Prop)
    {n : Nat} {bins : List Bin} {ret : List Rat} (hlen : ret.length = n)
    (hP : ∀ b ∈ bins, b.cells.length = (coords b).length ∧
      ∀ k, k < b.cells.length → P b (b.cells.getD k 0) ((coords b).getD k 0))
    (hnd : (bins.flatMap fun b => b.cells).Nodup) (hr : ∀ b ∈ bins, ∀ c ∈ b.cells, c < n) :
    (bins.foldl step ret).length = n ∧
    (∀ b ∈ bins, ∀ c ∈ b.cells, P b c ((bins.foldl step ret).getD c 0)) ∧
    (∀ j, (∀ b ∈ bins, j ∉ b.cells) → (bins.foldl step ret).getD j 0 = ret.getD j 0) := by
  induction bins generalizing ret with
  | nil => simp [hlen]
  | cons b bs ih =>
    rw [List.flatMap_cons, List.nodup_append] at hnd
    obtain ⟨hndb, hndbs, hdisj⟩ := hnd
    have hlen' : (step ret b).length = n := by rw [hstep, scatter_length, hlen]
    obtain ⟨a1, a2, a3⟩ := ih hlen'
      (fun b' hb' => hP b' (List.mem_cons_of_mem _ hb')) hndbs
      (fun b' hb' => hr b' (List.mem_cons_of_mem _ hb'))
    simp only [List.foldl_cons]
    refine ⟨a1, ?_, ?_⟩
    · intro b' hb' c hc
      rcases List.mem_cons.mp hb' with rfl | hmem
      · have hnot : ∀ b'' ∈ bs, c ∉ b''.cells := by
          intro b'' hb'' hc''
          exact hdisj c hc c (List.mem_flatMap.mpr ⟨b'', hb'', hc''⟩) rfl
        rw [a3 c hnot, hstep]
        exact scatter_forall (P b') ret b'.cells _ (hP b' hb').1 hndb
          (fun c hc => by rw [hlen]; exact hr b' hb' c hc) (hP b' hb').2 c hc
      · exact a2 b' hmem c hc
    · intro j hj
      rw [a3 j (fun b' hb' => hj b' (List.mem_cons_of_mem _ hb')), hstep]
      exact scatter_other _ _ _ _ (hj b (by simp))

/-- `std::min(std::max(v, lo), hi)`, the body of `clampTo`, `SpreadF.clampBin` and `SpreadF.clampF` -/
theorem clamp_bounds (lo hi v : Rat) (h : lo ≤ hi) :
    lo ≤ (if hi < (if v < lo then lo else v) then hi else (if v < lo then lo else v)) ∧
    (if hi < (if v < lo then lo else v) then hi else (if v < lo then lo else v)) ≤ hi := by
  have hm : lo ≤ (if v < lo then lo else v) := by
    split
    · exact le_refl _
    · exact not_lt.mp ‹_›
  generalize (if v < lo then lo else v) = m at hm ⊢
  split
  · exact ⟨h, le_refl _⟩
  · exact ⟨hm, not_lt.mp ‹_›⟩

theorem clampTo_bounds (lo hi : Int) (h : lo ≤ hi) (t : Rat) :
    (lo : Rat) ≤ clampTo lo hi t ∧ clampTo lo hi t ≤ (hi : Rat) :=
  clamp_bounds _ _ t (by exact_mod_cast h)

theorem initCoords_length (n : Nat) (lo hi : Int) (target : List Rat) :
    (initCoords n lo hi target).length = n := by
  simp [initCoords]

theorem initCoords_getD (n : Nat) (lo hi : Int) (target : List Rat) (c : Nat) (hc : c < n) :
    (initCoords n lo hi target).getD c 0 = clampTo lo hi (target.getD c 0) :=
  ListFacts.getD_map_range_of_lt _ 0 hc

theorem binCoords_inside (target : List Rat) (demand : List Int) (hdem : ∀ c, 0 ≤ demand.getD c 0)
    (b : Bin) (hlh : b.lo < b.hi) :
    b.cells.length = (binCoords target demand b).length ∧ ∀ k, k < b.cells.length →
      0 < demand.getD (b.cells.getD k 0) 0 →
        (b.lo : Rat) < (binCoords target demand b).getD k 0 ∧ (binCoords target demand b).getD k 0 < (b.hi : Rat) := by
  refine ⟨by rw [binCoords, spreadCells_length, List.length_map], fun k hk hpos => ?_⟩
  refine spreadCells_inside _ _ _ _ (by rw [List.length_map, List.length_map]) ?_ (Int.cast_lt.mpr hlh) k
    (by rw [List.length_map]; exact hk) ?_
  · intro d hd
    obtain ⟨c, _, rfl⟩ := List.mem_map.mp hd
    exact_mod_cast hdem c
  · rw [ListFacts.getD_map_of_lt _ 0 _ hk]
    exact Int.cast_pos.mpr hpos

theorem lims_bounds {lims : List Int} {A B : Int} (hl : ∀ l ∈ lims, A ≤ l ∧ l ≤ B) {lo hi : Int}
    (hlo : lo ∈ lims) (hhi : hi ∈ lims) {v : Rat} (h1 : (lo : Rat) ≤ v) (h2 : v ≤ (hi : Rat)) :
    (A : Rat) ≤ v ∧ v ≤ (B : Rat) :=
  ⟨le_trans (Int.cast_le.mpr (hl lo hlo).1) h1, le_trans h2 (Int.cast_le.mpr (hl hi hhi).2)⟩

end ColoVerif.Spread
