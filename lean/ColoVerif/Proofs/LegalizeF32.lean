import ColoVerif.Model.LegalizeKF
import ColoVerif.Proofs.LegalizeRowHigh
import ColoVerif.Proofs.F64
/-
The model's binary32 rounding `f32 : Rat → Rat` (nearest, ties to even, subnormals, no overflow) is, by `rfl`,
`F64.f32' = fround 24 (−149)`, so monotonicity and exactness on the dyadics `m·2^k`, `|m| ≤ 2^24`, `k ≥ −149`
(in particular on the integers `|v| ≤ 2^24`) come from `Proofs/F64.lean`.  The executable KF-C11-2 classifier
`kf2ClassSeg` (`kf2Class`) is the negation of `KeyOrderSeg` (`KeyOrder`); for the binary32 key with
`0 ≤ orderingWidth ≤ 1` and coordinates `≤ 2^24` only index-inverted *ties* are left in the class.
-/
namespace ColoVerif.Legalize

theorem keyed_length (rnd : Rat → Rat) (ww wy wh : Rat) : ∀ (cells : List LCell) (s : Nat),
    (keyed rnd ww wy wh s cells).length = cells.length :=
  fun cells s => by rw [keyed_eq_map, List.length_map, List.length_range]

theorem kf2_items (rnd : Rat → Rat) (p : Params) (cells : List LCell) :
    cells.zip (keyed rnd p.ow p.oy p.oh 0 cells) =
      (List.range cells.length).map fun i => (cellAt cells i, (orderKey rnd p.ow p.oy p.oh (cellAt cells i), i)) := by
  calc cells.zip (keyed rnd p.ow p.oy p.oh 0 cells)
      = ((List.range cells.length).map (cellAt cells)).zip (keyed rnd p.ow p.oy p.oh 0 cells) := by
        rw [map_cellAt_range]
    _ = _ := by
        rw [keyed_eq_map, List.zip_map']
        simp only [Nat.zero_add]

theorem kf2_any_items_eq_false (rnd : Rat → Rat) (p : Params) (cells : List LCell)
    (f : LCell × (Rat × Nat) → LCell × (Rat × Nat) → Bool) :
    ((cells.zip (keyed rnd p.ow p.oy p.oh 0 cells)).any fun a =>
        (cells.zip (keyed rnd p.ow p.oy p.oh 0 cells)).any fun b => f a b) = false ↔
      ∀ i j, i < cells.length → j < cells.length →
        f (cellAt cells i, (orderKey rnd p.ow p.oy p.oh (cellAt cells i), i))
          (cellAt cells j, (orderKey rnd p.ow p.oy p.oh (cellAt cells j), j)) = false := by
  rw [kf2_items]
  simp only [List.any_eq_false, List.mem_map, List.mem_range, forall_exists_index, and_imp,
    forall_apply_eq_imp_iff₂, Bool.not_eq_true]
  exact ⟨fun h i j hi hj => h i hi j hj, fun h i hi j hj => h i j hi hj⟩

theorem kf2Pair_eq_false_iff (c1 c2 : LCell) (k1 k2 : Rat × Nat) :
    kf2Pair (c1, k1) (c2, k2) = false ↔
      (c1.ty = c2.ty → c1.h = c2.h → 0 < c1.w → 0 < c2.w → c1.tx + c1.w ≤ c2.tx → ¬ keyLt k2 k1 = true) := by
  rw [← Bool.not_eq_true]
  simp only [kf2Pair, Bool.and_eq_true, beq_iff_eq, decide_eq_true_eq, not_and, and_imp]

theorem sameSegB_iff (r : Row) (a b : LCell) : sameSegB r a b = true ↔ SameSeg r a b := by
  simp only [sameSegB, SameSeg, Bool.and_eq_true, beq_iff_eq, decide_eq_true_eq, and_assoc]

theorem kf2PairSeg_eq_false_iff (R : List Row) (c1 c2 : LCell) (k1 k2 : Rat × Nat) :
    kf2PairSeg R (c1, k1) (c2, k2) = false ↔
      (c1.ty = c2.ty → c1.h = c2.h → 0 < c1.w → 0 < c2.w → c1.tx + c1.w ≤ c2.tx →
        (∃ r ∈ R, SameSeg r c1 c2) → ¬ keyLt k2 k1 = true) := by
  rw [kf2PairSeg, Bool.and_comm, Bool.and_eq_false_imp, kf2Pair_eq_false_iff, List.any_eq_true]
  simp only [sameSegB_iff]
  exact ⟨fun h hy hh hw1 hw2 hx hs => h hs hy hh hw1 hw2 hx, fun h hs hy hh hw1 hw2 hx => h hy hh hw1 hw2 hx hs⟩

theorem not_keyLt_iff {a b : Rat × Nat} (hne : a.2 ≠ b.2) : ¬ keyLt b a = true ↔ keyLt a b = true := by
  refine ⟨fun h => ?_, keyLt_asymm a b⟩
  rw [keyLt_iff] at h ⊢
  rcases lt_trichotomy a.1 b.1 with h1 | h1 | h1
  · exact Or.inl h1
  · rcases Nat.lt_trichotomy a.2 b.2 with h2 | h2 | h2
    · exact Or.inr ⟨h1, h2⟩
    · exact absurd h2 hne
    · exact absurd (Or.inr ⟨h1.symm, h2⟩) h
  · exact absurd (Or.inl h1) h

theorem kf2Class_false_iff (rnd : Rat → Rat) (p : Params) (cells : List LCell) :
    kf2Class rnd p cells = false ↔ KeyOrder rnd p cells := by
  rw [kf2Class, kf2Any, kf2_any_items_eq_false, KeyOrder]
  refine forall₄_congr fun i j hi hj => ?_
  rw [kf2Pair_eq_false_iff]
  refine forall₅_congr fun hy hh hw1 hw2 hx => not_keyLt_iff ?_
  -- a cell of positive width is not entirely left of itself
  rintro (rfl : i = j)
  omega

/-- `KeyOrderSeg` is the hypothesis on the key of `legalizeWith_fixed_seg` -/
theorem kf2ClassSeg_false_iff (rnd : Rat → Rat) (p : Params) (R : List Row) (cells : List LCell) :
    kf2ClassSeg rnd p R cells = false ↔ KeyOrderSeg rnd p R cells := by
  rw [kf2ClassSeg, kf2AnySeg, kf2_any_items_eq_false, KeyOrderSeg]
  refine forall₄_congr fun i j hi hj => ?_
  rw [kf2PairSeg_eq_false_iff]
  refine forall₅_congr fun hy hh hw1 hw2 hx => forall_congr' fun _ => not_keyLt_iff ?_
  rintro (rfl : i = j)
  omega

/-- x and width of every cell are at most `2^24 = 16777216` in absolute value, hence exact in binary32 -/
def SmallCoords (cells : List LCell) : Prop :=
  ∀ c ∈ cells, (-16777216 ≤ c.tx ∧ c.tx ≤ 16777216) ∧ (-16777216 ≤ c.w ∧ c.w ≤ 16777216)

/-- no pair of cells of one free segment of `R`, `i` entirely left of `j`, has equal binary32 keys and `i > j` -/
def NoInvertedTie (p : Params) (R : List Row) (cells : List LCell) : Prop :=
  ∀ i j, i < cells.length → j < cells.length →
    (cellAt cells i).ty = (cellAt cells j).ty → (cellAt cells i).h = (cellAt cells j).h →
    0 < (cellAt cells i).w → 0 < (cellAt cells j).w →
    (cellAt cells i).tx + (cellAt cells i).w ≤ (cellAt cells j).tx →
    (∃ r ∈ R, SameSeg r (cellAt cells i) (cellAt cells j)) →
    orderKey f32 p.ow p.oy p.oh (cellAt cells i) = orderKey f32 p.ow p.oy p.oh (cellAt cells j) → i < j

/-- a strict inversion is impossible (`orderKey_le_rounded` with `f32_mono`, `f32_exact_int`), so excluding the
index-inverted ties is enough for `KeyOrderSeg` -/
theorem keyOrderSeg_f32_of_noInvertedTie (p : Params) (h0 : 0 ≤ p.ow) (h1 : p.ow ≤ 1) (R : List Row) (cells : List LCell)
    (hs : SmallCoords cells) (hn : NoInvertedTie p R cells) : KeyOrderSeg f32 p R cells := by
  intro i j hi hj hy hh hw1 hw2 hx hseg
  obtain ⟨xi, wi⟩ := hs _ (cellAt_mem cells i hi)
  obtain ⟨xj, wj⟩ := hs _ (cellAt_mem cells j hj)
  have hle := orderKey_le_rounded f32 (fun a b h => f32_mono h) f32_zero f32_one p.ow p.oy p.oh h0 h1
    (cellAt cells i) (cellAt cells j) hy hh hw1 hw2 hx
    (f32_exact_int _ xi) (f32_exact_int _ xj) (f32_exact_int _ wi) (f32_exact_int _ wj)
  rw [keyLt_iff]
  rcases lt_or_eq_of_le hle with h | h
  · exact Or.inl h
  · exact Or.inr ⟨h, hn i j hi hj hy hh hw1 hw2 hx hseg h⟩

theorem noInvertedTie_of_keyOrderSeg (p : Params) (R : List Row) (cells : List LCell) (h : KeyOrderSeg f32 p R cells) :
    NoInvertedTie p R cells := by
  intro i j hi hj hy hh hw1 hw2 hx hseg he
  have := h i j hi hj hy hh hw1 hw2 hx hseg
  rw [keyLt_iff] at this
  rcases this with h1 | h1
  · rw [he] at h1; exact absurd h1 (lt_irrefl _)
  · exact h1.2

end ColoVerif.Legalize
