import ColoVerif.Proofs.Transp1dOptEvents
/-
The prelude of `push i` (`updateOptimalSink`, `pushNewSourceEvents`, the `max` on `lastPosition`,
`pushNewSinkEvents`) turns the between-pushes invariant `SweepInv` into the loop invariant `LoopInv`:
the optimal sink (`OptOk`), the closed forms of the slopes added by the new-source and the new-sink
events, and the invariant at the entry of the loop.
-/
namespace ColoVerif.Transp1d

theorem setup_opt (sv : Solver) (sd : SwDom sv) (st : St) (sw : SweepInv sv st)
    (hi : st.pRev.length < sv.u.length) (o : Nat) (ho : o < sv.v.length)
    (hdec : ∀ t, st.optSink ≤ t → t < o → cs sv st.pRev.length (t + 1) ≤ cs sv st.pRev.length t)
    (hstop : o + 1 = sv.v.length ∨ cs sv st.pRev.length o < cs sv st.pRev.length (o + 1)) :
    OptOk sv st.pRev.length o := by
  have hstep : ∀ t, t < o → cs sv st.pRev.length (t + 1) ≤ cs sv st.pRev.length t := by
    intro t ht
    by_cases c : t < st.optSink
    · exact sw.optL st.pRev.length (Nat.le_succ _) hi t (t + 1) (Nat.le_succ t) c
    · exact hdec t (Nat.le_of_not_lt c) ht
  refine ⟨ho, fun k hk hku t t' h1 h2 => ?_, fun t t' h1 h2 h3 => ?_⟩
  · -- by the Monge property what decreases for source `i` decreases for the later ones
    have hm := cs_monge sv sd.si st.pRev.length k t t' hk hku h1 (Nat.lt_of_le_of_lt h2 ho)
    have := le_of_step_down (cs sv st.pRev.length) t t' h1
      fun j _ hj' => hstep j (Nat.lt_of_lt_of_le hj' h2)
    omega
  · -- the cost goes up at `o`, so `u i` is left of sink `o + 1` and the cost goes up from there on
    refine le_of_step_up (cs sv st.pRev.length) t t' h2 fun j hj hj' => ?_
    have hoj := Nat.le_trans h1 hj
    have hj1 : j + 1 < sv.v.length := Nat.lt_of_le_of_lt hj' h3
    have ho1 : o + 1 < sv.v.length := Nat.lt_of_le_of_lt (Nat.succ_le_succ hoj) hj1
    have hs := hstop.resolve_left (Nat.ne_of_lt ho1)
    have hv := fun a b (hab : a ≤ b) (hb : b < sv.v.length) => sorted_getD sv.v sd.si.vs a b hab hb
    rcases Nat.eq_or_lt_of_le hoj with c | c
    · rw [← c]; exact Int.le_of_lt hs
    · have hu : sv.u.getD st.pRev.length 0 < sv.v.getD (o + 1) 0 := Int.lt_of_not_ge fun hge =>
        Int.not_le.2 hs (iabs_mono_left _ _ _ hge (hv o (o + 1) (Nat.le_succ o) ho1))
      exact iabs_mono_right _ _ _
        (Int.le_trans (Int.le_of_lt hu) (hv (o + 1) j c (Nat.lt_of_succ_lt hj1)))
        (hv j (j + 1) (Nat.le_succ j) hj1)

/-- the Monge inequality of `|a - x|` is an equality when the two pairs do not cross -/
theorem iabs_monge_eq (a b x y : Int) (hab : a ≤ b) (hxy : x ≤ y) (h : y ≤ a ∨ b ≤ x) :
    iabs (a - x) + iabs (b - y) = iabs (a - y) + iabs (b - x) := by
  refine Int.le_antisymm (iabs_monge a b x y hab hxy) ?_
  have h1 := le_iabs (a - x)
  have h2 := le_iabs (b - y)
  have e1 := iabs_cases (a - y)
  have e2 := iabs_cases (b - x)
  omega

theorem dl_nonneg (sv : Solver) (sd : SwDom sv) (a j : Nat) (ha : a + 1 < sv.u.length)
    (hj : j + 1 < sv.v.length) : 0 ≤ dl sv a j := by
  have := cs_monge sv sd.si a (a + 1) j (j + 1) (by omega) ha (by omega) hj
  unfold dl dG; omega

/-- `delta` vanishes at the sinks left of `u a` and at those right of `u (a + 1)` -/
theorem dl_zero (sv : Solver) (sd : SwDom sv) (a j : Nat) (ha : a + 1 < sv.u.length)
    (hj : j + 1 < sv.v.length)
    (h : sv.v.getD (j + 1) 0 ≤ sv.u.getD a 0 ∨ sv.u.getD (a + 1) 0 ≤ sv.v.getD j 0) :
    dl sv a j = 0 := by
  have := iabs_monge_eq _ _ _ _ (sorted_getD sv.u sd.si.us a (a + 1) (by omega) ha)
    (sorted_getD sv.v sd.si.vs j (j + 1) (by omega) hj) h
  unfold dl dG cs; omega

/-- the shape of the cumulated slope `evS ev` and of what a batch of events adds to it -/
structure Slope (f : Int → Int) : Prop where
  nn : ∀ x, 0 < x → 0 ≤ f x
  anti : ∀ x x', 0 < x → x ≤ x' → f x' ≤ f x

theorem Slope.add {f g : Int → Int} (hf : Slope f) (hg : Slope g) : Slope fun x => f x + g x :=
  ⟨fun x hx => Int.add_nonneg (hf.nn x hx) (hg.nn x hx),
    fun x x' hx hxx => Int.add_le_add (hf.anti x x' hx hxx) (hg.anti x x' hx hxx)⟩

theorem Slope.congr {f g : Int → Int} (hf : Slope f) (h : ∀ x, 0 < x → g x = f x) : Slope g :=
  ⟨fun x hx => h x hx ▸ hf.nn x hx, fun x x' hx hxx =>
    h x hx ▸ h x' (Int.lt_of_lt_of_le hx hxx) ▸ hf.anti x x' hx hxx⟩

theorem sumFrom_ind_slope (w pos : Nat → Int) (cnt b : Nat)
    (hw : ∀ l, b ≤ l → l < b + cnt → 0 ≤ w l) :
    Slope fun x => sumFrom (fun l => if x ≤ pos l then w l else 0) cnt b :=
  ⟨fun x _ => sumFrom_ind_nonneg w pos cnt b x hw,
    fun x x' _ hxx => sumFrom_ind_anti w pos cnt b x x' hxx hw⟩

theorem srcS_slope (sv : Solver) (sd : SwDom sv) (a J0 : Nat) (ha : a + 1 < sv.u.length)
    (hJ0 : J0 < sv.v.length) : Slope (srcS sv a J0) :=
  sumFrom_ind_slope (dl sv a) _ _ _ fun l _ hl' => dl_nonneg sv sd a l ha (by omega)

/-- the loop of `pushNewSourceEvents` leaves out only sinks where `delta` vanishes, so the slopes
telescope from the sink of `S (a+1) + x`, as long as that is before the last occupied one -/
theorem srcS_closed (sv : Solver) (sd : SwDom sv) (a J0 : Nat) (ha : a + 1 < sv.u.length)
    (hJ0 : J0 < sv.v.length) (x : Int) :
    srcS sv a J0 x = dG sv a (min (sigL sv (sv.S.getD (a + 1) 0 + x)) J0) - dG sv a J0 := by
  unfold srcS
  have hT := sumFrom_thresh (dG sv a) (fun l => x ≤ sv.D.getD (l + 1) 0 - sv.S.getD (a + 1) 0) J0 0
    (sigL sv (sv.S.getD (a + 1) 0 + x)) fun l _ hl => by
      rw [sigL_le_iff sv sd.dom.Dmono _ l (by omega)]
      omega
  rw [Nat.zero_add, Nat.zero_max] at hT
  rw [← hT]
  refine sumFrom_support _ _ _ J0 (Nat.min_le_right _ _) fun l hl hn => ?_
  have : dl sv a l = 0 := dl_zero sv sd a l ha (by omega) <| hn.imp
    (fun hn => upperBound_lt sv.v _ (l + 1) (by omega))
    (fun hn => lowerBound_le sv.v sd.si.vs _ l (by omega) (by omega))
  show (if _ then dl sv a l else 0) = 0
  rw [this, ite_self]

theorem snkS_slope (sv : Solver) (i J0 o : Nat) (L : Int)
    (h : ∀ l, J0 ≤ l → l < o → cs sv i (l + 1) ≤ cs sv i l) : Slope (snkS sv i J0 o L) :=
  sumFrom_ind_slope (fun l => cs sv i l - cs sv i (l + 1)) _ _ _
    fun l hl hl' => Int.sub_nonneg_of_le (h l hl (by omega))

/-- below the cap the slopes telescope from the sink of `S i + x` -/
theorem snkS_closed (sv : Solver) (sd : SwDom sv) (i J0 o : Nat) (ho : o < sv.v.length)
    (L x : Int) (hxL : x ≤ L) :
    snkS sv i J0 o L x
      = cs sv i (max J0 (min (sigL sv (sv.S.getD i 0 + x)) (max J0 o))) - cs sv i (max J0 o) := by
  rw [show max J0 o = J0 + (o - J0) by rw [Nat.max_comm, ← Nat.sub_add_eq_max, Nat.add_comm]]
  exact sumFrom_thresh (cs sv i) (fun l => x ≤ min (sv.D.getD (l + 1) 0 - sv.S.getD i 0) L) (o - J0) J0
    (sigL sv (sv.S.getD i 0 + x)) fun l _ hl => by
      rw [sigL_le_iff sv sd.dom.Dmono _ l (by omega)]
      omega

/-- what is known about the state at the entry of the `while` loop of `push` (`L`, `J`, `o`, `ev2`
are its `lastPosition`, `lastOcc`, `optSink`, `events`); `src x` is the slope added at `x` by the
new-source events -/
structure SetupHyp (sv : Solver) (st : St) (o : Nat) (ev2 : List Event) (src : Int → Int)
    (L : Int) (J : Nat) : Prop where
  sd : SwDom sv
  sw : SweepInv sv st
  hi : st.pRev.length < sv.u.length
  opt : OptOk sv st.pRev.length o
  eL : L = max st.lastPosition (sv.D.getD o 0 - sv.S.getD st.pRev.length 0)
  eJ : J = max st.lastOcc o
  sorted : SortedEv ev2
  le : ∀ e ∈ ev2, e.1 ≤ L
  src0 : ∀ x, 0 < x → 0 ≤ src x
  srcA : ∀ x x', 0 < x → x ≤ x' → src x' ≤ src x
  srcZ : ∀ x, 0 < x → st.lastPosition < x → src x = 0
  srcL : ∀ p rest, st.pRev = p :: rest → ∀ x, 0 < x → x ≤ st.lastPosition →
    src x = (cs sv st.pRev.length (sigL sv (sv.S.getD st.pRev.length 0 + x))
        - cs sv rest.length (sigL sv (sv.S.getD st.pRev.length 0 + x)))
      - (cs sv st.pRev.length st.lastOcc - cs sv rest.length st.lastOcc)
  ev : ∀ x, 0 < x → evS ev2 x = evS st.events x + src x + snkS sv st.pRev.length st.lastOcc o L x

section
variable {sv : Solver} {st : St} {o : Nat} {ev2 : List Event} {src : Int → Int} {L : Int} {J : Nat}

theorem SetupHyp.geo (h : SetupHyp sv st o ev2 src L J) :
    st.lastPosition ≤ L ∧ J < sv.v.length ∧
    sv.S.getD st.pRev.length 0 + L ≤ sv.D.getD (J + 1) 0 ∧
    sv.D.getD J 0 - sv.S.getD (st.pRev.length + 1) 0 ≤ L ∧
    sv.D.getD o 0 ≤ sv.S.getD st.pRev.length 0 + L := by
  have h1 := h.sw.hJ
  have h2 := h.sw.fit
  have hS := h.sd.si.S_step h.sd.spos st.pRev.length h.hi
  have hJm : J < sv.v.length := h.eJ ▸ Nat.max_lt.mpr ⟨h.sw.inv.occ, h.opt.lt⟩
  have m1 : st.lastPosition ≤ L := h.eL ▸ Int.le_max_left _ _
  have m2 : sv.D.getD o 0 - sv.S.getD st.pRev.length 0 ≤ L := h.eL ▸ Int.le_max_right _ _
  -- both candidates for `L` lie before the end of sink `J`
  have d1 := h.sd.dom.Dmono (st.lastOcc + 1) (J + 1)
    (Nat.succ_le_succ (h.eJ ▸ Nat.le_max_left _ _)) hJm
  have d2 := h.sd.dom.Dmono o (J + 1) (Nat.le_succ_of_le (h.eJ ▸ Nat.le_max_right _ _)) hJm
  have m3 : L ≤ sv.D.getD (J + 1) 0 - sv.S.getD st.pRev.length 0 :=
    h.eL ▸ Int.max_le.mpr ⟨by omega, by omega⟩
  refine ⟨m1, hJm, Int.add_le_of_le_sub_left m3, ?_, Int.le_add_of_sub_left_le m2⟩
  -- `J` is `lastOcc` or `o`
  rw [h.eJ, Nat.max_def]
  split <;> omega

theorem SetupHyp.old_zero (h : SetupHyp sv st o ev2 src L J) (x : Int) (hx : st.lastPosition < x) :
    evS st.events x = 0 :=
  evS_zero _ _ (fun e he => by have := h.sw.ei.le e he; omega)

theorem SetupHyp.old_slope (h : SetupHyp sv st o ev2 src L J) : Slope (evS st.events) := by
  have nn : ∀ x, 0 < x → 0 ≤ evS st.events x := fun x hx => by
    by_cases c : st.lastPosition < x
    · rw [h.old_zero x c]
    · have h1 := h.sw.mono.mono x st.lastPosition hx (by omega) (Int.le_refl _)
      have h2 := h.sw.mono.nn (by omega)
      omega
  refine ⟨nn, fun x x' hx hxx => ?_⟩
  by_cases c : st.lastPosition < x'
  · rw [h.old_zero x' c]; exact nn x hx
  · exact h.sw.mono.mono x x' hx hxx (by omega)

theorem SetupHyp.snk_step (h : SetupHyp sv st o ev2 src L J) :
    ∀ l, st.lastOcc ≤ l → l < o → cs sv st.pRev.length (l + 1) ≤ cs sv st.pRev.length l :=
  fun l _ hl => h.opt.left st.pRev.length (Nat.le_refl _) h.hi l (l + 1) (Nat.le_succ l) hl

theorem SetupHyp.new_slope (h : SetupHyp sv st o ev2 src L J) : Slope (evS ev2) :=
  ((h.old_slope.add ⟨h.src0, h.srcA⟩).add
    (snkS_slope sv st.pRev.length st.lastOcc o L h.snk_step)).congr h.ev

/-- the head of the recorded positions is `lastPosition`; without recorded positions it is `0` -/
theorem SetupHyp.head_lt (h : SetupHyp sv st o ev2 src L J) (x : Int) (hx : 0 < x)
    (hh : ∀ y, st.pRev.head? = some y → y < x) : st.lastPosition < x := by
  cases hp : st.pRev with
  | nil => rw [(h.sw.init hp).1]; exact hx
  | cons p rest =>
    have hy : st.pRev.head? = some p := by rw [hp]; rfl
    rw [← h.sw.head p hy]
    exact hh p hy

theorem SetupHyp.lt_head (h : SetupHyp sv st o ev2 src L J) (x : Int) (hx : st.lastPosition < x) :
    ∀ y, st.pRev.head? = some y → y < x :=
  fun y hy => by rw [h.sw.head y hy]; exact hx

/-- old slope `a - b + u`, new-source slope `(c - d) - (e - b)`, new-sink slope `e - g` -/
private theorem iev_sum (a b c d e g u : Int) :
    a - b + u + (c - d - (e - b)) + (e - g) = c - g + (a - d + u) := by omega

theorem SetupHyp.iev (h : SetupHyp sv st o ev2 src L J) (x : Int) (hx : 0 < x) (hxL : x ≤ L) :
    evS ev2 x = cs sv st.pRev.length (sigL sv (sv.S.getD st.pRev.length 0 + x))
      - cs sv st.pRev.length J + lamU sv st.pRev x := by
  have hocc := h.sw.inv.occ
  obtain ⟨_, g5, g6, _, _⟩ := h.geo
  -- the sink of `x ≤ L` is at most `J`
  rw [h.ev x hx, snkS_closed sv h.sd st.pRev.length st.lastOcc o h.opt.lt L x hxL, ← h.eJ,
    Nat.min_eq_left ((sigL_le_iff sv h.sd.dom.Dmono _ J g5).mpr (by omega))]
  by_cases c : x ≤ st.lastPosition
  · -- `x` is a position of the previous source: its sink is at most the last occupied one
    have ht : sigL sv (sv.S.getD st.pRev.length 0 + x) ≤ st.lastOcc :=
      (sigL_le_iff sv h.sd.dom.Dmono _ st.lastOcc hocc).mpr (by have := h.sw.fit; omega)
    rw [Nat.max_eq_left ht]
    by_cases hp : st.pRev = []
    · have := (h.sw.init hp).1; omega
    · obtain ⟨p, rest, hp⟩ := List.exists_cons_of_ne_nil hp
      have hlen : st.pRev.length = rest.length + 1 := by rw [hp]; rfl
      have hp' : p = st.lastPosition := h.sw.head p (by rw [hp]; rfl)
      rw [h.sw.iev p rest hp x hx c, h.srcL p rest hp x hx c, hp, lamU, if_pos (hp' ▸ c), tL, ← hp,
        ← hlen]
      exact iev_sum ..
  · -- a new position: only the new-sink events count, from the sink of `x` on
    have h1 : st.lastOcc ≤ sigL sv (sv.S.getD st.pRev.length 0 + x) :=
      le_sigL_of_lt sv h.sd.dom.Dmono _ _ (Nat.le_of_lt hocc) (by have := h.sw.hJ; omega)
    rw [Nat.max_eq_right h1, h.old_zero x (by omega), h.srcZ x hx (by omega),
      lamU_zero_of_head sv st.pRev x (h.lt_head x (by omega))]
    omega

/-- right of the optimal sink the cost of source `i` increases, and pushing the sources that sit at
`L` to the right does not pay either (nothing sits there, or `f3` of the previous source) -/
theorem SetupHyp.right_start (h : SetupHyp sv st o ev2 src L J) (T : Nat) (hT : T < sv.v.length)
    (hlt : sv.S.getD st.pRev.length 0 + L < sv.D.getD sv.v.length 0)
    (hr : sigR sv (sv.S.getD st.pRev.length 0 + L) ≤ T) (j : Nat) :
    0 ≤ cs sv st.pRev.length T - cs sv st.pRev.length (sigR sv (sv.S.getD st.pRev.length 0 + L))
      + lamRj sv st.pRev L j := by
  obtain ⟨g2, _, _, _, g8⟩ := h.geo
  have hor := le_sigR_of_le sv h.sd.dom.Dmono _ o (Nat.le_of_lt h.opt.lt) g8
  have hc := h.opt.right _ T hor hr hT
  have hlam : 0 ≤ lamRj sv st.pRev L j := by
    by_cases c : st.lastPosition < L
    · rw [lamRj_zero_of_head sv st.pRev L j (h.lt_head L c)]
    · have eLL : L = st.lastPosition := by omega
      have hf := h.sw.facts
      have hhd := h.sw.head
      cases hp : st.pRev with
      | nil => exact Int.le_refl _
      | cons p rest =>
        rw [hp] at hf hhd hlt
        rw [eLL, ← hhd p rfl] at hlt ⊢
        exact hf.1.f3 hlt j
  omega

theorem SetupHyp.loopInv (h : SetupHyp sv st o ev2 src L J) :
    LoopInv sv st.pRev.length ⟨st.pRev, ev2, L, J, o⟩ := by
  obtain ⟨g2, g5, g6, g7, _⟩ := h.geo
  have g1 := h.sw.inv.pos
  have hS := h.sd.si.S_step h.sd.spos st.pRev.length h.hi
  have Dm := h.sd.dom.Dmono
  refine ⟨rfl, h.hi, g5, Int.le_trans g1 g2, ⟨h.sorted, h.le⟩, g7, g6, h.opt,
    (h.eJ ▸ Nat.le_max_right _ _ : o ≤ J), fun x hx hxL => h.iev x hx hxL,
    ⟨fun x x' hx hxx _ => h.new_slope.anti x x' hx hxx, h.new_slope.nn L⟩, ?_, ?_, ?_, ?_,
    h.sw.facts⟩
  · exact fun t ht ht' x hx _ => Int.sub_nonneg_of_le
      (Int.le_trans (h.opt.right t J ht ht' g5) (Int.le_add_of_nonneg_left (h.new_slope.nn x hx)))
  · intro (hJ1 : J + 1 < sv.v.length) _ j
    exact h.right_start (J + 1) hJ1
      (Int.lt_of_le_of_lt g6 (sw_Dlt sv h.sd (J + 1) sv.v.length hJ1 (Nat.le_refl _)))
      (Nat.le_of_lt_succ (sigR_lt_of_lt sv Dm _ (J + 1 + 1) (Nat.succ_pos _) hJ1
        (Int.lt_of_le_of_lt g6 (h.sd.si.D_step h.sd.dpos (J + 1) hJ1)))) j
  · intro (hlt0 : sv.S.getD (st.pRev.length + 1) 0 + L < sv.D.getD (J + 1) 0) j
    have hlt := Int.lt_trans (Int.add_lt_add_right hS L) hlt0
    exact h.right_start J g5 (Int.lt_of_lt_of_le hlt (Dm (J + 1) sv.v.length g5 (Nat.le_refl _)))
      (Nat.le_of_lt_succ (sigR_lt_of_lt sv Dm _ (J + 1) (Nat.succ_pos _) g5 hlt)) j
  · intro x hx (hxL : x ≤ L) hh
    have := h.head_lt x hx hh
    have := h.eL
    show sv.S.getD st.pRev.length 0 + x ≤ sv.D.getD o 0
    omega

end

theorem setup_src (sv : Solver) (sd : SwDom sv) (st : St) (sw : SweepInv sv st)
    (hi : st.pRev.length < sv.u.length) (o : Nat) (st1 : St)
    (e2 : pushNewSourceEvents sv st.pRev.length { st with optSink := o } = .ok st1)
    (src : Int → Int) (hsrc : ∀ x, src x = evS st1.events x - evS st.events x) :
    Slope src ∧ (∀ x, 0 < x → st.lastPosition < x → src x = 0) ∧
    (∀ p rest, st.pRev = p :: rest → ∀ x, 0 < x → x ≤ st.lastPosition →
      src x = (cs sv st.pRev.length (sigL sv (sv.S.getD st.pRev.length 0 + x))
          - cs sv rest.length (sigL sv (sv.S.getD st.pRev.length 0 + x)))
        - (cs sv st.pRev.length st.lastOcc - cs sv rest.length st.lastOcc)) := by
  have wf := sd.dom.wf
  have hocc := sw.inv.occ
  by_cases hp : st.pRev = []
  · have hlen : st.pRev.length = 0 := by rw [hp]; rfl
    rw [hlen, pushNewSourceEvents_zero] at e2
    injection e2 with e2
    have hev : st1.events = st.events := by rw [← e2]
    have hz : ∀ x, src x = 0 := fun x => by rw [hsrc x, hev, Int.sub_self]
    exact ⟨⟨fun x _ => Int.le_of_eq (hz x).symm, fun x x' _ _ => by rw [hz x, hz x']⟩,
      fun x _ _ => hz x, fun p rest hp' => by rw [hp] at hp'; cases hp'⟩
  · obtain ⟨p, rest, hp⟩ := List.exists_cons_of_ne_nil hp
    have hlen : st.pRev.length = rest.length + 1 := by rw [hp]; rfl
    have ha : rest.length + 1 < sv.u.length := hlen ▸ hi
    rw [hlen] at e2
    have hS : ∀ x, 0 < x → src x = srcS sv rest.length st.lastOcc x := fun x hx => by
      rw [hsrc x, pushNewSourceEvents_evS sv wf rest.length ha { st with optSink := o } st1 hocc e2 x hx]
      rw [Int.add_comm, Int.add_sub_cancel]
    have hJ := sw.hJ
    have hfit := sw.fit
    rw [hlen] at hJ hfit
    refine ⟨(srcS_slope sv sd _ _ ha hocc).congr hS, fun x hx hL => ?_,
      fun p' rest' hp' x hx hL => ?_⟩
    · rw [hS x hx, srcS_closed sv sd _ _ ha hocc x,
        Nat.min_eq_right (le_sigL_of_lt sv sd.dom.Dmono _ _ (Nat.le_of_lt hocc) (by omega)),
        Int.sub_self]
    · obtain ⟨_, rfl⟩ := List.cons.inj (hp.symm.trans hp')
      rw [hS x hx, srcS_closed sv sd _ _ ha hocc x, hlen,
        Nat.min_eq_left ((sigL_le_iff sv sd.dom.Dmono _ st.lastOcc hocc).mpr (by omega))]
      rfl

theorem push_setup (sv : Solver) (sd : SwDom sv) (st : St) (sw : SweepInv sv st)
    (hi : st.pRev.length < sv.u.length) :
    ∃ st2, LoopInv sv st.pRev.length st2 ∧
      push sv st.pRev.length st = (pushLoop sv st.pRev.length (loopFuel sv st2) st2).bind
        (fun st3 => .ok { st3 with pRev := st3.lastPosition :: st3.pRev }) := by
  have wf := sd.dom.wf
  have inv := sw.inv
  obtain ⟨o, e1, ho, _, hdec, hstop⟩ := updOpt_spec sv st.pRev.length hi sv.nbSinks st.optSink inv.opt
    (by unfold Solver.nbSinks; omega)
  have opt := setup_opt sv sd st sw hi o ho hdec hstop
  obtain ⟨ev1, e2, ei1⟩ :=
    pushNewSourceEvents_spec sv sd.dom st.pRev.length hi { st with optSink := o } inv.occ
      ⟨sw.ei.sorted, sw.ei.le⟩ sw.hJ
  obtain ⟨ev2, e3, ei2, _⟩ := pushNewSinkEvents_spec sv wf st.pRev.length o hi ho
    { st with optSink := o, events := ev1,
              lastPosition := max st.lastPosition (sv.D.getD o 0 - sv.S.getD st.pRev.length 0) }
    ⟨ei1.sorted, fun e he => Int.le_trans (ei1.le e he) (Int.le_max_left _ _)⟩
  refine ⟨⟨st.pRev, ev2, max st.lastPosition (sv.D.getD o 0 - sv.S.getD st.pRev.length 0),
    max st.lastOcc o, o⟩, ?_, ?_⟩
  · -- `src` is opaque (known only through `hsrc`), which keeps the large term out of the goals
    obtain ⟨src, hsrc⟩ : ∃ src : Int → Int, ∀ x, src x = evS ev1 x - evS st.events x :=
      ⟨_, fun x => rfl⟩
    obtain ⟨s1, s3, s4⟩ := setup_src sv sd st sw hi o _ e2 src hsrc
    refine SetupHyp.loopInv (src := src)
      ⟨sd, sw, hi, opt, rfl, rfl, ei2.sorted, ei2.le, s1.nn, s1.anti, s3, s4, fun x hx => ?_⟩
    rw [pushNewSinkEvents_evS sv wf st.pRev.length o hi ho _ _ e3 x hx, hsrc x]
    show evS ev1 x + _ = _
    rw [Int.add_comm (evS st.events x), Int.sub_add_cancel]
  · unfold push
    simp only [e1, e2, wf.getD (Nat.le_of_lt ho), wf.getS (Nat.le_of_lt hi), e3, bind, Except.bind]
    cases pushLoop sv st.pRev.length (loopFuel sv _) _ <;> rfl

end ColoVerif.Transp1d
