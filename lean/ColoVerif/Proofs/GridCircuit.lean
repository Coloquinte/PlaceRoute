import ColoVerif.Proofs.GridCap
import ColoVerif.Proofs.Freespace
/-
The regions `DensityGrid::fromIspdCircuit` hands to the grid constructor, for a circuit whose rows are in the
C01 domain shape (`RowsDom`), are a non-empty list of valid, pairwise disjoint rectangles (`ispdRegions_ok`);
so `C16.capacity_conserved` and `C16.grid_tiles_and_conserves` apply to them without side conditions.
For pairwise disjoint regions the sum of area(region ∩ bin) counts every unit square of the bin at most once,
so the capacity of a bin is the number of its unit squares covered by a (clipped) free segment
(`sum_overlap_eq_covered`).
-/
namespace ColoVerif.Grid
open ColoVerif ColoVerif.Freespace ColoVerif.ListFacts

theorem intersects_false_mono {a b a' b' : Rect} (h : a'.intersects b' = false) (ha : a'.Encloses a)
    (hb : b'.Encloses b) : a.intersects b = false := by
  have h1 := Legalize.miss_of_inside a a' b' ha.1 ha.2.1 ha.2.2.1 ha.2.2.2 h
  rw [Legalize.intersects_comm] at h1 ⊢
  exact Legalize.miss_of_inside b b' a hb.1 hb.2.1 hb.2.2.1 hb.2.2.2 h1

/-- the unit square `[x, x+1) × [y, y+1)` lies in `r` -/
def InCell (r : Rect) (x y : Int) : Prop := r.minX ≤ x ∧ x < r.maxX ∧ r.minY ≤ y ∧ y < r.maxY

instance (r : Rect) (x y : Int) : Decidable (InCell r x y) := inferInstanceAs (Decidable (_ ∧ _ ∧ _ ∧ _))

/-- number of unit squares of `b` that lie in some region: the free area inside `b` -/
def coveredArea (regions : List Rect) (b : Rect) : Int :=
  ((List.range (b.maxX - b.minX).toNat).map fun k : Nat =>
    ((List.range (b.maxY - b.minY).toNat).map fun l : Nat =>
      if regions.any (fun r => decide (InCell r (b.minX + k) (b.minY + l))) then (1 : Int) else 0).sum).sum

theorem rows_of_rowHeight_pos (c : Circuit) (h : 0 < (Circuit.rowHeight c).getD 0) :
    c.rows ≠ [] ∧ ∀ r ∈ c.rows, r.rect.minY < r.rect.maxY := by
  cases hH : Circuit.rowHeight c with
  | none => rw [hH] at h; exact absurd h (by decide)
  | some H =>
    rw [hH] at h
    exact ⟨(Circuit.rowHeight_some hH).1, fun r hr => by
      rw [(Circuit.rowHeight_some hH).2 r hr]; exact Int.lt_add_of_pos_right _ h⟩

theorem placementArea_valid (c : Circuit) (hne : c.rows ≠ [])
    (hx : ∀ r ∈ c.rows, r.rect.minX < r.rect.maxX) (hy : ∀ r ∈ c.rows, r.rect.minY < r.rect.maxY) :
    RectValid c.placementArea := by
  unfold Circuit.placementArea
  cases hr : c.rows with
  | nil => exact absurd hr hne
  | cons r rs =>
    have h1 := hx r (by rw [hr]; simp)
    have h2 := hy r (by rw [hr]; simp)
    simp only [RectValid, List.map_cons, Circuit.lmin, Circuit.lmax]
    have a1 := foldl_min_le (rs.map (·.rect.minX)) r.rect.minX
    have a2 := le_foldl_max (rs.map (·.rect.maxX)) r.rect.maxX
    have a3 := foldl_min_le (rs.map (·.rect.minY)) r.rect.minY
    have a4 := le_foldl_max (rs.map (·.rect.maxY)) r.rect.maxY
    omega

theorem computeRows_inside (c : Circuit) (hx : ∀ r ∈ c.rows, r.rect.minX < r.rect.maxX) (s : Row)
    (hs : s ∈ c.computeRows) :
    ∃ r ∈ c.rows, r.rect.minX ≤ s.rect.minX ∧ s.rect.minX < s.rect.maxX ∧ s.rect.maxX ≤ r.rect.maxX ∧
      s.rect.minY = r.rect.minY ∧ s.rect.maxY = r.rect.maxY ∧ r.rect.minY < r.rect.maxY :=
  let ⟨r, hr, ⟨a1, a2, a3⟩, b1, b2, _, b4⟩ := c.computeRows_seg [] (fun r hr => Int.le_of_lt (hx r hr)) s hs
  ⟨r, hr, a1, a2, a3, b1, b2, b4⟩

theorem mem_clippedRows (rows : List Row) (m : Int) (q : Rect) :
    q ∈ clippedRows rows m ↔ ∃ s ∈ rows, 2 * m < s.rect.width ∧
      q = ⟨s.rect.minX + m, s.rect.maxX - m, s.rect.minY, s.rect.maxY⟩ := by
  simp only [clippedRows, List.mem_filterMap]
  constructor
  · rintro ⟨s, hs, h⟩
    split at h
    · simp at h
    · rename_i hw
      exact ⟨s, hs, by omega, by simpa using h.symm⟩
  · rintro ⟨s, hs, hw, rfl⟩
    exact ⟨s, hs, by rw [if_neg (by omega)]⟩

theorem clippedRows_disjoint (rows : List Row) (m : Int) (hm : 0 ≤ m)
    (hp : rows.Pairwise (fun a b => a.rect.intersects b.rect = false)) :
    (clippedRows rows m).Pairwise (fun a b => a.intersects b = false) := by
  unfold clippedRows
  refine List.Pairwise.filterMap _ ?_ hp
  intro a a' hd b hb b' hb'
  split at hb
  · simp at hb
  · split at hb'
    · simp at hb'
    · simp only [Option.some.injEq] at hb hb'
      subst hb; subst hb'
      exact intersects_false_mono hd ⟨Int.le_add_of_nonneg_right hm, Int.sub_le_self _ hm, Int.le_refl _, Int.le_refl _⟩
        ⟨Int.le_add_of_nonneg_right hm, Int.sub_le_self _ hm, Int.le_refl _, Int.le_refl _⟩

theorem ispdRegions_ok (c : Circuit) (m : Int) (hd : RowsDom c) (hm : 0 ≤ m) :
    ispdRegions c m ≠ [] ∧ (∀ r ∈ ispdRegions c m, RectValid r) ∧ (ispdRegions c m).Pairwise (fun a b => a.intersects b = false) := by
  obtain ⟨hh, hp, hx⟩ := hd
  obtain ⟨hne, hy⟩ := rows_of_rowHeight_pos c hh
  have hdis := c.computeRows_disjoint [] hp fun r hr => Int.le_of_lt (hx r hr)
  unfold ispdRegions
  by_cases h1 : (clippedRows c.computeRows m).isEmpty = true
  · rw [if_pos h1]
    by_cases h2 : c.computeRows.isEmpty = true
    · rw [if_pos h2]
      rw [List.isEmpty_eq_false_iff.2 hne]
      simp only [Bool.false_eq_true, if_false]
      refine ⟨by simp, ?_, by simp⟩
      intro r hr
      rw [List.mem_singleton] at hr
      subst hr
      exact placementArea_valid c hne hx hy
    · rw [if_neg h2]
      refine ⟨?_, ?_, ?_⟩
      · exact fun e => h2 (List.isEmpty_iff.2 (List.map_eq_nil_iff.1 e))
      · intro r hr
        obtain ⟨s, hs, rfl⟩ := List.mem_map.mp hr
        obtain ⟨r0, _, _, a2, _, a4, a5, a6⟩ := computeRows_inside c hx s hs
        exact ⟨Int.le_of_lt a2, by rw [a4, a5]; exact Int.le_of_lt a6⟩
      · rw [List.pairwise_map]
        exact hdis
  · rw [if_neg h1]
    refine ⟨?_, ?_, clippedRows_disjoint _ m hm hdis⟩
    · intro e
      apply h1
      rw [e]
      rfl
    · intro q hq
      obtain ⟨s, hs, hw, rfl⟩ := (mem_clippedRows _ m q).mp hq
      obtain ⟨r0, _, a1, a2, a3, a4, a5, a6⟩ := computeRows_inside c hx s hs
      simp only [RectValid, Rect.width] at hw ⊢
      omega

theorem ispdRegions_main (c : Circuit) (m : Int) (h : clippedRows c.computeRows m ≠ []) :
    ispdRegions c m = clippedRows c.computeRows m := by
  unfold ispdRegions
  rw [if_neg fun e => h (List.isEmpty_iff.1 e)]

theorem minCellHeight_pos (c : Circuit) : 0 < minCellHeight c := by
  unfold minCellHeight
  refine List.foldlRecOn (motive := (0 < ·)) _ _ (by decide) fun m hm cl _ => ?_
  split <;> omega

theorem floatMulTrunc_nonneg (mant e h : Int) (hm : 0 ≤ mant) (hh : 0 ≤ h) : 0 ≤ floatMulTrunc mant e h := by
  unfold floatMulTrunc
  have hp : ¬ mant * h < 0 := by have := Int.mul_nonneg hm hh; omega
  simp only [hp, if_false]
  have hnum : (0 : Int) ≤ ((round24 (mant * h).natAbs).1 : Int) * 2 ^ (round24 (mant * h).natAbs).2 :=
    Int.mul_nonneg (Int.natCast_nonneg _) (Int.le_of_lt (Int.pow_pos (by decide)))
  split
  · exact Int.mul_nonneg hnum (Int.le_of_lt (Int.pow_pos (by decide)))
  · exact Int.tdiv_nonneg hnum (Int.le_of_lt (Int.pow_pos (by decide)))

theorem ind_mul (p q : Prop) [Decidable p] [Decidable q] :
    (if p then (1 : Int) else 0) * (if q then (1 : Int) else 0) = if p ∧ q then 1 else 0 := by
  by_cases hp : p <;> by_cases hq : q <;> simp [hp, hq]

theorem overlap_count (r b : Rect) (hb : RectValid b) :
    overlap r b =
      ((List.range (b.maxX - b.minX).toNat).map fun k : Nat =>
        ((List.range (b.maxY - b.minY).toNat).map fun l : Nat =>
          if InCell r (b.minX + k) (b.minY + l) then (1 : Int) else 0).sum).sum := by
  obtain ⟨hbx, hby⟩ := hb
  have ex : b.maxX = b.minX + ((b.maxX - b.minX).toNat : Int) := by omega
  have ey : b.maxY = b.minY + ((b.maxY - b.minY).toNat : Int) := by omega
  rw [overlap_eq_ov1]
  conv => lhs; rw [ex, ey]
  rw [ov1_count, ov1_count, ← sum_mul_sum]
  congr 1
  apply List.map_congr_left
  intro k _
  congr 1
  apply List.map_congr_left
  intro l _
  rw [ind_mul]
  simp only [InCell]
  congr 1
  apply propext
  constructor
  · rintro ⟨⟨h1, h2⟩, h3, h4⟩; exact ⟨h1, h2, h3, h4⟩
  · rintro ⟨h1, h2, h3, h4⟩; exact ⟨⟨h1, h2⟩, h3, h4⟩

theorem sum_inCell_disjoint (R : List Rect) (hp : R.Pairwise (fun a b => a.intersects b = false)) (x y : Int) :
    (R.map fun r => if InCell r x y then (1 : Int) else 0).sum =
      if R.any (fun r => decide (InCell r x y)) then 1 else 0 := by
  induction R with
  | nil => simp
  | cons r rs ih =>
    obtain ⟨h1, h2⟩ := List.pairwise_cons.mp hp
    rw [List.map_cons, List.sum_cons, ih h2, List.any_cons]
    by_cases hr : InCell r x y
    · have : rs.any (fun r => decide (InCell r x y)) = false := by
        rw [List.any_eq_false]
        intro r' hr' hc
        have hc' : InCell r' x y := by simpa using hc
        have hd := h1 r' hr'
        rw [Legalize.intersects_false_iff] at hd
        simp only [InCell] at hr hc'
        omega
      simp [hr, this]
    · simp [hr]

theorem sum_overlap_eq_covered (R : List Rect) (hp : R.Pairwise (fun a b => a.intersects b = false)) (b : Rect)
    (hb : RectValid b) :
    (R.map fun r => overlap r b).sum = coveredArea R b := by
  unfold coveredArea
  have : (R.map fun r => overlap r b) = R.map fun r =>
      ((List.range (b.maxX - b.minX).toNat).map fun k : Nat =>
        ((List.range (b.maxY - b.minY).toNat).map fun l : Nat =>
          if InCell r (b.minX + k) (b.minY + l) then (1 : Int) else 0).sum).sum :=
    List.map_congr_left (fun r _ => overlap_count r b hb)
  rw [this, ← sum3_swap (fun r (k l : Nat) => if InCell r (b.minX + k) (b.minY + l) then (1 : Int) else 0)]
  congr 1
  apply List.map_congr_left
  intro k _
  congr 1
  apply List.map_congr_left
  intro l _
  exact sum_inCell_disjoint R hp _ _

theorem ofRegions_bin (binSize : Int) (R : List Rect) (hv : ∀ r ∈ R, RectValid r)
    (hp : R.Pairwise (fun a b => a.intersects b = false)) :
    let g := DGrid.ofRegions binSize R
    ∀ i j, i < g.nbX → j < g.nbY →
      g.binCapacity i j = (R.map fun r => overlap r (g.region i j)).sum ∧
      g.binCapacity i j = coveredArea R (g.region i j) := by
  intro g i j hi hj
  obtain ⟨_, _, _, hX, _, _, hY, _⟩ := ofRegions_ok binSize R hv
  have hi' : i + 1 < g.limX.length := by simp only [DGrid.nbX] at hi; omega
  have hj' : j + 1 < g.limY.length := by simp only [DGrid.nbY] at hj; omega
  have e : g.binCapacity i j = _ :=
    (capacities_entry _ _ R i j hi hj).trans (binCap_eq_overlap _ _ R hX hY hv i j hi' hj')
  exact ⟨e, e.trans (sum_overlap_eq_covered R hp _ (regionOf_valid _ _ hX hY i j hi' hj'))⟩

end ColoVerif.Grid
