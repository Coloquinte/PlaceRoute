import ColoVerif.Model.RowLegChecked
import ColoVerif.Proofs.RowLegBasic
import ColoVerif.Proofs.CheckedArith
import ColoVerif.Proofs.ListFacts
/-
The checked row legalizer (C07) returns what the unbounded model returns.  `Dom` is the domain:
a segment within ±2^22 and the facts that keep every intermediate value in its C++ type.  Each
checked function unfolds to `chk32`/`chk64` applications, which are rewritten by range facts
(`chk32_between`); only the 64-bit cost accumulator of the loop needs a budget argument (`ScanInv`).
-/
namespace ColoVerif.RowLeg
open ColoVerif.Checked

def wsum : List Bound → Int
  | [] => 0
  | x :: xs => x.weight + wsum xs

@[simp] theorem wsum_nil : wsum [] = 0 := rfl
@[simp] theorem wsum_cons (x : Bound) (xs : List Bound) : wsum (x :: xs) = x.weight + wsum xs := rfl

/-- `wsum` is `sumW` of RowLegBasic under the name the C07 statements use -/
theorem wsum_eq_sumW : ∀ l : List Bound, wsum l = sumW l
  | [] => rfl
  | x :: xs => congrArg (x.weight + ·) (wsum_eq_sumW xs)

theorem wsum_nonneg (l : List Bound) (h : ∀ x ∈ l, 0 ≤ x.weight) : 0 ≤ wsum l :=
  wsum_eq_sumW l ▸ sumW_nonneg l h

theorem wsum_perm {l1 l2 : List Bound} (h : l1.Perm l2) : wsum l1 = wsum l2 := by
  induction h with
  | nil => rfl
  | cons x _ ih => rw [wsum_cons, wsum_cons, ih]
  | swap x y l => simp only [wsum_cons]; omega
  | trans _ _ ih1 ih2 => rw [ih1, ih2]

theorem wsum_pqInsert (x : Bound) (l : List Bound) : wsum (pqInsert x l) = x.weight + wsum l :=
  wsum_perm (pqInsert_perm x l)

theorem length_pqInsert (x : Bound) (l : List Bound) : (pqInsert x l).length = l.length + 1 :=
  (pqInsert_perm x l).length_eq

theorem wsum_ite_pqInsert (c : Prop) [Decidable c] (x : Bound) (l : List Bound) :
    wsum (if c then pqInsert x l else l) = (if c then x.weight else 0) + wsum l := by
  split
  · exact wsum_pqInsert x l
  · exact (Int.zero_add _).symm

theorem length_ite_pqInsert (c : Prop) [Decidable c] (x : Bound) (l : List Bound) :
    (if c then pqInsert x l else l).length = l.length + (if c then 1 else 0) := by
  split
  · exact length_pqInsert x l
  · rfl

theorem wsum_pushQueue_le (R : List Bound) (b w tgt fin slope curPos : Int) (h : 0 ≤ 2 * w + min slope 0) :
    wsum (pushQueue R b w tgt fin slope curPos) ≤ 2 * w + slope + wsum R := by
  simp only [pushQueue, wsum_ite_pqInsert]
  split <;> split <;> omega

theorem length_pushQueue_le (R : List Bound) (b w tgt fin slope curPos : Int) :
    (pushQueue R b w tgt fin slope curPos).length ≤ R.length + 2 := by
  simp only [pushQueue, length_ite_pqInsert]
  split <;> split <;> omega

/-- bound on `|term|` of the cost accumulator: 2^23 · 2^23 = 2^46 -/
local notation "T46" => (70368744177664 : Int)
/-- bound on the accumulator during the loop: 2^62 -/
local notation "A62" => (4611686018427387904 : Int)

def BoundOk (b e : Int) (x : Bound) : Prop := b ≤ x.absPos ∧ x.absPos ≤ e ∧ 0 ≤ x.weight

/-- The state of the `while` loop on the queue `bs`: the queued bounds lie in the segment with
non-negative weights; a pop moves a weight from the queue to the slope, so `slope + wsum bs` stays
below `U - width`; the position is in the segment; the accumulator has room for one `T46` per bound
still queued. -/
structure ScanInv (b e width U : Int) (bs : List Bound) (slope curPos curCost : Int) : Prop where
  bok : ∀ x ∈ bs, BoundOk b e x
  slopeR : -width ≤ slope ∧ slope + wsum bs + width ≤ U
  posR : b ≤ curPos ∧ curPos ≤ e
  costR : -(A62 - (bs.length : Int) * T46) ≤ curCost ∧ curCost ≤ A62 - (bs.length : Int) * T46

theorem min_in22 {b e x c : Int} (hbM : -M22 ≤ b) (heM : e ≤ M22) (hx : b ≤ x) (hx' : x ≤ e) (hc : b ≤ c) :
    -M22 ≤ min x c ∧ min x c ≤ M22 :=
  ⟨Int.le_trans hbM (Int.le_min.mpr ⟨hx, hc⟩), Int.le_trans (Int.min_le_left _ _) (Int.le_trans hx' heM)⟩

section
variable {b e width U climit : Int} (hbM : -M22 ≤ b) (heM : e ≤ M22) (hw : 0 ≤ width) (hw2 : width ≤ 2 * M22)
  (hU : U ≤ 2 * M22) (hcl : b ≤ climit)
include hbM heM hw hw2 hU hcl

theorem scanStepC_ok {t : Bound} {rest : List Bound} {slope curPos curCost : Int}
    (h : ScanInv b e width U (t :: rest) slope curPos curCost) :
    scanStepC width climit slope curPos curCost t =
        .ok (slope + t.weight, curCost + (min curPos climit - min t.absPos climit) * (slope + width)) ∧
      ScanInv b e width U rest (slope + t.weight) t.absPos
        (curCost + (min curPos climit - min t.absPos climit) * (slope + width)) := by
  obtain ⟨hb, hs, h1, h3⟩ := h
  obtain ⟨ht1, ht2, ht3⟩ := hb t List.mem_cons_self
  have hrest : ∀ x ∈ rest, BoundOk b e x := fun x hx => hb x (List.mem_cons_of_mem _ hx)
  have hwr := wsum_nonneg rest fun x hx => (hrest x hx).2.2
  have hn := Int.natCast_nonneg rest.length
  rw [wsum_cons] at hs
  simp only [List.length_cons, Int.natCast_add, Int.natCast_one] at h3
  unfold scanStepC
  have hp := min_in22 hbM heM h1.1 h1.2 hcl
  have hq := min_in22 hbM heM ht1 ht2 hcl
  generalize min curPos climit = p at hp ⊢
  generalize min t.absPos climit = q at hq ⊢
  have hsw : 0 ≤ slope + width ∧ slope + width ≤ 2 * M22 := by omega
  have hst : -(2 * M22) ≤ slope + t.weight ∧ slope + t.weight ≤ 2 * M22 := by omega
  have hterm := mul_between (A := 2 * M22) (between_mono (sub_between hp hq)) hsw
  have hacc : fitsInt64 (curCost + (p - q) * (slope + width)) := by unfold fitsInt64; omega
  simp only [checked, chk32_between (sub_between hp hq), chk32_between hsw, chk64_between hterm, chk64_ok hacc,
    chk32_between hst, true_and]
  exact ⟨hrest, by omega, ⟨ht1, ht2⟩, by omega⟩

theorem scanC_ok (tgt lim : Int) : ∀ (bs : List Bound) (slope curPos curCost : Int) (passed : List Bound),
    ScanInv b e width U bs slope curPos curCost →
    scanC width tgt lim climit bs slope curPos curCost passed =
        .ok (scan width tgt lim climit bs slope curPos curCost passed) ∧
      ScanInv b e width U (scan width tgt lim climit bs slope curPos curCost passed).rest
        (scan width tgt lim climit bs slope curPos curCost passed).slope
        (scan width tgt lim climit bs slope curPos curCost passed).curPos
        (scan width tgt lim climit bs slope curPos curCost passed).curCost
  | [], _, _, _, _, h => ⟨rfl, h⟩
  | t :: rest, slope, curPos, curCost, passed, h => by
    by_cases hc : ((decide (slope < 0) && decide (t.absPos > tgt)) || decide (t.absPos > lim)) = true
    · obtain ⟨hstep, h'⟩ := scanStepC_ok hbM heM hw hw2 hU hcl h
      rw [scanC, if_pos hc, hstep, scan, if_pos hc]
      exact scanC_ok tgt lim rest _ _ _ _ h'
    · rw [scanC, if_neg hc, scan, if_neg hc]
      exact ⟨rfl, h⟩

end

/-- every pushed cell was placed inside `[b, e - (its cumulated width)]` -/
def CposOk (b e : Int) : List Int → List Int → Prop
  | c :: cs, w :: ws => b ≤ c ∧ c + (w + ws.sum) ≤ e ∧ CposOk b e cs ws
  | _, _ => True

/-- number of cells per row segment covered by the theorems (2^15): with at most 2^16 bounds in
the queue and `|term| ≤ 2^46` the 64-bit accumulator stays below 2^62 + 2^46 + 2^47 -/
def maxCells : Nat := 32768

/-- the C07 domain of a row-legalizer state: ends within ±2^22, positive widths that fit, and the
facts that make the arithmetic fit (bounds inside the segment with non-negative weights whose sum is
at most the used width, at most two bounds per cell) -/
structure Dom (s : State) : Prop where
  hb : -M22 ≤ s.b
  he : s.e ≤ M22
  wpos : ∀ w ∈ s.widthsRev, 0 < w
  fit : s.used ≤ s.e - s.b
  ncells : s.widthsRev.length ≤ maxCells
  blen : s.bounds.length ≤ 2 * s.widthsRev.length
  bok : ∀ x ∈ s.bounds, BoundOk s.b s.e x
  bsum : wsum s.bounds ≤ s.used
  cpos : CposOk s.b s.e s.cposRev s.widthsRev

theorem Dom.used_nonneg {s : State} (hd : Dom s) : 0 ≤ s.used :=
  ListFacts.sum_nonneg_int _ fun w hw => Int.le_of_lt (hd.wpos w hw)

theorem dom_new (b e : Int) (hb : -M22 ≤ b) (he : e ≤ M22) (hbe : b ≤ e) : Dom (State.new b e) where
  hb := hb
  he := he
  wpos := fun _ h => nomatch h
  fit := Int.sub_nonneg_of_le hbe
  ncells := Nat.zero_le _
  blen := Nat.le_refl 0
  bok := fun _ h => nomatch h
  bsum := Int.le_refl 0
  cpos := trivial

def scanOf (s : State) (w t : Int) : Scan := (displacement s w t).scan

def finOf (s : State) (w t : Int) : Int := (displacement s w t).finalAbsPos

def cost1Of (s : State) (w t : Int) : Int :=
  (scanOf s w t).curCost + (min (scanOf s w t).curPos (s.e - s.used) - finOf s w t) * ((scanOf s w t).slope + w)

theorem displacement_eq (s : State) (w t : Int) :
    displacement s w t =
      ⟨cost1Of s w t + w * ((finOf s w t - (t - s.used)).natAbs : Int), finOf s w t, scanOf s w t⟩ := rfl

/-- Everything the later steps need to know about the state after the loop: the loop does not
fault and leaves its invariant (with `U = s.used`: the popped weight is at most the used width);
the operands of the 32-bit operations lie in literal ranges (`…R`), so that the last term of the cost
is within `T46`, and the accumulator within `A62 + T46`. -/
structure CoreFacts (s : State) (w t : Int) : Prop where
  usedR : 0 ≤ s.used ∧ s.used ≤ 2 * M22
  wR : 0 ≤ w ∧ w ≤ 2 * M22
  clR : -M22 ≤ s.e - s.used ∧ s.e - s.used ≤ M22
  limR : -M22 ≤ s.e - s.used - w ∧ s.e - s.used - w ≤ M22
  scanOk : scanC w (t - s.used) (s.e - s.used - w) (s.e - s.used) s.bounds (-w) s.e 0 [] = .ok (scanOf s w t)
  inv : ScanInv s.b s.e w s.used (scanOf s w t).rest (scanOf s w t).slope (scanOf s w t).curPos
    (scanOf s w t).curCost
  swR : 0 ≤ (scanOf s w t).slope + w ∧ (scanOf s w t).slope + w ≤ 2 * M22
  mR : -M22 ≤ min (scanOf s w t).curPos (s.e - s.used) ∧ min (scanOf s w t).curPos (s.e - s.used) ≤ M22
  finLo : s.b ≤ finOf s w t
  finHi : finOf s w t ≤ s.e - s.used - w
  finR : -M22 ≤ finOf s w t ∧ finOf s w t ≤ M22
  c1R : -(A62 + T46) ≤ cost1Of s w t ∧ cost1Of s w t ≤ A62 + T46

theorem core_facts {s : State} (hd : Dom s) {w t : Int} (hw : 0 < w) (hfit : w ≤ s.remaining) :
    CoreFacts s w t := by
  have hu := hd.used_nonneg
  have hfit' : w ≤ s.e - s.b - s.used := hfit
  have hb := hd.hb
  have he := hd.he
  have hw0 := Int.le_of_lt hw
  have hcl : s.b ≤ s.e - s.used := by omega
  have hlim : s.b ≤ s.e - s.used - w := by omega
  have usedR : 0 ≤ s.used ∧ s.used ≤ 2 * M22 :=
    between_mono ⟨hu, Int.le_trans hd.fit (Int.sub_le_sub he hb)⟩
  have wR : 0 ≤ w ∧ w ≤ 2 * M22 := by omega
  have clR : -M22 ≤ s.e - s.used ∧ s.e - s.used ≤ M22 :=
    ⟨Int.le_trans hb hcl, Int.le_trans (Int.sub_le_self _ hu) he⟩
  have limR : -M22 ≤ s.e - s.used - w ∧ s.e - s.used - w ≤ M22 :=
    ⟨Int.le_trans hb hlim, Int.le_trans (Int.sub_le_self _ hw0) clR.2⟩
  have hlen : (s.bounds.length : Int) ≤ 65536 := by
    have h1 := hd.blen
    have h2 := hd.ncells
    simp only [maxCells] at h2
    omega
  have hbs := hd.bsum
  obtain ⟨hok, hp⟩ := scanC_ok hb he hw0 wR.2 usedR.2 hcl (t - s.used) (s.e - s.used - w) s.bounds (-w) s.e 0 []
    ⟨hd.bok, by omega, by omega, by omega⟩
  change _ = Except.ok (scanOf s w t) at hok
  change ScanInv _ _ _ _ (scanOf s w t).rest (scanOf s w t).slope (scanOf s w t).curPos (scanOf s w t).curCost at hp
  have hsl := hp.slopeR
  have hrl := wsum_nonneg _ fun x hx => (hp.bok x hx).2.2
  have swR : 0 ≤ (scanOf s w t).slope + w ∧ (scanOf s w t).slope + w ≤ 2 * M22 := by omega
  have hfin : s.b ≤ finOf s w t ∧ finOf s w t ≤ s.e - s.used - w := fin_bounds s w t hfit
  have finR : -M22 ≤ finOf s w t ∧ finOf s w t ≤ M22 :=
    ⟨Int.le_trans hb hfin.1, Int.le_trans hfin.2 limR.2⟩
  have mR := min_in22 hb he hp.posR.1 hp.posR.2 hcl
  have hterm := mul_between (A := 2 * M22) (between_mono (sub_between mR finR)) swR
  have hn : (0 : Int) ≤ ((scanOf s w t).rest.length : Int) := Int.natCast_nonneg _
  have hc1 : -(A62 + T46) ≤ cost1Of s w t ∧ cost1Of s w t ≤ A62 + T46 := by
    have := hp.costR
    unfold cost1Of
    omega
  exact ⟨usedR, wR, clR, limR, hok, hp, swR, mR, hfin.1, hfin.2, finR, hc1⟩

section
variable {s : State} {w t : Int} (hf : CoreFacts s w t) (ht1 : -M22 ≤ t) (ht2 : t ≤ M22)
include hf ht1 ht2

theorem coreC_eq (asr : Bool) :
    coreC asr s w t = .ok ⟨t - s.used, finOf s w t, cost1Of s w t, scanOf s w t⟩ := by
  have hfin : min (s.e - s.used - w) (max s.b (if (scanOf s w t).slope ≥ 0 then (scanOf s w t).curPos else t - s.used))
      = finOf s w t := rfl
  have hc1 := hf.c1R
  unfold cost1Of at hc1 ⊢
  simp only [coreC, subI32, negI32, addI32, mulI64, addI64,
    chk32_between (sub_between ⟨ht1, ht2⟩ hf.usedR), chk32_between (neg_between hf.wR), chk32_between hf.clR,
    chk32_between hf.limR, hf.scanOk, assertC_true _ _ (decide_eq_true hf.inv.posR.1), hfin,
    chk32_between (sub_between hf.mR hf.finR), chk32_between hf.swR,
    chk64_between (mul_between (A := 2 * M22) (between_mono (sub_between hf.mR hf.finR)) hf.swR), chk64_between hc1,
    assertC_true _ _ (decide_eq_true hf.finLo), assertC_true _ _ (decide_eq_true hf.finHi),
    bind, Except.bind, pure, Except.pure]

theorem dist_ranges :
    (-(4 * M22) ≤ finOf s w t - (t - s.used) ∧ finOf s w t - (t - s.used) ≤ 4 * M22) ∧
    (0 ≤ w * ((finOf s w t - (t - s.used)).natAbs : Int) ∧
      w * ((finOf s w t - (t - s.used)).natAbs : Int) ≤ 2 * M22 * (4 * M22)) := by
  have hd : -(4 * M22) ≤ finOf s w t - (t - s.used) ∧ finOf s w t - (t - s.used) ≤ 4 * M22 :=
    between_mono (sub_between hf.finR (sub_between ⟨ht1, ht2⟩ hf.usedR))
  exact ⟨hd, mul_between_nonneg hf.wR (natAbs_between hd)⟩

theorem retC_eq :
    retC w ⟨t - s.used, finOf s w t, cost1Of s w t, scanOf s w t⟩ = .ok (displacement s w t).cost := by
  obtain ⟨hdist, hq⟩ := dist_ranges hf ht1 ht2
  simp only [retC, checked, chk32_between hdist, chk32_between (natAbs_between hdist), chk64_between hq,
    chk64_between (add_between hf.c1R hq), displacement_eq]

end

theorem getCostC_eq (asr : Bool) {s : State} (hd : Dom s) {w t : Int} (hw : 0 < w) (hfit : w ≤ s.remaining)
    (ht1 : -M22 ≤ t) (ht2 : t ≤ M22) : getCostC asr s w t = .ok (getCost s w t) := by
  have hf := core_facts (t := t) hd hw hfit
  simp only [getCostC, coreC_eq hf ht1 ht2 asr, retC_eq hf ht1 ht2, checked, getCost, displacement_eq]

theorem pushC_eq (asr : Bool) {s : State} (hd : Dom s) {w t : Int} (hw : 0 < w) (hfit : w ≤ s.remaining)
    (ht1 : -M22 ≤ t) (ht2 : t ≤ M22) : pushC asr s w t = .ok (push s w t) := by
  have hf := core_facts (t := t) hd hw hfit
  have hw2 : 0 ≤ 2 * w ∧ 2 * w ≤ 2 * (2 * M22) := mul_between_nonneg ⟨by decide, Int.le_refl 2⟩ hf.wR
  have hms : -(2 * M22) ≤ min (scanOf s w t).slope 0 ∧ min (scanOf s w t).slope 0 ≤ 0 :=
    ⟨Int.le_min.mpr ⟨Int.le_trans (Int.neg_le_neg hf.wR.2) hf.inv.slopeR.1, by decide⟩, Int.min_le_right _ _⟩
  simp only [pushC, coreC_eq hf ht1 ht2 asr, retC_eq hf ht1 ht2, newBoundC, checked,
    chk32_between (add_between hf.wR hf.usedR), chk32_between hw2, chk32_between (add_between hw2 hms),
    ← apply_ite Except.ok, push, displacement_eq]
  split <;> rfl

theorem push_state (s : State) (w t : Int) :
    (push s w t).2 =
      { s with
        cposRev := finOf s w t :: s.cposRev
        widthsRev := w :: s.widthsRev
        bounds := pushQueue (scanOf s w t).rest s.b w (t - s.used) (finOf s w t)
          (scanOf s w t).slope (scanOf s w t).curPos } := rfl

theorem scanOf_split (s : State) (w t : Int) : (scanOf s w t).passed ++ (scanOf s w t).rest = s.bounds :=
  scan_split ..

theorem push_dom {s : State} (hd : Dom s) {w t : Int} (hw : 0 < w) (hfit : w ≤ s.remaining)
    (hn : s.widthsRev.length < maxCells) : Dom (push s w t).2 := by
  have hf := core_facts (t := t) hd hw hfit
  have hu := hf.usedR.1
  have hfit' : w ≤ s.e - s.b - s.used := hfit
  have hsl := hf.inv.slopeR
  have hfl := hf.finLo
  have hfh := hf.finHi
  have hused : (w :: s.widthsRev).sum = w + s.used := List.sum_cons
  rw [push_state]
  refine ⟨hd.hb, hd.he, List.forall_mem_cons.mpr ⟨hw, hd.wpos⟩, ?_, ?_, ?_, ?_, ?_, ⟨hfl, ?_, hd.cpos⟩⟩
  · show (w :: s.widthsRev).sum ≤ s.e - s.b
    omega
  · show (w :: s.widthsRev).length ≤ maxCells
    exact hn
  · have h1 := length_pushQueue_le (scanOf s w t).rest s.b w (t - s.used) (finOf s w t)
      (scanOf s w t).slope (scanOf s w t).curPos
    have h2 : (scanOf s w t).rest.length ≤ s.bounds.length := by
      rw [← scanOf_split s w t, List.length_append]; omega
    have h3 := hd.blen
    show (pushQueue _ _ _ _ _ _ _).length ≤ 2 * (w :: s.widthsRev).length
    rw [List.length_cons]
    omega
  · intro x hx
    rcases mem_pushQueue.mp hx with ⟨ht, rfl⟩ | ⟨hs, rfl⟩ | hx
    · exact ⟨by show s.b ≤ min _ _; omega, by show min _ _ ≤ s.e; omega, by show 0 ≤ 2 * w + min _ 0; omega⟩
    · exact ⟨hf.inv.posR.1, hf.inv.posR.2, Int.le_of_lt hs⟩
    · exact hf.inv.bok x hx
  · have h1 := wsum_pushQueue_le (scanOf s w t).rest s.b w (t - s.used) (finOf s w t)
      (scanOf s w t).slope (scanOf s w t).curPos (by omega)
    show wsum (pushQueue _ _ _ _ _ _ _) ≤ (w :: s.widthsRev).sum
    omega
  · show finOf s w t + (w + s.widthsRev.sum) ≤ s.e
    have : s.widthsRev.sum = s.used := rfl
    omega

theorem getCost_dom {s : State} (hd : Dom s) (w t : Int) : Dom (getCost s w t).2 := by
  have hp : ((scanOf s w t).passed.foldl (fun q x => pqInsert x q) (scanOf s w t).rest).Perm s.bounds :=
    scanOf_split s w t ▸ foldl_insert_perm _ _
  exact ⟨hd.hb, hd.he, hd.wpos, hd.fit, hd.ncells, hp.length_eq ▸ hd.blen, fun x hx => hd.bok x (hp.mem_iff.mp hx),
    wsum_perm hp ▸ hd.bsum, hd.cpos⟩

theorem getCost_same_cells (s : State) (w t : Int) :
    (getCost s w t).2.widthsRev = s.widthsRev ∧ (getCost s w t).2.cposRev = s.cposRev ∧
      (getCost s w t).2.b = s.b ∧ (getCost s w t).2.e = s.e := ⟨rfl, rfl, rfl, rfl⟩

theorem cposOk_runMin (b e : Int) : ∀ (cs ws : List Int) (o : Option Int), (∀ m, o = some m → b ≤ m) →
    CposOk b e cs ws → CposOk b e (runMin o cs) ws
  | [], _, o, _, _ => by cases o <;> simp [runMin, CposOk]
  | c :: cs, [], o, _, _ => by cases o <;> simp [runMin, CposOk]
  | c :: cs, w :: ws, none, _, hc => by
    simp only [CposOk] at hc
    simp only [runMin, CposOk]
    exact ⟨hc.1, hc.2.1, cposOk_runMin b e cs ws (some c) (by intro m hm; cases hm; exact hc.1) hc.2.2⟩
  | c :: cs, w :: ws, some m, ho, hc => by
    have hm := ho m rfl
    simp only [CposOk] at hc
    simp only [runMin, CposOk]
    exact ⟨by omega, by omega,
      cposOk_runMin b e cs ws (some (min m c)) (by intro m' hm'; cases hm'; omega) hc.2.2⟩

theorem placeRevC_eq (asr : Bool) (b e : Int) (hb : -M22 ≤ b) (he : e ≤ M22) :
    ∀ (ms ws : List Int), CposOk b e ms ws → (∀ w ∈ ws, 0 < w) →
      placeRevC asr b e ms ws = .ok (List.zipWith (· + ·) ms (cumRev ws))
  | [], ws, _, _ => by cases ws <;> rfl
  | _ :: _, [], _, _ => rfl
  | m :: ms, w :: ws, hc, hw => by
    simp only [CposOk] at hc
    obtain ⟨hc1, hc2, hc3⟩ := hc
    have hwpos : 0 < w := hw w (List.mem_cons_self ..)
    have hws : ∀ x ∈ ws, 0 < x := fun x hx => hw x (List.mem_cons_of_mem _ hx)
    have hsum : 0 ≤ ws.sum := ListFacts.sum_nonneg_int ws fun x hx => Int.le_of_lt (hws x hx)
    have r1 : -M22 ≤ m + ws.sum ∧ m + ws.sum ≤ M22 := by omega
    have ih := placeRevC_eq asr b e hb he ms ws hc3 hws
    cases asr
    · simp only [placeRevC, checked, chk32_between r1, ih, cumRev, List.zipWith_cons_cons, Bool.false_eq_true,
        if_false]
    · have r2 : -M22 ≤ m + (w + ws.sum) ∧ m + (w + ws.sum) ≤ M22 := by omega
      simp only [placeRevC, checked, chk32_between r1, chk32_between r2, assertC_of _ _ hc1,
        assertC_of _ _ hc2, ih, cumRev, List.zipWith_cons_cons, if_true]

theorem placementC_eq (asr : Bool) {s : State} (hd : Dom s) : placementC asr s = .ok (placement s) := by
  have h := placeRevC_eq asr s.b s.e hd.hb hd.he (runMin none s.cposRev) s.widthsRev
    (cposOk_runMin s.b s.e s.cposRev s.widthsRev none (by intro m hm; cases hm) hd.cpos) hd.wpos
  simp only [placementC, h, checked, placement, placementRev]

end ColoVerif.RowLeg
