import ColoVerif.Proofs.NetAsmScale
import Mathlib.Tactic.Ring
/-
The documented quadratics `QModel`, `penQ` are linear in the net weights and
penalty strengths (each net's term carries its own weight as a factor).
-/
namespace ColoVerif.NetAsm

theorem sumIdx_mul (k : Rat) (f g : Nat → Pin → Rat) (h : ∀ i p, g i p = k * f i p) (ps : List Pin) :
    ∀ i, sumIdx g i ps = k * sumIdx f i ps := by
  induction ps with
  | nil => intro i; simp [sumIdx]
  | cons p ps ih => intro i; simp only [sumIdx, h, ih]; ring

theorem bipointQ_scale (k : Rat) (x : Nat → Rat) (w : Rat) (pins : List Pin) :
    bipointQ x (k * w) pins = k * bipointQ x w pins := by
  rcases pins with _ | ⟨p0, _ | ⟨p1, rest⟩⟩
  · simp [bipointQ]
  · simp [bipointQ]
  · simp only [bipointQ]; ring

theorem starQ_scale (k : Rat) (x : Nat → Rat) (w : Rat) (sv : Nat) (pins : List Pin) :
    starQ x (k * w) sv pins = k * starQ x w sv pins := by
  induction pins with
  | nil => simp [starQ]
  | cons p ps ih => simp only [starQ, ih]; ring

theorem netQ0_scale (k : Rat) (x : Nat → Rat) (sv : Nat) (n : Net) :
    netQ0 x sv (n.scale k) = k * netQ0 x sv n := by
  unfold netQ0
  rw [netScale_pins, netScale_weight]
  split
  · exact bipointQ_scale ..
  · rw [mul_div_assoc]; exact starQ_scale ..

theorem bipTerm_scale (k : Rat) (pl : List Rat) (ε : Rat) (x : Nat → Rat) (n : Net) :
    bipTerm pl ε x (n.scale k) = k * bipTerm pl ε x n := by
  unfold bipTerm
  rw [netScale_pins, netScale_weight]
  split
  · rw [mul_div_assoc]; exact bipointQ_scale ..
  · exact (mul_zero k).symm

theorem cliqueInnerQ_scale (k : Rat) (pl : List Rat) (ε w : Rat) (x : Nat → Rat) (pi : Pin) (ps : List Pin) :
    cliqueInnerQ pl ε (k * w) x pi ps = k * cliqueInnerQ pl ε w x pi ps := by
  induction ps with
  | nil => simp [cliqueInnerQ]
  | cons q qs ih => simp only [cliqueInnerQ, ih, mul_div_assoc]; ring

theorem cliqueGoQ_scale (k : Rat) (pl : List Rat) (ε w : Rat) (x : Nat → Rat) (ps : List Pin) :
    cliqueGoQ pl ε (k * w) x ps = k * cliqueGoQ pl ε w x ps := by
  induction ps with
  | nil => simp [cliqueGoQ]
  | cons q qs ih => simp only [cliqueGoQ, ih, cliqueInnerQ_scale]; ring

theorem cliqueQ_scale (k : Rat) (pl : List Rat) (ε : Rat) (x : Nat → Rat) (n : Net) :
    cliqueQ pl ε x (n.scale k) = k * cliqueQ pl ε x n := by
  unfold cliqueQ
  rw [cliqueW_scale, netScale_pins]
  exact cliqueGoQ_scale ..

theorem b2bTermQ_scale (k : Rat) (pl : List Rat) (ε w : Rat) (mn mx : Ext) (x : Nat → Rat) (i : Nat) (p : Pin) :
    b2bTermQ pl ε (k * w) mn mx x i p = k * b2bTermQ pl ε w mn mx x i p := by
  unfold b2bTermQ
  by_cases h1 : i = mn.i
  · simp [h1]
  · by_cases h2 : i = mx.i
    · rw [if_neg h1, if_neg h1, if_pos h2, if_pos h2, mul_div_assoc]; ring
    · rw [if_neg h1, if_neg h1, if_neg h2, if_neg h2, mul_div_assoc, mul_div_assoc]; ring

theorem b2bQ_scale (k : Rat) (pl : List Rat) (ε : Rat) (x : Nat → Rat) (n : Net) :
    b2bQ pl ε x (n.scale k) = k * b2bQ pl ε x n := by
  unfold b2bQ
  rw [b2bW_scale, netScale_pins]
  exact sumIdx_mul k _ _ (fun i p => b2bTermQ_scale ..) _ _

theorem starTermQ_scale (k : Rat) (pl : List Rat) (ε wt : Rat) (mn mx : Ext) (sc : Nat) (x : Nat → Rat)
    (i : Nat) (p : Pin) :
    starTermQ pl ε (k * wt) mn mx sc x i p = k * starTermQ pl ε wt mn mx sc x i p := by
  unfold starTermQ
  split <;> rw [mul_div_assoc, mul_assoc]

theorem lightStarTermQ_scale (k : Rat) (pl : List Rat) (ε wt wb : Rat) (mn mx : Ext) (sc : Nat) (x : Nat → Rat)
    (i : Nat) (p : Pin) :
    lightStarTermQ pl ε (k * wt) (k * wb) mn mx sc x i p = k * lightStarTermQ pl ε wt wb mn mx sc x i p := by
  unfold lightStarTermQ
  split
  · rw [mul_div_assoc, mul_assoc]
  · rw [mul_div_assoc, mul_div_assoc, ← mul_add, mul_assoc]

theorem starNetQ_scale (k : Rat) (pl : List Rat) (ε : Rat) (x : Nat → Rat) (sv : Nat) (n : Net) :
    starNetQ pl ε x sv (n.scale k) = k * starNetQ pl ε x sv n := by
  unfold starNetQ
  rw [bipTerm_scale, netScale_pins, netScale_weight]
  split
  · rfl
  · exact sumIdx_mul k _ _ (fun i p => starTermQ_scale ..) _ _

theorem lightStarNetQ_scale (k : Rat) (pl : List Rat) (ε : Rat) (x : Nat → Rat) (sv : Nat) (n : Net) :
    lightStarNetQ pl ε x sv (n.scale k) = k * lightStarNetQ pl ε x sv n := by
  unfold lightStarNetQ
  rw [bipTerm_scale, b2bW_scale, netScale_pins, netScale_weight]
  split
  · rfl
  · exact sumIdx_mul k _ _ (fun i p => lightStarTermQ_scale ..) _ _

theorem netQ_scale (k : Rat) (m : Mode) (pl : List Rat) (ε : Rat) (x : Nat → Rat) (sv : Nat) (n : Net) :
    netQ m pl ε x sv (n.scale k) = k * netQ m pl ε x sv n := by
  cases m with
  | star0 => exact netQ0_scale ..
  | b2b => exact b2bQ_scale ..
  | star => exact starNetQ_scale ..
  | clique => exact cliqueQ_scale ..
  | lightStar => exact lightStarNetQ_scale ..

theorem usesAux_scale (k : Rat) (m : Mode) (n : Net) : usesAux m (n.scale k) = usesAux m n := by
  cases m <;> rfl

theorem QModel_scale (k : Rat) (m : Mode) (pl : List Rat) (ε : Rat) (x : Nat → Rat) (nets : List Net) :
    ∀ sv, QModel m pl ε x sv (nets.map (Net.scale k)) = k * QModel m pl ε x sv nets := by
  induction nets with
  | nil => intro sv; simp [QModel]
  | cons n ns ih =>
    intro sv
    simp only [List.map_cons, QModel, netQ_scale, usesAux_scale, ih]
    ring

theorem penSum_scale (k : Rat) (pl : List Rat) (pen : Penalty) (x : Nat → Rat) (n : Nat) :
    penSum pl (pen.scale k) x n = k * penSum pl pen x n := by
  induction n with
  | zero => simp [penSum]
  | succ j ih =>
    simp only [penSum, ih]
    simp only [Penalty.scale, getD_scale, mul_div_assoc]
    ring

theorem penQ_scale (k : Rat) (pl : List Rat) (pen : Option Penalty) (nb : Nat) (x : Nat → Rat) :
    penQ pl (pen.map (Penalty.scale k)) nb x = k * penQ pl pen nb x := by
  cases pen with
  | none => simp [penQ]
  | some p => simp only [Option.map_some, penQ]; exact penSum_scale ..

end ColoVerif.NetAsm
