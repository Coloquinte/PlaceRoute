import ColoVerif.Proofs.LegalizeRowHigh
import ColoVerif.Proofs.LegalizeLegalCircuit
/-
C11 at circuit level: `legalizeWith` returns a legal single-row circuit unchanged, for the domain and the legality
of `Proofs/LegalizeLegalCircuit` in the form the property's quantifier spells out (`DomC`, `LegalC`).
-/
namespace ColoVerif.Legalize
open ColoVerif

/-- C11's restriction: every movable cell is exactly one row high -/
def SingleRow (c : Circuit) : Prop :=
  ∀ cl ∈ c.cells, cl.fixed = false → Circuit.rowHeight c = some cl.placedHeight

/-- what "legal" has to say about orientations for them to be kept: every movable cell has a valid
orientation (anything but INVALID), and in the free segment it sits in, the orientation its polarity
prescribes there — if it prescribes one: `cellOrientationInRow` answers UNKNOWN for polarity ANY —
is the one the cell has -/
def OrientLegal (c : Circuit) : Prop :=
  ∀ cl ∈ c.cells, cl.fixed = false → cl.orient ≠ Orient.INVALID ∧
    ∀ r ∈ c.computeRows, r.rect.minY = cl.y → r.rect.minX ≤ cl.x → cl.x + cl.placedWidth ≤ r.rect.maxX →
      cellOrientationInRow cl.pol r.orient = Orient.UNKNOWN ∨ cellOrientationInRow cl.pol r.orient = cl.orient

theorem mem_movable {c lc} : lc ∈ movable c ↔
    ∃ cl, (cl ∈ c.cells ∧ cl.fixed = false) ∧
      ⟨cl.placedWidth, cl.placedHeight, cl.pol, cl.x, cl.y, cl.orient⟩ = lc := by
  simp [movable]

theorem legalizeWith_of_run {rnd p c b} (hp : p.check = true) (h : run rnd p (fromCircuit c) = .ok b) :
    legalizeWith rnd p c = .ok (exportPlacement b c) := by
  unfold legalizeWith
  rw [hp, h]
  rfl

/-- a free segment inherits the height of its row (`Circuit.computeRows_seg`) -/
theorem computeRows_good (c : Circuit) (H : Int) (hH : Circuit.rowHeight c = some H)
    (hx : ∀ r ∈ c.rows, r.rect.minX < r.rect.maxX) : ∀ s ∈ c.computeRows, GoodSeg H s := by
  intro s hs
  obtain ⟨r, hr, ⟨_, h1, _⟩, e1, e2, _, h2⟩ := c.computeRows_seg [] (fun r hr => Int.le_of_lt (hx r hr)) s hs
  refine ⟨h1, by rw [e1, e2]; exact h2, ?_⟩
  show s.rect.maxY - s.rect.minY = H
  rw [e1, e2, (Circuit.rowHeight_some hH).2 r hr, Int.add_comm, Int.add_sub_cancel]

theorem computeRows_disj (c : Circuit) (H : Int) (hpos : 0 < H) (hH : Circuit.rowHeight c = some H)
    (hx : ∀ r ∈ c.rows, r.rect.minX < r.rect.maxX)
    (hd : c.rows.Pairwise (fun r s => r.rect.intersects s.rect = false)) :
    c.computeRows.Pairwise RowsDisj := by
  have hx' := fun r hr => Int.le_of_lt (hx r hr)
  have height : ∀ s ∈ c.computeRows, s.rect.maxY = s.rect.minY + H := fun s hs => by
    obtain ⟨r, hr, _, e1, e2, _⟩ := c.computeRows_seg [] hx' s hs
    rw [e1, e2]; exact (Circuit.rowHeight_some hH).2 r hr
  exact (c.computeRows_disjoint [] hd hx').imp_of_mem fun {a b} ha hb hab hy =>
    level_apart_x hpos (height a ha) (height b hb) hy hab

/-- C11 for any rounding of the ordering key that keeps the left-to-right order of the cells of each free
segment of `computeRows`.  `DomC`, `LegalC` and `OrientLegal` turn into the hypotheses of `run_fixed` on
`movable c`; `exportCells_final` writes the unchanged statuses back. -/
theorem legalizeWith_fixed_seg (rnd : Rat → Rat) (p : Params) (c : Circuit) (hp : p.check = true)
    (hd : DomC c) (hs : SingleRow c) (hl : LegalC c) (ho : OrientLegal c)
    (hk : KeyOrderSeg rnd p c.computeRows (movable c)) :
    legalizeWith rnd p c = .ok c := by
  obtain ⟨⟨H, hpos, hH, hcl⟩, hdis, hx, _⟩ := hd
  have hgood := computeRows_good c H hH hx
  have hdisj := computeRows_disj c H hpos hH hx hdis
  have hph : ∀ cl ∈ c.cells, cl.fixed = false → cl.placedHeight = H := by
    intro cl hcl' hf
    have := hs cl hcl' hf
    rw [hH] at this
    exact (Option.some.inj this).symm
  have hcells : ∀ lc ∈ movable c, CellInPlace c.computeRows H lc := by
    intro lc hlc
    obtain ⟨cl, ⟨hmem, hf'⟩, rfl⟩ := mem_movable.mp hlc
    have hh := hph cl hmem hf'
    obtain ⟨r, hr, r1, r2, r3⟩ := hl.1 H hH cl hmem hf' 0 (Int.le_refl _) (by omega)
    have r1' : r.rect.minY = cl.y := by omega
    refine ⟨hh, (hcl cl hmem hf').1, (ho cl hmem hf').1, r, hr, r1', r2, r3, ?_⟩
    exact (ho cl hmem hf').2 r hr r1' r2 r3
  have hnoov : (movable c).Pairwise NoOverlap := by
    unfold movable
    rw [List.pairwise_map]
    refine hl.2.imp_of_mem fun {a b} ha hb hab hy => ?_
    obtain ⟨ma, fa⟩ := List.mem_filter.mp ha
    obtain ⟨mb, fb⟩ := List.mem_filter.mp hb
    exact level_apart_x hpos (congrArg (a.y + ·) (hph a ma (by simpa using fa)))
      (congrArg (b.y + ·) (hph b mb (by simpa using fb))) hy hab
  rw [legalizeWith_of_run hp (run_fixed rnd p c.computeRows H (movable c) hgood hdisj hcells hnoov hk)]
  simp only [exportPlacement, movable]
  rw [exportCells_final]

theorem legalizeWith_fixed (rnd : Rat → Rat) (p : Params) (c : Circuit) (hp : p.check = true)
    (hd : DomC c) (hs : SingleRow c) (hl : LegalC c) (ho : OrientLegal c) (hk : KeyOrder rnd p (movable c)) :
    legalizeWith rnd p c = .ok c :=
  legalizeWith_fixed_seg rnd p c hp hd hs hl ho (hk.toSeg _)

end ColoVerif.Legalize
