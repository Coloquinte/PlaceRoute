import ColoVerif.Proofs.GridDefs
import ColoVerif.Proofs.ListFacts
import ColoVerif.Proofs.Overlap1d
/-
The limits of `DensityGrid(binSize, regions)` tile the placement area, the least box that encloses the regions
(`Rect.Encloses`), and the bin capacities add up to the total area of the regions.  The overlap of a region with a
bin is the product of two 1-D overlaps `ov1`; `ov1` is additive when an interval is cut (`ov1_add`), so its sum
over the consecutive limits telescopes (`seg_sum`), and the double sum over the bins is the product of the two
1-D sums (`sum_mul_sum`).  Core Lean only.
-/
namespace ColoVerif.Grid
open ColoVerif.ListFacts

theorem subdivAt_zero (mn mx : Int) (n : Nat) : subdivAt mn mx n 0 = mn := by
  simp [subdivAt]

theorem subdivAt_last (mn mx : Int) (n : Nat) (hn : 1 ≤ n) : subdivAt mn mx n n = mx := by
  unfold subdivAt
  have h0 : (n : Int) ≠ 0 := by omega
  rw [Int.mul_tdiv_cancel_left _ h0]
  omega

theorem subdivAt_mono (mn mx : Int) (n : Nat) (hn : 1 ≤ n) (h : mn ≤ mx) (i j : Nat) (hij : i ≤ j) :
    subdivAt mn mx n i ≤ subdivAt mn mx n j := by
  unfold subdivAt
  have hd : (0 : Int) ≤ mx - mn := by omega
  have hi : (0 : Int) ≤ (i : Int) * (mx - mn) := Int.mul_nonneg (by omega) hd
  have hj : (0 : Int) ≤ (j : Int) * (mx - mn) := Int.mul_nonneg (by omega) hd
  rw [Int.tdiv_eq_ediv_of_nonneg hi, Int.tdiv_eq_ediv_of_nonneg hj]
  have hle : (i : Int) * (mx - mn) ≤ (j : Int) * (mx - mn) :=
    Int.mul_le_mul_of_nonneg_right (by omega) hd
  have := Int.ediv_le_ediv (c := (n : Int)) (by omega) hle
  omega

theorem subdiv_bounds (mn mx : Int) (n : Nat) (hn : 1 ≤ n) (h : mn ≤ mx) :
    ∀ l ∈ computeSubdivisions mn mx n, mn ≤ l ∧ l ≤ mx := by
  intro l hl
  obtain ⟨i, hi, rfl⟩ := List.mem_map.mp hl
  have h0 := subdivAt_mono mn mx n hn h 0 i (Nat.zero_le i)
  have h1 := subdivAt_mono mn mx n hn h i n (Nat.le_of_lt_succ (List.mem_range.mp hi))
  rw [subdivAt_zero] at h0
  rw [subdivAt_last mn mx n hn] at h1
  exact ⟨h0, h1⟩

theorem subdivisions_partition_lem (mn mx : Int) (n : Nat) (hn : 1 ≤ n) (h : mn ≤ mx) :
    (computeSubdivisions mn mx n).length = n + 1 ∧
    (computeSubdivisions mn mx n).head? = some mn ∧
    (computeSubdivisions mn mx n).getLast? = some mx ∧
    (computeSubdivisions mn mx n).Pairwise (· ≤ ·) := by
  unfold computeSubdivisions
  refine ⟨by simp, ?_, ?_, ?_⟩
  · simp [List.head?_range, subdivAt_zero]
  · simp [List.getLast?_map, List.getLast?_range, subdivAt_last mn mx n hn]
  · rw [List.pairwise_map]
    exact List.Pairwise.imp (fun {a b} hab => subdivAt_mono mn mx n hn h a b (Nat.le_of_lt hab))
      List.pairwise_lt_range

theorem overlap_eq_ov1 (r b : Rect) :
    overlap r b = ov1 r.minX r.maxX b.minX b.maxX * ov1 r.minY r.maxY b.minY b.maxY := rfl

/-- Stated with `ov1` unfolded: that is the form `region_sum_eq_area` gets after unfolding `overlap`. -/
theorem seg_sum (l : List Int) (hl : l.Pairwise (· ≤ ·)) (a b : Int) (hab : a ≤ b)
    (h1 : l.headD 0 ≤ a) (h2 : b ≤ l.getLastD 0) :
    ((List.range (l.length - 1)).map fun i =>
      max 0 (min b (l.getD (i + 1) 0) - max a (l.getD i 0))).sum = b - a := by
  cases l with
  | nil =>
    -- no limits: head and last read as `0`, so `b ≤ 0 ≤ a` and both sides vanish
    exact (Int.sub_eq_zero_of_eq (Int.le_antisymm (Int.le_trans h2 h1) hab)).symm
  | cons x t =>
    exact (range_sum_eq_pairSum 0 (ov1 a b) (x :: t)).trans
      ((pairSum_telescope Int.le_refl (fun _ _ _ => ov1_add a b) t x hl).trans (ov1_span h1 hab (List.getLastD_cons (a := (0 : Int)) ▸ h2)))

theorem interArea_eq_overlap (r b : Rect) (hr : RectValid r) (hb : RectValid b) :
    interArea r b = overlap r b := by
  rw [overlap_eq_ov1, interArea]
  split
  · rename_i h
    simp only [Rect.intersects, Bool.and_eq_true, decide_eq_true_eq] at h
    obtain ⟨⟨⟨h1, h2⟩, h3⟩, h4⟩ := h
    rw [ov1_of_meet hr.1 hb.1 h1 h2, ov1_of_meet hr.2 hb.2 h3 h4]
    rfl
  · rename_i h
    simp only [Rect.intersects, Bool.and_eq_true, decide_eq_true_eq, Decidable.not_and_iff_not_or_not, Int.not_lt] at h
    rcases h with ((h | h) | h) | h
    · rw [ov1_of_not_meet (Or.inl h), Int.zero_mul]
    · rw [ov1_of_not_meet (Or.inr h), Int.zero_mul]
    · rw [ov1_of_not_meet (Or.inl h), Int.mul_zero]
    · rw [ov1_of_not_meet (Or.inr h), Int.mul_zero]

theorem regionOf_valid (limX limY : List Int) (hX : limX.Pairwise (· ≤ ·)) (hY : limY.Pairwise (· ≤ ·)) (i j : Nat)
    (hi : i + 1 < limX.length) (hj : j + 1 < limY.length) : RectValid (regionOf limX limY i j) :=
  ⟨pairwise_getD hX 0 hi, pairwise_getD hY 0 hj⟩

theorem binCap_eq_overlap (limX limY : List Int) (regions : List Rect)
    (hX : limX.Pairwise (· ≤ ·)) (hY : limY.Pairwise (· ≤ ·))
    (hv : ∀ r ∈ regions, RectValid r) (i j : Nat) (hi : i + 1 < limX.length) (hj : j + 1 < limY.length) :
    binCapOf limX limY regions i j = (regions.map fun r => overlap r (regionOf limX limY i j)).sum := by
  unfold binCapOf
  congr 1
  apply List.map_congr_left
  intro r hr
  exact interArea_eq_overlap r _ (hv r hr) (regionOf_valid limX limY hX hY i j hi hj)

theorem overlap_nonneg (a b : Rect) : 0 ≤ overlap a b :=
  Int.mul_nonneg (Int.le_max_left 0 _) (Int.le_max_left 0 _)

theorem binCapOf_nonneg (limX limY : List Int) (regions : List Rect)
    (hX : limX.Pairwise (· ≤ ·)) (hY : limY.Pairwise (· ≤ ·))
    (hv : ∀ r ∈ regions, RectValid r) (i j : Nat) (hi : i + 1 < limX.length) (hj : j + 1 < limY.length) :
    0 ≤ binCapOf limX limY regions i j := by
  rw [binCap_eq_overlap limX limY regions hX hY hv i j hi hj]
  apply sum_nonneg_int
  intro v hv
  obtain ⟨r, _, rfl⟩ := List.mem_map.1 hv
  exact overlap_nonneg _ _

theorem region_sum_eq_area (limX limY : List Int) (hX : limX.Pairwise (· ≤ ·)) (hY : limY.Pairwise (· ≤ ·))
    (r : Rect) (hv : RectValid r) (hin : InsideLimits limX limY r) :
    ((List.range (limX.length - 1)).map fun i =>
      ((List.range (limY.length - 1)).map fun j => overlap r (regionOf limX limY i j)).sum).sum = r.area := by
  obtain ⟨a1, a2, a3, a4⟩ := hin
  have sx := seg_sum limX hX r.minX r.maxX hv.1 a1 a2
  have sy := seg_sum limY hY r.minY r.maxY hv.2 a3 a4
  simp only [overlap, regionOf]
  rw [sum_mul_sum (List.range (limX.length - 1)) (List.range (limY.length - 1))
    (fun i => max 0 (min r.maxX (limX.getD (i + 1) 0) - max r.minX (limX.getD i 0)))
    (fun j => max 0 (min r.maxY (limY.getD (j + 1) 0) - max r.minY (limY.getD j 0)))]
  rw [sx, sy]
  rfl

theorem capacities_total (limX limY : List Int) (regions : List Rect)
    (hX : limX.Pairwise (· ≤ ·)) (hY : limY.Pairwise (· ≤ ·))
    (hv : ∀ r ∈ regions, RectValid r) (hin : ∀ r ∈ regions, InsideLimits limX limY r) :
    ((capacities limX limY regions).map List.sum).sum = (regions.map Rect.area).sum := by
  have step1 : ((capacities limX limY regions).map List.sum).sum =
      ((List.range (limX.length - 1)).map fun i => ((List.range (limY.length - 1)).map fun j =>
        (regions.map fun r => overlap r (regionOf limX limY i j)).sum).sum).sum := by
    unfold capacities
    rw [List.map_map]
    congr 1
    apply List.map_congr_left
    intro i hi
    simp only [Function.comp_def]
    congr 1
    apply List.map_congr_left
    intro j hj
    rw [List.mem_range] at hi hj
    exact binCap_eq_overlap limX limY regions hX hY hv i j (by omega) (by omega)
  rw [step1, sum3_swap (fun r i j => overlap r (regionOf limX limY i j))]
  congr 1
  apply List.map_congr_left
  intro r hr
  exact region_sum_eq_area limX limY hX hY r (hv r hr) (hin r hr)

def CapShape (g : DGrid) : Prop :=
  g.cap.length = g.nbX ∧ ∀ i, i < g.nbX → (g.cap.getD i []).length = g.nbY

theorem capacities_shape (limX limY : List Int) (regions : List Rect) :
    CapShape ⟨limX, limY, capacities limX limY regions⟩ := by
  unfold capacities
  refine ⟨by simp [DGrid.nbX], fun i (hi : i < limX.length - 1) => ?_⟩
  simp [DGrid.nbY, List.getD_eq_getElem?_getD, List.getElem?_map, List.getElem?_range hi]

theorem capacities_entry (limX limY : List Int) (regions : List Rect) (i j : Nat) (hi : i < limX.length - 1)
    (hj : j < limY.length - 1) :
    (DGrid.mk limX limY (capacities limX limY regions)).binCapacity i j = binCapOf limX limY regions i j := by
  unfold DGrid.binCapacity capacities
  simp [List.getD_eq_getElem?_getD, List.getElem?_map, List.getElem?_range hi, List.getElem?_range hj]

theorem total_as_ranges (g : DGrid) (hs : CapShape g) :
    ((List.range g.nbX).map fun i => ((List.range g.nbY).map fun j => (g.cap.getD i []).getD j 0).sum).sum =
      g.totalCapacity := by
  unfold DGrid.totalCapacity
  rw [← range_map_getD ([] : List Int) List.sum g.cap, hs.1]
  congr 1
  apply List.map_congr_left
  intro i hi
  rw [← hs.2 i (List.mem_range.mp hi), range_map_getD_id]

theorem groupCapacity_whole (g : DGrid) (hs : CapShape g) : g.groupCapacity 0 g.nbX 0 g.nbY = g.totalCapacity := by
  rw [← total_as_ranges g hs]
  unfold DGrid.groupCapacity DGrid.binCapacity
  simp only [Nat.sub_zero, Nat.zero_add]

/-- `a` encloses `b` (no well-formedness asked of either) -/
def _root_.ColoVerif.Rect.Encloses (a b : Rect) : Prop :=
  a.minX ≤ b.minX ∧ b.maxX ≤ a.maxX ∧ a.minY ≤ b.minY ∧ b.maxY ≤ a.maxY

theorem _root_.ColoVerif.Rect.Encloses.trans {a b c : Rect} (h1 : a.Encloses b) (h2 : b.Encloses c) : a.Encloses c :=
  ⟨Int.le_trans h1.1 h2.1, Int.le_trans h2.2.1 h1.2.1, Int.le_trans h1.2.2.1 h2.2.2.1,
    Int.le_trans h2.2.2.2 h1.2.2.2⟩

theorem areaStep_encloses (a r : Rect) : (areaStep a r).Encloses a ∧ (areaStep a r).Encloses r :=
  ⟨⟨Int.min_le_right _ _, Int.le_max_right _ _, Int.min_le_right _ _, Int.le_max_right _ _⟩,
   ⟨Int.min_le_left _ _, Int.le_max_left _ _, Int.min_le_left _ _, Int.le_max_left _ _⟩⟩

theorem foldl_areaStep_encloses (regions : List Rect) : ∀ init : Rect,
    (regions.foldl areaStep init).Encloses init ∧ ∀ r ∈ regions, (regions.foldl areaStep init).Encloses r := by
  induction regions with
  | nil => exact fun init => ⟨⟨Int.le_refl _, Int.le_refl _, Int.le_refl _, Int.le_refl _⟩, fun _ h => nomatch h⟩
  | cons r rs ih =>
    intro init
    obtain ⟨h1, h2⟩ := ih (areaStep init r)
    refine ⟨h1.trans (areaStep_encloses init r).1, fun r' hr' => ?_⟩
    rcases List.mem_cons.mp hr' with rfl | hmem
    · exact h1.trans (areaStep_encloses init r').2
    · exact h2 r' hmem

theorem foldl_areaStep_least (b : Rect) (regions : List Rect) : ∀ init : Rect, b.Encloses init →
    (∀ r ∈ regions, b.Encloses r) → b.Encloses (regions.foldl areaStep init) := by
  induction regions with
  | nil => exact fun _ hi _ => hi
  | cons r rs ih =>
    intro init hi hr
    have h := hr r List.mem_cons_self
    exact ih (areaStep init r) ⟨Int.le_min.2 ⟨h.1, hi.1⟩, Int.max_le.2 ⟨h.2.1, hi.2.1⟩, Int.le_min.2 ⟨h.2.2.1, hi.2.2.1⟩,
      Int.max_le.2 ⟨h.2.2.2, hi.2.2.2⟩⟩ fun r' hr' => hr r' (List.mem_cons_of_mem _ hr')

theorem placementArea_bounds (regions : List Rect) (hv : ∀ r ∈ regions, RectValid r) :
    RectValid (computePlacementArea regions) ∧ ∀ r ∈ regions, (computePlacementArea regions).Encloses r := by
  cases regions with
  | nil => exact ⟨⟨Int.le_refl 0, Int.le_refl 0⟩, fun _ h => nomatch h⟩
  | cons r0 t =>
    simp only [computePlacementArea]
    obtain ⟨e0, hm⟩ := foldl_areaStep_encloses t r0
    obtain ⟨v1, v2⟩ := hv r0 List.mem_cons_self
    exact ⟨⟨Int.le_trans e0.1 (Int.le_trans v1 e0.2.1), Int.le_trans e0.2.2.1 (Int.le_trans v2 e0.2.2.2)⟩,
      List.forall_mem_cons.mpr ⟨e0, hm⟩⟩

theorem nbBinsFor_pos (e m : Int) : 1 ≤ nbBinsFor e m := by
  unfold nbBinsFor; omega

theorem insideLimits_of {limX limY : List Int} {x0 x1 y0 y1 : Int} (hx0 : limX.head? = some x0)
    (hx1 : limX.getLast? = some x1) (hy0 : limY.head? = some y0) (hy1 : limY.getLast? = some y1) {r : Rect}
    (h : x0 ≤ r.minX ∧ r.maxX ≤ x1 ∧ y0 ≤ r.minY ∧ r.maxY ≤ y1) : InsideLimits limX limY r := by
  unfold InsideLimits
  rw [List.headD_eq_head?_getD, List.getLastD_eq_getLast?, List.headD_eq_head?_getD, List.getLastD_eq_getLast?,
    hx0, hx1, hy0, hy1]
  exact h

theorem ofRegions_ok (binSize : Int) (regions : List Rect) (hv : ∀ r ∈ regions, RectValid r) :
    let g := DGrid.ofRegions binSize regions
    let a := computePlacementArea regions
    (∀ r ∈ regions, a.Encloses r) ∧
    g.limX.head? = some a.minX ∧ g.limX.getLast? = some a.maxX ∧ g.limX.Pairwise (· ≤ ·) ∧
    g.limY.head? = some a.minY ∧ g.limY.getLast? = some a.maxY ∧ g.limY.Pairwise (· ≤ ·) ∧
    g.totalCapacity = (regions.map Rect.area).sum := by
  intro g a
  obtain ⟨⟨va1, va2⟩, hb⟩ := placementArea_bounds regions hv
  obtain ⟨lx1, lx2, lx3, lx4⟩ :=
    subdivisions_partition_lem a.minX a.maxX (nbBinsFor a.width binSize) (nbBinsFor_pos _ _) va1
  obtain ⟨ly1, ly2, ly3, ly4⟩ :=
    subdivisions_partition_lem a.minY a.maxY (nbBinsFor a.height binSize) (nbBinsFor_pos _ _) va2
  exact ⟨hb, lx2, lx3, lx4, ly2, ly3, ly4,
    capacities_total g.limX g.limY regions lx4 ly4 hv fun r hr => insideLimits_of lx2 lx3 ly2 ly3 (hb r hr)⟩

/-- the hypotheses of `C16.capacity_conserved` are satisfiable: two valid regions on a 2×1 grid that spans them -/
example :
    let limX : List Int := [0, 5, 10]
    let limY : List Int := [0, 4]
    let regions : List Rect := [⟨0, 10, 0, 2⟩, ⟨2, 7, 2, 4⟩]
    limX.Pairwise (· ≤ ·) ∧ limY.Pairwise (· ≤ ·) ∧ limX ≠ [] ∧ limY ≠ [] ∧
    (∀ r ∈ regions, RectValid r) ∧ (∀ r ∈ regions, InsideLimits limX limY r) ∧
    capacities limX limY regions = [[16], [14]] ∧ (regions.map Rect.area).sum = 30 := by
  simp only [RectValid, InsideLimits]
  decide

example : (DGrid.ofRegions 4 [⟨0, 10, 0, 2⟩, ⟨2, 7, 2, 4⟩]).totalCapacity = 30 := by
  have := ofRegions_ok 4 [⟨0, 10, 0, 2⟩, ⟨2, 7, 2, 4⟩] (by simp only [RectValid]; decide)
  exact this.2.2.2.2.2.2.2

example : DGrid.ofRegions 4 [⟨0, 10, 0, 2⟩, ⟨2, 7, 2, 4⟩] = ⟨[0, 5, 10], [0, 4], [[16], [14]]⟩ := by
  decide

end ColoVerif.Grid
