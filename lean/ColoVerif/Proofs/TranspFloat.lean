import ColoVerif.Proofs.F64Rle
import ColoVerif.Proofs.ListFacts
import ColoVerif.Model.TranspFloat
/-
`costsFromFloats` (Model/TranspFloat.lean), the fixed-point scaling of `TransportationProblem`'s `float`
constructor: `maxVal` is the maximum of `1e-8f` and all entries (`fcMaxVal_spec`); `n·maxVal·factor` is `INT_MAX/4`
up to two binary64 roundings, hence below `2^29` (`fcFactor_bounds`); so on the domain `FloatCostsOk` every stored
cost is at most `2^29` in magnitude and within `1/2 + 2^-24` of `c·factor` (`costsFromFloats_entry`).  The
fault-checked twin of the scaling (C07, `Proofs/CheckedTranspCosts.lean`) takes its range from here.
-/
namespace ColoVerif.Transp
open ColoVerif.F64

lemma fcMax2_ge_left (a b : Rat) : a ≤ fcMax2 a b := by
  unfold fcMax2; split <;> [exact le_of_lt ‹_›; exact le_refl _]

lemma fcMax2_ge_right (a b : Rat) : b ≤ fcMax2 a b := by
  unfold fcMax2; split <;> [exact le_refl _; exact not_lt.mp ‹_›]

lemma fcMax2_le {a b B : Rat} (ha : a ≤ B) (hb : b ≤ B) : fcMax2 a b ≤ B := by
  unfold fcMax2; split <;> assumption

lemma fcFoldRow_spec (r : List Rat) : ∀ (m : Rat),
    m ≤ r.foldl (fun m d => fcMax2 d m) m ∧ (∀ d, d ∈ r → d ≤ r.foldl (fun m d => fcMax2 d m) m) ∧
    ∀ B, m ≤ B → (∀ d, d ∈ r → d ≤ B) → r.foldl (fun m d => fcMax2 d m) m ≤ B := by
  induction r with
  | nil => intro m; exact ⟨le_refl _, fun d hd => by simp at hd, fun B h _ => h⟩
  | cons x xs ih =>
    intro m
    simp only [List.foldl_cons]
    obtain ⟨h1, h2, h3⟩ := ih (fcMax2 x m)
    refine ⟨le_trans (fcMax2_ge_right x m) h1, fun d hd => ?_, fun B hB hd => ?_⟩
    · rcases List.mem_cons.mp hd with e | e
      · rw [e]; exact le_trans (fcMax2_ge_left x m) h1
      · exact h2 d e
    · exact h3 B (fcMax2_le (hd x (by simp)) hB) (fun d hd' => hd d (by simp [hd']))

lemma fcMaxVal_spec (fc : List (List Rat)) :
    fcEps ≤ fcMaxVal fc ∧ (∀ r, r ∈ fc → ∀ d, d ∈ r → d ≤ fcMaxVal fc) ∧
    ∀ B, fcEps ≤ B → (∀ r, r ∈ fc → ∀ d, d ∈ r → d ≤ B) → fcMaxVal fc ≤ B := by
  -- the two nested loops are one loop over the concatenated rows
  obtain ⟨h1, h2, h3⟩ := fcFoldRow_spec fc.flatten fcEps
  rw [List.foldl_flatten] at h1 h2 h3
  exact ⟨h1, fun r hr d hd => h2 d (List.mem_flatten.mpr ⟨r, hr, hd⟩),
    fun B hB hd => h3 B hB fun d hd' => by
      obtain ⟨r, hr, hdr⟩ := List.mem_flatten.mp hd'
      exact hd r hr d hdr⟩

/-- Each of the three divisions lands in the binary64 normal range (`maxVal ≤ FLT_MAX < 2^128`,
`n ≤ 2^31`), so the first and the last cost one relative rounding error each and the division by 4
none: `n·maxVal·factor` is `INT_MAX/4` up to two roundings, either way. -/
lemma fcFactor_bounds (M : Rat) (n : Nat) (hM0 : 0 < M) (hMf : M ≤ fcFltMax) (hn1 : 1 ≤ n)
    (hn : n ≤ 2147483648) :
    0 < fcFactor M n ∧ Rle 0 2 (2147483647 / 4) ((n : Rat) * M * fcFactor M n) ∧
    Rle 2 0 ((n : Rat) * M * fcFactor M n) (2147483647 / 4) := by
  have hn0 : (0 : Rat) < (n : Rat) := by exact_mod_cast hn1
  have hnle : (n : Rat) ≤ (2 : Rat) ^ (31 : Int) := by
    have : (n : Rat) ≤ 2147483648 := by exact_mod_cast hn
    exact this.trans (by norm_num)
  have hMle : M ≤ (2 : Rat) ^ (128 : Int) := hMf.trans (by unfold fcFltMax; norm_num)
  -- the quotients are at least `2^-98` and `2^-131`
  have ha : (2 : Rat) ^ ((30 : Int) - 128) ≤ 2147483647 / M := z2_le_div (by norm_num) hM0 hMle
  have hc := f64_ge_pow2 (by norm_num) ha
  have hq : (2 : Rat) ^ ((30 : Int) - 128 - 2 - 31) ≤ f64 (2147483647 / M) / 4 / (n : Rat) :=
    z2_le_div (z2_le_div hc (by norm_num) (by norm_num)) hn0 hnle
  have han := (z2_le (by norm_num : (-1022 : Int) ≤ 30 - 128)).trans ha
  have hqn := (z2_le (by norm_num : (-1022 : Int) ≤ 30 - 128 - 2 - 31)).trans hq
  have hnM : 0 ≤ (n : Rat) * M := mul_nonneg hn0.le hM0.le
  -- `n·M·(a/4/n) = M·a/4` for the exact and for the rounded first quotient `a`
  have e : ∀ a : Rat, (n : Rat) * M * (a / 4 / (n : Rat)) = M * a / 4 := fun a => by
    rw [mul_comm (n : Rat) M, mul_assoc, mul_div_cancel₀ _ hn0.ne', mul_div_assoc]
  have e0 : (n : Rat) * M * (2147483647 / M / 4 / (n : Rat)) = 2147483647 / 4 := by
    rw [e, mul_div_cancel₀ _ hM0.ne']
  have sc : ∀ {a b : Nat} {x y : Rat}, Rle a b x y →
      Rle a b ((n : Rat) * M * (x / 4 / (n : Rat))) ((n : Rat) * M * (y / 4 / (n : Rat))) := fun h =>
    ((h.div_right four_pos).div_right hn0).mul_left hnM
  unfold fcFactor
  rw [f64_quarter ((z2_le (by norm_num : (-1020 : Int) ≤ 30 - 128)).trans ha)]
  refine ⟨lt_of_lt_of_le (z2_pos _) (f64_ge_pow2 (by norm_num) hq), ?_, ?_⟩
  · have := (sc (rle_f64 (Or.inr han))).trans ((rle_f64 (Or.inr hqn)).mul_left hnM)
    rwa [e0] at this
  · have := ((f64_rle hqn).mul_left hnM).trans (sc (f64_rle han))
    rwa [e0] at this

lemma f64_abs_err_small (x : Rat) (hx : |x| ≤ 536870912) : |f64 x - x| ≤ 1 / 16777216 := by
  rcases le_or_gt ((2 : Rat) ^ (-1022 : Int)) |x| with h | h
  · calc |f64 x - x| ≤ |x| * (2 : Rat) ^ (-53 : Int) := f64_abs_rel h
      _ ≤ 536870912 * (2 : Rat) ^ (-53 : Int) := by gcongr
      _ = 1 / 16777216 := by norm_num
  · -- below the normal range `f64 x` stays, like `x`, within `±2^-1022`
    calc |f64 x - x| ≤ |f64 x| + |x| := abs_sub _ _
      _ ≤ (2 : Rat) ^ (-25 : Int) + (2 : Rat) ^ (-25 : Int) :=
          add_le_add ((f64_abs_le_pow2 (by norm_num) h.le).trans (z2_le (by norm_num)))
            (h.le.trans (z2_le (by norm_num)))
      _ = 1 / 16777216 := by norm_num

lemma fcFixed_of_abs_le (cf c : Rat) (h : |c * cf| ≤ 536870912) :
    -536870912 ≤ fcFixed cf c ∧ fcFixed cf c ≤ 536870912 ∧
    |(fcFixed cf c : Rat) - c * cf| ≤ 1 / 2 + 1 / 16777216 := by
  have h29 : (536870912 : Rat) = (2 : Rat) ^ (29 : Int) := by norm_num
  have hy := h
  rw [h29] at hy
  obtain ⟨y1, y2⟩ := abs_le.mp (f64_abs_le_pow2 (by norm_num) hy)
  rw [← h29] at y1 y2
  unfold fcFixed
  refine ⟨?_, ?_, ?_⟩
  · have := roundAway_mono (show ((-536870912 : Int) : Rat) ≤ f64 (c * cf) by exact_mod_cast y1)
    rwa [roundAway_int] at this
  · have := roundAway_mono (show f64 (c * cf) ≤ ((536870912 : Int) : Rat) by exact_mod_cast y2)
    rwa [roundAway_int] at this
  · exact (abs_sub_le _ _ _).trans
      (add_le_add (abs_roundAway_sub_le _) (f64_abs_err_small _ h))

lemma fcFixed_bounds (M : Rat) (n : Nat) (hM0 : 0 < M) (hMf : M ≤ fcFltMax) (hn1 : 1 ≤ n)
    (hn : n ≤ 2147483648) (c : Rat) (hlo : -((n : Rat) * M) ≤ c) (hhi : c ≤ M) :
    -536870912 ≤ fcFixed (fcFactor M n) c ∧ fcFixed (fcFactor M n) c ≤ 536870912 ∧
    |(fcFixed (fcFactor M n) c : Rat) - c * fcFactor M n| ≤ 1 / 2 + 1 / 16777216 := by
  obtain ⟨hcf0, _, hcfM⟩ := fcFactor_bounds M n hM0 hMf hn1 hn
  have hnR : (1 : Rat) ≤ (n : Rat) := by exact_mod_cast hn1
  have hc : |c| ≤ (n : Rat) * M := abs_le.mpr ⟨hlo, hhi.trans (le_mul_of_one_le_left hM0.le hnR)⟩
  apply fcFixed_of_abs_le
  calc |c * fcFactor M n| = |c| * fcFactor M n := by rw [abs_mul, abs_of_pos hcf0]
    _ ≤ (n : Rat) * M * fcFactor M n := by gcongr
    _ ≤ 2147483647 / 4 * (1 + (2 : Rat) ^ (-53 : Int)) ^ 2 := (Rle.up_iff hcfM.nn).mp hcfM
    _ ≤ 536870912 := by norm_num

lemma fcFixed_zero (cf : Rat) : fcFixed cf 0 = 0 := by
  unfold fcFixed
  rw [zero_mul, f64_zero]
  exact roundAway_int 0

lemma getD_map_fcFixed (cf : Rat) (r : List Rat) (j : Nat) :
    (r.map (fcFixed cf)).getD j 0 = fcFixed cf (r.getD j 0) :=
  ListFacts.getD_map _ r j (fcFixed_zero cf)

lemma getD_map_rows (cf : Rat) (fc : List (List Rat)) (i : Nat) :
    (fc.map (fun r => r.map (fcFixed cf))).getD i [] = (fc.getD i []).map (fcFixed cf) :=
  ListFacts.getD_map _ fc i rfl

lemma costsFromFloats_get2 (fc : List (List Rat)) (i j : Nat) :
    get2 (costsFromFloats fc) i j = fcFixed (fcFactor (fcMaxVal fc) fc.length) (getQ2 fc i j) := by
  unfold get2 getQ2 costsFromFloats scaleRows
  rw [getD_map_rows, getD_map_fcFixed]

lemma getQ2_ind {P : Rat → Prop} (fc : List (List Rat)) (h0 : P 0) (h : ∀ r, r ∈ fc → ∀ c, c ∈ r → P c)
    (i j : Nat) : P (getQ2 fc i j) :=
  ListFacts.forall_getD (ListFacts.forall_getD (P := fun r => ∀ c ∈ r, P c) h (fun _ hc => absurd hc List.not_mem_nil) i) h0 j

/-- the propositional content of `floatCostsOk` -/
structure FloatCostsOk (fc : List (List Rat)) : Prop where
  rows : fc.length ≤ 2147483648
  finite : ∀ r, r ∈ fc → ∀ c, c ∈ r → c ≤ fcFltMax
  lower : ∀ r, r ∈ fc → ∀ c, c ∈ r → -((fc.length : Rat) * fcMaxVal fc) ≤ c

lemma floatCostsOk_iff (fc : List (List Rat)) : floatCostsOk fc = true ↔ FloatCostsOk fc := by
  simp only [floatCostsOk, allBetween, Bool.and_eq_true, decide_eq_true_eq, List.all_eq_true]
  constructor
  · rintro ⟨h1, h2⟩
    exact ⟨h1, fun r hr c hc => (h2 r hr c hc).1, fun r hr c hc => (h2 r hr c hc).2⟩
  · rintro ⟨h1, h2, h3⟩
    exact ⟨h1, fun r hr c hc => ⟨h2 r hr c hc, h3 r hr c hc⟩⟩

lemma fcMaxVal_pos (fc : List (List Rat)) : 0 < fcMaxVal fc :=
  lt_of_lt_of_le (by unfold fcEps; norm_num) (fcMaxVal_spec fc).1

lemma fcMaxVal_le_fltMax {fc : List (List Rat)} (h : FloatCostsOk fc) : fcMaxVal fc ≤ fcFltMax :=
  (fcMaxVal_spec fc).2.2 fcFltMax (by unfold fcEps fcFltMax; norm_num) h.finite

lemma floatCostsOk_of_nonneg (fc : List (List Rat)) (hn : fc.length ≤ 2147483648)
    (h : ∀ r, r ∈ fc → ∀ c, c ∈ r → 0 ≤ c ∧ c ≤ fcFltMax) : FloatCostsOk fc :=
  ⟨hn, fun r hr c hc => (h r hr c hc).2, fun r hr c hc =>
    (neg_nonpos.mpr (mul_nonneg (Nat.cast_nonneg _) (fcMaxVal_pos fc).le)).trans (h r hr c hc).1⟩

lemma costsFromFloats_entry (fc : List (List Rat)) (h : FloatCostsOk fc) (hn1 : 1 ≤ fc.length) (i j : Nat) :
    -536870912 ≤ get2 (costsFromFloats fc) i j ∧ get2 (costsFromFloats fc) i j ≤ 536870912 ∧
    |(get2 (costsFromFloats fc) i j : Rat) - getQ2 fc i j * fcFactor (fcMaxVal fc) fc.length|
      ≤ 1 / 2 + 1 / 16777216 := by
  have hM0 := fcMaxVal_pos fc
  rw [costsFromFloats_get2]
  obtain ⟨lo, hi⟩ := getQ2_ind (P := fun c => -((fc.length : Rat) * fcMaxVal fc) ≤ c ∧ c ≤ fcMaxVal fc) fc
    ⟨neg_nonpos.mpr (mul_nonneg (Nat.cast_nonneg _) hM0.le), hM0.le⟩
    (fun r hr c hc => ⟨h.lower r hr c hc, (fcMaxVal_spec fc).2.1 r hr c hc⟩) i j
  exact fcFixed_bounds _ _ hM0 (fcMaxVal_le_fltMax h) hn1 h.rows _ lo hi

lemma costsFromFloats_range (fc : List (List Rat)) (h : FloatCostsOk fc) (i j : Nat) :
    -536870912 ≤ get2 (costsFromFloats fc) i j ∧ get2 (costsFromFloats fc) i j ≤ 536870912 := by
  rcases Nat.eq_zero_or_pos fc.length with h0 | h1
  · rw [List.length_eq_zero_iff.mp h0]
    have : get2 (costsFromFloats []) i j = 0 := by simp [costsFromFloats, scaleRows, get2]
    rw [this]; constructor <;> omega
  · obtain ⟨a, b, _⟩ := costsFromFloats_entry fc h h1 i j
    exact ⟨a, b⟩

lemma costsFromFloats_nonneg (fc : List (List Rat)) (h : ∀ r, r ∈ fc → ∀ c, c ∈ r → 0 ≤ c) (i j : Nat) :
    0 ≤ get2 (costsFromFloats fc) i j := by
  have hcf : 0 ≤ fcFactor (fcMaxVal fc) fc.length :=
    f64_nonneg (div_nonneg (f64_nonneg (div_nonneg (f64_nonneg (div_nonneg (by norm_num) (fcMaxVal_pos fc).le))
      (by norm_num))) (Nat.cast_nonneg _))
  rw [costsFromFloats_get2]
  exact roundAway_nonneg (f64_nonneg (mul_nonneg (getQ2_ind fc le_rfl h i j) hcf))

end ColoVerif.Transp
