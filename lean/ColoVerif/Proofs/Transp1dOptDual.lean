import ColoVerif.Proofs.Transp1dOptBase
import ColoVerif.Proofs.Transp1dOptSweepDefs
/-
Dual certificate on the sorted instance (C14).  `dualPot_glob`: a source potential `al` with the
properties `DualPot` yields the sink prices `be t := max 0 (max_k (al k - cs k t))`, which form a
`GlobCert`.  Two potentials have these properties: with strict slack and the optimality conditions
`Kkt`, the minimum `aMin` of the run potentials `aU`, `aV` (`kkt_dualPot`); with exact balance, `aU`
shifted above all costs (`balanced_dualPot`).
-/
namespace ColoVerif.Transp1d

theorem cs_diff_anti (sv : Solver) (si : SortedInst sv) (k t t' : Nat) (hk : k + 1 < sv.u.length)
    (h : t ≤ t') (ht' : t' < sv.v.length) :
    cs sv (k + 1) t' - cs sv k t' ≤ cs sv (k + 1) t - cs sv k t := by
  have := cs_monge sv si k (k + 1) t t' (Nat.le_succ k) hk h ht'
  omega

structure DInc (sv : Solver) : Prop where
  zero : sv.D.getD 0 0 = 0
  step : ∀ t, t < sv.v.length → sv.D.getD t 0 < sv.D.getD (t + 1) 0

section
variable {sv : Solver} (hD : DInc sv)
include hD

theorem DInc.mono (a b : Nat) (hab : a ≤ b) (hb : b ≤ sv.v.length) :
    sv.D.getD a 0 ≤ sv.D.getD b 0 := step_mono sv.D _ hD.step a b hab hb

theorem DInc.nonneg (t : Nat) (ht : t ≤ sv.v.length) : 0 ≤ sv.D.getD t 0 := by
  have h := hD.mono 0 t (Nat.zero_le t) ht
  rwa [hD.zero] at h

theorem sigL_lt_length (y : Int) (h0 : 0 < y) (h1 : y ≤ sv.D.getD sv.v.length 0) :
    sigL sv y < sv.v.length :=
  (sigL_spec sv hD.mono y (by rw [hD.zero]; exact h0) h1).1

theorem sigR_lt_length (y : Int) (h0 : 0 ≤ y) (h1 : y < sv.D.getD sv.v.length 0) :
    sigR sv y < sv.v.length :=
  (sigR_spec sv hD.mono y (by rw [hD.zero]; exact h0) h1).1

theorem sigR_le (y : Int) (t : Nat) (ht : t < sv.v.length) (h : y < sv.D.getD (t + 1) 0) :
    sigR sv y ≤ t :=
  Nat.le_of_lt_succ (sigR_lt_of_lt sv hD.mono y (t + 1) (Nat.succ_pos t) ht h)

end

theorem dual_sigL_eq {sv : Solver} (hD : DInc sv) (y : Int) (t : Nat) (ht : t < sv.v.length)
    (h1 : sv.D.getD t 0 < y) (h2 : y ≤ sv.D.getD (t + 1) 0) : sigL sv y = t :=
  sigL_eq sv hD.mono y t ht h1 h2

theorem dual_sigR_eq {sv : Solver} (hD : DInc sv) (y : Int) (t : Nat) (ht : t < sv.v.length)
    (h1 : sv.D.getD t 0 ≤ y) (h2 : y < sv.D.getD (t + 1) 0) : sigR sv y = t :=
  sigR_eq sv hD.mono y t ht h1 h2

theorem lo_succ_eq (sv : Solver) (q : List Int) (k : Nat) (h : q.getD k 0 = q.getD (k + 1) 0) :
    lo sv q (k + 1) = hi sv q k := by
  unfold lo hi; omega

/-- feasible positions on a sorted zero-free instance: `PosDom` without the strictness of the
slack, so that exact balance is covered -/
structure PosGeo (sv : Solver) (q : List Int) : Prop where
  si : SortedInst sv
  spos : ∀ w ∈ sv.s, 0 < w
  dpos : ∀ w ∈ sv.d, 0 < w
  len : q.length = sv.u.length
  mono : ∀ i, i + 1 < sv.u.length → q.getD i 0 ≤ q.getD (i + 1) 0
  nn : ∀ i, i < sv.u.length → 0 ≤ q.getD i 0
  le : ∀ i, i < sv.u.length → sv.S.getD (i + 1) 0 + q.getD i 0 ≤ sv.D.getD sv.v.length 0

theorem PosDom.geo {sv : Solver} {q : List Int} (d : PosDom sv q) : PosGeo sv q :=
  ⟨d.si, d.spos, d.dpos, d.len, d.mono, d.nn, d.le⟩

theorem posGeo_of_runPost (sv : Solver) (sd : SwDom sv) (p : List Int) (hp : RunPost sv p) :
    PosGeo sv p := by
  refine ⟨sd.si, sd.spos, sd.dpos, hp.len, hp.mono, hp.nn, fun i hi => ?_⟩
  have := hp.le i hi
  have := sd.dom.Smono (i + 1) sv.u.length hi (Nat.le_refl _)
  omega

theorem posDom_of_runPost (sv : Solver) (sd : SwDom sv) (p : List Int) (hp : RunPost sv p)
    (hslack : sv.S.getD sv.u.length 0 < sv.D.getD sv.v.length 0) : PosDom sv p :=
  have g := posGeo_of_runPost sv sd p hp
  ⟨g.si, g.spos, g.dpos, g.len, g.mono, g.nn, g.le, hslack⟩

section
variable {sv : Solver} {q : List Int} (dom : PosGeo sv q)
include dom

theorem PosGeo.dinc : DInc sv := ⟨dom.si.D_zero, dom.si.D_step dom.dpos⟩

theorem PosGeo.S_mono (a b : Nat) (hab : a ≤ b) (hb : b ≤ sv.u.length) :
    sv.S.getD a 0 ≤ sv.S.getD b 0 :=
  step_mono sv.S _ (dom.si.S_step dom.spos) a b hab hb

theorem PosGeo.q_mono (a b : Nat) (hab : a ≤ b) (hb : b < sv.u.length) :
    q.getD a 0 ≤ q.getD b 0 :=
  le_of_step_up (fun k => q.getD k 0) a b hab fun k _ h2 => dom.mono k (Nat.lt_of_le_of_lt h2 hb)

theorem PosGeo.lo_lt_hi (k : Nat) (hk : k < sv.u.length) : lo sv q k < hi sv q k := by
  have := dom.si.S_step dom.spos k hk
  unfold lo hi; omega

theorem PosGeo.hi_pos (k : Nat) (hk : k < sv.u.length) : 0 < hi sv q k := by
  have := dom.S_mono 0 k (Nat.zero_le k) (Nat.le_of_lt hk)
  have := dom.si.S_zero
  have := dom.si.S_step dom.spos k hk
  have := dom.nn k hk
  unfold hi; omega

theorem PosGeo.hi_le_lo (k : Nat) (hk : k + 1 < sv.u.length) : hi sv q k ≤ lo sv q (k + 1) := by
  have := dom.mono k hk
  unfold lo hi; omega

theorem PosGeo.hi_lt_top (k : Nat) (hk : k + 1 < sv.u.length) :
    hi sv q k < sv.D.getD sv.v.length 0 :=
  Int.lt_of_le_of_lt (dom.hi_le_lo k hk)
    (Int.lt_of_lt_of_le (dom.lo_lt_hi (k + 1) hk) (dom.le (k + 1) hk))

theorem PosGeo.lo_mono (a b : Nat) (hab : a ≤ b) (hb : b < sv.u.length) :
    lo sv q a ≤ lo sv q b := by
  have := dom.S_mono a b hab (by omega)
  have := dom.q_mono a b hab hb
  unfold lo; omega

theorem PosGeo.hi_mono (a b : Nat) (hab : a ≤ b) (hb : b < sv.u.length) :
    hi sv q a ≤ hi sv q b := by
  have := dom.S_mono (a + 1) (b + 1) (by omega) (by omega)
  have := dom.q_mono a b hab hb
  unfold hi; omega

end

theorem sumIcc_self (f : Nat → Int) (a : Nat) : sumIcc f a a = f a := by
  unfold sumIcc; simp only [sumTo]; omega

theorem sumIcc_succ_right (f : Nat → Int) (a k : Nat) :
    sumIcc f a (k + 1) = sumIcc f a k + f (k + 1) := by
  unfold sumIcc; simp only [sumTo]; omega

theorem sumIcc_succ_left (f : Nat → Int) (k b : Nat) :
    sumIcc f k b = f k + sumIcc f (k + 1) b := by
  unfold sumIcc; simp only [sumTo]; omega

/-- first source of the run of touching sources that contains `k` -/
def runStart (q : List Int) : Nat → Nat
  | 0 => 0
  | k + 1 => if q.getD k 0 < q.getD (k + 1) 0 then k + 1 else runStart q k

/-- `runEnd` on fuel: from `k` it takes fewer than `n - k` steps to the right -/
def runEndF (n : Nat) (q : List Int) : Nat → Nat → Nat
  | 0, k => k
  | f + 1, k => if k + 1 = n ∨ q.getD k 0 < q.getD (k + 1) 0 then k else runEndF n q f (k + 1)

/-- last source of the run that contains `k` -/
def runEnd (sv : Solver) (q : List Int) (k : Nat) : Nat := runEndF sv.u.length q (sv.u.length - k) k

theorem runStart_self (q : List Int) (k : Nat) (h : k = 0 ∨ q.getD (k - 1) 0 < q.getD k 0) :
    runStart q k = k := by
  cases k with
  | zero => rfl
  | succ k => exact if_pos (h.resolve_left (Nat.succ_ne_zero k))

theorem runStart_succ (q : List Int) (k : Nat) (h : q.getD k 0 = q.getD (k + 1) 0) :
    runStart q (k + 1) = runStart q k := if_neg (by omega)

theorem runEnd_self (sv : Solver) (q : List Int) (k : Nat)
    (h : k + 1 = sv.u.length ∨ q.getD k 0 < q.getD (k + 1) 0) : runEnd sv q k = k := by
  unfold runEnd
  cases sv.u.length - k with
  | zero => rfl
  | succ f => exact if_pos h

theorem runEnd_succ (sv : Solver) (q : List Int) (k : Nat) (hk : k + 1 < sv.u.length)
    (h : q.getD k 0 = q.getD (k + 1) 0) : runEnd sv q k = runEnd sv q (k + 1) := by
  unfold runEnd
  rw [show sv.u.length - k = (sv.u.length - (k + 1)) + 1 by omega, runEndF, if_neg (by omega)]

/-- potential fixed by the sink in which the run of `k` starts (meaningful when `0 < q k`, i.e. the
run is not pressed against `0`): the cost of `k` in the sink of its end plus the marginal cost of
pushing the run, from `runStart` up to `k`, to the left (the sum `Kkt.s1` speaks of).  Inside a run it
propagates the price of that sink from source to source (`aU_start`, `aU_step`). -/
def aU (sv : Solver) (q : List Int) (k : Nat) : Int :=
  cs sv k (sigL sv (hi sv q k)) + sumIcc (fun k' => tL sv k' (q.getD k 0)) (runStart q k) k

/-- the same from the sink in which the run of `k` ends (`runEnd`, `Kkt.s3`; meaningful when the
run has room on its right, `VFin`) -/
def aV (sv : Solver) (q : List Int) (k : Nat) : Int :=
  cs sv k (sigR sv (lo sv q k)) + sumIcc (fun k' => tR sv k' (q.getD k 0)) k (runEnd sv q k)

theorem aU_start (sv : Solver) (q : List Int) (k : Nat)
    (h : k = 0 ∨ q.getD (k - 1) 0 < q.getD k 0) : aU sv q k = cs sv k (sigL sv (lo sv q k)) := by
  rw [aU, runStart_self q k h, sumIcc_self]
  unfold tL lo hi; omega

theorem aU_step (sv : Solver) (q : List Int) (k : Nat) (h : q.getD k 0 = q.getD (k + 1) 0) :
    aU sv q (k + 1) = aU sv q k + cs sv (k + 1) (sigL sv (hi sv q k))
      - cs sv k (sigL sv (hi sv q k)) := by
  rw [aU, aU, runStart_succ q k h, sumIcc_succ_right]
  unfold tL hi
  rw [← h]; omega

theorem aV_end (sv : Solver) (q : List Int) (k : Nat)
    (h : k + 1 = sv.u.length ∨ q.getD k 0 < q.getD (k + 1) 0) :
    aV sv q k = cs sv k (sigR sv (hi sv q k)) := by
  rw [aV, runEnd_self sv q k h, sumIcc_self]
  unfold tR lo hi; omega

theorem aV_step (sv : Solver) (q : List Int) (k : Nat) (hk : k + 1 < sv.u.length)
    (h : q.getD k 0 = q.getD (k + 1) 0) :
    aV sv q k = aV sv q (k + 1) + cs sv k (sigR sv (hi sv q k))
      - cs sv (k + 1) (sigR sv (hi sv q k)) := by
  rw [aV, aV, runEnd_succ sv q k hk h, sumIcc_succ_left _ k]
  unfold tR lo hi
  rw [← h]; omega

/-- the run of `k` has room on its right -/
abbrev VFin (sv : Solver) (q : List Int) (k : Nat) : Prop :=
  hi sv q (runEnd sv q k) < sv.D.getD sv.v.length 0

theorem VFin.succ {sv : Solver} {q : List Int} {k : Nat} (h : VFin sv q k)
    (hk : k + 1 < sv.u.length) (hq : q.getD k 0 = q.getD (k + 1) 0) : VFin sv q (k + 1) := by
  unfold VFin at h ⊢
  rwa [← runEnd_succ sv q k hk hq]

theorem VFin.pred {sv : Solver} {q : List Int} {k : Nat} (h : VFin sv q (k + 1))
    (hk : k + 1 < sv.u.length) (hq : q.getD k 0 = q.getD (k + 1) 0) : VFin sv q k := by
  unfold VFin at h ⊢
  rwa [runEnd_succ sv q k hk hq]

/-- the source potential under strict slack: minimum of the meaningful ones among `aU`, `aV`; a
`DualPot` by Monge inside a run and by `Kkt.s2`/`Kkt.s4` across a gap -/
def aMin (sv : Solver) (q : List Int) (k : Nat) : Int :=
  if 0 < q.getD k 0 then (if VFin sv q k then min (aU sv q k) (aV sv q k) else aU sv q k)
  else aV sv q k

theorem aMin_le_aU (sv : Solver) (q : List Int) (k : Nat) (h : 0 < q.getD k 0) :
    aMin sv q k ≤ aU sv q k := by
  unfold aMin; rw [if_pos h]; split
  · exact Int.min_le_left _ _
  · exact Int.le_refl _

theorem aMin_le_aV (sv : Solver) (q : List Int) (k : Nat) (h : VFin sv q k) :
    aMin sv q k ≤ aV sv q k := by
  unfold aMin; rw [if_pos h]; split
  · exact Int.min_le_right _ _
  · exact Int.le_refl _

theorem aMin_cases (sv : Solver) (q : List Int) (k : Nat) (h : 0 < q.getD k 0 ∨ VFin sv q k) :
    (0 < q.getD k 0 ∧ aMin sv q k = aU sv q k) ∨ (VFin sv q k ∧ aMin sv q k = aV sv q k) := by
  unfold aMin
  by_cases h1 : 0 < q.getD k 0
  · rw [if_pos h1]
    by_cases h2 : VFin sv q k
    · rw [if_pos h2]
      rcases Int.le_total (aU sv q k) (aV sv q k) with h3 | h3
      · exact Or.inl ⟨h1, Int.min_eq_left h3⟩
      · exact Or.inr ⟨h2, Int.min_eq_right h3⟩
    · rw [if_neg h2]; exact Or.inl ⟨h1, rfl⟩
  · rw [if_neg h1]
    exact Or.inr ⟨h.resolve_left h1, rfl⟩

section
variable {sv : Solver} {q : List Int} (dom : PosGeo sv q)
include dom

theorem runStart_spec (k : Nat) (hk : k < sv.u.length) :
    runStart q k ≤ k ∧ (runStart q k = 0 ∨ q.getD (runStart q k - 1) 0 < q.getD (runStart q k) 0) ∧
      q.getD (runStart q k) 0 = q.getD k 0 := by
  induction k with
  | zero => exact ⟨Nat.le_refl _, Or.inl rfl, rfl⟩
  | succ k ih =>
    by_cases h : q.getD k 0 < q.getD (k + 1) 0
    · rw [runStart_self q (k + 1) (Or.inr h)]
      exact ⟨Nat.le_refl _, Or.inr h, rfl⟩
    · have hq := Int.le_antisymm (dom.mono k hk) (Int.not_lt.1 h)
      obtain ⟨h1, h2, h3⟩ := ih (Nat.lt_of_succ_lt hk)
      rw [runStart_succ q k hq]
      exact ⟨Nat.le_succ_of_le h1, h2, h3.trans hq⟩

theorem runEnd_spec (k : Nat) (hk : k < sv.u.length) :
    k ≤ runEnd sv q k ∧ runEnd sv q k < sv.u.length ∧
      (runEnd sv q k + 1 = sv.u.length ∨
        q.getD (runEnd sv q k) 0 < q.getD (runEnd sv q k + 1) 0) ∧
      q.getD (runEnd sv q k) 0 = q.getD k 0 := by
  obtain ⟨N, hN⟩ : ∃ N, N + 1 = sv.u.length := ⟨sv.u.length - 1, by omega⟩
  have hkN : k ≤ N := by omega
  clear hk
  induction hkN using Nat.decreasingInduction with
  | self =>
    rw [runEnd_self sv q N (Or.inl hN)]
    exact ⟨Nat.le_refl _, hN ▸ Nat.lt_succ_self N, Or.inl hN, rfl⟩
  | of_succ k hkN ih =>
    by_cases h : k + 1 = sv.u.length ∨ q.getD k 0 < q.getD (k + 1) 0
    · rw [runEnd_self sv q k h]
      exact ⟨Nat.le_refl _, by omega, h, rfl⟩
    · have hk1 : k + 1 < sv.u.length := by omega
      have hq : q.getD k 0 = q.getD (k + 1) 0 := by have := dom.mono k hk1; omega
      obtain ⟨h1, h2, h3, h4⟩ := ih
      rw [runEnd_succ sv q k hk1 hq]
      exact ⟨Nat.le_of_succ_le h1, h2, h3, h4.trans hq.symm⟩

theorem run_const (a b : Nat) (hb : b < sv.u.length) (h : q.getD a 0 = q.getD b 0) (k : Nat)
    (h1 : a ≤ k) (h2 : k ≤ b) : q.getD k 0 = q.getD a 0 ∧ q.getD k 0 = q.getD b 0 := by
  have := dom.q_mono a k h1 (by omega)
  have := dom.q_mono k b h2 hb
  omega

theorem VFin.hi_lt {k : Nat} (h : VFin sv q k) (hk : k < sv.u.length) :
    hi sv q k < sv.D.getD sv.v.length 0 := by
  obtain ⟨h1, h2, _⟩ := runEnd_spec dom k hk
  exact Int.lt_of_le_of_lt (dom.hi_mono k _ h1 h2) h

end

theorem PosDom.pos_or_vFin {sv : Solver} {q : List Int} (dom : PosDom sv q) (k : Nat)
    (hk : k < sv.u.length) : 0 < q.getD k 0 ∨ VFin sv q k := by
  by_cases h0 : 0 < q.getD k 0
  · exact Or.inl h0
  · right
    obtain ⟨_, h2, _, h4⟩ := runEnd_spec dom.geo k hk
    have := dom.nn k hk
    have := dom.geo.S_mono (runEnd sv q k + 1) sv.u.length h2 (Nat.le_refl _)
    have := dom.slack
    unfold VFin hi; omega

section
variable {sv : Solver} {q : List Int} (dom : PosGeo sv q) (kkt : Kkt sv q)
include dom kkt

theorem aU_ge_hi (k : Nat) (hk : k < sv.u.length) (h0 : 0 < q.getD k 0) :
    cs sv k (sigL sv (hi sv q k)) ≤ aU sv q k := by
  obtain ⟨h1, h2, h3⟩ := runStart_spec dom k hk
  have := kkt.s1 _ k h1 hk h2 (fun k' g1 g2 => (run_const dom _ k hk h3 k' g1 g2).1) (by omega)
  rw [h3] at this
  unfold aU; omega

theorem aU_ge_lo (k : Nat) (hk : k < sv.u.length) (h0 : 0 < q.getD k 0) :
    cs sv k (sigL sv (lo sv q k)) ≤ aU sv q k := by
  cases k with
  | zero => rw [aU_start sv q 0 (Or.inl rfl)]
  | succ j =>
    by_cases h : q.getD j 0 < q.getD (j + 1) 0
    · rw [aU_start sv q (j + 1) (Or.inr h)]
    · have := dom.mono j hk
      have hq : q.getD j 0 = q.getD (j + 1) 0 := by omega
      have := aU_ge_hi dom kkt j (by omega) (by omega)
      rw [aU_step sv q j hq, lo_succ_eq sv q j hq]
      omega

theorem aV_ge_lo (k : Nat) (hk : k < sv.u.length) (hf : VFin sv q k) :
    cs sv k (sigR sv (lo sv q k)) ≤ aV sv q k := by
  obtain ⟨h1, h2, h3, h4⟩ := runEnd_spec dom k hk
  have := kkt.s3 k _ h1 h2 h3 (fun k' g1 g2 => (run_const dom k _ h2 h4.symm k' g1 g2).2) hf
  rw [h4] at this
  unfold aV; omega

theorem aV_ge_hi (k : Nat) (hk : k < sv.u.length) (hf : VFin sv q k) :
    cs sv k (sigR sv (hi sv q k)) ≤ aV sv q k := by
  by_cases he : k + 1 = sv.u.length ∨ q.getD k 0 < q.getD (k + 1) 0
  · rw [aV_end sv q k he]
  · have hk1 : k + 1 < sv.u.length := by omega
    have := dom.mono k hk1
    have hq : q.getD k 0 = q.getD (k + 1) 0 := by omega
    have := aV_ge_lo dom kkt (k + 1) hk1 (hf.succ hk1 hq)
    rw [lo_succ_eq sv q k hq] at this
    rw [aV_step sv q k hk1 hq]
    omega

omit dom in
theorem aMin_startZ (k : Nat) (hk : k < sv.u.length)
    (hs : k = 0 ∨ q.getD (k - 1) 0 < q.getD k 0) (h0 : 0 < q.getD k 0)
    (t : Nat) (ht : t ≤ sigL sv (lo sv q k)) : aMin sv q k - cs sv k t ≤ 0 := by
  have h1 := aMin_le_aU sv q k h0
  rw [aU_start sv q k hs] at h1
  rcases Nat.lt_or_eq_of_le ht with h2 | h2
  · have := kkt.s2 k hk hs h0 t h2
    unfold lo at h1; omega
  · rw [← h2] at h1; omega

omit dom in
theorem aMin_endZ (k : Nat) (hk : k < sv.u.length)
    (he : k + 1 = sv.u.length ∨ q.getD k 0 < q.getD (k + 1) 0)
    (h0 : hi sv q k < sv.D.getD sv.v.length 0)
    (t : Nat) (ht : sigR sv (hi sv q k) ≤ t) (htm : t < sv.v.length) :
    aMin sv q k - cs sv k t ≤ 0 := by
  have h1 := aMin_le_aV sv q k (show hi sv q (runEnd sv q k) < _ by rwa [runEnd_self sv q k he])
  rw [aV_end sv q k he] at h1
  rcases Nat.lt_or_eq_of_le ht with h2 | h2
  · have := kkt.s4 k hk he h0 t h2 htm
    unfold hi at h1; omega
  · rw [h2] at h1; omega

end

section
variable {sv : Solver} {q : List Int} (dom : PosDom sv q) (kkt : Kkt sv q)
include dom kkt

theorem aMin_stepR (k : Nat) (hk : k + 1 < sv.u.length) (t : Nat) (ht : t ≤ sigL sv (hi sv q k)) :
    aMin sv q (k + 1) - cs sv (k + 1) t ≤ max 0 (aMin sv q k - cs sv k t) := by
  have hD := dom.geo.dinc
  have hk0 : k < sv.u.length := Nat.lt_of_succ_lt hk
  have hy0 := dom.geo.hi_pos k hk0
  rcases Int.lt_or_le (q.getD k 0) (q.getD (k + 1) 0) with hq | hq
  · -- a gap: `k + 1` starts a run
    have h1 := sigL_monotone sv _ _ (dom.geo.hi_le_lo k hk)
    exact Int.le_trans (aMin_startZ kkt (k + 1) hk (Or.inr hq)
      (Int.lt_of_le_of_lt (dom.nn k hk0) hq) t (Nat.le_trans ht h1)) (Int.le_max_left 0 _)
  · -- `k + 1` continues the run of `k`: the potential that gives `aMin k` also bounds `aMin (k + 1)`
    have hq' : q.getD k 0 = q.getD (k + 1) 0 := Int.le_antisymm (dom.mono k hk) hq
    refine Int.le_trans ?_ (Int.le_max_right 0 _)
    rcases aMin_cases sv q k (dom.pos_or_vFin k hk0) with ⟨hu, e⟩ | ⟨hv, e⟩
    · have a1 := aMin_le_aU sv q (k + 1) (hq' ▸ hu)
      have a2 := aU_step sv q k hq'
      have a3 := cs_diff_anti sv dom.si k t _ hk ht (sigL_lt_length hD _ hy0 (dom.le k hk0))
      omega
    · have hy1 := dom.geo.hi_lt_top k hk
      have a1 := aMin_le_aV sv q (k + 1) (hv.succ hk hq')
      have a2 := aV_step sv q k hk hq'
      have a3 := cs_diff_anti sv dom.si k t _ hk (Nat.le_trans ht (sigL_le_sigR sv _))
        (sigR_lt_length hD _ (Int.le_of_lt hy0) hy1)
      omega

theorem aMin_stepL (k : Nat) (hk : k + 1 < sv.u.length) (t : Nat)
    (ht : sigR sv (lo sv q (k + 1)) ≤ t) (htm : t < sv.v.length) :
    aMin sv q k - cs sv k t ≤ max 0 (aMin sv q (k + 1) - cs sv (k + 1) t) := by
  have hD := dom.geo.dinc
  have hk0 : k < sv.u.length := Nat.lt_of_succ_lt hk
  have hy1 := dom.geo.hi_lt_top k hk
  rcases Int.lt_or_le (q.getD k 0) (q.getD (k + 1) 0) with hq | hq
  · -- a gap: `k` ends a run
    have h1 := sigR_monotone sv _ _ (dom.geo.hi_le_lo k hk)
    exact Int.le_trans (aMin_endZ kkt k hk0 (Or.inr hq) hy1 t (Nat.le_trans h1 ht) htm)
      (Int.le_max_left 0 _)
  · have hq' : q.getD k 0 = q.getD (k + 1) 0 := Int.le_antisymm (dom.mono k hk) hq
    rw [lo_succ_eq sv q k hq'] at ht
    refine Int.le_trans ?_ (Int.le_max_right 0 _)
    rcases aMin_cases sv q (k + 1) (dom.pos_or_vFin (k + 1) hk) with ⟨hu, e⟩ | ⟨hv, e⟩
    · have a1 := aMin_le_aU sv q k (hq' ▸ hu)
      have a2 := aU_step sv q k hq'
      have a3 := cs_diff_anti sv dom.si k _ t hk (Nat.le_trans (sigL_le_sigR sv _) ht) htm
      omega
    · have a1 := aMin_le_aV sv q k (hv.pred hk hq')
      have a2 := aV_step sv q k hk hq'
      have a3 := cs_diff_anti sv dom.si k _ t hk ht htm
      omega

theorem aMin_tight (k t : Nat) (hk : k < sv.u.length) (ht : t < sv.v.length)
    (ho : 0 < ov sv q k t) : cs sv k t ≤ aMin sv q k := by
  have hD := dom.geo.dinc
  obtain ⟨o1, o2, -, -⟩ := (ov_pos_iff sv q k t).mp ho
  have g1 := dom.geo.hi_pos k hk
  have g2 := dom.le k hk
  have r1 := sigR_le hD (lo sv q k) t ht o1
  have r2 := le_sigL_of_lt sv hD.mono (hi sv q k) t (Nat.le_of_lt ht) o2
  -- `cs k ·` is quasi-convex and `aMin k` dominates it at both ends of the range of sinks met
  rcases aMin_cases sv q k (dom.pos_or_vFin k hk) with ⟨hu, e⟩ | ⟨hv, e⟩
  · have l1 := sigL_lt_of_le sv hD.mono (lo sv q k) (t + 1) (Nat.succ_pos t) ht (Int.le_of_lt o1)
    rw [e]
    exact Int.le_trans (cs_quasi sv dom.si k (sigL sv (lo sv q k)) t (sigL sv (hi sv q k))
        (Nat.le_of_lt_succ l1) r2 (sigL_lt_length hD _ g1 g2))
      (Int.max_le.2 ⟨aU_ge_lo dom.geo kkt k hk hu, aU_ge_hi dom.geo kkt k hk hu⟩)
  · have g3 := hv.hi_lt dom.geo hk
    have l1 := le_sigR_of_le sv hD.mono (hi sv q k) t (Nat.le_of_lt ht) (Int.le_of_lt o2)
    rw [e]
    exact Int.le_trans (cs_quasi sv dom.si k (sigR sv (lo sv q k)) t (sigR sv (hi sv q k)) r1 l1
        (sigR_lt_length hD _ (Int.le_of_lt g1) g3))
      (Int.max_le.2 ⟨aV_ge_lo dom.geo kkt k hk hv, aV_ge_hi dom.geo kkt k hk hv⟩)

end

/-- `max 0 (max_{k < n} f k)` -/
def mx (f : Nat → Int) : Nat → Int
  | 0 => 0
  | n + 1 => max (mx f n) (f n)

theorem mx_nonneg (f : Nat → Int) (n : Nat) : 0 ≤ mx f n := by
  induction n with
  | zero => exact Int.le_refl _
  | succ n ih => exact Int.le_trans ih (Int.le_max_left _ _)

theorem le_mx (f : Nat → Int) (n k : Nat) (hk : k < n) : f k ≤ mx f n := by
  induction n with
  | zero => omega
  | succ n ih =>
    rcases Nat.lt_or_eq_of_le (Nat.le_of_lt_succ hk) with h | h
    · exact Int.le_trans (ih h) (Int.le_max_left _ _)
    · subst h; exact Int.le_max_right _ _

theorem mx_le (f : Nat → Int) (n : Nat) (x : Int) (hx : 0 ≤ x) (h : ∀ k, k < n → f k ≤ x) :
    mx f n ≤ x := by
  induction n with
  | zero => exact hx
  | succ n ih =>
    exact Int.max_le.2 ⟨ih (fun k hk => h k (Nat.lt_succ_of_lt hk)), h n (Nat.lt_succ_self n)⟩

theorem ov_eq_clip (l h D0 D1 : Int) (hlh : l ≤ h) (hD : D0 ≤ D1) :
    max 0 (min h D1 - max l D0) = min (max h D0) D1 - min (max l D0) D1 := by
  rcases Int.le_total h D0 with a | a
  · rw [Int.max_eq_right a, Int.max_eq_right (Int.le_trans hlh a), Int.sub_self]
    exact Int.max_eq_left (by omega)
  · rcases Int.le_total D1 l with b | b
    · rw [Int.min_eq_right (Int.le_trans (Int.le_trans b hlh) (Int.le_max_left h D0)),
        Int.min_eq_right (Int.le_trans b (Int.le_max_left l D0)), Int.sub_self]
      exact Int.max_eq_left (by omega)
    · have c : max l D0 ≤ min h D1 :=
        Int.max_le.2 ⟨Int.le_min.2 ⟨hlh, b⟩, Int.le_min.2 ⟨a, hD⟩⟩
      rw [Int.max_eq_left a, Int.min_eq_left (Int.le_trans c (Int.min_le_right h D1))]
      exact Int.max_eq_right (Int.sub_nonneg_of_le c)

theorem clip_gap (h l D0 D1 : Int) (hle : h ≤ l) (g : h < l → D0 < l → D1 ≤ h) :
    min (max h D0) D1 = min (max l D0) D1 := by
  rcases Int.lt_or_eq_of_le hle with e | e
  · rcases Int.lt_or_le D0 l with c | c
    · have g := g e c
      rw [Int.min_eq_right (Int.le_trans g (Int.le_max_left h D0)),
        Int.min_eq_right (Int.le_trans (Int.le_trans g hle) (Int.le_max_left l D0))]
    · rw [Int.max_eq_right c, Int.max_eq_right (Int.le_trans hle c)]
  · rw [e]

theorem fill_full {sv : Solver} {q : List Int} (dom : PosGeo sv q) (j : Nat)
    (hj : j < sv.v.length) (hn : 0 < sv.u.length)
    (G0 : lo sv q 0 ≤ sv.D.getD j 0)
    (Gk : ∀ k, k + 1 < sv.u.length → hi sv q k < lo sv q (k + 1) →
      sv.D.getD j 0 < lo sv q (k + 1) → sv.D.getD (j + 1) 0 ≤ hi sv q k)
    (Gn : sv.D.getD (j + 1) 0 ≤ hi sv q (sv.u.length - 1)) :
    fillP sv q j sv.u.length = sv.D.getD (j + 1) 0 - sv.D.getD j 0 := by
  have dj := Int.le_of_lt (dom.dinc.step j hj)
  -- the sources `0..K` fill the sink up to the end of source `K`
  have key : ∀ K, K < sv.u.length →
      fillP sv q j (K + 1) = min (max (hi sv q K) (sv.D.getD j 0)) (sv.D.getD (j + 1) 0)
        - sv.D.getD j 0 := by
    intro K
    induction K with
    | zero =>
      intro h
      rw [fillP, fillP, ovP, loP_eq, hiP_eq, ov_eq_clip _ _ _ _ (Int.le_of_lt (dom.lo_lt_hi 0 h)) dj,
        Int.max_eq_right G0, Int.min_eq_left dj, Int.zero_add]
    | succ K ih =>
      intro h
      rw [fillP, ih (Nat.lt_of_succ_lt h), ovP, loP_eq, hiP_eq,
        ov_eq_clip _ _ _ _ (Int.le_of_lt (dom.lo_lt_hi (K + 1) h)) dj,
        clip_gap _ _ _ _ (dom.hi_le_lo K h) (Gk K h)]
      omega
  have := key (sv.u.length - 1) (by omega)
  rwa [Nat.sub_add_cancel hn, Int.min_eq_right (Int.le_trans Gn (Int.le_max_left _ _))] at this

/-- what makes a source potential `al` a dual certificate through the sink prices
`max 0 (max_k (al k - cs k t))`: the reduced value `al k - cs k t` does not grow from source `k` to
`k + 1` on the sinks up to the end of `k`, nor from `k + 1` to `k` on the sinks from the start of
`k + 1`; it is non-negative on the sinks a source overlaps; and it is `≤ 0` on the sinks left of a
run that has room on its left, and right of a run that has room on its right.  Then the price of a
sink is `al k - cs k t` for every source `k` that overlaps it (`DualPot.price_eq`), and a sink met by a
gap between the source intervals has price `0` (`GlobCert.sat`). -/
structure DualPot (sv : Solver) (q : List Int) (al : Nat → Int) : Prop where
  stepR : ∀ k, k + 1 < sv.u.length → ∀ t, t ≤ sigL sv (hi sv q k) →
    al (k + 1) - cs sv (k + 1) t ≤ max 0 (al k - cs sv k t)
  stepL : ∀ k, k + 1 < sv.u.length → ∀ t, sigR sv (lo sv q (k + 1)) ≤ t → t < sv.v.length →
    al k - cs sv k t ≤ max 0 (al (k + 1) - cs sv (k + 1) t)
  tight : ∀ k t, k < sv.u.length → t < sv.v.length → 0 < ov sv q k t → cs sv k t ≤ al k
  startZ : ∀ k, k < sv.u.length → (k = 0 ∨ q.getD (k - 1) 0 < q.getD k 0) → 0 < q.getD k 0 →
    ∀ t, t ≤ sigL sv (lo sv q k) → al k - cs sv k t ≤ 0
  endZ : ∀ k, k < sv.u.length → (k + 1 = sv.u.length ∨ q.getD k 0 < q.getD (k + 1) 0) →
    hi sv q k < sv.D.getD sv.v.length 0 →
    ∀ t, sigR sv (hi sv q k) ≤ t → t < sv.v.length → al k - cs sv k t ≤ 0

section
variable {sv : Solver} {q : List Int} {al : Nat → Int} (dom : PosGeo sv q) (P : DualPot sv q al)
include dom P

theorem DualPot.chainR (k t : Nat) (ht : t ≤ sigL sv (hi sv q k)) (k' : Nat) (hkk : k ≤ k')
    (hk' : k' < sv.u.length) : max 0 (al k' - cs sv k' t) ≤ max 0 (al k - cs sv k t) :=
  le_of_step_down (fun k => max 0 (al k - cs sv k t)) k k' hkk fun j h1 h2 =>
    Int.max_le.2 ⟨Int.le_max_left 0 _, P.stepR j (by omega) t
      (Nat.le_trans ht (sigL_monotone sv _ _ (dom.hi_mono k j h1 (by omega))))⟩

theorem DualPot.chainL (k : Nat) (hk : k < sv.u.length) (t : Nat) (htm : t < sv.v.length)
    (ht : sigR sv (lo sv q k) ≤ t) (k' : Nat) (hkk : k' ≤ k) :
    max 0 (al k' - cs sv k' t) ≤ max 0 (al k - cs sv k t) :=
  le_of_step_up (fun k => max 0 (al k - cs sv k t)) k' k hkk fun j _ h2 =>
    Int.max_le.2 ⟨Int.le_max_left 0 _, P.stepL j (by omega) t
      (Nat.le_trans (sigR_monotone sv _ _ (dom.lo_mono (j + 1) k h2 hk)) ht) htm⟩

/-- a sink that begins left of a run with room on its left is too expensive for every source from
that run on -/
theorem DualPot.zeroR (k : Nat) (hk : k < sv.u.length)
    (hs : k = 0 ∨ q.getD (k - 1) 0 < q.getD k 0) (h0 : 0 < q.getD k 0) (t : Nat)
    (htm : t < sv.v.length) (h : sv.D.getD t 0 < lo sv q k) (k' : Nat) (hkk : k ≤ k')
    (hk' : k' < sv.u.length) : al k' - cs sv k' t ≤ 0 := by
  have r := le_sigL_of_lt sv dom.dinc.mono (lo sv q k) t (Nat.le_of_lt htm) h
  have b := P.startZ k hk hs h0 t r
  have c := P.chainR dom k t (Nat.le_trans r
    (sigL_monotone sv _ _ (Int.le_of_lt (dom.lo_lt_hi k hk)))) k' hkk hk'
  omega

/-- a sink that ends right of a run with room on its right is too expensive for every source up to
that run -/
theorem DualPot.zeroL (k : Nat) (hk : k < sv.u.length)
    (he : k + 1 = sv.u.length ∨ q.getD k 0 < q.getD (k + 1) 0) (t : Nat) (htm : t < sv.v.length)
    (h : hi sv q k < sv.D.getD (t + 1) 0) (k' : Nat) (hkk : k' ≤ k) : al k' - cs sv k' t ≤ 0 := by
  have l := sigR_le dom.dinc (hi sv q k) t htm h
  have b := P.endZ k hk he
    (Int.lt_of_lt_of_le h (dom.dinc.mono (t + 1) sv.v.length htm (Nat.le_refl _))) t l htm
  have c := P.chainL dom k hk t htm (Nat.le_trans
    (sigR_monotone sv _ _ (Int.le_of_lt (dom.lo_lt_hi k hk))) l) k' hkk
  omega

theorem DualPot.price_eq (i j : Nat) (hi_ : i < sv.u.length) (hj : j < sv.v.length)
    (ho : 0 < ov sv q i j) : mx (fun k => al k - cs sv k j) sv.u.length = al i - cs sv i j := by
  obtain ⟨o1, o2, -, -⟩ := (ov_pos_iff sv q i j).mp ho
  refine Int.le_antisymm ?_ (le_mx (fun k => al k - cs sv k j) sv.u.length i hi_)
  have c1 := P.tight i j hi_ hj ho
  apply mx_le _ _ _ (Int.sub_nonneg_of_le c1)
  intro k hk
  have := Int.le_max_right 0 (al k - cs sv k j)
  rcases Nat.le_total k i with h | h
  · have := P.chainL dom i hi_ j hj (sigR_le dom.dinc (lo sv q i) j hj o1) k h
    omega
  · have := P.chainR dom i j
      (le_sigL_of_lt sv dom.dinc.mono (hi sv q i) j (Nat.le_of_lt hj) o2) k h hk
    omega

theorem dualPot_glob : GlobCert sv q (fun t => mx (fun k => al k - cs sv k t) sv.u.length) := by
  have hD := dom.dinc
  refine ⟨fun j _ => mx_nonneg _ _, ?_, ?_⟩
  · -- sat: a gap between the source intervals that meets sink `j` makes every source too
    -- expensive for `j`, which contradicts the positive price
    intro j hj hpos
    have zero : (∀ k, k < sv.u.length → al k - cs sv k j ≤ 0) → False := fun h =>
      Int.lt_irrefl 0 (Int.lt_of_lt_of_le hpos (mx_le _ _ 0 (Int.le_refl 0) h))
    have hn : 0 < sv.u.length := Nat.pos_of_ne_zero fun e => zero fun k hk => by omega
    refine fill_full dom j hj hn (Int.not_lt.mp fun h => ?_)
      (fun k hk g1 g2 => Int.not_lt.mp fun g3 => ?_) (Int.not_lt.mp fun h => ?_)
    · have l0 : lo sv q 0 = q.getD 0 0 := by unfold lo; rw [dom.si.S_zero]; omega
      have d0 := hD.nonneg j (Nat.le_of_lt hj)
      exact zero fun k hk => P.zeroR dom 0 hn (Or.inl rfl) (by omega) j hj h k (Nat.zero_le k) hk
    · have hq : q.getD k 0 < q.getD (k + 1) 0 := by unfold lo hi at g1; omega
      refine zero fun k' hk' => ?_
      by_cases hkk : k' ≤ k
      · exact P.zeroL dom k (Nat.lt_of_succ_lt hk) (Or.inr hq) j hj g3 k' hkk
      · exact P.zeroR dom (k + 1) hk (Or.inr hq)
          (Int.lt_of_le_of_lt (dom.nn k (Nat.lt_of_succ_lt hk)) hq) j hj g2 k' (by omega) hk'
    · exact zero fun k hk => P.zeroL dom _ (by omega) (Or.inl (by omega)) j hj h k (by omega)
  · intro i j j' hi_ hj hj' ho
    have := le_mx (fun k => al k - cs sv k j') sv.u.length i hi_
    rw [P.price_eq dom i j hi_ hj ho]
    omega

end

theorem kkt_dualPot {sv : Solver} {q : List Int} (dom : PosDom sv q) (kkt : Kkt sv q) :
    DualPot sv q (aMin sv q) :=
  ⟨aMin_stepR dom kkt, aMin_stepL dom kkt, aMin_tight dom kkt, aMin_startZ kkt, aMin_endZ kkt⟩

theorem kkt_glob (sv : Solver) (q : List Int) (dom : PosDom sv q) (kkt : Kkt sv q) :
    ∃ be : Nat → Int, GlobCert sv q be :=
  ⟨_, dualPot_glob dom.geo (kkt_dualPot dom kkt)⟩

/-- With exact balance all positions are `0` and the sources form one run pressed against both
walls: `startZ` and `endZ` ask nothing, and `aU` shifted above all costs is a potential by the Monge
property alone. -/
theorem balanced_dualPot {sv : Solver} {q : List Int} (dom : PosGeo sv q)
    (hq : ∀ k, q.getD k 0 = 0) (hbal : sv.S.getD sv.u.length 0 = sv.D.getD sv.v.length 0) :
    DualPot sv q (fun k => aU sv q k
      + mx (fun k => mx (fun t => cs sv k t - aU sv q k) sv.v.length) sv.u.length) := by
  have hD := dom.dinc
  have hstep : ∀ k, aU sv q (k + 1) = aU sv q k + cs sv (k + 1) (sigL sv (hi sv q k))
      - cs sv k (sigL sv (hi sv q k)) := fun k => aU_step sv q k (by rw [hq k, hq (k + 1)])
  refine ⟨fun k hk t ht => ?_, fun k hk t ht htm => ?_, fun k t hk ht _ => ?_,
    fun k _ _ h0 => absurd h0 (by rw [hq k]; omega), fun k hk he h0 => ?_⟩
  · have a3 := cs_diff_anti sv dom.si k t _ hk ht
      (sigL_lt_length hD _ (dom.hi_pos k (by omega)) (dom.le k (by omega)))
    have := hstep k
    have := Int.le_max_right 0 (aU sv q k
      + mx (fun k => mx (fun t => cs sv k t - aU sv q k) sv.v.length) sv.u.length - cs sv k t)
    omega
  · rw [lo_succ_eq sv q k (by rw [hq k, hq (k + 1)])] at ht
    have a3 := cs_diff_anti sv dom.si k _ t hk (Nat.le_trans (sigL_le_sigR sv _) ht) htm
    have := hstep k
    have := Int.le_max_right 0 (aU sv q (k + 1)
      + mx (fun k => mx (fun t => cs sv k t - aU sv q k) sv.v.length) sv.u.length - cs sv (k + 1) t)
    omega
  · have h1 := le_mx (fun t => cs sv k t - aU sv q k) sv.v.length t ht
    have h2 := le_mx (fun k => mx (fun t => cs sv k t - aU sv q k) sv.v.length) sv.u.length k hk
    omega
  · -- the last source ends at `S n = D m`; an earlier one is followed by a source at the same position
    rcases he with he | he
    · unfold hi at h0; rw [he, hq k] at h0; omega
    · rw [hq k, hq (k + 1)] at he; omega

/-- non-vacuity: one source of size 1 at the left wall, one sink of size 2 -/
theorem kkt_example : PosDom (mkSolver [0] [0] [1] [2]) [0] ∧ Kkt (mkSolver [0] [0] [1] [2]) [0] := by
  refine ⟨⟨⟨⟨rfl, rfl, rfl, rfl⟩, by decide, by decide, by decide, by decide, rfl, rfl⟩,
    by decide, by decide, rfl, ?_, by decide, by decide, by decide⟩, ⟨?_, ?_, ?_, ?_⟩⟩
  · intro i hi; exact absurd (Nat.lt_one_iff.mp hi) (Nat.succ_ne_zero i)
  · intro a k h1 h2 _ _ h5
    obtain rfl := Nat.lt_one_iff.mp h2
    obtain rfl := Nat.le_zero.mp h1
    revert h5; decide
  · intro a h2 _ h5
    obtain rfl := Nat.lt_one_iff.mp h2
    revert h5; decide
  · intro k b h1 h2 _ _ _
    obtain rfl := Nat.lt_one_iff.mp h2
    obtain rfl := Nat.le_zero.mp h1
    decide
  · intro b h2 _ _ t h3 h4
    obtain rfl := Nat.lt_one_iff.mp h2
    have h3' : 0 < t := h3
    have h4' : t < 1 := h4
    omega

end ColoVerif.Transp1d
