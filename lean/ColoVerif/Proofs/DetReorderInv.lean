import ColoVerif.Proofs.DetReorderLeaf
import ColoVerif.Proofs.ListFacts
/-!
`RowReordering::runOrdering` (`runOrdering_spec`): with the registered cells non-negative (what the fuel of the
`next_permutation` loop needs), a call of `runOrdering(j)` on a state that is `Ready` (the one invariant of the
enumeration, of `runRegionChoice` too) hands `order_` back as it got it, never runs out of fuel, evaluates only leaves
whose value is the objective of their write-back (`Book.faithful`), and keeps `bestVal_ / bestOrder_ / bestPositions_ /
improvement_` equal to the keep-best fold (`keepBest`, Model/DetOpt.lean) over the leaves evaluated so far (`Book.kb`).
-/
namespace ColoVerif.DetPlace
open State

theorem keepBest_snoc (x : Leaf) : ∀ (ls : List Leaf) (b : Int) (l0 : Option Leaf),
    keepBest b (ls ++ [x]) l0 =
      if x.value < (keepBest b ls l0).1 then (x.value, some x) else keepBest b ls l0
  | [], b, l0 => rfl
  | l :: ls, b, l0 => by
    simp only [List.cons_append, keepBest]
    split
    · exact keepBest_snoc x ls _ _
    · exact keepBest_snoc x ls _ _

/-- every logged leaf is faithful; the best-so-far fields are the keep-best fold over the log -/
structure Book (V : Value) (s : State) (v0 : Int) (rr : RowReord PS) : Prop where
  faithful : ∀ leaf ∈ rr.leaves, leaf.value = s.leafValue V leaf.regions
  kb : keepBest v0 rr.leaves.reverse none =
    (rr.bestVal, if rr.improvement then some ⟨rr.bestVal, rr.bestRegions⟩ else none)
  /-- the kept leaf is well-formed (for the registered cells `rr.cells` and the regions `rr.regions`) -/
  bestwf : rr.improvement = true → LeafWF s rr.regions rr.cells rr.bestOrder rr.bestPositions

theorem evalLeaf_book (V : Value) (s : State) (v0 : Int) (rr : RowReord PS) (hb : Book V s v0 rr)
    (hf : V rr.store.1 rr.store.2 = s.leafValue V (leafRegions rr.regions rr.order rr.positions))
    (hwf : LeafWF s rr.regions rr.cells rr.order rr.positions) :
    Book V s v0 (evalLeaf (pureStore V) rr) := by
  have hfa : ∀ leaf ∈ (⟨(pureStore V).value rr.store, leafRegions rr.regions rr.order rr.positions⟩ :: rr.leaves : List Leaf),
      leaf.value = s.leafValue V leaf.regions := List.forall_mem_cons.2 ⟨hf, hb.faithful⟩
  -- the fold over the longer log makes the comparison that `evalLeaf` makes
  have hkb := keepBest_snoc ⟨(pureStore V).value rr.store, leafRegions rr.regions rr.order rr.positions⟩
    rr.leaves.reverse v0 none
  rw [← List.reverse_cons, hb.kb] at hkb
  unfold evalLeaf
  split
  · next hlt => exact ⟨hfa, hkb.trans (if_pos hlt), fun _ => hwf⟩
  · next hlt => exact ⟨hfa, hkb.trans (if_neg hlt), hb.bestwf⟩

/-- regions below `j` are still in the (sorted) order the region choice gave them -/
def SortedBelow (j : Nat) (rr : RowReord PS) : Prop :=
  ∀ (i : Nat) l, i < j → rr.order[i]? = some l → l.Pairwise (· < ·)

/-- relation between the state at a call of `runOrdering(j)` and the state it returns -/
structure PostO (V : Value) (s : State) (v0 : Int) (j : Nat) (rr rr' : RowReord PS) : Prop where
  regions : rr'.regions = rr.regions
  cells : rr'.cells = rr.cells
  order : rr'.order = rr.order
  plen : rr'.positions.length = rr.positions.length
  pos : ∀ i : Nat, j ≤ i → rr'.positions[i]? = rr.positions[i]?
  sy : rr'.store.2 = rr.store.2
  sx : ∀ d, (∀ (i : Nat) l, i < j → rr.order[i]? = some l → d ∉ l) → rr'.store.1 d = rr.store.1 d
  fuel : rr'.fuelOut = rr.fuelOut
  asrt : rr'.assertFail = rr.assertFail
  book : Book V s v0 rr'

theorem PostO.shape {V : Value} {s : State} {v0 : Int} {j : Nat} {rr rr' : RowReord PS} {G : List RRegion} {cs : List Int}
    (h : PostO V s v0 j rr rr') (hs : Shape G cs rr) : Shape G cs rr' :=
  ⟨h.regions.trans hs.regions, h.cells.trans hs.cells, by rw [h.order]; exact hs.olen, h.plen.trans hs.plen⟩

/-- the assignment invariant only depends on the membership of the order lists, on y at the assigned cells and on
both vectors outside the registered cells -/
theorem Lists.transfer {s : State} {G : List RRegion} {cs : List Int} {k : Nat} {rr rr' : RowReord PS}
    (h : Lists s G cs k rr)
    (hlen : rr'.order.length = rr.order.length)
    (ho : ∀ (i : Nat) l', rr'.order[i]? = some l' → ∃ l, rr.order[i]? = some l ∧ l'.Perm l)
    (hy : ∀ d, d ∈ cs.drop k → rr'.store.2 d = rr.store.2 d)
    (hf : ∀ d, d ∉ cs → rr'.store.1 d = rr.store.1 d ∧ rr'.store.2 d = rr.store.2 d) : Lists s G cs k rr' := by
  refine ⟨?_, ?_, ?_, ?_, ?_, ?_, ?_, ?_⟩
  · intro i l' hl'
    obtain ⟨l, hl, hp⟩ := ho i l' hl'
    exact hp.symm.nodup (h.nodup i l hl)
  · intro i l' hl' c hc
    obtain ⟨l, hl, hp⟩ := ho i l' hl'
    exact h.sub i l hl c (hp.mem_iff.1 hc)
  · intro d hd
    obtain ⟨i, l, hl, hdl⟩ := h.cover d hd
    have hi : i < rr'.order.length := hlen ▸ (List.getElem?_eq_some_iff.1 hl).1
    obtain ⟨l0, hl0, hp⟩ := ho i _ (List.getElem?_eq_getElem hi)
    exact ⟨i, _, List.getElem?_eq_getElem hi, hp.mem_iff.2 (Option.some.inj (hl0.symm.trans hl) ▸ hdl)⟩
  · intro i i' l1 l2 h1 h2 c hc1 hc2
    obtain ⟨m1, hm1, hp1⟩ := ho i l1 h1
    obtain ⟨m2, hm2, hp2⟩ := ho i' l2 h2
    exact h.disj i i' m1 m2 hm1 hm2 c (hp1.mem_iff.1 hc1) (hp2.mem_iff.1 hc2)
  · intro i l' g hl' hg c hc
    obtain ⟨l, hl, hp⟩ := ho i l' hl'
    have hc' := hp.mem_iff.1 hc
    rw [hy c (h.sub i l hl c hc')]
    exact h.yinv i l g hl hg c hc'
  · intro d hd
    rw [(hf d hd).1, (hf d hd).2]
    exact h.frame d hd
  · intro i l' g hl' hg hne
    obtain ⟨l, hl, hp⟩ := ho i l' hl'
    rw [allocatedWidth_perm s hp]
    exact h.fits i l g hl hg (fun e => hne (by rw [e] at hp; exact hp.eq_nil))
  · intro i l' g hl' hg c hc
    obtain ⟨l, hl, hp⟩ := ho i l' hl'
    exact h.allowed i l g hl hg c (hp.mem_iff.1 hc)

theorem PostO.lists {V : Value} {s : State} {v0 : Int} {j : Nat} {rr rr' : RowReord PS} {G : List RRegion} {cs : List Int}
    (h : PostO V s v0 j rr rr') (hl : Lists s G cs 0 rr) : Lists s G cs 0 rr' := by
  apply hl.transfer (congrArg _ h.order)
  · intro i l' hl'; rw [h.order] at hl'; exact ⟨l', hl', List.Perm.refl _⟩
  · intro d _; rw [h.sy]
  · intro d hd
    refine ⟨h.sx d ?_, by rw [h.sy]⟩
    intro i l _ hil hdl
    exact hd (by simpa using hl.sub i l hil d hdl)

theorem PostO.xinv {V : Value} {s : State} {v0 : Int} {j : Nat} {rr rr' : RowReord PS} {G : List RRegion} {cs : List Int}
    (h : PostO V s v0 j rr rr') (hl : Lists s G cs 0 rr) (hx : XInv s G j rr) : XInv s G j rr' := by
  intro i l g hji hil hg
  rw [h.order] at hil
  obtain ⟨h1, h2⟩ := hx i l g hji hil hg
  refine ⟨by rw [h.pos i hji]; exact h1, ?_⟩
  intro m hm
  rw [h.sx m.1 ?_]
  · exact h2 m hm
  · intro i' l' hi' hil' hml'
    have := hl.disj i i' l l' hil hil' m.1 (List.of_mem_zip hm).1 hml'
    omega

/-- A point of the enumeration: the cells `cs[k..]` are assigned to regions, the regions `j..` are set up, those
below `j` are still sorted, the log is kept.  `runRegionChoice` counts `k` down with `j = |G|` (nothing set up),
then `runOrdering` counts `j` down with `k = 0`. -/
structure Ready (V : Value) (s : State) (G : List RRegion) (cs : List Int) (v0 : Int) (k j : Nat)
    (rr : RowReord PS) : Prop where
  shape : Shape G cs rr
  lists : Lists s G cs k rr
  xinv : XInv s G j rr
  sorted : SortedBelow j rr
  book : Book V s v0 rr

theorem PostO.ready {V : Value} {s : State} {v0 : Int} {j : Nat} {rr rr' : RowReord PS} {G : List RRegion} {cs : List Int}
    (h : PostO V s v0 j rr rr') (hr : Ready V s G cs v0 0 j rr) : Ready V s G cs v0 0 j rr' :=
  ⟨h.shape hr.shape, h.lists hr.lists, h.xinv hr.lists hr.xinv, fun i l hi hil => hr.sorted i l hi (h.order ▸ hil), h.book⟩

theorem setupRow_lists (V : Value) (s : State) (G : List RRegion) (cs : List Int) (j : Nat) (rr : RowReord PS)
    (l o : List Int) (hl : Lists s G cs 0 rr) (hj : rr.order[j]? = some l) (hp : o.Perm l) :
    Lists s G cs 0 (setupRow (pureStore V) s j o rr) := by
  have hn : o.Nodup := hp.symm.nodup (hl.nodup j l hj)
  have hspec := packStore_spec V s o (rr.regions.getD j default).minPos rr.store hn
  apply hl.transfer (List.length_set ..)
  · intro i l' hl'
    have : (rr.order.set j o)[i]? = some l' := hl'
    rcases ListFacts.getElem?_set_some this with ⟨rfl, rfl, _⟩ | ⟨_, h2⟩
    · exact ⟨l, hj, hp⟩
    · exact ⟨l', h2, List.Perm.refl _⟩
  · intro d _
    show (packStore (pureStore V) s _ o rr.store).2 d = rr.store.2 d
    rw [hspec.1]
  · intro d hd
    refine ⟨?_, by show (packStore (pureStore V) s _ o rr.store).2 d = rr.store.2 d; rw [hspec.1]⟩
    apply hspec.2.1 d
    intro hdo
    exact hd (by simpa using hl.sub j l hj d (hp.mem_iff.1 hdo))

theorem setupRow_xinv (V : Value) (s : State) (G : List RRegion) (cs : List Int) (j : Nat) (rr : RowReord PS)
    (l o : List Int) (hs : Shape G cs rr) (hl : Lists s G cs 0 rr) (hx : XInv s G (j + 1) rr)
    (hj : rr.order[j]? = some l) (hp : o.Perm l) :
    XInv s G j (setupRow (pureStore V) s j o rr) := by
  have hn : o.Nodup := hp.symm.nodup (hl.nodup j l hj)
  have hspec := packStore_spec V s o (rr.regions.getD j default).minPos rr.store hn
  have hjl : j < rr.order.length := (List.getElem?_eq_some_iff.1 hj).1
  intro i l' g hji hil hg
  have hil' : (rr.order.set j o)[i]? = some l' := hil
  rcases ListFacts.getElem?_set_some hil' with ⟨rfl, rfl, _⟩ | ⟨hne, h2⟩
  · have hgd : rr.regions.getD i default = g := by
      rw [hs.regions]; exact ListFacts.getD_of_getElem? hg
    refine ⟨?_, ?_⟩
    · show (rr.positions.set i _)[i]? = _
      have : i < rr.positions.length := by rw [hs.plen, ← hs.olen]; exact hjl
      rw [hgd]; simp [this]
    · intro m hm
      have := hspec.2.2 m (by rw [hgd]; exact hm)
      exact this
  · have hji' : j + 1 ≤ i := by omega
    obtain ⟨h1, h3⟩ := hx i l' g hji' h2 hg
    refine ⟨?_, ?_⟩
    · show (rr.positions.set j _)[i]? = _
      rw [List.getElem?_set]; simp [Ne.symm hne, h1]
    · intro m hm
      show (packStore (pureStore V) s _ o rr.store).1 m.1 = m.2
      rw [hspec.2.1 m.1 ?_]
      · exact h3 m hm
      · intro hmo
        have := hl.disj i j l' l h2 hj m.1 (List.of_mem_zip hm).1 (hp.mem_iff.1 hmo)
        exact hne this

/-- invariant of the `while (next_permutation(order_[j]))` loop of a call on `rr` with `order_[j] = l0` -/
structure LoopInv (V : Value) (s : State) (G : List RRegion) (cs : List Int) (v0 : Int) (j : Nat)
    (rr : RowReord PS) (l0 : List Int) (rr1 : RowReord PS) : Prop where
  shape : Shape G cs rr1
  book : Book V s v0 rr1
  lists : Lists s G cs 0 rr1
  xinv : XInv s G (j + 1) rr1
  sorted : SortedBelow j rr1
  perm : (rr1.order.getD j []).Perm l0
  order : rr1.order = rr.order.set j (rr1.order.getD j [])
  pos : ∀ i : Nat, j + 1 ≤ i → rr1.positions[i]? = rr.positions[i]?
  sy : rr1.store.2 = rr.store.2
  sx : ∀ d, (∀ (i : Nat) l, i < j + 1 → rr.order[i]? = some l → d ∉ l) → rr1.store.1 d = rr.store.1 d
  fuel : rr1.fuelOut = rr.fuelOut
  asrt : rr1.assertFail = rr.assertFail

theorem runOrdering_spec (V : Value) (s : State) (G : List RRegion) (cs : List Int) (v0 : Int)
    (hnn : ∀ c ∈ cs, 0 ≤ c) (j : Nat) :
    ∀ (rr : RowReord PS), j ≤ G.length → Ready V s G cs v0 0 j rr →
      PostO V s v0 j rr (runOrdering (pureStore V) s j rr) := by
  induction j with
  | zero =>
    intro rr _ hr
    unfold runOrdering
    obtain ⟨f1, f2, f3, f4, f5, f6, f7⟩ := evalLeaf_fields (pureStore V) rr
    exact ⟨f1, f2, f3, by rw [f4], fun i _ => by rw [f4], by rw [f5], fun d _ => by rw [f5], f6, f7,
      evalLeaf_book V s v0 rr hr.book (leaf_store_eq V s G cs rr hr.shape hr.lists hr.xinv)
        (by rw [hr.shape.regions, hr.shape.cells]; exact leaf_wf s G cs rr hr.shape hr.lists hr.xinv)⟩
  | succ j ih =>
    intro rr hj ⟨hs, hl, hx, hso, hb⟩
    unfold runOrdering
    have hjl : j < rr.order.length := by rw [hs.olen]; exact hj
    obtain ⟨l0, hl0⟩ : ∃ l0, rr.order[j]? = some l0 := ⟨rr.order[j], List.getElem?_eq_getElem hjl⟩
    have hgd : rr.order.getD j [] = l0 := ListFacts.getD_of_getElem? hl0
    have hsorted0 : l0.Pairwise (· < ·) := hso j l0 (Nat.lt_succ_self j) hl0
    have key := permLoop_ind (pureStore V) s (runOrdering (pureStore V) s j) j
      (LoopInv V s G cs v0 j rr l0) (l0.foldl (fun m c => max m c.toNat) 0 + 1) l0.length
      (by
        intro rr1 h1
        refine ⟨h1.perm.length_eq, ?_⟩
        intro c hc
        have hc0 : c ∈ l0 := h1.perm.mem_iff.1 hc
        refine ⟨hnn c (by simpa using hl.sub j l0 hl0 c hc0), lt_permFuel_base l0 c hc0⟩)
      (by
        intro rr1 h1 hnp
        have hj1 : j < rr1.order.length := by rw [h1.shape.olen]; exact hj
        obtain ⟨l1, hl1⟩ : ∃ l1, rr1.order[j]? = some l1 := ⟨rr1.order[j], List.getElem?_eq_getElem hj1⟩
        have hgd1 : rr1.order.getD j [] = l1 := ListFacts.getD_of_getElem? hl1
        rw [hgd1]
        have hpo : (nextPerm l1).2.Perm l1 := nextPerm_perm l1
        -- set up with any arrangement of its cells, region `j` joins those that are ready
        have hr2 : Ready V s G cs v0 0 j (setupRow (pureStore V) s j (nextPerm l1).2 rr1) :=
          ⟨⟨h1.shape.regions, h1.shape.cells, by show (rr1.order.set j _).length = _; simp [h1.shape.olen],
            by show (rr1.positions.set j _).length = _; simp [h1.shape.plen]⟩,
           setupRow_lists V s G cs j rr1 l1 _ h1.lists hl1 hpo,
           setupRow_xinv V s G cs j rr1 l1 _ h1.shape h1.lists h1.xinv hl1 hpo,
           fun i l hi hil => h1.sorted i l hi ((List.getElem?_set_ne (Nat.ne_of_gt hi)).symm.trans hil),
           ⟨h1.book.faithful, h1.book.kb, h1.book.bestwf⟩⟩
        have post := ih _ (Nat.le_of_succ_le hj) hr2
        have hr3 := post.ready hr2
        generalize runOrdering (pureStore V) s j (setupRow (pureStore V) s j (nextPerm l1).2 rr1) = rr3 at post hr3 ⊢
        have hord3 : rr3.order = rr1.order.set j (nextPerm l1).2 := post.order
        have hget3 : rr3.order.getD j [] = (nextPerm l1).2 := by rw [hord3]; exact ListFacts.getD_set_eq _ j _ _ hj1
        have hspec := packStore_spec V s (nextPerm l1).2 (rr1.regions.getD j default).minPos rr1.store
          (hpo.symm.nodup (h1.lists.nodup j l1 hl1))
        -- what the body leaves alone: the call, then the set-up, then the iterations before
        refine ⟨⟨hr3.shape, hr3.book, hr3.lists, fun i l g hji => hr3.xinv i l g (Nat.le_of_succ_le hji), hr3.sorted,
          ?_, ?_, fun i hi => (post.pos i (Nat.le_of_succ_le hi)).trans
            ((List.getElem?_set_ne (Nat.ne_of_lt hi)).trans (h1.pos i hi)),
          post.sy.trans (hspec.1.trans h1.sy), fun d hd => ?_, post.fuel.trans h1.fuel, post.asrt.trans h1.asrt⟩, hget3⟩
        · rw [hget3]; exact hpo.trans (hgd1 ▸ h1.perm)
        · rw [hget3, hord3, h1.order, List.set_set]
        · refine (post.sx d fun i l hi hil => ?_).trans ((hspec.2.1 d fun hdo => ?_).trans (h1.sx d hd))
          · have hil' : (rr1.order.set j (nextPerm l1).2)[i]? = some l := hil
            rw [List.getElem?_set_ne (Nat.ne_of_gt hi), h1.order, List.getElem?_set_ne (Nat.ne_of_gt hi)] at hil'
            exact hd i l (Nat.lt_succ_of_lt hi) hil'
          · exact hd j l0 (Nat.lt_succ_self j) hl0 ((hgd1 ▸ h1.perm).mem_iff.1 (hpo.mem_iff.1 hdo)))
    have hI0 : LoopInv V s G cs v0 j rr l0 rr :=
      ⟨hs, hb, hl, hx, fun i l hi hil => hso i l (Nat.lt_succ_of_lt hi) hil, by rw [hgd],
       by rw [hgd, ListFacts.set_of_some hl0], fun _ _ => rfl, rfl, fun _ _ => rfl, rfl, rfl⟩
    obtain ⟨rr1, h1, hfalse, hres⟩ := key (permFuel (rr.order.getD j [])) rr hI0 (by
      rw [hgd]; unfold permFuel; omega)
    rw [hres]
    -- the range is handed back sorted: it is `l0` again
    have hrest : (nextPerm (rr1.order.getD j [])).2 = l0 := nextPerm_false_restores hsorted0 h1.perm hfalse
    have hord : rr1.order.set j (nextPerm (rr1.order.getD j [])).2 = rr.order := by
      rw [hrest, h1.order, List.set_set, ListFacts.set_of_some hl0]
    refine ⟨h1.shape.regions.trans hs.regions.symm, h1.shape.cells.trans hs.cells.symm, hord,
      h1.shape.plen.trans hs.plen.symm, h1.pos, h1.sy, h1.sx, h1.fuel, h1.asrt, ⟨h1.book.faithful, h1.book.kb, h1.book.bestwf⟩⟩

end ColoVerif.DetPlace
