import ColoVerif.Proofs.LegalizeLegalRows
import ColoVerif.Proofs.ListFacts
/-
The Tetris pass (C01 `legalize_legal`, C04 `legalize_orient`): `tetrisRun_pass`.  Invariant `Good S r f`, pointwise over
`rows`/`rowFreePos_`: `f` is at or right of `r.minX` and of the right edge of every rectangle of `S` (the cells placed so
far) that meets segment `r`.  `getPossibleIntervals` only offers `x` whose strip `[x, x+w)` lies, on every level, in
`[rowFreePos_r, maxX_r]` of one segment of the level (`LevelOK`): the cell is clear of `S`, and `instanciateCell` restores
the invariant.  Orientation: `attemptPlacement` clamps the target into an interval inside a segment `r` with a valid
orientation (`Found`); rows sorted by (minY, minX) and disjoint put the later segments of a level to the right
(`level_order`), so the `while` loop of `placeCell` stops at `r` (`segOf_row`).
-/
namespace ColoVerif.Legalize
open ColoVerif

/-- `getOrientation` as a function of the row orientation -/
def orientFor (c : LCell) (o : Orient) : Orient :=
  if cellOrientationInRow c.pol o = Orient.UNKNOWN then c.torient else cellOrientationInRow c.pol o

theorem getOrientation_eq (rows : List Row) (c : LCell) (row : Nat) :
    getOrientation rows c row = orientFor c (rowAt rows row).orient := rfl

theorem opposite_isTurn (o : Orient) : o.opposite.isTurn = o.isTurn := by cases o <;> rfl

/-- the table answers with the row orientation, its opposite or a marker: on an unturned row none
of these is turned -/
theorem cellOrientationInRow_unturned (p : Polarity) (o : Orient) (ho : o.isTurn = false) :
    (cellOrientationInRow p o).isTurn = false := by
  cases p
  · rfl
  · exact ho
  · exact (opposite_isTurn o).trans ho
  all_goals
    simp only [cellOrientationInRow]
    split
    · exact ho
    · rfl

theorem orientFor_turn (c : LCell) (o : Orient) (ho : o.isTurn = false)
    (hpol : c.pol ≠ Polarity.ANY → c.torient.isTurn = false) : (orientFor c o).isTurn = c.torient.isTurn := by
  unfold orientFor
  split
  · rfl
  · rename_i hk
    have hp : c.pol ≠ Polarity.ANY := fun hp => hk (by rw [hp]; rfl)
    rw [cellOrientationInRow_unturned c.pol o ho, hpol hp]

/-- status `p` of cell `c` sits on the bottom edge of segment `r`, inside it, with the orientation `getOrientation`
computes for *that* segment, which is not INVALID -/
def SegOrient (r : Row) (c : LCell) (p : Pos) : Prop :=
  r.rect.minY = p.y ∧ r.rect.minX ≤ p.x ∧ p.x + c.w ≤ r.rect.maxX ∧
    p.orient = orientFor c r.orient ∧ p.orient ≠ Orient.INVALID

theorem SegOrient.of_sub {s r : Row} {c : LCell} {p : Pos} (h : SegOrient s c p) (hs : SubRow s r) : SegOrient r c p := by
  obtain ⟨a1, a2, a3, a4, a5⟩ := h
  obtain ⟨b1, b2, b3⟩ := hs.contains a1 a2 a3
  exact ⟨b1, b2, b3, by rw [← hs.2.2.2.2]; exact a4, a5⟩

/-- `k` row heights, as repeated addition: no product of variables, so the goals stay linear -/
def hk (H : Int) : Nat → Int
  | 0 => 0
  | k + 1 => H + hk H k

/-- bottom edges of the `k` row-high strips of a cell placed at `y` -/
def levels (H : Int) : Nat → Int → List Int
  | 0, _ => []
  | k + 1, y => y :: levels H k (y + H)

theorem hk_ge (H : Int) (hH : 0 < H) (k : Nat) : (k : Int) ≤ hk H k := by
  induction k with
  | zero => exact Int.le_refl 0
  | succ k ih =>
    show ((k + 1 : Nat) : Int) ≤ H + hk H k
    omega

theorem le_toNat_hk (H : Int) (hH : 0 < H) (k : Nat) : k ≤ (hk H k).toNat + 1 := by
  have := hk_ge H hH k
  omega

theorem hk_lt (H : Int) (hH : 0 < H) {a b : Nat} (h : a < b) : hk H a < hk H b := by
  induction h with
  | refl => exact Int.lt_add_of_pos_left _ hH
  | step _ ih => exact Int.lt_trans ih (Int.lt_add_of_pos_left _ hH)

theorem hk_pos (H : Int) (hH : 0 < H) (k : Nat) (hk1 : 1 ≤ k) : 0 < hk H k :=
  hk_lt H hH hk1

theorem hk_inj (H : Int) (hH : 0 < H) (a b : Nat) (h : hk H a = hk H b) : a = b :=
  Nat.le_antisymm (Nat.le_of_not_lt fun hlt => Int.ne_of_lt (hk_lt H hH hlt) h.symm)
    (Nat.le_of_not_lt fun hlt => Int.ne_of_lt (hk_lt H hH hlt) h)

theorem hk_one (H : Int) : hk H 1 = H := Int.add_zero H

theorem hk_not_le (H : Int) (hH : 0 < H) (k : Nat) : ¬ hk H (k + 2) ≤ H :=
  Int.not_le.mpr (Int.lt_add_of_pos_right H (hk_pos H hH (k + 1) (Nat.succ_pos k)))

theorem hk_succ_sub (H : Int) (k : Nat) : hk H (k + 1) - H = hk H k := by
  show H + hk H k - H = hk H k
  omega

theorem rect_strip (H : Int) (x X : Int) (q : Rect) (hq : q.minY < q.maxY) :
    ∀ (k : Nat) (y : Int), (⟨x, X, y, y + hk H (k + 1)⟩ : Rect).intersects q = true →
      ∃ yj ∈ levels H (k + 1) y, (⟨x, X, yj, yj + H⟩ : Rect).intersects q = true := by
  intro k
  induction k with
  | zero =>
    intro y h
    rw [show hk H (0 + 1) = H from Int.add_zero H] at h
    exact ⟨y, List.mem_cons_self, h⟩
  | succ k ih =>
    intro y h
    have h' := (intersects_true_iff _ _).mp h
    -- `q` meets the lowest strip, or starts above it and meets the remaining `k + 1` rows
    by_cases hc : q.minY < y + H
    · exact ⟨y, List.mem_cons_self, (intersects_true_iff _ _).mpr ⟨h'.1, h'.2.1, h'.2.2.1, hc⟩⟩
    · obtain ⟨yj, hyj, hint⟩ := ih (y + H) ((intersects_true_iff _ _).mpr
        ⟨h'.1, h'.2.1, Int.lt_of_le_of_lt (Int.not_lt.mp hc) hq, by
          show q.minY < y + H + hk H (k + 1)
          rw [Int.add_assoc]
          exact h'.2.2.2⟩)
      exact ⟨yj, List.mem_cons_of_mem _ hyj, hint⟩

def Good (S : Rect → Prop) (r : Row) (f : Int) : Prop :=
  r.rect.minX ≤ f ∧ ∀ q, S q → q.intersects r.rect = true → q.maxX ≤ f

theorem Good.mono {S T : Rect → Prop} {r : Row} {f : Int} (h : Good S r f) (hst : ∀ q, T q → S q) : Good T r f :=
  ⟨h.1, fun q hq hi => h.2 q (hst q hq) hi⟩

/-- `r` is visited by the per-level loops started on this list: everything before it (and `r`)
has `minY = y` -/
inductive ReachedIn (y : Int) (r : Row) : List Row → Prop
  | here {rs} : r.rect.minY = y → ReachedIn y r (r :: rs)
  | there {r' rs} : r'.rect.minY = y → ReachedIn y r rs → ReachedIn y r (r' :: rs)

theorem ReachedIn.mem {y : Int} {r : Row} {rs : List Row} (h : ReachedIn y r rs) : r ∈ rs := by
  induction h with
  | here _ => simp
  | there _ _ ih => simp [ih]

theorem ReachedIn.minY {y : Int} {r : Row} {rs : List Row} (h : ReachedIn y r rs) : r.rect.minY = y := by
  induction h with
  | here h => exact h
  | there _ _ ih => exact ih

theorem levelIvs_mem {P : Row → Int → Prop} (w y : Int) {rs : List Row} {fs : List Int} (h : Pointwise P rs fs) :
    ∀ iv ∈ levelIvs w y rs fs, ∃ r f, ReachedIn y r rs ∧ P r f ∧ iv = (f, r.rect.maxX - w) ∧ f ≤ r.rect.maxX - w := by
  induction h with
  | nil => intro iv hiv; simp [levelIvs] at hiv
  | @cons r f rs fs hrf _ ih =>
    intro iv hiv
    simp only [levelIvs] at hiv
    by_cases hy : r.rect.minY = y
    · have hy' : ¬ (r.rect.minY ≠ y) := by simp [hy]
      rw [if_neg hy'] at hiv
      by_cases hc : r.rect.maxX - w ≥ f
      · rw [if_pos hc] at hiv
        rcases List.mem_cons.mp hiv with rfl | hiv
        · exact ⟨r, f, ReachedIn.here hy, hrf, rfl, hc⟩
        · obtain ⟨r0, f0, h1, h2, h3, h4⟩ := ih iv hiv
          exact ⟨r0, f0, ReachedIn.there hy h1, h2, h3, h4⟩
      · rw [if_neg hc] at hiv
        obtain ⟨r0, f0, h1, h2, h3, h4⟩ := ih iv hiv
        exact ⟨r0, f0, ReachedIn.there hy h1, h2, h3, h4⟩
    · have hy' : r.rect.minY ≠ y := hy
      rw [if_pos hy'] at hiv
      simp at hiv

def strip (H x w y : Int) : Rect := ⟨x, x + w, y, y + H⟩

theorem strip_miss {H x w y : Int} {r0 : Row} (c : Rect) (h1 : r0.rect.minX ≤ x) (h2 : x + w ≤ r0.rect.maxX)
    (hy : r0.rect.minY = y) (hh : r0.rect.maxY = r0.rect.minY + H) (h : r0.rect.intersects c = false) :
    (strip H x w y).intersects c = false :=
  miss_of_inside (strip H x w y) r0.rect c h1 h2 (Int.le_of_eq hy) (by rw [hh, hy]; exact Int.le_refl _) h

theorem Good.add_miss {S : Rect → Prop} {r : Row} {f : Int} (h : Good S r f) {s : Rect}
    (hm : s.intersects r.rect = false) : Good (fun q => S q ∨ q = s) r f := by
  refine ⟨h.1, ?_⟩
  rintro q (hq | rfl) hi
  · exact h.2 q hq hi
  · rw [hm] at hi; cases hi

theorem good_extend_miss {S : Rect → Prop} (s : Rect) {rs : List Row} {fs : List Int}
    (h : Pointwise (Good S) rs fs) (hm : ∀ r ∈ rs, s.intersects r.rect = false) :
    Pointwise (Good fun q => S q ∨ q = s) rs fs :=
  h.imp_mem fun r hr _ hg => hg.add_miss (hm r hr)

theorem mark_entry_miss (H x w y : Int) (hH : 0 < H) (r : Row) (f : Int) (hh : r.rect.maxY = r.rect.minY + H)
    (hy : r.rect.minY = y) (hm : (strip H x w y).intersects r.rect = false) :
    (if x < r.rect.maxX && x + w > r.rect.minX then x + w else f) = f := by
  rw [if_neg]
  intro hc
  simp only [Bool.and_eq_true, decide_eq_true_eq] at hc
  refine (intersects_false_iff _ _).mp hm ⟨hc.1, hc.2, ?_, ?_⟩
  · show y < r.rect.maxY
    rw [hh, hy]
    exact Int.lt_add_of_pos_right y hH
  · show r.rect.minY < y + H
    rw [hy]
    exact Int.lt_add_of_pos_right y hH

theorem markLevel_miss (H x w y : Int) (hH : 0 < H) :
    ∀ (rs : List Row) (fs : List Int), (∀ r ∈ rs, r.rect.maxY = r.rect.minY + H) →
      (∀ r ∈ rs, (strip H x w y).intersects r.rect = false) → markLevel x w y rs fs = fs
  | [], _, _, _ => by simp [markLevel]
  | _ :: _, [], _, _ => rfl
  | r :: rs, f :: fs, hh, hm => by
    simp only [markLevel]
    split
    · rfl
    · rename_i hy
      rw [mark_entry_miss H x w y hH r f (hh r (by simp)) (Decidable.not_not.mp hy) (hm r (by simp)),
        markLevel_miss H x w y hH rs fs (fun r hr => hh r (by simp [hr])) (fun r hr => hm r (by simp [hr]))]

theorem markLevel_hit {S : Rect → Prop} (H x w y : Int) (hH : 0 < H) (hw : 0 < w) (r0 : Row)
    (h1 : r0.rect.minX ≤ x) (h2 : x + w ≤ r0.rect.maxX)
    (hS : ∀ q, S q → q.intersects r0.rect = true → q.maxX ≤ x + w) {rs : List Row} (hr : ReachedIn y r0 rs) :
    ∀ {fs : List Int}, Pointwise (Good S) rs fs → (∀ r ∈ rs, r.rect.maxY = r.rect.minY + H) →
      rs.Pairwise (fun a b => a.rect.intersects b.rect = false) →
      Pointwise (Good fun q => S q ∨ q = strip H x w y) rs (markLevel x w y rs fs) := by
  induction hr with
  | @here rs hy =>
    intro fs h hh hp
    cases h with
    | @cons _ f _ fs hrf ht =>
      simp only [markLevel]
      have hx : x < x + w := Int.lt_add_of_pos_right x hw
      have hc : (x < r0.rect.maxX && x + w > r0.rect.minX) = true :=
        (Bool.and_eq_true _ _).mpr
          ⟨decide_eq_true (Int.lt_of_lt_of_le hx h2), decide_eq_true (Int.lt_of_le_of_lt h1 hx)⟩
      rw [if_neg (not_not_intro hy), if_pos hc]
      rw [List.pairwise_cons] at hp
      have hh0 := hh r0 List.mem_cons_self
      have hmiss : ∀ r ∈ rs, (strip H x w y).intersects r.rect = false := fun r hr =>
        strip_miss r.rect h1 h2 hy hh0 (hp.1 r hr)
      rw [markLevel_miss H x w y hH rs fs (fun r hr => hh r (List.mem_cons_of_mem _ hr)) hmiss]
      refine Pointwise.cons ⟨Int.le_trans h1 (Int.le_of_lt hx), ?_⟩ (good_extend_miss _ ht hmiss)
      rintro q (hq | rfl) hi
      · exact hS q hq hi
      · exact Int.le_refl _
  | @there r' rs hy hr ih =>
    intro fs h hh hp
    cases h with
    | @cons _ f _ fs hrf ht =>
      simp only [markLevel]
      rw [List.pairwise_cons] at hp
      have hh0 := hh r0 (List.mem_cons_of_mem _ hr.mem)
      have hmiss : (strip H x w y).intersects r'.rect = false :=
        strip_miss r'.rect h1 h2 hr.minY hh0 (by rw [intersects_comm]; exact hp.1 r0 hr.mem)
      rw [if_neg (not_not_intro hy), mark_entry_miss H x w y hH r' f (hh r' List.mem_cons_self) hy hmiss]
      exact Pointwise.cons (hrf.add_miss hmiss) (ih ht (fun r hr => hh r (List.mem_cons_of_mem _ hr)) hp.2)

/-- on level `y` the strip `[x, x + w)` lies in a segment `r` that the per-level loops reach, and whatever of `S`
meets `r` ends at or left of `b` -/
def LevelOK (S : Rect → Prop) (rows : List Row) (w x b y : Int) : Prop :=
  ∃ r, ReachedIn y r (rows.drop (startRow rows y)) ∧ r.rect.minX ≤ x ∧ x + w ≤ r.rect.maxX ∧
    ∀ q, S q → q.intersects r.rect = true → q.maxX ≤ b

theorem LevelOK.mono {S T : Rect → Prop} {rows : List Row} {w x b b' y : Int} (h : LevelOK S rows w x b y)
    (hb : b ≤ b') (hst : ∀ q, T q → S q ∨ q.maxX ≤ b') : LevelOK T rows w x b' y := by
  obtain ⟨r, hr, h1, h2, h3⟩ := h
  refine ⟨r, hr, h1, h2, fun q hq hi => ?_⟩
  rcases hst q hq with hs | hle
  · exact Int.le_trans (h3 q hs hi) hb
  · exact hle

theorem LevelOK.clear {S : Rect → Prop} {rows : List Row} {w x y H : Int} (h : LevelOK S rows w x x y)
    (hh : ∀ r ∈ rows, r.rect.maxY = r.rect.minY + H) {q : Rect} (hq : S q) :
    (strip H x w y).intersects q = false := by
  obtain ⟨r, hr, h1, h2, h3⟩ := h
  rw [Bool.eq_false_iff]
  intro hi
  -- the strip lies in `r`, so `q` meets `r` and ends left of the strip
  have hqr : q.intersects r.rect = true := by
    rw [← Bool.not_eq_false, intersects_comm]
    intro hqr
    exact Bool.false_ne_true ((strip_miss q h1 h2 hr.minY (hh r (List.mem_of_mem_drop hr.mem)) hqr).symm.trans hi)
  exact Int.not_lt.mpr (h3 q hq hqr) ((intersects_true_iff _ _).mp hi).1

theorem markLevel_level {S : Rect → Prop} (H x w y : Int) (hH : 0 < H) (hw : 0 < w) (rows : List Row)
    (free : List Int) (hok : RowsOK H rows) (h : Pointwise (Good S) rows free) (hl : LevelOK S rows w x (x + w) y) :
    Pointwise (Good fun q => S q ∨ q = strip H x w y) rows
      (free.take (startRow rows y) ++
        markLevel x w y (rows.drop (startRow rows y)) (free.drop (startRow rows y))) := by
  obtain ⟨r0, hr, h1, h2, hS⟩ := hl
  generalize startRow rows y = s at hr ⊢
  have hsplit : rows.take s ++ rows.drop s = rows := List.take_append_drop s rows
  have hp := hok.disj
  rw [← hsplit, List.pairwise_append] at hp
  have hh0 := hok.height r0 (List.mem_of_mem_drop hr.mem)
  have hy0 := hr.minY
  have hpre : Pointwise (Good fun q => S q ∨ q = strip H x w y) (rows.take s) (free.take s) := by
    refine good_extend_miss _ (h.take s) ?_
    intro r hrm
    exact strip_miss r.rect h1 h2 hy0 hh0 (by rw [intersects_comm]; exact hp.2.2 r hrm r0 hr.mem)
  have hsuf := markLevel_hit H x w y hH hw r0 h1 h2 hS hr (h.drop s)
    (fun r hrm => hok.height r (List.mem_of_mem_drop hrm)) hp.2.1
  have := hpre.append hsuf
  rwa [hsplit] at this

theorem levelIvs_levelOK {S : Rect → Prop} (rows : List Row) (free : List Int) (h : Pointwise (Good S) rows free)
    (w y : Int) (iv : Int × Int)
    (hiv : iv ∈ levelIvs w y (rows.drop (startRow rows y)) (free.drop (startRow rows y))) :
    iv.1 ≤ iv.2 ∧ ∀ x, iv.1 ≤ x → x ≤ iv.2 → LevelOK S rows w x x y := by
  obtain ⟨r, f, hr, hg, rfl, hle⟩ := levelIvs_mem w y (h.drop (startRow rows y)) iv hiv
  exact ⟨hle, fun x hx1 hx2 => ⟨r, hr, Int.le_trans hg.1 hx1, Int.add_le_of_le_sub_right hx2,
    fun q hq hi => Int.le_trans (hg.2 q hq hi) hx1⟩⟩

theorem mem_crossIvs (a b : List (Int × Int)) (iv : Int × Int) (h : iv ∈ crossIvs a b) :
    ∃ i1 ∈ a, ∃ i2 ∈ b, meetIv i1 i2 = some iv := by
  simp only [crossIvs, List.mem_flatMap, List.mem_filterMap] at h
  obtain ⟨i1, h1, i2, h2, h3⟩ := h
  exact ⟨i1, h1, i2, h2, h3⟩

theorem meetIv_some (i1 i2 iv : Int × Int) (h : meetIv i1 i2 = some iv) (h1 : i1.1 ≤ i1.2) (h2 : i2.1 ≤ i2.2) :
    iv.1 ≤ iv.2 ∧ ∀ x, iv.1 ≤ x → x ≤ iv.2 → (i1.1 ≤ x ∧ x ≤ i1.2) ∧ (i2.1 ≤ x ∧ x ≤ i2.2) := by
  unfold meetIv at h
  split at h
  · rename_i hc
    simp only [Bool.and_eq_true, decide_eq_true_eq] at hc
    injection h with h
    subst h
    refine ⟨Int.le_min.mpr ⟨Int.max_le.mpr ⟨h1, hc.2⟩, Int.max_le.mpr ⟨hc.1, h2⟩⟩, fun x hx1 hx2 => ?_⟩
    have a := Int.max_le.mp hx1
    have b := Int.le_min.mp hx2
    exact ⟨⟨a.1, b.1⟩, a.2, b.2⟩
  · simp at h

theorem possibleIvs_levelOK {S : Rect → Prop} (rows : List Row) (H : Int) (hH : 0 < H) (free : List Int)
    (h : Pointwise (Good S) rows free) (w : Int) :
    ∀ (fuel k : Nat) (y : Int), k + 1 ≤ fuel →
      ∀ iv ∈ possibleIvs rows H free w fuel (hk H (k + 1)) y,
        iv.1 ≤ iv.2 ∧ ∀ x, iv.1 ≤ x → x ≤ iv.2 → ∀ yj ∈ levels H (k + 1) y, LevelOK S rows w x x yj := by
  intro fuel
  induction fuel with
  | zero => intro k _ h2; cases h2
  | succ fuel ih =>
    intro k y h2 iv hiv
    cases k with
    | zero =>
      simp only [possibleIvs, Nat.zero_add, hk_one, Int.le_refl, decide_true, Bool.true_or, if_true] at hiv
      obtain ⟨hle', hx⟩ := levelIvs_levelOK rows free h w y iv hiv
      refine ⟨hle', fun x hx1 hx2 yj hyj => ?_⟩
      rw [List.mem_singleton.mp hyj]
      exact hx x hx1 hx2
    | succ k =>
      simp only [possibleIvs, hk_not_le H hH k, decide_false, Bool.false_or, hk_succ_sub] at hiv
      split at hiv
      · rename_i hemp
        rw [List.isEmpty_iff] at hemp
        rw [hemp] at hiv
        cases hiv
      · obtain ⟨i1, hi1, i2, hi2, hm⟩ := mem_crossIvs _ _ iv hiv
        obtain ⟨hl1, hx1⟩ := levelIvs_levelOK rows free h w y i1 hi1
        obtain ⟨hl2, hx2⟩ := ih k (y + H) (Nat.le_of_succ_le_succ h2) i2 hi2
        obtain ⟨hl, hx⟩ := meetIv_some i1 i2 iv hm hl1 hl2
        refine ⟨hl, fun x hxa hxb yj hyj => ?_⟩
        obtain ⟨⟨a1, a2⟩, ⟨b1, b2⟩⟩ := hx x hxa hxb
        rcases List.mem_cons.mp hyj with rfl | hyj
        · exact hx1 x a1 a2
        · exact hx2 x b1 b2 yj hyj

theorem levelIvs_nil_rows (w y : Int) (fs : List Int) : levelIvs w y [] fs = [] := by
  simp [levelIvs]

theorem possibleIvs_nil (rowH : Int) (free : List Int) (w : Int) :
    ∀ (fuel : Nat) (hgt y : Int), possibleIvs [] rowH free w fuel hgt y = []
  | 0, _, _ => rfl
  | fuel + 1, hgt, y => by
    simp [possibleIvs, levelIvs_nil_rows]

theorem instanciate_good (rows : List Row) (H : Int) (hH : 0 < H) (hok : RowsOK H rows) (x w : Int) (hw : 0 < w) :
    ∀ (fuel k : Nat) (y : Int) (free : List Int) (S : Rect → Prop), k + 1 ≤ fuel →
      Pointwise (Good S) rows free →
      (∀ yj ∈ levels H (k + 1) y, LevelOK S rows w x (x + w) yj) →
      Pointwise (Good fun q => S q ∨ ∃ yj ∈ levels H (k + 1) y, q = strip H x w yj) rows
        (instanciate rows H x w fuel y (hk H (k + 1)) free) := by
  intro fuel
  induction fuel with
  | zero => intro k _ _ _ h2; cases h2
  | succ fuel ih =>
    intro k y free S h2 hg hl
    have hmark := markLevel_level H x w y hH hw rows free hok hg (hl y List.mem_cons_self)
    simp only [instanciate, Int.not_le.mpr (hk_pos H hH (k + 1) (Nat.succ_pos k)), Int.not_le.mpr hw, decide_false,
      Bool.or_self, Bool.false_eq_true, if_false]
    cases k with
    | zero =>
      rw [if_pos (Int.le_of_eq (hk_one H))]
      refine hmark.imp_mem fun r _ f hgood => hgood.mono ?_
      rintro q (hq | ⟨yj, hyj, rfl⟩)
      · exact Or.inl hq
      · rw [List.mem_singleton.mp hyj]
        exact Or.inr rfl
    | succ k =>
      rw [if_neg (hk_not_le H hH k), hk_succ_sub]
      have ih' := ih k (y + H) _ _ (Nat.le_of_succ_le_succ h2) hmark
        fun yj hyj => (hl yj (List.mem_cons_of_mem _ hyj)).mono (Int.le_refl _) (by
          rintro q (hq | rfl)
          · exact Or.inl hq
          · exact Or.inr (Int.le_refl _))
      refine ih'.imp_mem fun r _ f hgood => hgood.mono ?_
      rintro q (hq | ⟨yj, hyj, rfl⟩)
      · exact Or.inl (Or.inl hq)
      · rcases List.mem_cons.mp hyj with rfl | hyj
        · exact Or.inl (Or.inr rfl)
        · exact Or.inr ⟨yj, hyj, rfl⟩

theorem closestStep_inv (tx : Int) (P : Int → Prop) (acc : Option Int) (iv : Int × Int)
    (hP : P (clamp tx iv.1 iv.2)) (ha : ∀ x, acc = some x → P x) :
    ∀ x, closestStep tx acc iv = some x → P x := by
  intro x hx
  unfold closestStep at hx
  cases acc with
  | none =>
    rw [← Option.some.inj hx]
    exact hP
  | some d =>
    simp only at hx
    split at hx
    · rw [← Option.some.inj hx]
      exact hP
    · exact ha x hx

theorem closestInSeg_inv (tx w : Int) (r : Row) (P : Int → Prop) (acc : Option Int) (iv : Int × Int)
    (hP : r.rect.minX ≤ iv.1 → iv.2 + w ≤ r.rect.maxX → P (clamp tx iv.1 iv.2)) (ha : ∀ x, acc = some x → P x) :
    ∀ x, closestInSeg tx w r acc iv = some x → P x := by
  intro x hx
  unfold closestInSeg at hx
  split at hx
  · exact ha x hx
  · rename_i hc
    simp only [Bool.or_eq_true, decide_eq_true_eq] at hc
    exact closestStep_inv tx P acc iv
      (hP (Int.not_lt.mp fun h => hc (Or.inl h)) (Int.not_lt.mp fun h => hc (Or.inr h))) ha x hx

theorem scanRows_inv {σ : Type} (I : σ → Prop) (f : Nat → σ → σ × Bool) (hf : ∀ r s, I s → I (f r s).1) :
    ∀ (l : List Nat) (s : σ), I s → I (scanRows f l s)
  | [], s, hs => hs
  | r :: rs, s, hs => by
    simp only [scanRows]
    have := hf r s hs
    split
    · rename_i s' heq; rw [heq] at this; exact this
    · rename_i s' heq; rw [heq] at this; exact scanRows_inv I f hf rs s' this

theorem searchRows_inv {σ : Type} (I : σ → Prop) (f : Nat → σ → σ × Bool) (hf : ∀ r s, I s → I (f r s).1)
    (n init : Nat) (s : σ) (hs : I s) : I (searchRows f n init s) :=
  scanRows_inv I f hf _ _ (scanRows_inv I f hf _ _ hs)

def BestOK (t : Tetris) (c : LCell) (b : Option Best) : Prop :=
  ∀ bb, b = some bb → attempt t c bb.y = some bb.x

theorem tetrisTry_inv (t : Tetris) (c : LCell) (row : Nat) (b : Option Best) (hb : BestOK t c b) :
    BestOK t c (tetrisTry t c row b).1 := by
  unfold tetrisTry
  cases b with
  | some bb =>
    simp only
    split
    · exact hb
    · split
      · exact hb
      · rename_i x hx
        split
        · intro b' hb'
          simp only [Option.some.injEq] at hb'
          subst hb'
          exact hx
        · exact hb
  | none =>
    simp only
    split
    · exact hb
    · rename_i x hx
      intro b' hb'
      simp only [Option.some.injEq] at hb'
      subst hb'
      exact hx

/-- `x` is the clamp of `tx` into an interval of `ivs` lying in a segment `r` that the per-level loop on `rs` reaches
and whose orientation for `c` is valid -/
def Found (c : LCell) (y : Int) (ivs : List (Int × Int)) (rs : List Row) (x : Int) : Prop :=
  ∃ iv ∈ ivs, x = clamp c.tx iv.1 iv.2 ∧ ∃ r, ReachedIn y r rs ∧
    r.rect.minX ≤ iv.1 ∧ iv.2 + c.w ≤ r.rect.maxX ∧ orientFor c r.orient ≠ Orient.INVALID

theorem Found.there {c : LCell} {y : Int} {ivs : List (Int × Int)} {r0 : Row} {rs : List Row} {x : Int}
    (hy : r0.rect.minY = y) (h : Found c y ivs rs x) : Found c y ivs (r0 :: rs) x := by
  obtain ⟨iv, hiv, hx, r, hr, h⟩ := h
  exact ⟨iv, hiv, hx, r, hr.there hy, h⟩

theorem drop_cons_facts {α : Type} (l : List α) (i : Nat) (a : α) (as : List α) (h : a :: as = l.drop i) :
    l[i]? = some a ∧ as = l.drop (i + 1) := by
  constructor
  · have := congrArg (fun l => l[0]?) h
    simp only [List.getElem?_cons_zero, List.getElem?_drop, Nat.add_zero] at this
    exact this.symm
  · have := congrArg List.tail h
    simpa [List.tail_drop] using this

theorem attemptSegs_found (rows : List Row) (c : LCell) (y : Int) (ivs : List (Int × Int)) :
    ∀ (rs : List Row) (i : Nat) (acc : Option Int), rs = rows.drop i →
      ∀ x, attemptSegs rows c y ivs i rs acc = some x → acc = some x ∨ Found c y ivs rs x := by
  intro rs
  induction rs with
  | nil =>
    intro i acc _ x hx
    unfold attemptSegs at hx
    exact Or.inl hx
  | cons r rs ih =>
    intro i acc hrs x hx
    obtain ⟨hri, hrs'⟩ := drop_cons_facts rows i r rs hrs
    simp only [attemptSegs] at hx
    split at hx
    · exact Or.inl hx
    · rename_i hy
      have hy := Decidable.not_not.mp hy
      split at hx
      · exact (ih (i + 1) acc hrs' x hx).imp_right (Found.there hy)
      · rename_i hor
        rw [getOrientation_eq, rowAt, ListFacts.getD_of_getElem? hri] at hor
        rcases ih (i + 1) _ hrs' x hx with hf | hf
        · exact List.foldlRecOn (motive := fun a => ∀ x, a = some x → acc = some x ∨ Found c y ivs (r :: rs) x) ivs _
            (fun x h => Or.inl h)
            (fun b hb iv hiv => closestInSeg_inv c.tx c.w r _ b iv
              (fun h1 h2 => Or.inr ⟨iv, hiv, rfl, r, ReachedIn.here hy, h1, h2, hor⟩) hb) x hf
        · exact Or.inr (hf.there hy)

theorem attempt_found (t : Tetris) (c : LCell) (y x : Int) (h : attempt t c y = some x) :
    Found c y (possibleIvs t.rows t.rowH t.free c.w (c.h.toNat + 1) c.h y) (t.rows.drop (startRow t.rows y)) x := by
  rw [attempt_eq] at h
  exact (attemptSegs_found t.rows c y _ _ (startRow t.rows y) none rfl x h).resolve_left fun h => nomatch h

theorem level_order {H : Int} (hH : 0 < H) {rows : List Row} (hok : RowsOK H rows) (hs : SortedBy rowLt rows) :
    rows.Pairwise fun a b => b.rect.minY = a.rect.minY → a.rect.maxX ≤ b.rect.minX := by
  refine (hs.and hok.disj).imp_of_mem fun {a b} ha hb h hy => ?_
  obtain ⟨hso, hd⟩ := h
  rw [rowLt_iff] at hso
  have hle : a.rect.minX ≤ b.rect.minX := Int.not_lt.mp fun h => hso (Or.inr ⟨hy, h⟩)
  rcases level_apart_x hH (hok.height a ha) (hok.height b hb) hy.symm hd with h | h
  · exact h
  · exact absurd (Int.lt_of_lt_of_le (hok.wide b hb) h) (Int.not_lt.mpr hle)

/-- the `while` loop of `placeCell` started at the head of `l` stops at the segment `r` of the level that holds
`[x, x + w)`: the segments before `r` start left of `x`, the one after `r` starts right of it -/
theorem segOf_row {x y w : Int} (hw : 0 < w) {r : Row} (h1 : r.rect.minX ≤ x) (h2 : x + w ≤ r.rect.maxX)
    (rows : List Row) :
    ∀ (l : List Row) (i : Nat), ReachedIn y r l →
      l.Pairwise (fun a b => b.rect.minY = a.rect.minY → a.rect.maxX ≤ b.rect.minX) →
      (∀ a ∈ l, a.rect.minX < a.rect.maxX) → l = rows.drop i →
      rowAt rows (segOf x y i (rows.drop (i + 1))) = r := by
  intro l
  induction l with
  | nil => intro i hr; cases hr
  | cons r0 rs ih =>
    intro i hr hp hwide hl
    obtain ⟨hri, hrs⟩ := drop_cons_facts rows i r0 rs hl
    rw [← hrs]
    rw [List.pairwise_cons] at hp
    cases hr with
    | here hy =>
      cases rs with
      | nil => exact ListFacts.getD_of_getElem? hri
      | cons r1 rs' =>
        simp only [segOf]
        rw [if_neg]
        · exact ListFacts.getD_of_getElem? hri
        · intro hc
          simp only [Bool.and_eq_true, beq_iff_eq, decide_eq_true_eq] at hc
          have := hp.1 r1 List.mem_cons_self (hc.1.trans hy.symm)
          exact Int.not_le.mpr (Int.lt_add_of_pos_right x hw) (Int.le_trans h2 (Int.le_trans this hc.2))
    | there hy hr' =>
      cases rs with
      | nil => cases hr'
      | cons r1 rs' =>
        have hy1 : r1.rect.minY = y := by
          cases hr' with
          | here h => exact h
          | there h _ => exact h
        have hx1 : r1.rect.minX ≤ x := by
          rcases List.mem_cons.mp hr'.mem with rfl | hm
          · exact h1
          · exact Int.le_trans (Int.le_of_lt (hwide r1 (List.mem_cons_of_mem _ List.mem_cons_self)))
              (Int.le_trans ((List.pairwise_cons.mp hp.2).1 r hm (hr'.minY.trans hy1.symm)) h1)
        simp only [segOf]
        rw [if_pos ((Bool.and_eq_true _ _).mpr ⟨beq_iff_eq.mpr hy1, decide_eq_true hx1⟩)]
        have := ih (i + 1) hr' hp.2 (fun a ha => hwide a (List.mem_cons_of_mem _ ha)) hrs
        rwa [← (drop_cons_facts rows (i + 1) r1 rs' hrs).2] at this

theorem tetrisPlace_rows (t : Tetris) (c : LCell) :
    (tetrisPlace t c).1.rows = t.rows ∧ (tetrisPlace t c).1.rowH = t.rowH := by
  unfold tetrisPlace
  split <;> exact ⟨rfl, rfl⟩

/-- the invariant of `TetrisLegalizer` on rows of height `H`, with `S` the cells placed so far -/
structure TInv (H : Int) (S : Rect → Prop) (t : Tetris) : Prop where
  ok : RowsOK H t.rows
  sorted : SortedBy rowLt t.rows
  rowH : t.rows ≠ [] → t.rowH = H
  good : Pointwise (Good S) t.rows t.free

def rectOf (c : LCell) (p : Pos) : Rect := ⟨p.x, p.x + c.w, p.y, p.y + c.h⟩

def cellRect (L : List LCell) (P : List Pos) (m : Nat) : Rect := rectOf (cellAt L m) (posAt P m)

/-- status `p` of cell `c` is legal relative to the segments `rows` -/
structure Sits (H : Int) (rows : List Row) (c : LCell) (p : Pos) : Prop where
  seg : ∃ r ∈ rows, SegOrient r c p
  inside : ∀ k, c.h = hk H k → 1 ≤ k → ∀ yj ∈ levels H k p.y,
    ∃ r ∈ rows, r.rect.minY = yj ∧ r.rect.minX ≤ p.x ∧ p.x + c.w ≤ r.rect.maxX

theorem Sits.mono {H : Int} {rows rows' : List Row} {c : LCell} {p : Pos} (h : Sits H rows c p)
    (hr : ∀ s ∈ rows, ∃ r ∈ rows', SubRow s r) : Sits H rows' c p := by
  refine ⟨?_, fun k hh hk1 yj hyj => ?_⟩
  · obtain ⟨s, hs, hso⟩ := h.seg
    obtain ⟨r, hr', hsub⟩ := hr s hs
    exact ⟨r, hr', hso.of_sub hsub⟩
  · obtain ⟨s, hs, a1, a2, a3⟩ := h.inside k hh hk1 yj hyj
    obtain ⟨r, hr', hsub⟩ := hr s hs
    exact ⟨r, hr', hsub.contains a1 a2 a3⟩

/-- a successful attempt on level `y` under the invariant: `x` lies in a segment of that level with a valid orientation
(where the `while` loop of `placeCell` finds it), and on each level of the cell the strip `[x, x + w)` lies in a segment
in which everything placed ends at or left of `x` -/
theorem TInv.attempt {S : Rect → Prop} {t : Tetris} {H : Int} (inv : TInv H S t) (hH : 0 < H) (c : LCell)
    (hw : 0 < c.w) {k : Nat} (hk1 : 1 ≤ k) (hh : c.h = hk H k) {x y : Int} (h : attempt t c y = some x) :
    t.rowH = H ∧ (∃ r ∈ t.rows, SegOrient r c ⟨x, y, getOrientation t.rows c (orientRow t.rows x y), true⟩) ∧
      ∀ yj ∈ levels H k y, LevelOK S t.rows c.w x x yj := by
  obtain ⟨hok, hs, hrowH, hg⟩ := inv
  obtain ⟨iv, hiv, rfl, r, hr, h1, h2, hor⟩ := attempt_found t c y x h
  have hrH : t.rowH = H := hrowH fun he => by rw [he, possibleIvs_nil] at hiv; cases hiv
  obtain ⟨k, rfl⟩ := Nat.exists_eq_add_of_le' hk1
  rw [hrH, hh] at hiv
  obtain ⟨hle, hlv⟩ := possibleIvs_levelOK t.rows H hH t.free hg c.w _ k y (le_toNat_hk H hH _) iv hiv
  have hcl := clamp_mem c.tx iv.1 iv.2 hle
  have h1 := Int.le_trans h1 hcl.1
  have h2 := Int.le_trans (Int.add_le_add_right hcl.2 _) h2
  obtain rfl : rowAt t.rows (orientRow t.rows (clamp c.tx iv.1 iv.2) y) = r := by
    rw [orientRow_eq]
    exact segOf_row hw h1 h2 t.rows _ _ hr ((level_order hH hok hs).sublist (List.drop_sublist _ _))
      (fun a ha => hok.wide a (List.mem_of_mem_drop ha)) rfl
  exact ⟨hrH, ⟨_, List.mem_of_mem_drop hr.mem, hr.minY, h1, h2, rfl, hor⟩, hlv _ hcl.1 hcl.2⟩

theorem tetrisPlace_inv {S : Rect → Prop} (t : Tetris) (H : Int) (hH : 0 < H) (inv : TInv H S t)
    (c : LCell) (hw : 0 < c.w) (k : Nat) (hk1 : 1 ≤ k) (hh : c.h = hk H k) :
    TInv H (fun q => S q ∨ ((tetrisPlace t c).2.placed = true ∧ q = rectOf c (tetrisPlace t c).2))
      (tetrisPlace t c).1 ∧
    ((tetrisPlace t c).2.placed = true → Sits H t.rows c (tetrisPlace t c).2 ∧
      ∀ q, S q → q.minY < q.maxY → q.intersects (rectOf c (tetrisPlace t c).2) = false) := by
  have hinv := searchRows_inv (BestOK t c) (tetrisTry t c) (tetrisTry_inv t c) t.rows.length
    (startRow t.rows c.ty) none (by intro bb h; simp at h)
  have ⟨hok, hs, hrowH, hg⟩ := inv
  unfold tetrisPlace
  cases hsr : searchRows (tetrisTry t c) t.rows.length (startRow t.rows c.ty) none with
  | none =>
    exact ⟨⟨hok, hs, hrowH, hg.imp fun r f h => h.mono fun q hq => hq.elim id fun hp => nomatch hp.1⟩,
      fun hp => nomatch hp⟩
  | some b =>
    simp only
    obtain ⟨hrH, hseg, hlev⟩ := inv.attempt hH c hw hk1 hh (hinv b hsr)
    obtain ⟨k', rfl⟩ := Nat.exists_eq_add_of_le' hk1
    refine ⟨⟨hok, hs, hrowH, ?_⟩, fun _ => ⟨⟨hseg, fun k2 hh2 _ yj hyj => ?_⟩, fun q hq hqy => ?_⟩⟩
    · show Pointwise (Good _) t.rows (instanciate t.rows t.rowH b.x c.w (c.h.toNat + 1) b.y c.h t.free)
      rw [hrH, hh]
      refine (instanciate_good t.rows H hH hok b.x c.w hw _ k' b.y t.free S (le_toNat_hk H hH _) hg
        fun yj hyj => (hlev yj hyj).mono (Int.le_of_lt (Int.lt_add_of_pos_right _ hw)) fun q hq => Or.inl hq).imp_mem
        fun r hr f hgood => ⟨hgood.1, ?_⟩
      rintro q (hq | ⟨_, rfl⟩) hi
      · exact hgood.2 q (Or.inl hq) hi
      · -- the cell meets `r`, so one of its strips does
        rw [rectOf, hh] at hi
        obtain ⟨yj, hyj, hi'⟩ := rect_strip H b.x (b.x + c.w) r.rect
          (by rw [hok.height r hr]; exact Int.lt_add_of_pos_right _ hH) k' b.y hi
        exact hgood.2 (strip H b.x c.w yj) (Or.inr ⟨yj, hyj, rfl⟩) hi'
    · obtain rfl : k2 = k' + 1 := hk_inj H hH _ _ (hh2.symm.trans hh)
      obtain ⟨r, hr, b1, b2, _⟩ := hlev yj hyj
      exact ⟨r, List.mem_of_mem_drop hr.mem, hr.minY, b1, b2⟩
    · -- a strip of the cell would meet `q`
      rw [Bool.eq_false_iff, intersects_comm, rectOf, hh]
      intro hi
      obtain ⟨yj, hyj, hi'⟩ := rect_strip H b.x (b.x + c.w) q hqy k' b.y hi
      exact Bool.false_ne_true (((hlev yj hyj).clear hok.height hq).symm.trans hi')

/-- what a legalizer run on the segments `rows` guarantees for the statuses `ps` it reports for `cells` -/
structure PassOK (H : Int) (rows : List Row) (cells : List LCell) (ps : List Pos) : Prop where
  cell : ∀ i, (posAt ps i).placed = true → Sits H rows (cellAt cells i) (posAt ps i)
  apart : ∀ i j, i ≠ j → (posAt ps i).placed = true → (posAt ps j).placed = true →
    (cellRect cells ps i).intersects (cellRect cells ps j) = false

theorem PassOK.mono {H : Int} {rows rows' : List Row} {cells : List LCell} {ps : List Pos}
    (h : PassOK H rows cells ps) (hr : ∀ s ∈ rows, ∃ r ∈ rows', SubRow s r) : PassOK H rows' cells ps :=
  ⟨fun i hi => (h.cell i hi).mono hr, h.apart⟩

theorem tetrisRun_of_inv (H : Int) (hH : 0 < H) :
    ∀ (cells : List LCell) (t : Tetris) (S : Rect → Prop), TInv H S t →
      (∀ c ∈ cells, 0 < c.w ∧ ∃ k : Nat, 1 ≤ k ∧ c.h = hk H k) →
      PassOK H t.rows cells (tetrisRun t cells) ∧
      ∀ i, (posAt (tetrisRun t cells) i).placed = true → ∀ q, S q → q.minY < q.maxY →
        q.intersects (cellRect cells (tetrisRun t cells) i) = false := by
  intro cells
  induction cells with
  | nil =>
    intro t S _ _
    have no : ∀ i, (posAt (tetrisRun t []) i).placed = true → False := fun i h => by cases h
    exact ⟨⟨fun i h => (no i h).elim, fun i j _ h => (no i h).elim⟩, fun i h => (no i h).elim⟩
  | cons c0 cs ih0 =>
    intro t S inv hcs
    obtain ⟨hw0, k0, hk0, hh0⟩ := hcs c0 List.mem_cons_self
    obtain ⟨inv', h0⟩ := tetrisPlace_inv t H hH inv c0 hw0 k0 hk0 hh0
    obtain ⟨ihP, ihS⟩ := ih0 _ _ inv' fun c hc => hcs c (List.mem_cons_of_mem _ hc)
    rw [(tetrisPlace_rows t c0).1] at ihP
    rw [show tetrisRun t (c0 :: cs) = (tetrisPlace t c0).2 :: tetrisRun (tetrisPlace t c0).1 cs from rfl]
    generalize (tetrisPlace t c0).2 = p0 at h0 ihS ⊢
    generalize tetrisRun (tetrisPlace t c0).1 cs = ps at ihP ihS ⊢
    -- a later cell was placed with the rectangle of the first in the invariant
    have first : ∀ j, p0.placed = true → (posAt ps j).placed = true →
        (rectOf c0 p0).intersects (cellRect cs ps j) = false := fun j hp0 hpj =>
      ihS j hpj _ (Or.inr ⟨hp0, rfl⟩) (by
        show p0.y < p0.y + c0.h
        rw [hh0]
        exact Int.lt_add_of_pos_right _ (hk_pos H hH k0 hk0))
    refine ⟨⟨fun i hpl => ?_, fun i j hne hi hj => ?_⟩, fun i hpl q hq hqy => ?_⟩
    · cases i with
      | zero => exact (h0 hpl).1
      | succ i => exact ihP.cell i hpl
    · cases i with
      | zero =>
        cases j with
        | zero => exact absurd rfl hne
        | succ j => exact first j hi hj
      | succ i =>
        cases j with
        | zero => rw [intersects_comm]; exact first i hj hi
        | succ j => exact ihP.apart i j (fun h => hne (congrArg Nat.succ h)) hi hj
    · cases i with
      | zero => exact (h0 hpl).2 q hq hqy
      | succ i => exact ihS i hpl q (Or.inl hq) hqy

theorem tetrisInit_rowH {H : Int} {rows : List Row} (hok : RowsOK H rows) :
    (Tetris.init rows).rows ≠ [] → (Tetris.init rows).rowH = H := by
  intro hne
  simp only [Tetris.init] at hne ⊢
  have hs := hok.sort
  cases hq : sortRows rows with
  | nil => exact absurd hq hne
  | cons r rs =>
    rw [hq] at hs
    have := hs.height r (by simp)
    simp only [List.head?_cons, Option.map_some, Option.getD_some, Rect.height]
    omega

theorem tetrisRun_pass (H : Int) (hH : 0 < H) (rows : List Row) (hok : RowsOK H rows) (cells : List LCell)
    (hc : ∀ c ∈ cells, 0 < c.w ∧ ∃ k : Nat, 1 ≤ k ∧ c.h = hk H k) :
    PassOK H rows cells (tetrisRun (Tetris.init rows) cells) :=
  (tetrisRun_of_inv H hH cells (Tetris.init rows) (fun _ => False)
    ⟨hok.sort, sortRows_sorted _, tetrisInit_rowH hok,
      pointwise_map _ _ fun _ _ => ⟨Int.le_refl _, fun _ hq => absurd hq id⟩⟩ hc).1.mono
    fun r hr => ⟨r, (mem_sortRows r rows).mp hr, SubRow.refl r⟩

end ColoVerif.Legalize
