import ColoVerif.Proofs.Transp1dOptSweepDefs
import ColoVerif.Proofs.Transp1dOptBase
/-
The event queue in the optimality proof of the sweep: the algebra of the cumulated slope `evS` under
the queue operations of the model (`evInsert`, `emplacePos`, `popAt`, `getSlopeKeep`) and under the
two event loops of `push` (`pushNewSourceEvents_evS`, `pushNewSinkEvents_evS`).  The slope a loop adds
is a sum over an index range with a threshold, which telescopes (`sumFrom_thresh`).
-/
namespace ColoVerif.Transp1d

theorem sw_Dlt (sv : Solver) (sd : SwDom sv) (a b : Nat) (hab : a < b) (hb : b ≤ sv.v.length) :
    sv.D.getD a 0 < sv.D.getD b 0 :=
  step_strict sv.D _ (sd.si.D_step sd.dpos) a b hab hb

theorem sw_Snn (sv : Solver) (sd : SwDom sv) (k : Nat) (hk : k ≤ sv.u.length) : 0 ≤ sv.S.getD k 0 := by
  have h1 := sd.dom.Smono 0 k (Nat.zero_le _) hk
  have h2 := sd.si.S_zero
  omega

theorem lamU_zero_of_head (sv : Solver) (pRev : List Int) (x : Int)
    (h : ∀ y, pRev.head? = some y → y < x) : lamU sv pRev x = 0 := by
  cases pRev with
  | nil => rfl
  | cons p rest => exact if_neg (by have := h p rfl; omega)

theorem lamRj_zero_of_head (sv : Solver) (pRev : List Int) (x : Int) (j : Nat)
    (h : ∀ y, pRev.head? = some y → y < x) : lamRj sv pRev x j = 0 := by
  cases pRev with
  | nil => rfl
  | cons p rest =>
    cases j with
    | zero => rfl
    | succ j => exact if_neg (by have := h p rfl; omega)

theorem lamU_nonneg (sv : Solver) (l : List Int) (hf : Facts sv l) (x : Int) (hx : 0 < x) :
    0 ≤ lamU sv l x := by
  cases l with
  | nil => exact Int.le_refl _
  | cons p rest =>
    by_cases h : x ≤ p
    · exact hf.1.f1 x hx h
    · exact Int.le_of_eq (if_neg h).symm

theorem evS_zero (ev : List Event) (y : Int) (h : ∀ e ∈ ev, e.1 < y) : evS ev y = 0 := by
  induction ev with
  | nil => rfl
  | cons e es ih =>
    have h1 := h e (List.mem_cons_self ..)
    have h2 : ¬ y ≤ e.1 := by omega
    simp only [evS, h2, if_false, ih (fun e' he' => h e' (List.mem_cons_of_mem _ he'))]
    rfl

theorem evS_evInsert (x : Event) (ev : List Event) (y : Int) :
    evS (evInsert x ev) y = (if y ≤ x.1 then x.2 else 0) + evS ev y := by
  induction ev with
  | nil => rfl
  | cons e es ih =>
    rw [evInsert]
    split
    · rfl
    · rw [evS, ih, evS]; omega

theorem evS_emplacePos (ev : List Event) (pos sl y : Int) (hy : 0 < y) :
    evS (emplacePos ev pos sl) y = (if y ≤ pos then sl else 0) + evS ev y := by
  unfold emplacePos
  split
  · exact evS_evInsert _ _ _
  · have : ¬ y ≤ pos := by omega
    simp [this]

/-- the events popped by `getSlope` all sit at `L` -/
theorem evS_popAt (L : Int) (ev : List Event) (y : Int) :
    evS ev y = (if y ≤ L then (popAt L ev).1 else 0) + evS (popAt L ev).2 y := by
  induction ev with
  | nil => rw [popAt, ite_self]; rfl
  | cons e es ih =>
    rw [popAt]
    by_cases h : e.1 = L
    · rw [if_pos h, evS, ih, h]
      show _ = (if y ≤ L then (popAt L es).1 + e.2 else 0) + evS (popAt L es).2 y
      split <;> omega
    · rw [if_neg h, ite_self, Int.zero_add]

theorem evS_getSlopeKeep (st : St) (y : Int) :
    evS (getSlopeKeep st).2.events y = evS st.events y := by
  unfold getSlopeKeep
  simp only
  rw [evS_popAt st.lastPosition st.events y]
  split
  · rw [evS_evInsert]
  · rename_i h
    have : (popAt st.lastPosition st.events).1 = 0 := Decidable.of_not_not h
    simp [this]

/-- the slope returned by `getSlope` is the cumulated slope at `L` (all events are `≤ L`) -/
theorem popAt_fst_eq (st : St) (ei : EvInv st) :
    (popAt st.lastPosition st.events).1 = evS st.events st.lastPosition := by
  have h := evS_popAt st.lastPosition st.events st.lastPosition
  have hlt := lt_popAt st.lastPosition st.events ei.sorted ei.le
  rw [evS_zero _ _ hlt] at h
  simp only [Int.le_refl, if_true] at h
  omega

/-- `Σ_{b ≤ l < b + cnt} f l`, in the order of the `for` loops of the model -/
def sumFrom (f : Nat → Int) : Nat → Nat → Int
  | 0, _ => 0
  | cnt + 1, j => f j + sumFrom f cnt (j + 1)

theorem sumFrom_le (f g : Nat → Int) (cnt b : Nat) (h : ∀ l, b ≤ l → l < b + cnt → f l ≤ g l) :
    sumFrom f cnt b ≤ sumFrom g cnt b := by
  induction cnt generalizing b with
  | zero => exact Int.le_refl _
  | succ cnt ih =>
    simp only [sumFrom]
    have h1 := h b (Nat.le_refl _) (by omega)
    have h2 := ih (b + 1) (fun l hl hl' => h l (by omega) (by omega))
    omega

theorem sumFrom_zero (f : Nat → Int) (cnt b : Nat) (h : ∀ l, b ≤ l → l < b + cnt → f l = 0) :
    sumFrom f cnt b = 0 := by
  induction cnt generalizing b with
  | zero => rfl
  | succ cnt ih =>
    rw [sumFrom, h b (Nat.le_refl _) (by omega), ih (b + 1) fun l hl hl' => h l (by omega) (by omega)]
    rfl

/-- The shape of the slope that a batch of events at positions `pos l` adds: non-negative weights
counted while `x ≤ pos l`, hence non-negative and antitone in `x` (`sumFrom_ind_anti`). -/
theorem sumFrom_ind_nonneg (w pos : Nat → Int) (cnt b : Nat) (x : Int)
    (hw : ∀ l, b ≤ l → l < b + cnt → 0 ≤ w l) :
    0 ≤ sumFrom (fun l => if x ≤ pos l then w l else 0) cnt b :=
  calc 0 = sumFrom (fun _ => 0) cnt b := (sumFrom_zero _ cnt b fun _ _ _ => rfl).symm
    _ ≤ _ := sumFrom_le _ _ cnt b fun l hl hl' => by
      show 0 ≤ if x ≤ pos l then w l else 0
      split
      · exact hw l hl hl'
      · exact Int.le_refl _

theorem sumFrom_ind_anti (w pos : Nat → Int) (cnt b : Nat) (x x' : Int) (hxx : x ≤ x')
    (hw : ∀ l, b ≤ l → l < b + cnt → 0 ≤ w l) :
    sumFrom (fun l => if x' ≤ pos l then w l else 0) cnt b
      ≤ sumFrom (fun l => if x ≤ pos l then w l else 0) cnt b :=
  sumFrom_le _ _ cnt b fun l hl hl' => by
    show (if x' ≤ pos l then w l else 0) ≤ if x ≤ pos l then w l else 0
    by_cases h : x' ≤ pos l
    · rw [if_pos h, if_pos (Int.le_trans hxx h)]
    · rw [if_neg h]
      split
      · exact hw l hl hl'
      · exact Int.le_refl _

theorem sumFrom_add (f : Nat → Int) (c1 c2 b : Nat) :
    sumFrom f (c1 + c2) b = sumFrom f c1 b + sumFrom f c2 (b + c1) := by
  induction c1 generalizing b with
  | zero => rw [Nat.zero_add, sumFrom, Int.zero_add, Nat.add_zero]
  | succ c1 ih =>
    rw [Nat.add_right_comm, sumFrom, sumFrom, ih, Int.add_assoc, Nat.add_assoc, Nat.add_comm 1]

theorem sumFrom_support (f : Nat → Int) (b e J : Nat) (he : e ≤ J)
    (h0 : ∀ l, l < J → l < b ∨ e ≤ l → f l = 0) :
    sumFrom f (e - b) b = sumFrom f J 0 := by
  by_cases hbe : b ≤ e
  · obtain ⟨c, rfl⟩ := Nat.exists_eq_add_of_le hbe
    obtain ⟨r, rfl⟩ := Nat.exists_eq_add_of_le he
    rw [Nat.add_sub_cancel_left, Nat.add_assoc, sumFrom_add, sumFrom_add, Nat.zero_add,
      sumFrom_zero f b 0 fun l _ hl => h0 l (by omega) (Or.inl (by omega)),
      sumFrom_zero f r (b + c) fun l hl hl' => h0 l (by omega) (Or.inr hl)]
    omega
  · rw [Nat.sub_eq_zero_of_le (Nat.le_of_not_le hbe),
      sumFrom_zero f J 0 fun l _ hl => h0 l (by omega) (by omega)]
    rfl

/-- telescoping with a threshold: the terms `g l - g (l+1)` are counted from `T` on -/
theorem sumFrom_thresh (g : Nat → Int) (P : Nat → Prop) [DecidablePred P] (cnt b T : Nat)
    (hP : ∀ l, b ≤ l → l < b + cnt → (P l ↔ T ≤ l)) :
    sumFrom (fun l => if P l then g l - g (l + 1) else 0) cnt b
      = g (max b (min T (b + cnt))) - g (b + cnt) := by
  induction cnt generalizing b with
  | zero => rw [sumFrom, Nat.add_zero, Nat.max_eq_left (Nat.min_le_right T b), Int.sub_self]
  | succ cnt ih =>
    show _ = g (max b (min T (b + cnt + 1))) - g (b + cnt + 1)
    rw [sumFrom, ih (b + 1) fun l hl hl' => hP l (by omega) (by omega), Nat.add_right_comm b 1 cnt]
    have hb := hP b (Nat.le_refl _) (by omega)
    by_cases hT : T ≤ b
    · have hm : min T (b + cnt + 1) = T := Nat.min_eq_left (by omega)
      rw [if_pos (hb.mpr hT), hm, Nat.max_eq_left (by omega : T ≤ b + 1), Nat.max_eq_left hT]
      omega
    · have hm : b + 1 ≤ min T (b + cnt + 1) := Nat.le_min.mpr ⟨by omega, by omega⟩
      rw [if_neg (fun h => hT (hb.mp h)), Nat.max_eq_right hm, Nat.max_eq_right (by omega : b ≤ _),
        Int.zero_add]

theorem upperBound_lt (v : List Int) (x : Int) (j : Nat) (h : j < upperBound v x) : v.getD j 0 ≤ x := by
  induction v generalizing j with
  | nil => simp [upperBound] at h
  | cons y ys ih =>
    unfold upperBound at h
    rw [List.takeWhile_cons] at h
    by_cases hy : y ≤ x
    · simp only [hy, decide_true, if_true, List.length_cons] at h
      cases j with
      | zero => rw [List.getD_cons_zero]; exact hy
      | succ j => rw [List.getD_cons_succ]; exact ih j (by unfold upperBound; omega)
    · simp [hy] at h

theorem lowerBound_le (v : List Int) (hs : List.Pairwise (fun a b => a ≤ b) v) (x : Int) (j : Nat)
    (h : lowerBound v x ≤ j) (hj : j < v.length) : x ≤ v.getD j 0 := by
  induction v generalizing j with
  | nil => simp at hj
  | cons y ys ih =>
    unfold lowerBound at h
    rw [List.takeWhile_cons] at h
    by_cases hy : y < x
    · simp only [hy, decide_true, if_true, List.length_cons] at h
      cases j with
      | zero => omega
      | succ j =>
        rw [List.getD_cons_succ]
        exact ih (List.Pairwise.of_cons hs) j (by unfold lowerBound; omega) (by simpa using hj)
    · have h0 := sorted_getD (y :: ys) hs 0 j (Nat.zero_le _) hj
      rw [List.getD_cons_zero] at h0
      omega

theorem evS_emplLoop (pos sl : Nat → Int) (x : Int) (hx : 0 < x) (cnt j : Nat) (ev : List Event) :
    evS (emplLoop pos sl cnt j ev) x
      = evS ev x + sumFrom (fun l => if x ≤ pos l then sl l else 0) cnt j := by
  induction cnt generalizing j ev with
  | zero => exact (Int.add_zero _).symm
  | succ cnt ih =>
    rw [emplLoop, ih, evS_emplacePos _ _ _ _ hx, sumFrom]
    omega

/-- slope added at `x` by the new-source events of source `a + 1` -/
def srcS (sv : Solver) (a J0 : Nat) (x : Int) : Int :=
  sumFrom (fun l => if x ≤ sv.D.getD (l + 1) 0 - sv.S.getD (a + 1) 0 then dl sv a l else 0)
    (min (lowerBound sv.v (sv.u.getD (a + 1) 0)) J0 - (upperBound sv.v (sv.u.getD a 0) - 1))
    (upperBound sv.v (sv.u.getD a 0) - 1)

/-- slope added at `x` by the new-sink events of source `i` (sinks `J0 .. o-1`, capped at `L`) -/
def snkS (sv : Solver) (i J0 o : Nat) (L x : Int) : Int :=
  sumFrom (fun l => if x ≤ min (sv.D.getD (l + 1) 0 - sv.S.getD i 0) L
    then cs sv i l - cs sv i (l + 1) else 0) (o - J0) J0

theorem pushNewSourceEvents_evS (sv : Solver) (wf : sv.WF) (a : Nat) (ha : a + 1 < sv.u.length)
    (st st' : St) (hocc : st.lastOcc < sv.v.length)
    (e : pushNewSourceEvents sv (a + 1) st = .ok st') (x : Int) (hx : 0 < x) :
    evS st'.events x = evS st.events x + srcS sv a st.lastOcc x := by
  obtain rfl := Except.ok.inj ((pushNewSourceEvents_eq sv wf a ha st hocc).symm.trans e)
  exact evS_emplLoop _ _ x hx _ _ _

theorem pushNewSinkEvents_evS (sv : Solver) (wf : sv.WF) (i j : Nat) (hi : i < sv.u.length)
    (hj : j < sv.v.length) (st st' : St)
    (e : pushNewSinkEvents sv i j st = .ok st') (x : Int) (hx : 0 < x) :
    evS st'.events x = evS st.events x + snkS sv i st.lastOcc j st.lastPosition x := by
  obtain rfl := Except.ok.inj ((pushNewSinkEvents_eq sv wf i j hi hj st).symm.trans e)
  exact evS_emplLoop _ _ x hx _ _ _

end ColoVerif.Transp1d
