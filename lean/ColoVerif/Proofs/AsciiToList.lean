/-
`String.toList` of ASCII strings without UTF-8 decoding.  The kernel evaluates `"…".toList` by decoding the
bytes of the literal, which is slow; on ASCII bytes the decoding is the identity, and reading the bytes off is
several times faster.  `toList_eq_toListA` lets an evaluation over a table of names use `toListA`.
-/
namespace ColoVerif

/-- the characters of a byte string all of whose bytes are ASCII -/
def asciiChars : List UInt8 → Option (List Char)
  | [] => some []
  | b :: bs => if b.toNat < 128 then (asciiChars bs).map (Char.ofNat b.toNat :: ·) else none

def toListA (s : String) : List Char := (asciiChars s.toByteArray.data.toList).getD s.toList

/-- an ASCII character is encoded as itself; the encoding of any other starts with a byte ≥ 0xc0 -/
theorem asciiChars_encode (c : Char) (rest : List UInt8) :
    asciiChars (String.utf8EncodeChar c ++ rest) =
      if c.val.toNat ≤ 127 then (asciiChars rest).map (c :: ·) else none := by
  unfold String.utf8EncodeChar
  by_cases h : c.val.toNat ≤ 127
  · have h1 : c.val.toNat % 256 = c.val.toNat := Nat.mod_eq_of_lt (by omega)
    have h2 : Char.ofNat c.val.toNat = c := by simp [Char.ofNat_toNat]
    simp only [h, if_true, List.cons_append, List.nil_append, asciiChars, UInt8.toNat_ofNat', h1, h2]
    rw [if_pos (by omega)]
  · simp only [h, if_false]
    split
    · simp only [List.cons_append, asciiChars, UInt8.toNat_ofNat']; rw [if_neg (by omega)]
    · split <;> (simp only [List.cons_append, asciiChars, UInt8.toNat_ofNat']; rw [if_neg (by omega)])

theorem asciiChars_flatMap (l l' : List Char) (h : asciiChars (l.flatMap String.utf8EncodeChar) = some l') :
    l' = l := by
  induction l generalizing l' with
  | nil => simpa [asciiChars] using h.symm
  | cons c l ih =>
    rw [List.flatMap_cons, asciiChars_encode] at h
    split at h
    · cases hr : asciiChars (l.flatMap String.utf8EncodeChar) with
      | none => rw [hr] at h; cases h
      | some r => rw [hr] at h; cases h; rw [ih r hr]
    · cases h

theorem toListA_eq (s : String) : toListA s = s.toList := by
  unfold toListA
  cases h : asciiChars s.toByteArray.data.toList with
  | none => rfl
  | some l' =>
    rw [← String.utf8Encode_toList, List.utf8Encode] at h
    exact asciiChars_flatMap _ _ (by simpa using h)

/-- rewriting with this equation makes every `String.toList` in a goal, also under binders, read the bytes -/
theorem toList_eq_toListA : String.toList = toListA := funext fun s => (toListA_eq s).symm

end ColoVerif
