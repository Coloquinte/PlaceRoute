import ColoVerif.Model.Legalize
import ColoVerif.Proofs.ListFacts
/-
`writeRow`/`writeRows` (`getPlacement` of every row legalizer written back to the status vector) change
the vector only by `set`s at cell indices, one after the other: they are `setAll` of an explicit list of
writes (`allWrites`, characterised by `mem_allWrites`), and what a sequence of writes leaves at an index
is said once (`posAt_setAll`).  `importPos` (`importLegalization`) is a `setAll` too (`importPos_eq`).
-/
namespace ColoVerif.Legalize
open ColoVerif

/-- the writes `(index, status)` applied in order -/
def setAll (ops : List (Nat × Pos)) (pos : List Pos) : List Pos := ops.foldl (fun P o => P.set o.1 o.2) pos

theorem setAll_length : ∀ (ops : List (Nat × Pos)) (pos : List Pos), (setAll ops pos).length = pos.length
  | [], _ => rfl
  | _ :: ops, _ => (setAll_length ops _).trans (List.length_set ..)

theorem posAt_setAll : ∀ (ops : List (Nat × Pos)) (pos : List Pos) (m : Nat), m < pos.length →
    (m ∉ ops.map Prod.fst ∧ posAt (setAll ops pos) m = posAt pos m) ∨ ∃ v, (m, v) ∈ ops ∧ posAt (setAll ops pos) m = v
  | [], _, _, _ => Or.inl ⟨List.not_mem_nil, rfl⟩
  | o :: ops, pos, m, hm => by
    rcases posAt_setAll ops (pos.set o.1 o.2) m (by rw [List.length_set]; exact hm) with ⟨h1, h2⟩ | ⟨v, h1, h2⟩
    · by_cases hom : o.1 = m
      · subst hom
        exact Or.inr ⟨o.2, List.mem_cons_self, h2.trans (ListFacts.getD_set_eq pos o.1 o.2 default hm)⟩
      · refine Or.inl ⟨fun h => ?_, h2.trans (ListFacts.getD_set_ne pos o.1 m o.2 default hom)⟩
        rcases List.mem_cons.mp h with h | h
        · exact hom h.symm
        · exact h1 h
    · exact Or.inr ⟨v, List.mem_cons_of_mem _ h1, h2⟩

theorem posAt_setAll_inv (Q : Nat → Pos → Prop) (ops : List (Nat × Pos)) (pos : List Pos) (m : Nat)
    (hm : m < pos.length) (hops : ∀ o ∈ ops, Q o.1 o.2) (h : Q m (posAt pos m) ∨ m ∈ ops.map Prod.fst) :
    Q m (posAt (setAll ops pos) m) := by
  rcases posAt_setAll ops pos m hm with ⟨h1, h2⟩ | ⟨v, h1, h2⟩
  · rw [h2]; exact h.resolve_right h1
  · rw [h2]; exact hops _ h1

theorem importPos_eq : ∀ (sel : List Nat) (ps pos : List Pos),
    importPos sel ps pos = setAll ((sel.zip ps).filter (·.2.placed)) pos
  | [], _, _ => by unfold importPos; rfl
  | _ :: _, [], _ => by unfold importPos; rfl
  | c :: cs, p :: ps, pos => by
    rw [importPos, importPos_eq cs ps, List.zip_cons_cons, List.filter_cons]
    cases p.placed <;> rfl

theorem importPos_len (sel : List Nat) (ps pos : List Pos) : (importPos sel ps pos).length = pos.length := by
  rw [importPos_eq, setAll_length]

theorem importPos_inv (Q : Nat → Pos → Prop) (sel : List Nat) (ps pos : List Pos) (hl : sel.length ≤ ps.length)
    (hp : ∀ p ∈ ps, p.placed = true) (hQ : ∀ o ∈ sel.zip ps, Q o.1 o.2) (m : Nat) (hm : m < pos.length)
    (h : Q m (posAt pos m) ∨ m ∈ sel) : Q m (posAt (importPos sel ps pos) m) := by
  rw [importPos_eq, List.filter_eq_self.mpr fun o ho => hp _ (List.of_mem_zip ho).2]
  refine posAt_setAll_inv Q _ pos m hm hQ ?_
  rw [List.map_fst_zip hl]
  exact h

/-- the writes of `writeRow`: cell `rc[t]` gets x `xs[t]`, the y of the segment and the orientation it has there -/
def rowWrites (S : List Row) (cells : List LCell) (row : Nat) (rc : List Nat) (xs : List Int) : List (Nat × Pos) :=
  (rc.zip xs).map fun cx => (cx.1, ⟨cx.2, (rowAt S row).rect.minY, getOrientation S (cellAt cells cx.1) row, true⟩)

theorem writeRow_eq (S : List Row) (cells : List LCell) (row : Nat) : ∀ (rc : List Nat) (xs : List Int) (pos : List Pos),
    writeRow S cells row rc xs pos = setAll (rowWrites S cells row rc xs) pos
  | [], _, _ => by simp [writeRow, rowWrites, setAll]
  | _ :: _, [], _ => by simp [writeRow, rowWrites, setAll]
  | c :: cs, x :: xs, pos => by
    rw [writeRow, writeRow_eq S cells row cs xs]
    rfl

def allWrites (S : List Row) (cells : List LCell) : Nat → List (List Nat) → List RowLeg.State → List (Nat × Pos)
  | i, rc :: rcs, leg :: legs => rowWrites S cells i rc (RowLeg.placement leg) ++ allWrites S cells (i + 1) rcs legs
  | _, _, _ => []

theorem writeRows_eq (S : List Row) (cells : List LCell) :
    ∀ (rcs : List (List Nat)) (legs : List RowLeg.State) (i : Nat) (pos : List Pos),
      writeRows S cells i rcs legs pos = setAll (allWrites S cells i rcs legs) pos
  | [], _, _, _ => by simp [writeRows, allWrites, setAll]
  | _ :: _, [], _, _ => by simp [writeRows, allWrites, setAll]
  | rc :: rcs, leg :: legs, i, pos => by
    rw [writeRows, writeRows_eq S cells rcs legs, writeRow_eq, allWrites, setAll, setAll, setAll, List.foldl_append]

theorem mem_allWrites (S : List Row) (cells : List LCell) (c : Nat) (v : Pos) :
    ∀ (rcs : List (List Nat)) (legs : List RowLeg.State) (i : Nat),
      (c, v) ∈ allWrites S cells i rcs legs ↔
        ∃ (k t : Nat) (x : Int), k < rcs.length ∧ k < legs.length ∧ (rcs.getD k [])[t]? = some c ∧
          (RowLeg.placement (legAt legs k))[t]? = some x ∧
          v = ⟨x, (rowAt S (i + k)).rect.minY, getOrientation S (cellAt cells c) (i + k), true⟩
  | [], _, _ => by simp [allWrites]
  | _ :: _, [], _ => by simp [allWrites]
  | rc :: rcs, leg :: legs, i => by
    rw [allWrites, List.mem_append, mem_allWrites S cells c v rcs legs (i + 1)]
    constructor
    · rintro (h | ⟨k, t, x, h1, h2, h3, h4, h5⟩)
      · obtain ⟨⟨c', x⟩, hz, he⟩ := List.mem_map.mp h
        obtain ⟨t, hzt⟩ := List.mem_iff_getElem?.mp hz
        obtain ⟨h1, h2⟩ := List.getElem?_zip_eq_some.mp hzt
        cases he
        exact ⟨0, t, x, Nat.succ_pos _, Nat.succ_pos _, h1, h2, rfl⟩
      · exact ⟨k + 1, t, x, Nat.succ_lt_succ h1, Nat.succ_lt_succ h2, h3, h4,
          by rw [h5, show i + 1 + k = i + (k + 1) by omega]⟩
    · rintro ⟨k, t, x, h1, h2, h3, h4, h5⟩
      cases k with
      | zero =>
        refine Or.inl (List.mem_map.mpr ⟨(c, x), ?_, by rw [h5]; rfl⟩)
        exact List.mem_iff_getElem?.mpr ⟨t, List.getElem?_zip_eq_some.mpr ⟨h3, h4⟩⟩
      | succ k =>
        exact Or.inr ⟨k, t, x, Nat.lt_of_succ_lt_succ h1, Nat.lt_of_succ_lt_succ h2, h3, h4,
          by rw [h5, show i + 1 + k = i + (k + 1) by omega]⟩

end ColoVerif.Legalize
