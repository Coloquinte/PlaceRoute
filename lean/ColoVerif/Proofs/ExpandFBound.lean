import ColoVerif.Proofs.ExpandF
import ColoVerif.Proofs.F64Rle
/-
Error bounds for the cell expansion as compiled (`Model/ExpandF.lean`).  Subtracting an integer from a larger
`double` below `2^53` is exact (`F64.f64_sub_int_exact`), so `fracW - newW` and every `missingArea -= h` of the
carry loop are exact and one iteration of the expansion loop loses at most `2^-51·H` of area (`carryOf_bound`).
The relative errors of the `double` chains are composed with `F64.Rle`; the accumulation
`expandedArea += (double)e * (double)area(i)` of `expandCellsByFactor` costs four roundings per movable cell and
its value is 0 or at least 1/4, hence never subnormal (`expandedArea_rle`).
-/
namespace ColoVerif
namespace ExpandF
open Expand (truncRat cellArea movableArea maxRowWidth active NonnegSizes)
open F64

theorem two_eta_le : 2 * (2 : Rat) ^ (-1075 : Int) ≤ (2 : Rat) ^ (-53 : Int) := by
  have h : 2 * (2 : Rat) ^ (-1075 : Int) = (2 : Rat) ^ (-1074 : Int) := by
    rw [show (-1074 : Int) = 1 + (-1075) by norm_num, z2_add]; norm_num
  rw [h]; exact z2_le (by norm_num)

theorem z2_le_of_quarter_le {k : Int} (hk : k ≤ -2) {x : Rat} (h : 1 / 4 ≤ x) : (2 : Rat) ^ k ≤ x := by
  have h2 : (2 : Rat) ^ (-2 : Int) = 1 / 4 := by norm_num
  exact (z2_le hk).trans (h2.trans_le h)

theorem normal_of_quarter_le {x : Rat} (h : 1 / 4 ≤ x) : (2 : Rat) ^ (-1022 : Int) ≤ x :=
  z2_le_of_quarter_le (by norm_num) h

theorem normal32_of_quarter_le {x : Rat} (h : 1 / 4 ≤ x) : (2 : Rat) ^ (-126 : Int) ≤ x :=
  z2_le_of_quarter_le (by norm_num) h

theorem normal_of_one_le {x : Rat} (h : 1 ≤ x) : (2 : Rat) ^ (-1022 : Int) ≤ x :=
  normal_of_quarter_le (le_trans (by norm_num) h)

theorem div_normal {a b : Rat} (ha : 1 / 4 ≤ a) (hb : 0 < b) (hb63 : b ≤ (2 : Rat) ^ (63 : Int)) :
    (2 : Rat) ^ (-1022 : Int) ≤ a / b :=
  (z2_le (by norm_num)).trans (z2_le_div (z2_le_of_quarter_le (le_refl (-2)) ha) hb hb63)

/-- `(double) R` for a positive row area that fits a `long long` -/
theorem dR_bounds (R : Int) (hR : 0 < R) (hR63 : |R| ≤ 2 ^ 63) : 1 ≤ d R ∧ d R ≤ (2 : Rat) ^ (63 : Int) := by
  refine ⟨d_ge_one hR, ?_⟩
  have h1 : (R : Rat) ≤ (2 : Rat) ^ (63 : Int) := by
    have e : (2 : Rat) ^ (63 : Int) = (((2 : Int) ^ 63 : Int) : Rat) := by norm_num
    rw [e]; exact_mod_cast (abs_le.mp hR63).2
  exact (f64_mono h1).trans_eq (f64_pow2 (by norm_num))

/-- Every subtraction is exact (`f64_sub_int_exact`), so `h·newW + missingArea` is preserved. -/
theorem carryLoop_spec (h : Int) (hh : 0 < h) : ∀ (fuel : Nat) (w : Int) (m : Rat),
    f64 m = m → 0 ≤ m → m ≤ 2 ^ 53 →
    ((h : Rat) * ((carryLoop (h : Rat) fuel w m).1 : Rat) + (carryLoop (h : Rat) fuel w m).2 = (h : Rat) * (w : Rat) + m) ∧
    0 ≤ (carryLoop (h : Rat) fuel w m).2
  | 0, w, m, _, h0, _ => by simp [carryLoop, h0]
  | fuel + 1, w, m, hfix, h0, h53 => by
    simp only [carryLoop]
    split
    · rename_i hge
      have hex := f64_sub_int_exact hfix h (le_of_lt hh) hge h53
      have hhq : (0 : Rat) < (h : Rat) := by exact_mod_cast hh
      have ih := carryLoop_spec h hh fuel (w + 1) (f64 (m - h)) (by rw [f64_idem]) (by rw [hex]; linarith)
        (by rw [hex]; linarith)
      refine ⟨?_, ih.2⟩
      rw [ih.1, hex]; push_cast; ring
    · exact ⟨rfl, h0⟩

theorem inI32_lt {q : Rat} (h : inI32 q = true) : q < 2 ^ 31 := by
  unfold inI32 at h
  rw [Bool.and_eq_true] at h
  have h2 := of_decide_eq_true h.2
  have e : two 31 = (2 : Rat) ^ 31 := by norm_num [two]
  rwa [e] at h2

theorem fracW_le_scaled (f cap : Rat) (cl : Cell) : fracW f cap cl ≤ scaledW f cl := by
  unfold fracW capTo
  split
  · rename_i h; exact le_of_lt h
  · exact le_refl _

theorem two_zpow_neg51 : (2 : Rat) ^ (-51 : Int) = 4 * (2 : Rat) ^ (-53 : Int) := by
  rw [show (-51 : Int) = 2 + (-53) by norm_num, z2_add]; norm_num

/-- `h * (fracW - newW)` for a representable `0 ≤ fw < 2^31`: the inner difference is exact -/
theorem missingTermOf_bounds (h : Int) (fw : Rat) (hh : 0 < h) (hsh : |h| ≤ 2 ^ 31) (hfw0 : 0 ≤ fw)
    (hfwfix : f64 fw = fw) (hfw31 : fw < 2 ^ 31) :
    0 ≤ missingTermOf h fw ∧ missingTermOf h fw ≤ (h : Rat) ∧
    missingTermOf h fw ≤ (h : Rat) * (fw - (truncRat fw : Rat)) + (h : Rat) * (2 : Rat) ^ (-53 : Int) +
      (2 : Rat) ^ (-1075 : Int) := by
  have hhq : (0 : Rat) < (h : Rat) := by exact_mod_cast hh
  have hn0 := Expand.truncRat_nonneg fw hfw0
  have hnle := Expand.truncRat_le fw hfw0
  have hnlt := Expand.lt_truncRat_add_one fw hfw0
  have hn53 : |truncRat fw| ≤ 2 ^ 53 := by
    have h1 : ((truncRat fw : Int) : Rat) < ((2 ^ 31 : Int) : Rat) := by push_cast; linarith
    have h2 : truncRat fw < 2 ^ 31 := by exact_mod_cast h1
    rw [abs_le]; constructor <;> omega
  have hfr : f64 (fw - d (truncRat fw)) = fw - (truncRat fw : Rat) := by
    rw [d_exact _ hn53]; exact f64_sub_int_exact hfwfix _ hn0 hnle (by linarith)
  have hprod0 : 0 ≤ (h : Rat) * (fw - (truncRat fw : Rat)) := mul_nonneg hhq.le (by linarith)
  have hprodh : (h : Rat) * (fw - (truncRat fw : Rat)) ≤ (h : Rat) :=
    mul_le_of_le_one_right hhq.le (by linarith)
  have ht_def : missingTermOf h fw = f64 ((h : Rat) * (fw - (truncRat fw : Rat))) := by
    unfold missingTermOf; rw [hfr, d_exact _ (abs53_of_abs31 hsh)]
  rw [ht_def]
  exact ⟨f64_nonneg hprod0, (f64_mono hprodh).trans_eq (f64_exact_int _ (abs53_of_abs31 hsh)),
    f64_le_add hprod0 hprodh⟩

theorem carryOf_bound (h : Int) (fw m : Rat) (H : Int) (hh : 0 < h) (hsh : |h| ≤ 2 ^ 31) (hH : h ≤ H)
    (hfw0 : 0 ≤ fw) (hfwfix : f64 fw = fw) (hfw31 : fw < 2 ^ 31) (hm0 : 0 ≤ m) (hmH : m ≤ (H : Rat))
    (h53 : f64 (m + missingTermOf h fw) ≤ 2 ^ 53) :
    (h : Rat) * ((carryOf h fw m).1 : Rat) + (carryOf h fw m).2 ≤ m + (h : Rat) * fw + (2 : Rat) ^ (-51 : Int) * (H : Rat) ∧
    0 ≤ (carryOf h fw m).2 := by
  have hHq : (h : Rat) ≤ (H : Rat) := by exact_mod_cast hH
  have hH1 : (1 : Rat) ≤ (H : Rat) := Int.cast_one_le_of_pos (hh.trans_le hH)
  obtain ⟨ht0, hth, htle⟩ := missingTermOf_bounds h fw hh hsh hfw0 hfwfix hfw31
  have hu := z2_pos (-53)
  have hsum0 : 0 ≤ m + missingTermOf h fw := by linarith
  -- two roundings, `h·(fw − n)` and `m + …`, of values at most `h ≤ H` and `2·H`
  have hma := f64_le_add hsum0 (show m + missingTermOf h fw ≤ 2 * (H : Rat) by linarith)
  unfold carryOf carryFrom
  rw [d_exact _ (abs53_of_abs31 hsh)]
  obtain ⟨hsum, hnn⟩ := carryLoop_spec h hh (carryFuel (h : Rat) (f64 (m + missingTermOf h fw))) (truncRat fw)
    _ (f64_idem _) (f64_nonneg hsum0) h53
  refine ⟨?_, hnn⟩
  rw [hsum, two_zpow_neg51]
  have e1 := mul_le_mul_of_nonneg_right hHq hu.le
  have e2 := mul_le_mul_of_nonneg_right hH1 hu.le
  have e3 := two_eta_le
  linarith

/-- `carryOf_bound` for a cell of the model.  The bound `< h` on the carried area and the ranges `carryOf_bound` asks
for are read off `cellGuard` (the carry loop finished, `(int)fracW` defined), not proved. -/
theorem step_bound (f cap m : Rat) (cl : Cell) (H : Int) (hf : 0 ≤ f) (hcap0 : 0 ≤ cap) (hcapfix : f64 cap = cap)
    (ha : active cl = true) (hsh : |cl.h| ≤ 2 ^ 31) (hH : cl.h ≤ H) (hm0 : 0 ≤ m) (hmH : m ≤ (H : Rat))
    (hg : cellGuard f cap m cl = true) :
    (cl.h : Rat) * ((carry f cap m cl).1 : Rat) + (carry f cap m cl).2 ≤
      m + (cl.h : Rat) * fracW f cap cl + (2 : Rat) ^ (-51 : Int) * (H : Rat) ∧
    0 ≤ (carry f cap m cl).2 ∧ (carry f cap m cl).2 < (cl.h : Rat) := by
  obtain ⟨_, hh, hw⟩ := (Expand.active_iff cl).mp ha
  have hdh : d cl.h = (cl.h : Rat) := d_exact _ (abs53_of_abs31 hsh)
  unfold cellGuard carryGuard at hg
  rw [ha] at hg
  simp only [Bool.not_true, Bool.false_or, Bool.and_eq_true, decide_eq_true_eq] at hg
  obtain ⟨_, ⟨hgI, hg53⟩, hglt, _⟩ := hg
  have e53 : (two 53 : Rat) = 2 ^ 53 := by norm_num [two]
  rw [e53] at hg53
  rw [hdh] at hglt
  have hb := carryOf_bound cl.h (fracW f cap cl) m H hh hsh hH
    (fracW_ind f cap cl hcap0 (f64_nonneg (mul_nonneg (d_nonneg hw.le) hf)))
    (fracW_ind (P := fun q => f64 q = q) f cap cl hcapfix (f64_idem _)) (inI32_lt hgI) hm0 hmH (le_of_lt hg53)
  exact ⟨hb.1, hb.2, hglt⟩

theorem cellsGuard_cons (f cap m : Rat) (cl : Cell) (rest : List Cell) :
    cellsGuard f cap m (cl :: rest) = true ↔
      cellGuard f cap m cl = true ∧ cellsGuard f cap (stepMissing f cap m cl) rest = true := by
  simp [cellsGuard]

/-- The rounded counterpart of `Expand.area_identity`, with `2^-51·H` lost per active cell. -/
theorem loop_bound (f cap : Rat) (H : Int) (hf : 0 ≤ f) (hcap0 : 0 ≤ cap) (hcapfix : f64 cap = cap) :
    ∀ (l : List Cell) (m : Rat), 0 ≤ m → m ≤ (H : Rat) → cellsGuard f cap m l = true →
      (∀ cl ∈ l, |cl.h| ≤ 2 ^ 31) → (∀ cl ∈ l, active cl = true → cl.h ≤ H) →
      (movableArea (expandCells f cap m l) : Rat) + finalMissing f cap m l ≤
        m + Expand.fracArea (fracW f cap) l + ((l.filter active).length : Rat) * ((2 : Rat) ^ (-51 : Int) * (H : Rat)) ∧
      0 ≤ finalMissing f cap m l
  | [], m, h0, _, _, _, _ => by
    simp [expandCells, finalMissing, Expand.fracArea, Expand.movableArea_nil, h0]
  | cl :: rest, m, h0, hH, hg, hs, hHs => by
    obtain ⟨hg1, hg2⟩ := (cellsGuard_cons f cap m cl rest).mp hg
    have hs' : ∀ c ∈ rest, |c.h| ≤ 2 ^ 31 := fun c hc => hs c (by simp [hc])
    have hHs' : ∀ c ∈ rest, active c = true → c.h ≤ H := fun c hc => hHs c (by simp [hc])
    by_cases ha : active cl = true
    · obtain ⟨hfx, hh, _⟩ := (Expand.active_iff cl).mp ha
      obtain ⟨sb1, sb2, sb3⟩ := step_bound f cap m cl H hf hcap0 hcapfix ha (hs cl (by simp))
        (hHs cl (by simp) ha) h0 hH hg1
      have hmiss : stepMissing f cap m cl = (carry f cap m cl).2 := by unfold stepMissing; rw [if_pos ha]
      have hcell : stepCell f cap m cl = { cl with w := (carry f cap m cl).1 } := by
        unfold stepCell; rw [if_pos ha]
      have hle : (carry f cap m cl).2 ≤ (H : Rat) :=
        le_trans sb3.le (by exact_mod_cast hHs cl (by simp) ha)
      rw [hmiss] at hg2
      obtain ⟨ih1, ih2⟩ := loop_bound f cap H hf hcap0 hcapfix rest _ sb2 hle hg2 hs' hHs'
      simp only [expandCells, finalMissing, Expand.fracArea, Expand.movableArea_cons, hmiss, hcell, hfx,
        Bool.false_eq_true, if_false, ha, if_true, List.filter_cons, List.length_cons]
      refine ⟨?_, ih2⟩
      generalize (2 : Rat) ^ (-51 : Int) * (H : Rat) = s at sb1 ih1 ⊢
      push_cast
      linarith
    · have ha' : active cl = false := by simpa using ha
      have hmiss : stepMissing f cap m cl = m := by unfold stepMissing; rw [if_neg ha]
      have hcell : stepCell f cap m cl = cl := by unfold stepCell; rw [if_neg ha]
      rw [hmiss] at hg2
      obtain ⟨ih1, ih2⟩ := loop_bound f cap H hf hcap0 hcapfix rest m h0 hH hg2 hs' hHs'
      simp only [expandCells, finalMissing, Expand.fracArea, Expand.movableArea_cons, hmiss, hcell, ha',
        Bool.false_eq_true, if_false, List.filter_cons]
      refine ⟨?_, ih2⟩
      push_cast
      linarith

theorem fracArea_le (f cap : Rat) (hf : 1 ≤ f) (l : List Cell) (hn : NonnegSizes l) (hs : ∀ cl ∈ l, |cl.w| ≤ 2 ^ 31) :
    Expand.fracArea (fracW f cap) l ≤ f * (1 + (2 : Rat) ^ (-53 : Int)) * (movableArea l : Rat) := by
  refine (Expand.fracArea_mono l fun cl hcl ha => le_trans (fracW_le_scaled f cap cl) ?_).trans_eq
    (Expand.fracArea_scale _ l hn)
  obtain ⟨_, _, hwpos⟩ := (Expand.active_iff cl).mp ha
  have hw1 : (1 : Rat) ≤ (cl.w : Rat) := Int.cast_one_le_of_pos hwpos
  unfold scaledW
  rw [d_exact _ (abs53_of_abs31 (hs cl hcl)), ← mul_assoc]
  exact f64_rel_le (normal_of_quarter_le (le_trans (by norm_num) (one_le_mul_of_one_le_of_one_le hw1 hf)))

theorem isI64_abs {n : Int} (h : isI64 n = true) : |n| ≤ 2 ^ 63 := by
  simp only [isI64, Bool.and_eq_true, decide_eq_true_eq] at h
  rw [abs_le]; constructor <;> omega

/-- The factor the code computes against the exact `t·R/A`: the factor and `(double)R` round upwards, the density
and `(double)A` downwards. -/
theorem factor_rle (A R : Int) (t : Rat) (hA : 0 < A) (hR : 0 < R) (hR63 : |R| ≤ 2 ^ 63)
    (hd : densityOf A R ≠ 0) (hn : ¬ noopOf A R t) :
    Rle 2 2 (factorOf A R t) (t * (R : Rat) / (A : Rat)) := by
  have hAq : (1 : Rat) ≤ (A : Rat) := Int.cast_one_le_of_pos hA
  have hRq : (1 : Rat) ≤ (R : Rat) := Int.cast_one_le_of_pos hR
  obtain ⟨hdR1, hdR63⟩ := dR_bounds R hR hR63
  have hdRpos : (0 : Rat) < d R := lt_of_lt_of_le one_pos hdR1
  have hdnpos := densityOf_pos hA.le hR.le hd
  have hlt := lt_of_not_noopOf hn
  have ht1 : 1 ≤ t / densityOf A R := (le_div_iff₀ hdnpos).mpr (by rw [one_mul]; exact hlt.le)
  have rdn : Rle 1 2 ((A : Rat) / (R : Rat)) (densityOf A R) :=
    ((rle_f64 (Or.inr (normal_of_one_le hAq))).div (f64_rle (normal_of_one_le hRq)) hdRpos).trans
      (rle_f64 (Or.inr (div_normal (le_trans (by norm_num) (d_ge_one hA)) hdRpos hdR63)))
  have := (f64_rle (normal_of_one_le ht1)).trans
    ((Rle.refl (le_trans hdnpos.le hlt.le)).div rdn (div_pos (by linarith) (by linarith)))
  rwa [div_div_eq_mul_div] at this

theorem slack_numeric : (1 + (2 : Rat) ^ (-53 : Int)) ^ 3 ≤
    (1 + (2 : Rat) ^ (-50 : Int)) * (1 - (2 : Rat) ^ (-53 : Int)) ^ 2 := by
  have e50 : (2 : Rat) ^ (-50 : Int) = 1 / 1125899906842624 := by norm_num
  rw [two_zpow_neg53, e50]
  norm_num

/-- the loop bound, the bound of its aim and the bound of the factor, combined (`X` is the new area less
the absolute slack, `tR` the target area) -/
theorem utilisation_rle {X F A tR : Rat} (hA : 0 < A) (hX : X ≤ F * A * (1 + u53))
    (hF : Rle 2 2 F (tR / A)) : X ≤ tR * (1 + (2 : Rat) ^ (-50 : Int)) := by
  have hFA := hF.mul (Rle.refl hA.le)
  have := (Rle.mul_one_add hFA.nn).trans hFA
  rw [div_mul_cancel₀ _ hA.ne'] at this
  exact hX.trans (this.le_mul (by rw [u53_eq]; exact slack_numeric))

theorem expandCells_area_le (l : List Cell) (R : Int) (t cap : Rat) (H : Int) (hA : 0 < movableArea l) (hR : 0 < R)
    (hR63 : |R| ≤ 2 ^ 63) (hd : densityOf (movableArea l) R ≠ 0) (hn : ¬ noopOf (movableArea l) R t)
    (hcap0 : 0 ≤ cap) (hcapfix : f64 cap = cap) (hsz : NonnegSizes l)
    (hs : ∀ cl ∈ l, |cl.w| ≤ 2 ^ 31 ∧ |cl.h| ≤ 2 ^ 31)
    (hg : cellsGuard (factorOf (movableArea l) R t) cap 0 l = true) (hH0 : 0 ≤ H)
    (hH : ∀ cl ∈ l, active cl = true → cl.h ≤ H) :
    (movableArea (expandCells (factorOf (movableArea l) R t) cap 0 l) : Rat) ≤
      t * (R : Rat) * (1 + (2 : Rat) ^ (-50 : Int)) +
      ((l.filter active).length : Rat) * ((2 : Rat) ^ (-51 : Int) * (H : Rat)) := by
  have hdpos := densityOf_pos hA.le hR.le hd
  have hF1 := factorOf_ge_one _ _ t hdpos hn
  obtain ⟨hloop, hfin⟩ := loop_bound _ cap H (le_trans zero_le_one hF1) hcap0 hcapfix l 0 le_rfl
    (by exact_mod_cast hH0) hg (fun cl hcl => (hs cl hcl).2) hH
  have hfa := fracArea_le _ cap hF1 l hsz (fun cl hcl => (hs cl hcl).1)
  have hAq : (0 : Rat) < (movableArea l : Rat) := by exact_mod_cast hA
  refine sub_le_iff_le_add.mp (utilisation_rle hAq ?_ (factor_rle _ R t hA hR hR63 hd hn))
  rw [u53_eq, mul_right_comm]
  linarith

/-- `(float)w * e`.  `k` bounds the rounding of `(float)w`: 1 when `w` converts exactly, `1+2^-24` otherwise. -/
theorem scaledF_le (w : Int) (e k : Rat) (hw0 : 0 ≤ w) (he : 1 / 2 ≤ e) (hk : f32' (w : Rat) ≤ (w : Rat) * k) :
    scaledF w e ≤ k * (1 + (2 : Rat) ^ (-24 : Int)) * ((w : Rat) * e) := by
  unfold scaledF
  rcases eq_or_lt_of_le hw0 with h0 | h0
  · rw [← h0]; simp [f32'_zero]
  · have hw1 : (1 : Rat) ≤ (w : Rat) := Int.cast_one_le_of_pos h0
    have hf1 : 1 ≤ f32' (w : Rat) := f32'_ge_one hw1
    have he0 : 0 ≤ e := by linarith
    have hp : (1 : Rat) / 2 ≤ f32' (w : Rat) * e :=
      le_trans (by linarith) (mul_le_mul hf1 he (by norm_num) (by linarith))
    have h2 := f32'_rel_le (normal32_of_quarter_le (le_trans (by norm_num) hp))
    have h3 := mul_le_mul_of_nonneg_right (mul_le_mul_of_nonneg_right hk he0)
      (show (0 : Rat) ≤ 1 + (2 : Rat) ^ (-24 : Int) from (add_pos one_pos (z2_pos _)).le)
    calc f32' (f32' (w : Rat) * e) ≤ (w : Rat) * k * e * (1 + (2 : Rat) ^ (-24 : Int)) := le_trans h2 h3
      _ = k * (1 + (2 : Rat) ^ (-24 : Int)) * ((w : Rat) * e) := by ring

/-- The `std::max` with `w` is only taken for `e ≥ 1`, when `w ≤ w·e`, so it keeps the bound of `scaledF_le`. -/
theorem applyOne_le (w : Int) (e k : Rat) (hw0 : 0 ≤ w) (he : 1 / 2 ≤ e) (hk1 : 1 ≤ k)
    (hk : f32' (w : Rat) ≤ (w : Rat) * k) :
    (applyOne w e : Rat) ≤ k * (1 + (2 : Rat) ^ (-24 : Int)) * ((w : Rat) * e) := by
  have hwq : (0 : Rat) ≤ (w : Rat) := by exact_mod_cast hw0
  have hs0 : 0 ≤ scaledF w e := f32'_nonneg (mul_nonneg (f32'_nonneg hwq) (by linarith))
  have htr := le_trans (Expand.truncRat_le _ hs0) (scaledF_le w e k hw0 he hk)
  unfold applyOne
  split
  · rename_i he1
    rw [Int.cast_max]
    refine max_le htr ?_
    have hK : 1 ≤ k * (1 + (2 : Rat) ^ (-24 : Int)) :=
      one_le_mul_of_one_le_of_one_le hk1 (le_add_of_nonneg_right (z2_pos _).le)
    have hwe : (w : Rat) ≤ (w : Rat) * e := le_mul_of_one_le_right hwq he1
    exact le_trans hwe (le_mul_of_one_le_left (le_trans hwq hwe) hK)
  · exact htr

/-- widths up to `2^24` convert to `float` exactly: one rounding per cell -/
theorem applyFactors_area_le (l : List Cell) (es : List Rat) (hn : NonnegSizes l) (he : ∀ e ∈ es, 1 / 2 ≤ e)
    (hw : ∀ cl ∈ l, cl.fixed = false → cl.w ≤ 2 ^ 24) (hlen : l.length = es.length) :
    (movableArea (applyFactors l es) : Rat) ≤ (1 + (2 : Rat) ^ (-24 : Int)) * Expand.expandedArea l es := by
  rw [applyFactors_eq]
  refine Expand.scaleWidths_area_le _ _ l es hn hlen (fun cl hcl hfx e hem => ?_)
  have hw0 := (hn cl hcl hfx).1
  have hex := f32'_exact_int cl.w (abs_le.mpr ⟨by omega, hw cl hcl hfx⟩)
  simpa using applyOne_le cl.w e 1 hw0 (he e hem) le_rfl (by rw [hex, mul_one])

/-- any width `w ≥ 0`: `(float)w` rounds as well -/
theorem applyFactors_area_le_any (l : List Cell) (es : List Rat) (hn : NonnegSizes l) (he : ∀ e ∈ es, 1 / 2 ≤ e)
    (hlen : l.length = es.length) :
    (movableArea (applyFactors l es) : Rat) ≤ (1 + (2 : Rat) ^ (-24 : Int)) ^ 2 * Expand.expandedArea l es := by
  rw [applyFactors_eq]
  refine Expand.scaleWidths_area_le _ _ l es hn hlen (fun cl hcl hfx e hem => ?_)
  have hw0 := (hn cl hcl hfx).1
  have hk : f32' (cl.w : Rat) ≤ (cl.w : Rat) * (1 + (2 : Rat) ^ (-24 : Int)) := by
    rcases eq_or_lt_of_le hw0 with h0 | h0
    · rw [← h0]; simp [f32'_zero]
    · exact f32'_rel_le (normal32_of_quarter_le (le_trans (by norm_num)
        (Int.cast_one_le_of_pos h0 : (1 : Rat) ≤ (cl.w : Rat))))
  rw [sq]
  exact applyOne_le cl.w e _ hw0 (he e hem) (le_add_of_nonneg_right (z2_pos _).le) hk

/-- one term `(double)e * (double)area`: three roundings; the term is 0 or at least 1/4 -/
theorem term_rle (e : Rat) (a : Int) (he : 1 / 2 ≤ e) (ha : 0 ≤ a) :
    Rle 0 3 (e * (a : Rat)) (f64 (f64 e * d a)) ∧
    (f64 (f64 e * d a) = 0 ∨ 1 / 4 ≤ f64 (f64 e * d a)) := by
  rcases eq_or_lt_of_le ha with h0 | h0
  · have : d a = 0 := by rw [← h0]; show f64 ((0 : Int) : Rat) = 0; simp [f64_zero]
    rw [this, ← h0]; refine ⟨⟨?_, ?_⟩, Or.inl ?_⟩ <;> simp [f64_zero]
  · have ha1 : (1 : Rat) ≤ (a : Rat) := Int.cast_one_le_of_pos h0
    have hp : 1 / 4 ≤ f64 e * d a :=
      le_trans (by norm_num) (mul_le_mul (f64_ge_half he) (d_ge_one h0) zero_le_one (by linarith [f64_ge_half he]))
    exact ⟨((rle_f64 (Or.inr (normal_of_quarter_le (by linarith)))).mul
        (rle_f64 (Or.inr (normal_of_one_le ha1)))).trans (rle_f64 (Or.inr (normal_of_quarter_le hp))),
      Or.inr (f64_ge_quarter hp)⟩

theorem nonneg_of_zero_or {x : Rat} (h : x = 0 ∨ 1 / 4 ≤ x) : 0 ≤ x := by rcases h with h | h <;> linarith

/-- one `expandedArea += (double)e * (double)area`: four roundings; the sum stays 0 or at least 1/4 -/
theorem accum_rle (e : Rat) (a : Int) (acc : Rat) (he : 1 / 2 ≤ e) (ha : 0 ≤ a) (hacc : acc = 0 ∨ 1 / 4 ≤ acc) :
    Rle 0 4 (acc + e * (a : Rat)) (f64 (acc + f64 (f64 e * d a))) ∧
    (f64 (acc + f64 (f64 e * d a)) = 0 ∨ 1 / 4 ≤ f64 (acc + f64 (f64 e * d a))) := by
  obtain ⟨hT, hTq⟩ := term_rle e a he ha
  have hsum : acc + f64 (f64 e * d a) = 0 ∨ 1 / 4 ≤ acc + f64 (f64 e * d a) := by
    rcases hacc with h0 | h0
    · rw [h0, zero_add]; exact hTq
    · right; rcases hTq with h1 | h1 <;> linarith
  refine ⟨(((Rle.refl (nonneg_of_zero_or hacc)).mono le_rfl (Nat.zero_le 3)).add hT).trans
    (rle_f64 (hsum.imp id normal_of_quarter_le)), ?_⟩
  rcases hsum with h0 | h0
  · left; rw [h0, f64_zero]
  · right; exact f64_ge_quarter h0

theorem expandedArea_rle : ∀ (l : List Cell) (es : List Rat) (acc : Rat),
    NonnegSizes l → (∀ e ∈ es, 1 / 2 ≤ e) → (acc = 0 ∨ 1 / 4 ≤ acc) →
    Rle 0 (4 * l.length) (acc + Expand.expandedArea l es) (expandedArea acc l es) ∧
    (expandedArea acc l es = 0 ∨ 1 / 4 ≤ expandedArea acc l es) := by
  have stop : ∀ (acc : Rat) (k : Nat), (acc = 0 ∨ 1 / 4 ≤ acc) → Rle 0 k (acc + 0) acc := fun acc k hacc => by
    rw [add_zero]; exact (Rle.refl (nonneg_of_zero_or hacc)).mono le_rfl (Nat.zero_le k)
  intro l
  induction l with
  | nil => intro es acc _ _ hacc; exact ⟨stop acc _ hacc, hacc⟩
  | cons cl rest ih =>
    intro es acc hn he hacc
    cases es with
    | nil => exact ⟨stop acc _ hacc, hacc⟩
    | cons e es =>
      have hn' : NonnegSizes rest := fun c hc => hn c (by simp [hc])
      have he' : ∀ x ∈ es, 1 / 2 ≤ x := fun x hx => he x (by simp [hx])
      have hS := Expand.expandedArea_nonneg rest es hn' (fun x hx => le_trans (by norm_num) (he' x hx))
      simp only [expandedArea, Expand.expandedArea]
      by_cases hfx : cl.fixed = true
      · obtain ⟨ih1, ih2⟩ := ih es acc hn' he' hacc
        simp only [hfx, if_true, zero_add]
        exact ⟨ih1.mono le_rfl (by simp only [List.length_cons]; omega), ih2⟩
      · have hfx' : cl.fixed = false := by simpa using hfx
        obtain ⟨hw0, hh0⟩ := hn cl (by simp) hfx'
        obtain ⟨hstep, hacc'⟩ := accum_rle e (cellArea cl) acc (he e (by simp)) (mul_nonneg hw0 hh0) hacc
        obtain ⟨ih1, ih2⟩ := ih es _ hn' he' hacc'
        simp only [hfx', Bool.false_eq_true, if_false]
        -- the sum so far loses four roundings, then everything `4·|rest|` more
        have := (hstep.add ((Rle.refl hS).mono le_rfl (Nat.zero_le 4))).trans ih1
        rw [show 4 * (cl :: rest).length = 4 + 4 * rest.length by simp only [List.length_cons]; omega, ← add_assoc]
        exact ⟨this, ih2⟩

/-- the `double` path when the computed expanded density does not exceed `maxD`: the exact expanded area is at
most `maxD·R` up to the `4n` roundings of the accumulation, that of the quotient and that of `(double)R` -/
theorem expandedArea_rle_of_density_le (l : List Cell) (es : List Rat) (R : Int) (maxD : Rat) (hn : NonnegSizes l)
    (he : ∀ e ∈ es, 1 / 2 ≤ e) (hR : 0 < R) (hR63 : |R| ≤ 2 ^ 63)
    (hed : expandedDensityOf (expandedArea 0 l es) R ≤ maxD) :
    Rle 1 (4 * l.length + 1) (Expand.expandedArea l es) (maxD * (R : Rat)) := by
  obtain ⟨h2, hE⟩ := expandedArea_rle l es 0 hn he (Or.inl rfl)
  rw [zero_add] at h2
  obtain ⟨b1, b2⟩ := dR_bounds R hR hR63
  have hRq : (1 : Rat) ≤ (R : Rat) := Int.cast_one_le_of_pos hR
  have hpos : (0 : Rat) < d R := by linarith
  -- E = (E / dR) · dR ≤ f64 (E / dR) · dR ≤ maxD · dR ≤ maxD · R
  have hdR : Rle 1 0 (d R) (R : Rat) := f64_rle (normal_of_one_le hRq)
  have h3 := ((rle_f64 (hE.imp (fun h0 => by rw [h0, zero_div]) (fun h0 => div_normal h0 hpos b2))).trans
    (Rle.of_le (f64_nonneg (div_nonneg (nonneg_of_zero_or hE) hpos.le)) hed)).mul hdR
  rw [div_mul_cancel₀ _ hpos.ne'] at h3
  exact h2.trans h3

/-- the three roundings of `1.0 + g` stored in a `float` (`y3`, `y4`, `y5` stand for the rounded `g`, the
rounded sum and its narrowing) -/
theorem adjust_chain {u η ε g y3 y4 y5 : Rat} (hu : 0 ≤ u) (hε : 0 ≤ ε) (hη : η ≤ u)
    (h3 : y3 ≤ g * (1 + u) + η) (h4 : y4 ≤ (1 + y3) * (1 + u)) (h5 : y5 ≤ y4 * (1 + ε)) :
    y5 ≤ (1 + u) ^ 2 * (1 + ε) * (1 + g) :=
  have a1 : 1 + y3 ≤ (1 + g) * (1 + u) := by linarith
  calc y5 ≤ y4 * (1 + ε) := h5
    _ ≤ (1 + g) * (1 + u) * (1 + u) * (1 + ε) :=
        mul_le_mul_of_nonneg_right (le_trans h4 (mul_le_mul_of_nonneg_right a1 (by linarith))) (by linarith)
    _ = (1 + u) ^ 2 * (1 + ε) * (1 + g) := by ring

/-- `e = 1.0 + (e - 1.0) * ratio` stored in a `float`, for a `float` factor `1 ≤ e ≤ 2^53` and `ratio ≥ 0`:
`e - 1.0` is exact, the product, the sum and the narrowing round once each, so the result exceeds the exact
`1 + (e−1)·ρ` by at most the factor `(1+2^-53)²·(1+2^-24)` -/
theorem adjust_le (ρ e : Rat) (hρ : 0 ≤ ρ) (hfix : f64 e = e) (he1 : 1 ≤ e) (he53 : e ≤ 2 ^ 53) :
    adjust ρ e ≤ (1 + (2 : Rat) ^ (-53 : Int)) ^ 2 * (1 + (2 : Rat) ^ (-24 : Int)) * Expand.adjust ρ e := by
  have hex : f64 (f64 e - 1) = e - 1 := by
    rw [hfix]
    simpa using f64_sub_int_exact hfix 1 (by norm_num) (by push_cast; exact he1) he53
  have hg : 0 ≤ (e - 1) * ρ := mul_nonneg (sub_nonneg.mpr he1) hρ
  have h31 : 1 ≤ 1 + f64 ((e - 1) * ρ) := le_add_of_nonneg_right (f64_nonneg hg)
  have h4 := f64_rel_le (normal_of_quarter_le (le_trans (by norm_num) h31))
  have h5 := f32'_rel_le (normal32_of_quarter_le (le_trans (by norm_num) (f64_ge_one h31)))
  unfold adjust Expand.adjust
  rw [hex]
  exact adjust_chain (z2_pos _).le (z2_pos _).le (z2_le (by norm_num)) (f64_le_gen hg) h4 h5

theorem expandedArea_adjust_le (ρ : Rat) (hρ : 0 ≤ ρ) (l : List Cell) (es : List Rat) (hn : NonnegSizes l)
    (he : ∀ e ∈ es, f64 e = e ∧ 1 ≤ e ∧ e ≤ 2 ^ 53) (hlen : l.length = es.length) :
    Expand.expandedArea l (es.map (adjust ρ)) ≤
      (1 + (2 : Rat) ^ (-53 : Int)) ^ 2 * (1 + (2 : Rat) ^ (-24 : Int)) *
        ((movableArea l : Rat) + ρ * (Expand.expandedArea l es - (movableArea l : Rat))) := by
  rw [← Expand.expandedArea_adjust ρ l es hlen]
  refine Expand.expandedArea_map_le _ _ _ l es hn (fun e hem => ?_)
  obtain ⟨hfix, he1, he53⟩ := he e hem
  exact adjust_le ρ e hρ hfix he1 he53

end ExpandF
end ColoVerif
