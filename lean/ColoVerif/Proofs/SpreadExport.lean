import ColoVerif.Model.Spread
import ColoVerif.Proofs.F64
/-
C06, `exportPlacement`: `std::round` errs by at most 1/2, so an exported cell centre is within 1/2 of the continuous
one, and - a centre being a half-integer - it cannot leave `[A - 1/2, B + 1/2]` when the continuous one is within
`ε < 1/2` of `[A, B]`; the export of a blend is within `blendBound` of the blend of the exports.
-/
namespace ColoVerif.Spread

/-- `roundHalfAway` is `F64.roundAway`, definition for definition -/
theorem abs_round_err (q : Rat) : |(roundHalfAway q : Rat) - q| ≤ 1 / 2 :=
  F64.abs_roundAway_sub_le q

theorem exportCoord_centre (x : Rat) (w : Int) : |(exportCoord x w : Rat) + (1 / 2) * (w : Rat) - x| ≤ 1 / 2 := by
  rw [← sub_sub_eq_add_sub]
  exact abs_round_err _

theorem ite_neg_eq_abs (c : Rat) : (if c < 0 then -c else c) = |c| := by
  split
  · exact (abs_of_neg ‹_›).symm
  · exact (abs_of_nonneg (not_lt.mp ‹_›)).symm

theorem abs_mul_round_err (c q : Rat) : |c * ((roundHalfAway q : Rat) - q)| ≤ |c| / 2 := by
  rw [abs_mul, ← mul_one_div]
  exact mul_le_mul_of_nonneg_left (abs_round_err q) (abs_nonneg c)

theorem intCast_add_one_le {a b : Int} (h : (a : Rat) < b) : (a : Rat) + 1 ≤ b := by
  exact_mod_cast Int.add_one_le_of_lt (Int.cast_lt.mp h)

theorem exportCoord_centre_within_half (x ε : Rat) (w A B : Int) (hε : ε < 1 / 2)
    (hA : (A : Rat) - ε ≤ x) (hB : x ≤ (B : Rat) + ε) :
    (A : Rat) - 1 / 2 ≤ (exportCoord x w : Rat) + (1 / 2) * (w : Rat) ∧
    (exportCoord x w : Rat) + (1 / 2) * (w : Rat) ≤ (B : Rat) + 1 / 2 := by
  obtain ⟨h1, h2⟩ := abs_sub_le_iff.mp (exportCoord_centre x w)
  generalize exportCoord x w = p at h1 h2 ⊢
  -- `2p + w` is an integer strictly between `2A − 2` and `2B + 2`
  have l := intCast_add_one_le (a := 2 * A - 2) (b := 2 * p + w) (by push_cast; linarith only [hA, h2, hε])
  have u := intCast_add_one_le (a := 2 * p + w) (b := 2 * B + 2) (by push_cast; linarith only [hB, h1, hε])
  push_cast at l u
  exact ⟨by linarith only [l], by linarith only [u]⟩

theorem export_blend_err (lb ub beta : Rat) (w : Int) :
    |((roundHalfAway ((1 - beta) * lb + beta * ub - (1 / 2) * (w : Rat)) : Int) : Rat)
      - ((1 - beta) * (exportCoord lb w : Rat) + beta * (exportCoord ub w : Rat))| ≤ blendBound beta := by
  have h0 := abs_round_err ((1 - beta) * lb + beta * ub - (1 / 2) * (w : Rat))
  have h1 := abs_mul_round_err (1 - beta) (lb - (1 / 2) * (w : Rat))
  have h2 := abs_mul_round_err beta (ub - (1 / 2) * (w : Rat))
  unfold exportCoord blendBound
  rw [ite_neg_eq_abs, ite_neg_eq_abs]
  generalize ((roundHalfAway ((1 - beta) * lb + beta * ub - (1 / 2) * (w : Rat)) : Int) : Rat) = R at h0 ⊢
  generalize ((roundHalfAway (lb - (1 / 2) * (w : Rat)) : Int) : Rat) = L at h1 ⊢
  generalize ((roundHalfAway (ub - (1 / 2) * (w : Rat)) : Int) : Rat) = U at h2 ⊢
  have key : R - ((1 - beta) * L + beta * U) = (R - ((1 - beta) * lb + beta * ub - (1 / 2) * (w : Rat)))
      - ((1 - beta) * (L - (lb - (1 / 2) * (w : Rat))) + beta * (U - (ub - (1 / 2) * (w : Rat)))) := by ring
  -- three rounding errors, the exposed ones scaled by `1 − β` and `β`
  rw [key]
  calc _ ≤ 1 / 2 + (|1 - beta| / 2 + |beta| / 2) :=
        (abs_sub _ _).trans (add_le_add h0 ((abs_add_le _ _).trans (add_le_add h1 h2)))
    _ = (|1 - beta| + |beta| + 1) / 2 := by ring

theorem blend_getD (v1 v2 : List Rat) (b : Rat) (i : Nat) (h1 : i < v1.length) (h2 : i < v2.length) :
    (blendPlacement v1 v2 b).getD i 0 = (1 - b) * v1.getD i 0 + b * v2.getD i 0 := by
  unfold blendPlacement
  split
  · rename_i hb; subst hb; ring
  · split
    · rename_i hb; subst hb; ring
    · simp [List.getD_eq_getElem?_getD, List.getElem?_zipWith, List.getElem?_eq_getElem h1,
        List.getElem?_eq_getElem h2]

theorem blend_length (v1 v2 : List Rat) (b : Rat) (h : v1.length = v2.length) :
    (blendPlacement v1 v2 b).length = v1.length := by
  unfold blendPlacement
  split
  · rfl
  · split
    · exact h.symm
    · simp [h]

theorem exportAxis_getD : ∀ (f : List Bool) (o : List Int) (p : List Rat) (s : List Int) (i : Nat),
    i < f.length → i < o.length → i < p.length → i < s.length →
    (exportAxis f o p s).getD i 0 =
      if f.getD i true then o.getD i 0 else exportCoord (p.getD i 0) (s.getD i 0)
  | _ :: _, _ :: _, _ :: _, _ :: _, 0, _, _, _, _ => rfl
  | _ :: fs, _ :: os, _ :: ps, _ :: ss, i + 1, hf, ho, hp, hs =>
    exportAxis_getD fs os ps ss i (Nat.lt_of_succ_lt_succ hf) (Nat.lt_of_succ_lt_succ ho)
      (Nat.lt_of_succ_lt_succ hp) (Nat.lt_of_succ_lt_succ hs)
  | [], _, _, _, _, hf, _, _, _ => absurd hf (Nat.not_lt_zero _)
  | _ :: _, [], _, _, _, _, ho, _, _ => absurd ho (Nat.not_lt_zero _)
  | _ :: _, _ :: _, [], _, _, _, _, hp, _ => absurd hp (Nat.not_lt_zero _)
  | _ :: _, _ :: _, _ :: _, [], _, _, _, _, hs => absurd hs (Nat.not_lt_zero _)

end ColoVerif.Spread
