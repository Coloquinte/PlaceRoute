import ColoVerif.Proofs.BusyLemmas
/-
For the C19 theorems about the validation skeletons of `Gen/ApiExpansion`
(expansion API, Disruption methods, constructor): bodies that consist of a prefix of `throwIf`s
followed by writes / pure steps only.
-/
namespace ColoVerif.Busy
open ColoVerif.ApiIR

/-- only writes and steps without effect on the control flow -/
def straight : List Stmt → Bool
  | [] => true
  | .assign _ :: rest => straight rest
  | .pure _ :: rest => straight rest
  | .setInUse _ :: rest => straight rest
  | _ => false

/-- a prefix of `throwIf`s, then a straight remainder -/
def checksThenStraight : List Stmt → Bool
  | [] => true
  | .throwIf _ :: rest => checksThenStraight rest
  | s :: rest => straight (s :: rest)

/-- the members a body may write -/
def assigned : List Stmt → List String
  | [] => []
  | .assign m :: rest => m :: assigned rest
  | _ :: rest => assigned rest

theorem exec_straight (oc : String → St → Res) (env : Env) :
    ∀ (body : List Stmt) (st : St), straight body = true → (exec oc env body st).out = .normal := by
  intro body
  induction body with
  | nil => intro st _; simp [exec]
  | cons s rest ih =>
    intro st h
    cases s with
    | assign _ | pure _ | setInUse _ =>
      simp only [straight] at h
      simp only [exec]
      exact ih _ h
    | _ => simp [straight] at h

theorem straight_preConds : ∀ (body : List Stmt), straight body = true → preConds body = [] := by
  intro body h
  cases body with
  | nil => simp [preConds]
  | cons s rest => cases s <;> simp [straight] at h <;> simp [preConds]

theorem exec_checksThenStraight (oc : String → St → Res) (env : Env) :
    ∀ (body : List Stmt) (st : St), checksThenStraight body = true →
      (exec oc env body st).out = if (preConds body).any (Cond.eval env 0) then .thrown else .normal := by
  intro body
  induction body with
  | nil => intro st _; rfl
  | cons s rest ih =>
    intro st h
    cases s with
    | throwIf c =>
      cases hc : Cond.eval env 0 c with
      | true => simp only [exec, preConds, List.any_cons, hc, Bool.true_or, if_true]
      | false => simpa only [exec, preConds, List.any_cons, hc, Bool.false_or, Bool.false_eq_true, if_false] using ih st h
    | assign m | pure w | setInUse b => rw [straight_preConds _ h, exec_straight oc env _ st h]; rfl
    | _ => simp [checksThenStraight, straight] at h

theorem exec_thrown_iff (oc : String → St → Res) (env : Env) (body : List Stmt) (st : St)
    (h : checksThenStraight body = true) :
    (exec oc env body st).out = .thrown ↔ ∃ c ∈ preConds body, Cond.eval env 0 c = true := by
  rw [exec_checksThenStraight oc env body st h, ← List.any_eq_true]
  cases (preConds body).any (Cond.eval env 0) <;> simp

/-- `c` occurs as a disjunct of the condition -/
def hasDisjunct (c : Cond) : Cond → Bool
  | .or a b => hasDisjunct c a || hasDisjunct c b
  | d => d == c

theorem hasDisjunct_eval (env : Env) (x : Int) (c : Cond) :
    ∀ d : Cond, hasDisjunct c d = true → Cond.eval env x c = true → Cond.eval env x d = true := by
  intro d
  induction d with
  | or a b iha ihb =>
    intro h hc
    simp only [hasDisjunct, Bool.or_eq_true] at h
    rcases h with h | h
    · simp [Cond.eval, iha h hc]
    · simp [Cond.eval, ihb h hc]
  | _ =>
    intro h hc
    simp only [hasDisjunct, beq_iff_eq] at h
    subst h
    exact hc

/-- `a` is tested before the first write, return or call: it is a disjunct of one of the leading conditions -/
def refuses (body : List Stmt) (a : Cond) : Bool := (preConds body).any (hasDisjunct a)

/-- `Cond.holds` of a concrete condition unfolds to the proposition about the arguments that the theorems of C19
assume. -/
theorem exec_refuses (oc : String → St → Res) (env : Env) (body : List Stmt) (st : St) {a : Cond}
    (h : refuses body a = true) (ha : Cond.holds env 0 a) : exec oc env body st = ⟨.thrown, st, []⟩ := by
  obtain ⟨c, hc, hd⟩ := List.any_eq_true.mp h
  exact exec_preConds oc env body st ⟨c, hc, hasDisjunct_eval env 0 a c hd ((Cond.eval_iff env a 0).mpr ha)⟩

/-- the length test of the argument at position `i`: `arg.size() != nbCells()` -/
def lenCondAt (i : Nat) : Cond := .not (.eq (.size i) .nbCells)

end ColoVerif.Busy
