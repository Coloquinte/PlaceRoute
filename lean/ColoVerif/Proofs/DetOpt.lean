import ColoVerif.Model.DetOpt
import ColoVerif.Proofs.DetPlaceFrame
namespace ColoVerif.DetPlace
open State

theorem scan_some {cur : Int} {eval : Int → Option Int} {cands : List Int} {best b : Option Int}
    (hb : ∀ c, best = some c → ∃ v, eval c = some v ∧ v < cur)
    (e : scan cur eval cands best = b) : ∀ c, b = some c → ∃ v, eval c = some v ∧ v < cur := by
  induction cands generalizing best with
  | nil => simp [scan] at e; exact e ▸ hb
  | cons cand rest ih =>
    unfold scan at e
    split at e
    · rename_i v hv
      split at e
      · rename_i hlt
        exact ih (by intro c hc; injection hc with hc; exact ⟨v, hc ▸ hv, hlt⟩) e
      · exact ih hb e
    · exact ih hb e

theorem scan_lt {cur : Int} {eval : Int → Option Int} {cands : List Int} {b v : Int}
    (e : scan cur eval cands none = some b) (hv : eval b = some v) : v < cur := by
  obtain ⟨v', hv', hlt⟩ := scan_some (best := none) nofun e b rfl
  rw [hv] at hv'
  injection hv' with hv'
  omega

theorem scan_singleton {cur v b : Int} {eval : Int → Option Int} (hv : eval b = some v) (hlt : v < cur) :
    scan cur eval [b] none = some b := by
  simp only [scan, hv, if_pos hlt]

theorem guard_ok {α : Type} {c : Bool} {x : Except Err α} {a : α} (e : (if c then x else .error .guard) = .ok a) :
    c = true ∧ x = .ok a := by
  split at e
  · exact ⟨‹_›, e⟩
  · cases e

theorem keepBest_spec (init : Int) (leaves : List Leaf) (l0 : Option Leaf) (best : Int)
    (h0 : best ≤ init) (hl0 : ∀ l, l0 = some l → l.value = best ∧ l.value < init) :
    (keepBest best leaves l0).1 ≤ init ∧
    ∀ l, (keepBest best leaves l0).2 = some l → l.value = (keepBest best leaves l0).1 ∧ l.value < init := by
  induction leaves generalizing best l0 with
  | nil => exact ⟨h0, hl0⟩
  | cons leaf rest ih =>
    unfold keepBest
    split
    · rename_i hlt
      exact ih (some leaf) leaf.value (by omega) (by intro l hl; injection hl with hl; subst hl; exact ⟨rfl, by omega⟩)
    · exact ih l0 best h0 hl0

theorem keepBest_mem (ls : List Leaf) (b : Int) (l0 : Option Leaf) (l : Leaf) (h : (keepBest b ls l0).2 = some l) :
    l0 = some l ∨ l ∈ ls := by
  induction ls generalizing b l0 with
  | nil => exact .inl h
  | cons x xs ih =>
    unfold keepBest at h
    split at h
    · exact (ih _ _ h).elim (fun e => .inr (Option.some.inj e ▸ List.mem_cons_self)) fun m =>
        .inr (List.mem_cons_of_mem _ m)
    · exact (ih _ _ h).imp_right (List.mem_cons_of_mem _)

end ColoVerif.DetPlace
