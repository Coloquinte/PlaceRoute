import ColoVerif.Proofs.DetReorderInv
import ColoVerif.Proofs.InsertionSort
/-!
`RowReordering::runRegionChoice` and `run` on the coordinate vectors (`pureStore V`).
With the registered cells distinct and non-negative: the `assert` never fires, no loop runs out of fuel,
every evaluated leaf is faithful and the best-so-far fields are the keep-best fold (`run_spec`).
-/
namespace ColoVerif.DetPlace
open State

/-- relation between the state at a call of `runRegionChoice(k)` and the state it returns -/
structure PostC (V : Value) (s : State) (v0 : Int) (cs : List Int) (k : Nat) (rr rr' : RowReord PS) : Prop where
  regions : rr'.regions = rr.regions
  cells : rr'.cells = rr.cells
  order : rr'.order = rr.order
  plen : rr'.positions.length = rr.positions.length
  sy : ∀ d, d ∉ cs.take k → rr'.store.2 d = rr.store.2 d
  sx : ∀ d, d ∉ cs → rr'.store.1 d = rr.store.1 d
  fuel : rr'.fuelOut = rr.fuelOut
  asrt : rr'.assertFail = rr.assertFail
  book : Book V s v0 rr'

theorem PostC.shape {V : Value} {s : State} {v0 : Int} {cs : List Int} {k : Nat} {rr rr' : RowReord PS} {G : List RRegion}
    (h : PostC V s v0 cs k rr rr') (hs : Shape G cs rr) : Shape G cs rr' :=
  ⟨h.regions.trans hs.regions, h.cells.trans hs.cells, by rw [h.order]; exact hs.olen, h.plen.trans hs.plen⟩

theorem PostC.trans {V : Value} {s : State} {v0 : Int} {cs : List Int} {k : Nat} {a b c : RowReord PS}
    (h1 : PostC V s v0 cs k a b) (h2 : PostC V s v0 cs k b c) : PostC V s v0 cs k a c :=
  ⟨h2.regions.trans h1.regions, h2.cells.trans h1.cells, h2.order.trans h1.order, h2.plen.trans h1.plen,
   fun d hd => (h2.sy d hd).trans (h1.sy d hd), fun d hd => (h2.sx d hd).trans (h1.sx d hd),
   h2.fuel.trans h1.fuel, h2.asrt.trans h1.asrt, h2.book⟩

theorem not_mem_take_of_mem_drop {cs : List Int} (hn : cs.Nodup) {k : Nat} {d : Int} (h : d ∈ cs.drop k) : d ∉ cs.take k := by
  have : (cs.take k ++ cs.drop k).Nodup := by rw [List.take_append_drop]; exact hn
  exact fun ht => (List.nodup_append.1 this).2.2 d ht d h rfl

theorem PostC.lists {V : Value} {s : State} {v0 : Int} {cs : List Int} {k : Nat} {rr rr' : RowReord PS} {G : List RRegion}
    (h : PostC V s v0 cs k rr rr') (hn : cs.Nodup) (hl : Lists s G cs k rr) : Lists s G cs k rr' := by
  apply hl.transfer (congrArg _ h.order)
  · intro i l' hl'; rw [h.order] at hl'; exact ⟨l', hl', List.Perm.refl _⟩
  · intro d hd; exact h.sy d (not_mem_take_of_mem_drop hn hd)
  · intro d hd
    exact ⟨h.sx d hd, h.sy d (fun ht => hd (List.mem_of_mem_take ht))⟩

/-- before any region is set up `XInv` asks nothing -/
theorem xinv_top (s : State) (G : List RRegion) (rr : RowReord PS) : XInv s G G.length rr :=
  fun _ _ _ hi _ hg => absurd (List.getElem?_eq_some_iff.1 hg).1 (Nat.not_lt_of_le hi)

theorem PostC.ready {V : Value} {s : State} {v0 : Int} {cs : List Int} {k : Nat} {rr rr' : RowReord PS} {G : List RRegion}
    (h : PostC V s v0 cs k rr rr') (hn : cs.Nodup) (hr : Ready V s G cs v0 k G.length rr) :
    Ready V s G cs v0 k G.length rr' :=
  ⟨h.shape hr.shape, h.lists hn hr.lists, xinv_top s G _, fun i l hi hil => hr.sorted i l hi (h.order ▸ hil), h.book⟩

/-- `pop_back` after a call that hands `order_` back as the `push_back` left it: `order_` is restored and the
`assert` holds -/
theorem popBack_push {rr rr2 : RowReord PS} {i : Nat} {c : Int} {l : List Int} (hil : rr.order[i]? = some l)
    (ho : rr2.order = rr.order.modify i (· ++ [c])) :
    (popBack i c rr2).order = rr.order ∧ (popBack i c rr2).assertFail = rr2.assertFail := by
  constructor
  · show rr2.order.modify i List.dropLast = rr.order
    rw [ho, List.modify_modify_eq, show List.dropLast ∘ (· ++ [c]) = id from funext fun _ => List.dropLast_concat,
      List.modify_id]
  · show (rr2.assertFail || _) = rr2.assertFail
    rw [ho]
    simp [List.getD_eq_getElem?_getD, hil]

theorem drop_lt_of_desc {cs : List Int} (hd : cs.Pairwise (· > ·)) {k : Nat} {c : Int} (hk : cs[k]? = some c) :
    ∀ d ∈ cs.drop (k + 1), d < c := by
  obtain ⟨hlt, heq⟩ := List.getElem?_eq_some_iff.1 hk
  have : (cs.drop k).Pairwise (· > ·) := hd.sublist (List.drop_sublist k cs)
  rw [List.drop_eq_getElem_cons hlt, List.pairwise_cons, heq] at this
  intro d hd'
  exact this.1 d hd'

theorem desc_nodup {cs : List Int} (hd : cs.Pairwise (· > ·)) : cs.Nodup :=
  hd.imp (fun h e => by omega)

/-- the state in which the recursive call of `regionStep` is made satisfies the invariants one level down -/
theorem push_lists (s : State) (G : List RRegion) (cs : List Int) (k i : Nat) (c : Int) (rr : RowReord PS) (l : List Int)
    (g : RRegion) (hdesc : cs.Pairwise (· > ·)) (hk : cs[k]? = some c) (hl : Lists s G cs (k + 1) rr)
    (hi : rr.order[i]? = some l) (hg : G[i]? = some g) (rr2 : RowReord PS)
    (ho : rr2.order = rr.order.modify i (· ++ [c])) (hs1 : rr2.store.1 = rr.store.1)
    (hs2 : rr2.store.2 = upd rr.store.2 c (s.rowY g.row))
    (hfit : allocatedWidth s (l ++ [c]) ≤ g.width) (hal : s.isRowAllowed c g.row = true) : Lists s G cs k rr2 := by
  obtain ⟨hlt, heq⟩ := List.getElem?_eq_some_iff.1 hk
  have hdrop : cs.drop k = c :: cs.drop (k + 1) := by rw [List.drop_eq_getElem_cons hlt, heq]
  have hcnot : c ∉ cs.drop (k + 1) := fun h => Int.lt_irrefl c (drop_lt_of_desc hdesc hk c h)
  have hcmem : c ∈ cs := List.mem_of_getElem? hk
  -- every list of rr2 is a list of rr, the one of region `i` extended by `c`
  have hget : ∀ (n : Nat) l', rr2.order[n]? = some l' →
      ∃ l0, rr.order[n]? = some l0 ∧ l' = if i = n then l0 ++ [c] else l0 :=
    fun n l' hl' => ListFacts.getElem?_modify_some (ho ▸ hl')
  have hput : ∀ (n : Nat) l0, rr.order[n]? = some l0 → rr2.order[n]? = some (if i = n then l0 ++ [c] else l0) := by
    intro n l0 h; rw [ho, List.getElem?_modify, h]; rfl
  have hmem : ∀ {n : Nat} {l0 : List Int} {d : Int}, d ∈ (if i = n then l0 ++ [c] else l0) → d ∈ l0 ∨ (i = n ∧ d = c) := by
    intro n l0 d hd
    split at hd
    · rename_i e; exact (List.mem_append.1 hd).imp_right fun h => ⟨e, List.mem_singleton.1 h⟩
    · exact Or.inl hd
  have hsub : ∀ {n : Nat} {l0 : List Int}, rr.order[n]? = some l0 → c ∉ l0 := fun h0 hc => hcnot (hl.sub _ _ h0 c hc)
  refine ⟨?_, ?_, ?_, ?_, ?_, ?_, ?_, ?_⟩
  · intro n l' hl'
    obtain ⟨l0, h0, rfl⟩ := hget n l' hl'
    split
    · exact List.nodup_append.2 ⟨hl.nodup n l0 h0, List.pairwise_singleton _ c,
        fun a ha b hb hab => hsub h0 (by rw [← List.mem_singleton.1 hb, ← hab]; exact ha)⟩
    · exact hl.nodup n l0 h0
  · intro n l' hl' d hd
    obtain ⟨l0, h0, rfl⟩ := hget n l' hl'
    rw [hdrop]
    rcases hmem hd with hd | ⟨_, rfl⟩
    · exact List.mem_cons_of_mem _ (hl.sub n l0 h0 d hd)
    · exact List.mem_cons_self
  · intro d hd
    rw [hdrop] at hd
    rcases List.mem_cons.1 hd with rfl | hd
    · exact ⟨i, _, hput i l hi, by rw [if_pos rfl]; simp⟩
    · obtain ⟨n, l0, h0, hdl⟩ := hl.cover d hd
      refine ⟨n, _, hput n l0 h0, ?_⟩
      split
      · exact List.mem_append_left _ hdl
      · exact hdl
  · intro n n' l1 l2 h1 h2 d hd1 hd2
    obtain ⟨m1, k1, rfl⟩ := hget n l1 h1
    obtain ⟨m2, k2, rfl⟩ := hget n' l2 h2
    rcases hmem hd1 with a | ⟨e1, rfl⟩ <;> rcases hmem hd2 with b | ⟨e2, hdc⟩
    · exact hl.disj n n' m1 m2 k1 k2 d a b
    · exact absurd (hdc ▸ a) (hsub k1)
    · exact absurd b (hsub k2)
    · exact e1.symm.trans e2
  · intro n l' g' hl' hg' d hd
    obtain ⟨l0, h0, rfl⟩ := hget n l' hl'
    rw [hs2]
    rcases hmem hd with hd | ⟨rfl, rfl⟩
    · have hne : d ≠ c := fun e => hsub h0 (e ▸ hd)
      simp only [upd, hne, if_false]
      exact hl.yinv n l0 g' h0 hg' d hd
    · rw [hg] at hg'; cases hg'; simp [upd]
  · intro d hd
    have hne : d ≠ c := fun e => hd (e ▸ hcmem)
    rw [hs1, hs2]
    simp only [upd, hne, if_false]
    exact hl.frame d hd
  · intro n l' g' hl' hg' hne
    obtain ⟨l0, h0, rfl⟩ := hget n l' hl'
    by_cases e : i = n
    · subst e
      rw [hi] at h0; cases h0
      rw [hg] at hg'; cases hg'
      rw [if_pos rfl]; exact hfit
    · rw [if_neg e] at hne ⊢
      exact hl.fits n l0 g' h0 hg' hne
  · intro n l' g' hl' hg' d hd
    obtain ⟨l0, h0, rfl⟩ := hget n l' hl'
    rcases hmem hd with hd | ⟨rfl, rfl⟩
    · exact hl.allowed n l0 g' h0 hg' d hd
    · rw [hg] at hg'; cases hg'; exact hal

theorem runRegionChoice_spec (V : Value) (s : State) (G : List RRegion) (cs : List Int) (v0 : Int)
    (hnn : ∀ c ∈ cs, 0 ≤ c) (hdesc : cs.Pairwise (· > ·)) (k : Nat) :
    ∀ (rr : RowReord PS), k ≤ cs.length → Ready V s G cs v0 k G.length rr →
      PostC V s v0 cs k rr (runRegionChoice (pureStore V) s k rr) := by
  induction k with
  | zero =>
    intro rr _ hr
    unfold runRegionChoice
    rw [hr.shape.regions]
    have post := runOrdering_spec V s G cs v0 hnn G.length rr (Nat.le_refl _) hr
    refine ⟨post.regions, post.cells, post.order, post.plen, fun d _ => by rw [post.sy], ?_, post.fuel, post.asrt, post.book⟩
    intro d hd
    apply post.sx d
    intro i l _ hil hdl
    exact hd (by simpa using hr.lists.sub i l hil d hdl)
  | succ k ih =>
    intro rr hk hr
    unfold runRegionChoice
    have hn := desc_nodup hdesc
    have hkl : k < cs.length := by omega
    obtain ⟨c, hc⟩ : ∃ c, cs[k]? = some c := ⟨cs[k], List.getElem?_eq_getElem hkl⟩
    have hcd : rr.cells.getD k 0 = c := by rw [hr.shape.cells]; exact ListFacts.getD_of_getElem? hc
    rw [hcd, hr.shape.regions]
    have step : ∀ (rr1 : RowReord PS) (i : Nat), i < G.length → Ready V s G cs v0 (k + 1) G.length rr1 →
        PostC V s v0 cs (k + 1) rr1 (regionStep (pureStore V) s (runRegionChoice (pureStore V) s k) c rr1 i) := by
      intro rr1 i hi ⟨hs1, hl1, _, hso1, hb1⟩
      obtain ⟨l, hil⟩ : ∃ l, rr1.order[i]? = some l := ⟨rr1.order[i]'(by rw [hs1.olen]; exact hi), List.getElem?_eq_getElem _⟩
      obtain ⟨g, hg⟩ : ∃ g, G[i]? = some g := ⟨G[i], List.getElem?_eq_getElem hi⟩
      have hgd : rr1.regions.getD i default = g := by rw [hs1.regions]; exact ListFacts.getD_of_getElem? hg
      unfold regionStep
      split
      · -- the cell fits: recursive call
        rename_i hcond
        rw [ListFacts.getD_of_getElem? hil, hgd] at hcond
        have hr2 : Ready V s G cs v0 k G.length
            (tellY (pureStore V) c (s.rowY (rr1.regions.getD i default).row) (pushBack i c rr1)) := by
          refine ⟨⟨hs1.regions, hs1.cells, by show (rr1.order.modify i _).length = _; simp [hs1.olen], hs1.plen⟩,
            push_lists s G cs k i c rr1 l g hdesc hc hl1 hil hg _ rfl rfl (by rw [hgd]; rfl) hcond.1 hcond.2,
            xinv_top s G _, ?_, ⟨hb1.faithful, hb1.kb, hb1.bestwf⟩⟩
          -- `c` is larger than the cells pushed before it
          intro n l' hn' hl'
          obtain ⟨l0, h0, rfl⟩ := ListFacts.getElem?_modify_some (show (rr1.order.modify i (· ++ [c]))[n]? = some l' from hl')
          split
          · rw [List.pairwise_append]
            refine ⟨hso1 n l0 hn' h0, List.pairwise_singleton _ _, fun a ha b hb => ?_⟩
            rw [List.mem_singleton.1 hb]
            exact drop_lt_of_desc hdesc hc a (hl1.sub n l0 h0 a ha)
          · exact hso1 n l0 hn' h0
        have post := ih _ (by omega) hr2
        obtain ⟨hord, hasrt⟩ := popBack_push (c := c) hil post.order
        refine ⟨post.regions, post.cells, hord, post.plen, fun d hd => ?_, post.sx, post.fuel, hasrt.trans post.asrt,
          ⟨post.book.faithful, post.book.kb, post.book.bestwf⟩⟩
        -- `d` is neither among the cells the call may move nor the cell `c` whose y was told
        rw [List.take_add_one, hc] at hd
        exact (post.sy d fun h => hd (List.mem_append_left _ h)).trans
          (if_neg fun (e : d = c) => hd (List.mem_append_right _ (e ▸ List.mem_singleton_self c)))
      · -- the cell does not fit: pushed and popped at once
        obtain ⟨hord, hasrt⟩ := popBack_push (rr2 := pushBack i c rr1) hil rfl
        exact ⟨rfl, rfl, hord, rfl, fun _ _ => rfl, fun _ _ => rfl, rfl, hasrt, ⟨hb1.faithful, hb1.kb, hb1.bestwf⟩⟩
    have loop : ∀ (is : List Nat), (∀ i ∈ is, i < G.length) → ∀ rr1 : RowReord PS, Ready V s G cs v0 (k + 1) G.length rr1 →
        PostC V s v0 cs (k + 1) rr1
          (is.foldl (regionStep (pureStore V) s (runRegionChoice (pureStore V) s k) c) rr1) := by
      intro is
      induction is with
      | nil =>
        intro _ rr1 hr1
        exact ⟨rfl, rfl, rfl, rfl, fun _ _ => rfl, fun _ _ => rfl, rfl, rfl, hr1.book⟩
      | cons i is ih =>
        intro his rr1 hr1
        have p1 := step rr1 i (his i (List.mem_cons_self ..)) hr1
        exact p1.trans (ih (fun j hj => his j (List.mem_cons_of_mem _ hj)) _ (p1.ready hn hr1))
    exact loop (List.range G.length) (fun i hi => List.mem_range.1 hi) rr hr

theorem sortDesc_sorted (l : List Int) : (sortDesc l).Pairwise (· ≥ ·) :=
  foldr_insert_pairwise insertDesc (· ≥ ·) (fun _ _ _ h1 h2 => Int.le_trans h2 h1) (fun _ => rfl)
    (fun c d _ => if h : d ≤ c then .inr ⟨if_pos h, h⟩ else .inl ⟨if_neg h, Int.le_of_lt (Int.not_le.mp h)⟩) l

theorem sortDesc_desc {l : List Int} (hn : l.Nodup) : (sortDesc l).Pairwise (· > ·) := by
  have h1 := sortDesc_sorted l
  have h2 : (sortDesc l).Nodup := (sortDesc_perm l).symm.nodup hn
  have := h1.and h2
  exact this.imp (fun h => by omega)

/-- the state `addCells` hands to `run`: nothing evaluated yet, empty order lists, one per region -/
structure Fresh {σ : Type} (rr : RowReord σ) : Prop where
  leaves : rr.leaves = []
  improvement : rr.improvement = false
  olen : rr.order.length = rr.regions.length
  plen : rr.positions.length = rr.regions.length
  empty : ∀ (i : Nat) l, rr.order[i]? = some l → l = []

/-- `RowReordering::run` on the coordinate vectors.  Registered cells distinct and non-negative,
the two vectors those of the placement: no fuel-out, no assertion failure, every evaluated leaf faithful,
`bestVal_ / bestOrder_ / bestPositions_ / improvement_` = the keep-best fold over the evaluated leaves
(in evaluation order) started from the value before the pass. -/
theorem run_spec (V : Value) (s : State) (rr0 : RowReord PS) (hf : Fresh rr0) (hn : rr0.cells.Nodup)
    (hnn : ∀ c ∈ rr0.cells, 0 ≤ c) (hst : rr0.store = (s.x, s.y)) :
    (rr0.run (pureStore V) s).fuelOut = rr0.fuelOut ∧ (rr0.run (pureStore V) s).assertFail = rr0.assertFail ∧
    (rr0.run (pureStore V) s).cells = sortDesc rr0.cells ∧ (rr0.run (pureStore V) s).regions = rr0.regions ∧
    Book V s (V s.x s.y) (rr0.run (pureStore V) s) ∧
    (∀ d, d ∉ rr0.cells → (rr0.run (pureStore V) s).store.1 d = s.x d ∧ (rr0.run (pureStore V) s).store.2 d = s.y d) := by
  unfold RowReord.run
  have hdesc := sortDesc_desc hn
  have hlen : rr0.cells.length = (sortDesc rr0.cells).length := (sortDesc_perm rr0.cells).length_eq.symm
  have hv0 : (pureStore V).value rr0.store = V s.x s.y := by rw [hst]; rfl
  have post := runRegionChoice_spec V s rr0.regions (sortDesc rr0.cells) (V s.x s.y)
    (fun c hc => hnn c ((sortDesc_perm rr0.cells).mem_iff.1 hc)) hdesc rr0.cells.length
    { rr0 with bestVal := (pureStore V).value rr0.store, cells := sortDesc rr0.cells }
    (by omega) ⟨⟨rfl, rfl, hf.olen, hf.plen⟩,
    ⟨fun i l h => by rw [hf.empty i l h]; exact List.nodup_nil,
     fun i l h c hc => by rw [hf.empty i l h] at hc; simp at hc,
     fun d hd => by rw [hlen, List.drop_length] at hd; simp at hd,
     fun i i' l l' h _ c hc _ => by rw [hf.empty i l h] at hc; simp at hc,
     fun i l g h _ c hc => by rw [hf.empty i l h] at hc; simp at hc,
     fun d _ => by show rr0.store.1 d = _ ∧ rr0.store.2 d = _; rw [hst]; exact ⟨rfl, rfl⟩,
     fun i l g h _ hne => absurd (hf.empty i l h) hne,
     fun i l g h _ c hc => by rw [hf.empty i l h] at hc; simp at hc⟩,
    xinv_top s _ _,
    fun i l _ h => by rw [hf.empty i l h]; exact List.Pairwise.nil,
    ⟨fun leaf hl => by rw [show ({ rr0 with bestVal := _, cells := _ } : RowReord PS).leaves = rr0.leaves from rfl, hf.leaves] at hl; simp at hl,
     by show keepBest (V s.x s.y) rr0.leaves.reverse none = (_, if rr0.improvement = true then _ else none)
        rw [hf.leaves, hf.improvement, hv0]; rfl,
     fun h => by
      have : rr0.improvement = true := h
      rw [hf.improvement] at this; cases this⟩⟩
  refine ⟨post.fuel, post.asrt, post.cells, post.regions, post.book, ?_⟩
  intro d hd
  have hd' : d ∉ sortDesc rr0.cells := fun h => hd ((sortDesc_perm rr0.cells).mem_iff.1 h)
  refine ⟨(post.sx d hd').trans ?_, (post.sy d (fun h => hd' (List.mem_of_mem_take h))).trans ?_⟩
  · show rr0.store.1 d = s.x d; rw [hst]
  · show rr0.store.2 d = s.y d; rw [hst]

end ColoVerif.DetPlace
