import ColoVerif.Proofs.LegalizeLegalCircuit
/-
For C04 `legalize_orient`: from `Legalizer::run` (`run_spec`) to `Circuit::legalize` (`legalizeWith_orient`).
`exportPlacement` writes the status of the m-th movable cell to the m-th movable cell (`exportCells_pointwise`);
the segment a cell sits on is unique because the segments are disjoint (`seg_unique`).
What later stages (C02 constructor after legalization, C11 second call) need of a successful call is read off
cell by cell (`legalize_facts`, `legalize_cell`); in particular the result is again in the domain (`legalize_dom`).
-/
namespace ColoVerif.Legalize
open ColoVerif

theorem exportCells_pointwise (Q : Cell → Cell → Prop) (hQ : ∀ cl, cl.fixed = true → Q cl cl) :
    ∀ (cells : List Cell) (P : List Pos), P.length = (cells.filter fun cl => !cl.fixed).length →
      (∀ (m : Nat) (cl : Cell) (p : Pos), (cells.filter fun cl => !cl.fixed)[m]? = some cl → P[m]? = some p →
        Q cl (updCell cl p)) →
      Pointwise Q cells (exportCells cells P) := by
  intro cells P hlen hq
  fun_induction exportCells cells P with
  | case1 => exact Pointwise.nil
  | case2 cl cls P hf ih =>
    rw [List.filter_cons_of_neg (by rw [hf]; decide)] at hlen hq
    exact Pointwise.cons (hQ cl hf) (ih hlen hq)
  | case3 cl cls hf ih =>
    rw [List.filter_cons_of_pos (by simpa using hf)] at hlen
    cases hlen
  | case4 cl cls hf p ps ih =>
    rw [List.filter_cons_of_pos (by simpa using hf)] at hlen hq
    exact Pointwise.cons (hq 0 cl p rfl rfl) (ih (Nat.succ.inj hlen) fun m cl' p' h1 h2 => hq (m + 1) cl' p' h1 h2)

/-- the result `b` of a movable cell `a` has the placed size of `a` (the turn status is kept) and sits on the bottom edge
of a segment of `rows`, inside it, with the orientation `getOrientation` computes for that segment (`a`'s own when the
table answers the keep marker UNKNOWN), not INVALID -/
def CellOrient (rows : List Row) (a b : Cell) : Prop :=
  (a.fixed = true → b = a) ∧
  (a.fixed = false →
    b.fixed = false ∧ b.pol = a.pol ∧ b.placedWidth = a.placedWidth ∧ b.placedHeight = a.placedHeight ∧
    0 < a.placedWidth ∧
    ∃ r ∈ rows, r.rect.minY = b.y ∧ r.rect.minX ≤ b.x ∧ b.x + b.placedWidth ≤ r.rect.maxX ∧
      b.orient = (if cellOrientationInRow a.pol r.orient = Orient.UNKNOWN then a.orient
                  else cellOrientationInRow a.pol r.orient) ∧
      b.orient ≠ Orient.INVALID)

theorem legalizeWith_orient (rnd : Rat → Rat) (p : Params) (c c' : Circuit) (hd : DomL c)
    (h : legalizeWith rnd p c = .ok c') :
    c'.computeRows = c.computeRows ∧ Pointwise (CellOrient c.computeRows) c.cells c'.cells := by
  obtain ⟨b2, rfl, hall, hlen, hor, _⟩ := legalizeWith_run rnd p c c' hd h
  have hRc := dom_rowsOK c hd
  refine ⟨export_computeRows b2 c, ?_⟩
  show Pointwise _ c.cells (exportCells c.cells b2.pos)
  apply exportCells_pointwise
  · intro cl hf
    exact ⟨fun _ => rfl, fun hff => (by rw [hf] at hff; cases hff)⟩
  · rw [hlen, movable_length]
  · intro m cl q hcm hpm
    have hfx : cl.fixed = false := by
      have := (List.mem_filter.mp (List.mem_of_getElem? hcm)).2
      simpa using this
    refine ⟨fun hff => (by rw [hfx] at hff; cases hff), fun _ => ?_⟩
    have hq : posAt b2.pos m = q := ListFacts.getD_of_getElem? hpm
    have hpl : q.placed = true := by
      rw [List.all_eq_true] at hall
      exact hall q (List.mem_of_getElem? hpm)
    have hcell : cellAt (movable c) m = toLCell cl := ListFacts.getD_of_getElem? (movable_getElem? hcm)
    obtain ⟨r, hr, hso⟩ := (hor m (by rw [hq]; exact hpl)).seg
    rw [hcell, hq] at hso
    have hmem : cl ∈ c.cells := (List.mem_filter.mp (List.mem_of_getElem? hcm)).1
    obtain ⟨d1, _, _, d4⟩ := hd.2.1 cl hmem hfx
    -- the written cell covers the rectangle of its status, so it keeps its placed size
    obtain ⟨ex, ew, ey, eh⟩ := Rect.mk.inj (updCell_placement hpl (hRc.unturned r hr) d4 hso)
    obtain ⟨a1, a2, a3, a4, a5⟩ := hso
    rw [← ex] at ew a2 a3
    rw [← ey] at eh a1
    have ho : (updCell cl q).orient = q.orient := by rw [updCell, if_pos hpl]
    rw [← ho] at a4 a5
    exact ⟨(updCell_fixed cl q).trans hfx, by rw [updCell, if_pos hpl], Int.add_left_cancel ew, Int.add_left_cancel eh, d1,
      r, hr, a1, a2, ew ▸ a3, a4, a5⟩

theorem seg_unique (H : Int) (hH : 0 < H) (rows : List Row) (hok : RowsOK H rows) (r r' : Row) (hr : r ∈ rows)
    (hr' : r' ∈ rows) (x w y : Int) (hw : 0 < w)
    (h : r.rect.minY = y ∧ r.rect.minX ≤ x ∧ x + w ≤ r.rect.maxX)
    (h' : r'.rect.minY = y ∧ r'.rect.minX ≤ x ∧ x + w ≤ r'.rect.maxX) : r' = r := by
  refine Classical.byContradiction fun hne => ?_
  have hx : ¬ x + w ≤ x := Int.not_le.mpr (Int.lt_add_of_pos_right x hw)
  rcases level_apart_x hH (hok.height r hr) (hok.height r' hr') (h.1.trans h'.1.symm)
    ((ListFacts.pairwise_ne hok.disj r hr r' hr' (Ne.symm hne)).elim id ((intersects_comm _ _).trans ·)) with hd | hd
  · exact hx (Int.le_trans h.2.2 (Int.le_trans hd h'.2.1))
  · exact hx (Int.le_trans h'.2.2 (Int.le_trans hd h.2.1))

/-- `CellOrient` with the `if` of `getOrientation` split and the segment unique (`seg_unique`) -/
theorem CellOrient.seg {H : Int} (hH : 0 < H) {rows : List Row} (hok : RowsOK H rows) {a b : Cell}
    (h : CellOrient rows a b) (hf : a.fixed = false) :
    ∃ r ∈ rows, (r.rect.minY = b.y ∧ r.rect.minX ≤ b.x ∧ b.x + b.placedWidth ≤ r.rect.maxX) ∧
      (∀ r' ∈ rows, r'.rect.minY = b.y ∧ r'.rect.minX ≤ b.x ∧ b.x + b.placedWidth ≤ r'.rect.maxX → r' = r) ∧
      cellOrientationInRow b.pol r.orient ≠ Orient.INVALID ∧ b.orient ≠ Orient.INVALID ∧
      (cellOrientationInRow b.pol r.orient ≠ Orient.UNKNOWN → b.orient = cellOrientationInRow b.pol r.orient) ∧
      (cellOrientationInRow b.pol r.orient = Orient.UNKNOWN → b.orient = a.orient) := by
  obtain ⟨_, hp, hw, _, hwpos, r, hr, g1, g2, g3, ho, hni⟩ := h.2 hf
  rw [← hp] at ho
  refine ⟨r, hr, ⟨g1, g2, g3⟩, fun r' hr' m => seg_unique H hH rows hok r r' hr hr' b.x b.placedWidth b.y
    (hw ▸ hwpos) ⟨g1, g2, g3⟩ m, fun hinv => ?_, hni, fun hu => ho.trans (if_neg hu), fun hu => ho.trans (if_pos hu)⟩
  rw [hinv] at ho
  exact hni (ho.trans (if_neg (by decide)))

theorem legalize_facts (rnd : Rat → Rat) (p : Params) (c c' : Circuit) (hd : DomL c)
    (h : legalizeWith rnd p c = .ok c') :
    c'.rows = c.rows ∧ c'.computeRows = c.computeRows ∧
    Pointwise (fun a b => SameFrame a b ∧ CellOrient c.computeRows a b) c.cells c'.cells := by
  obtain ⟨hrows, hpw⟩ := legalizeWith_orient rnd p c c' hd h
  obtain ⟨_, b1, b2, _, _, _, rfl⟩ := legalizeWith_ok rnd p c c' h
  exact ⟨rfl, hrows, pointwise_and (exportCells_frame _ _) hpw⟩

theorem legalize_cell (rnd : Rat → Rat) (p : Params) (c c' : Circuit) (hd : DomL c)
    (h : legalizeWith rnd p c = .ok c') (b : Cell) (hb : b ∈ c'.cells) (hf : b.fixed = false) :
    ∃ a ∈ c.cells, a.fixed = false ∧ b.pol = a.pol ∧ b.placedWidth = a.placedWidth ∧ b.placedHeight = a.placedHeight ∧
      ∃ r ∈ c.computeRows, r.rect.minY = b.y ∧ r.rect.minX ≤ b.x ∧ b.x + b.placedWidth ≤ r.rect.maxX ∧
        b.orient = (if cellOrientationInRow a.pol r.orient = Orient.UNKNOWN then a.orient
                    else cellOrientationInRow a.pol r.orient) ∧
        b.orient ≠ Orient.INVALID := by
  obtain ⟨_, _, hpw⟩ := legalize_facts rnd p c c' hd h
  obtain ⟨a, ha, hfr, hor⟩ := pointwise_mem_right hpw b hb
  have haf : a.fixed = false := by rw [hfr.2.2.1]; exact hf
  obtain ⟨_, hp, hw, hh, _, r, hr, g1, g2, g3, g4, g5⟩ := hor.2 haf
  exact ⟨a, ha, haf, hp, hw, hh, r, hr, g1, g2, g3, g4, g5⟩

theorem legalize_dom (rnd : Rat → Rat) (p : Params) (c c' : Circuit) (hd : DomL c)
    (h : legalizeWith rnd p c = .ok c') : DomL c' := by
  obtain ⟨hrows, _, _⟩ := legalize_facts rnd p c c' hd h
  have hrh : Circuit.rowHeight c' = Circuit.rowHeight c := by unfold Circuit.rowHeight; rw [hrows]
  have hRc := dom_rowsOK c hd
  refine ⟨by rw [hrh]; exact hd.1, ?_, by rw [hrows]; exact hd.2.2.1, by rw [hrows]; exact hd.2.2.2⟩
  intro b hb hf
  obtain ⟨a, ha, haf, hp, hw, hh, r, hr, _, _, _, g4, _⟩ := legalize_cell rnd p c c' hd h b hb hf
  obtain ⟨d1, d2, d3, d4⟩ := hd.2.1 a ha haf
  refine ⟨by rw [hw]; exact d1, by rw [hh]; exact d2, by rw [hh, hrh]; exact d3, ?_⟩
  intro hpol
  rw [hp] at hpol
  rw [g4]
  split
  · exact d4 hpol
  · exact cellOrientationInRow_unturned _ _ (hRc.unturned r hr)

end ColoVerif.Legalize
