import ColoVerif.Proofs.Transp1dValid
/-
Rounding: the walk of `computeAssignment` returns the unique sink whose interval of the
cumulative-demand axis contains the rounding position.
A source that the plan returned by `solve` does not split is assigned, by `assign`, the sink the
plan sends it to: "single plan entry ⇒ interval containment" (cell sums of the merge) + the
stages of `solve` and of `assign` (`solve_eq`, `assign_eq`: rounding and the sorter's index maps).
-/
namespace ColoVerif.Transp1d

theorem walk_unique (d : List Int) (hpos : ∀ x ∈ d, 0 < x) (pos : Int) (cs j cs' : Nat)
    (rest' : List Int)
    (e : walk pos ((prefixFrom 0 d).drop (cs + 1)) cs = .ok (cs', rest'))
    (hstart : (prefixFrom 0 d).getD cs 0 ≤ pos) (hj : j < d.length)
    (h1 : (prefixFrom 0 d).getD j 0 ≤ pos) (h2 : pos < (prefixFrom 0 d).getD (j + 1) 0) :
    cs' = j ∧ rest' = (prefixFrom 0 d).drop (j + 1) := by
  have hcs : cs < d.length := by
    by_cases h : cs < d.length
    · exact h
    · rw [List.drop_of_length_le (by rw [prefixFrom_length]; omega)] at e
      cases e
  have hlast := prefixFrom_mono 0 d hpos (j + 1) d.length hj (Nat.le_refl _)
  obtain ⟨c, ec, k3, k4, hD⟩ := walk_spec (prefixFrom 0 d) d.length (prefixFrom_length 0 d) pos
    (by omega) cs hcs hstart
  obtain ⟨rfl, rfl⟩ := Prod.mk.inj (Except.ok.inj (e.symm.trans ec))
  obtain rfl := interval_unique d hpos cs' j pos k3 hj hD k4 h1 h2
  exact ⟨rfl, rfl⟩

theorem computeAssignment_unsplit (pb : Problem) (hv : checkOk pb = true)
    (p : List Int) (a : List Nat) (hrun : run (sortedSolver pb) = .ok p)
    (ha : computeAssignment (sortedSolver pb) p = .ok a) (k j : Nat)
    (hk : k < (sortedSolver pb).u.length) (hj : j < (sortedSolver pb).v.length)
    (h1 : (sortedSolver pb).D.getD j 0 ≤ (sortedSolver pb).S.getD k 0 + p.getD k 0)
    (h2 : (sortedSolver pb).S.getD (k + 1) 0 + p.getD k 0 ≤ (sortedSolver pb).D.getD (j + 1) 0) :
    a.getD k 0 = j := by
  obtain ⟨p', a', _, e, _, ea, l3, _⟩ := assign_eq pb hv
  obtain rfl : p = p' := Except.ok.inj (hrun.symm.trans e)
  obtain rfl : a = a' := Except.ok.inj (ha.symm.trans ea)
  exact l3 k j hk hj h1 h2

theorem rowSum_eq_cellSum (plan : Plan) (k l : Nat) (h : ∀ e ∈ plan, e.1 = k → e.2.1 = l) :
    rowSum plan k = cellSum plan k l := by
  induction plan with
  | nil => rfl
  | cons e es ih =>
    obtain ⟨i, j, a⟩ := e
    have h1 := h (i, j, a) (List.mem_cons_self ..)
    have ih' := ih (fun e he => h e (List.mem_cons_of_mem _ he))
    simp only [rowSum, cellSum, ih']
    by_cases hk : i = k
    · have : j = l := h1 hk
      simp [hk, this]
    · simp [hk]

theorem SolPost.exists_entry {sv : Solver} {p : List Int} {plan : Plan} (post : SolPost sv p plan)
    {k : Nat} (hk : k < sv.u.length) (hpos : 0 < sv.s.getD k 0) : ∃ e ∈ plan, e.1 = k :=
  Classical.byContradiction fun hno => by
    have := rowSum_zero plan k fun e he heq => hno ⟨e, he, heq⟩
    have := post.row k hk
    omega

/-- a source all of whose entries lie in one sink fits inside that sink's interval: the cell holds the
whole supply, and it holds the overlap -/
theorem SolPost.unsplit {sv : Solver} {p : List Int} {plan : Plan} (post : SolPost sv p plan)
    (hS : ∀ k, k < sv.u.length → sv.S.getD (k + 1) 0 = sv.S.getD k 0 + sv.s.getD k 0)
    (e0 : Nat × Nat × Int) (he0 : e0 ∈ plan) (hall : ∀ e ∈ plan, e.1 = e0.1 → e.2.1 = e0.2.1) :
    sv.D.getD e0.2.1 0 ≤ lo sv p e0.1 ∧ hi sv p e0.1 ≤ sv.D.getD (e0.2.1 + 1) 0 := by
  obtain ⟨hk, hl, _⟩ := post.ent e0 he0
  have hcell := post.cell _ _ hk hl
  rw [← rowSum_eq_cellSum plan _ _ hall, post.row _ hk] at hcell
  have hpos := post.ov_pos e0 he0
  have hs : hi sv p e0.1 - lo sv p e0.1 = sv.s.getD e0.1 0 := by unfold lo hi; have := hS _ hk; omega
  exact subset_of_overlap_eq _ _ _ _ (by omega) (hcell.symm.trans hs.symm)

/-- the unsplit clause of C14, in its strong form: the source is assigned exactly the plan's sink -/
theorem solve_assign_unsplit (pb : Problem) (hv : checkOk pb = true) (plan' : Plan) (a : List Nat)
    (hsol : solve pb = .ok plan') (hasg : assign pb = .ok a) (i j : Nat) (hi : i < pb.u.length)
    (hpos : 0 < pb.s.getD i 0) (hsingle : ∀ e ∈ plan', e.1 = i → e.2.1 = j) :
    a.getD i 0 = j := by
  obtain ⟨p, plan, erun, _, _, post, es⟩ := solve_eq pb hv
  obtain rfl := Except.ok.inj (hsol.symm.trans es)
  have hsnkLen := length_ord_snk pb
  obtain ⟨a0, ha0, rfl⟩ := ListFacts.exists_getD_of_mem 0 ((mem_ord pb.u pb.s i).mpr ⟨hi, hpos⟩)
  have ha0' : a0 < (sortedSolver pb).u.length := length_ord_src pb ▸ ha0
  obtain ⟨e0, he0, rfl⟩ := post.exists_entry ha0' (sortedSolver_s_getD_pos pb ha0')
  -- in the sorted plan, every entry of the row of `e0` lies in a sink that `ord` sends to `j`
  have hren : ∀ e ∈ plan, e.1 = e0.1 → (ord pb.v pb.d).getD e.2.1 0 = j := fun e he hea =>
    hsingle _ (List.mem_map_of_mem he) (by simp only [ren, hea])
  have hj0lt := (post.ent e0 he0).2.1
  have hin := post.unsplit (fun _ => sortedSolver_S_succ pb) e0 he0 fun e he hea =>
    ListFacts.nodup_getD_inj (ord_nodup pb.v pb.d) 0 _ _ (hsnkLen ▸ (post.ent e he).2.1) (hsnkLen ▸ hj0lt)
      ((hren e he hea).trans (hren e0 he0 rfl).symm)
  obtain ⟨p', asg, r, erun', _, _, l3, er, _, _, A⟩ := assign_eq pb hv
  obtain rfl : p = p' := Except.ok.inj (erun.symm.trans erun')
  obtain rfl : r = a := Except.ok.inj (er.symm.trans hasg)
  rw [A e0.1 ha0', l3 e0.1 e0.2.1 ha0' hj0lt hin.1 hin.2, hren e0 he0 rfl]

end ColoVerif.Transp1d
