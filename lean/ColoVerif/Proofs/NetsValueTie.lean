import ColoVerif.Proofs.NetsValue
import ColoVerif.Proofs.BusySizes
/-
The hand-written value model of the net arrays (`Model/NetsValue.lean`) against the size skeletons regenerated from
`src/coloquinte.cpp` (`Gen/ApiSizes.lean`): the abstraction `absSz` of a value state to a size state, the view `netView`
both are compared on, how the skeleton's conditions read on the value model's arguments, and the relation `Agree` in
which a skeleton and a value-model function are compared test by test.  The comparison itself
(`*_value_model_matches_translation`) is in `Properties/C10.lean`.
-/
namespace ColoVerif.NetsValue
open ColoVerif.ApiIR ColoVerif.Busy ColoVerif.BusySizes

/-- the size state of a value state (members outside the nets and the cell count: 0) -/
def absSz (s : Nets) : Sz :=
  ⟨fun k => if k = "cellWidth_" then s.nbCells else if k = "netLimits_" then s.limits.length
            else if k = "netWeights_" then s.nw else if k = "pinCells_" then s.pins.length
            else if k = "pinXOffsets_" then s.nx else if k = "pinYOffsets_" then s.ny else 0,
   back s.limits⟩

/-- what the two models are compared on -/
def netView (z : Sz) : List Int :=
  [z.len "cellWidth_", z.len "netLimits_", z.len "netWeights_", z.len "pinCells_", z.len "pinXOffsets_",
   z.len "pinYOffsets_", z.last]

def addArgs (cells : List Int) (nxo nyo : Nat) : List Arg :=
  [⟨cells.length, cells, 0⟩, ⟨nxo, [], 0⟩, ⟨nyo, [], 0⟩, ⟨0, [], 0⟩]

def setArgs (limits cells : List Int) (nxo nyo nwt : Nat) : List Arg :=
  [⟨limits.length, limits, 0⟩, ⟨cells.length, cells, 0⟩, ⟨nxo, [], 0⟩, ⟨nyo, [], 0⟩, ⟨nwt, [], 0⟩]

theorem any_out_of_range (n : Int) (cells : List Int) :
    cells.any (fun y => decide (y < 0) || decide (n ≤ y)) = !pinsInRange n cells := by
  unfold pinsInRange
  induction cells with
  | nil => rfl
  | cons a r ih =>
    simp only [List.any_cons, List.all_cons, ih, Bool.not_and]
    congr 1
    by_cases h1 : a < 0 <;> by_cases h2 : n ≤ a <;> simp [h1, h2] <;> omega

theorem sortedInts_eq_sortedB (l : List Int) : sortedInts l = sortedB l := by
  induction l with
  | nil => rfl
  | cons a r ih =>
    cases r with
    | nil => rfl
    | cons b r' => simp only [sortedInts, sortedB, ih]

theorem cond_anyElem (env : Env) (x : Int) (i : Nat) (c : Cond) :
    Cond.eval env x (.anyElem i c) = (env.arg i).vals.any (fun y => Cond.eval env y c) := rfl

theorem cond_sorted (env : Env) (x : Int) (i : Nat) : Cond.eval env x (.sorted i) = sortedInts (env.arg i).vals := rfl

theorem pinRange_eval (z : Sz) (args : List Arg) (i : Nat) :
    Cond.eval (envOf z args) 0 (.anyElem i (.or (.lt .elem (.lit 0)) (.le .nbCells .elem)))
      = !pinsInRange (z.len "cellWidth_") (argAt args i).vals := by
  simp only [Cond.eval, Expr.eval, envOf_arg, envOf_nbCells]
  exact any_out_of_range _ _

/- The lengths of the abstraction are read by name, never by unfolding `absSz` inside a larger goal: its nest of `if k = "…"` is dear to evaluate. -/

theorem absSz_last (s : Nets) : (absSz s).last = back s.limits := rfl
theorem absSz_cellWidth (s : Nets) : (absSz s).len "cellWidth_" = s.nbCells := by
  simp only [absSz, ↓reduceIte]
theorem absSz_netLimits (s : Nets) : (absSz s).len "netLimits_" = s.limits.length := by
  simp only [absSz, String.reduceEq, ↓reduceIte]
theorem absSz_netWeights (s : Nets) : (absSz s).len "netWeights_" = s.nw := by
  simp only [absSz, String.reduceEq, ↓reduceIte]
theorem absSz_pinCells (s : Nets) : (absSz s).len "pinCells_" = s.pins.length := by
  simp only [absSz, String.reduceEq, ↓reduceIte]
theorem absSz_pinX (s : Nets) : (absSz s).len "pinXOffsets_" = s.nx := by
  simp only [absSz, String.reduceEq, ↓reduceIte]
theorem absSz_pinY (s : Nets) : (absSz s).len "pinYOffsets_" = s.ny := by
  simp only [absSz, String.reduceEq, ↓reduceIte]

/-- The skeleton's result `r` and the value model's answer `o` in state `s` agree: the skeleton throws exactly when
the value model refuses, and it leaves the lengths of the value model's state.  Both sides test the same conditions in
the same order, so the comparison goes test by test (`throwIf`, `returnIf`) down to the writes (`done`). -/
def Agree (s : Nets) (r : SRes) (o : Option Nets) : Prop :=
  (r.out = .thrown ↔ o = none) ∧ netView r.st.sz = netView (absSz (o.getD s))

theorem Agree.throwIf {s : Nets} {c : Prop} [Decidable c] {b : Bool} {r : SRes} {o : Option Nets}
    (h : ¬c → Agree s r o) : Agree s (if c then ⟨.thrown, ⟨b, absSz s⟩⟩ else r) (if c then none else o) := by
  by_cases hc : c
  · rw [if_pos hc, if_pos hc]; exact ⟨iff_of_true rfl rfl, rfl⟩
  · rw [if_neg hc, if_neg hc]; exact h hc

theorem Agree.returnIf {s : Nets} {c : Prop} [Decidable c] {b : Bool} {r : SRes} {o : Option Nets}
    (h : ¬c → Agree s r o) : Agree s (if c then ⟨.returned, ⟨b, absSz s⟩⟩ else r) (if c then some s else o) := by
  by_cases hc : c
  · rw [if_pos hc, if_pos hc]; exact ⟨iff_of_false nofun nofun, rfl⟩
  · rw [if_neg hc, if_neg hc]; exact h hc

theorem Agree.done {s s' : Nets} {z : SSt} (h : netView z.sz = netView (absSz s')) : Agree s ⟨.normal, z⟩ (some s') :=
  ⟨iff_of_false nofun nofun, h⟩

/-- the first validation block of `setNets`, as the skeleton tests it and as the value model does -/
theorem limitsRefused_iff (l : List Int) :
    ((l.length : Int) = 0 ∨ ¬l.headD 0 = 0) ∨ ¬sortedInts l = true ↔
      l.isEmpty = true ∨ l.head? ≠ some 0 ∨ sortedB l = false := by
  cases l with
  | nil => simp
  | cons a r =>
    have : ¬(r.length : Int) + 1 = 0 := by omega
    simp [sortedInts_eq_sortedB, this]

end ColoVerif.NetsValue
