import ColoVerif.Proofs.Freespace
import ColoVerif.Proofs.LegalizeFrame
/-
The rows the legalizers work on (for C01 `legalize_legal`).  `RowsOK H rows`: every row is `H` high with a
non-empty x-range and an unturned orientation, and the rows are pairwise disjoint.  It is preserved by the
stable sort of the legalizer constructors and by `remainingRows` (free space of every row minus any
obstacle list); every remaining segment is a sub-row of a row and misses every obstacle that has an interior.
-/
namespace ColoVerif.Legalize
open ColoVerif

theorem rects_apart_x {a b : Rect} (hd : a.intersects b = false) (h1 : a.minY < b.maxY) (h2 : b.minY < a.maxY) :
    a.maxX ≤ b.minX ∨ b.maxX ≤ a.minX := by
  rw [intersects_false_iff] at hd
  by_cases h : a.minX < b.maxX
  · exact Or.inl (Int.not_lt.mp fun h' => hd ⟨h, h', h1, h2⟩)
  · exact Or.inr (Int.not_lt.mp h)

theorem level_apart_x {H : Int} (hH : 0 < H) {a b : Rect} (ha : a.maxY = a.minY + H) (hb : b.maxY = b.minY + H)
    (hy : a.minY = b.minY) (hd : a.intersects b = false) : a.maxX ≤ b.minX ∨ b.maxX ≤ a.minX := by
  refine rects_apart_x hd ?_ ?_
  · rw [hb, hy]; exact Int.lt_add_of_pos_right _ hH
  · rw [ha, hy]; exact Int.lt_add_of_pos_right _ hH

def SubRow (s r : Row) : Prop :=
  r.rect.minX ≤ s.rect.minX ∧ s.rect.maxX ≤ r.rect.maxX ∧ s.rect.minY = r.rect.minY ∧
    s.rect.maxY = r.rect.maxY ∧ s.orient = r.orient

theorem SubRow.refl (r : Row) : SubRow r r := ⟨Int.le_refl _, Int.le_refl _, rfl, rfl, rfl⟩

theorem SubRow.trans {a b c : Row} (h1 : SubRow a b) (h2 : SubRow b c) : SubRow a c := by
  obtain ⟨a1, a2, a3, a4, a5⟩ := h1
  obtain ⟨b1, b2, b3, b4, b5⟩ := h2
  exact ⟨Int.le_trans b1 a1, Int.le_trans a2 b2, a3.trans b3, a4.trans b4, a5.trans b5⟩

theorem SubRow.contains {s r : Row} (h : SubRow s r) {x w y : Int} (h1 : s.rect.minY = y) (h2 : s.rect.minX ≤ x)
    (h3 : x + w ≤ s.rect.maxX) : r.rect.minY = y ∧ r.rect.minX ≤ x ∧ x + w ≤ r.rect.maxX :=
  ⟨h.2.2.1.symm.trans h1, Int.le_trans h.1 h2, Int.le_trans h3 h.2.1⟩

structure RowsOK (H : Int) (rows : List Row) : Prop where
  height : ∀ r ∈ rows, r.rect.maxY = r.rect.minY + H
  wide : ∀ r ∈ rows, r.rect.minX < r.rect.maxX
  unturned : ∀ r ∈ rows, r.orient.isTurn = false
  disj : rows.Pairwise fun a b => a.rect.intersects b.rect = false

theorem RowsOK.nil (H : Int) : RowsOK H [] :=
  ⟨by simp, by simp, by simp, List.Pairwise.nil⟩

theorem RowsOK.perm {H : Int} {rows rows' : List Row} (h : RowsOK H rows) (p : rows'.Perm rows) : RowsOK H rows' :=
  ⟨fun r hr => h.height r (p.mem_iff.mp hr), fun r hr => h.wide r (p.mem_iff.mp hr),
   fun r hr => h.unturned r (p.mem_iff.mp hr),
   (p.pairwise_iff fun hab => by rw [intersects_comm]; exact hab).mpr h.disj⟩

theorem RowsOK.disj_idx {H : Int} {rows : List Row} (h : RowsOK H rows) (i j : Nat) (a b : Row)
    (ha : rows[i]? = some a) (hb : rows[j]? = some b) (hne : i ≠ j) : a.rect.intersects b.rect = false := by
  have hp := List.pairwise_iff_getElem.mp h.disj
  obtain ⟨hi, rfl⟩ := List.getElem?_eq_some_iff.mp ha
  obtain ⟨hj, rfl⟩ := List.getElem?_eq_some_iff.mp hb
  rcases Nat.lt_or_gt_of_ne hne with hlt | hgt
  · exact hp i j hi hj hlt
  · rw [intersects_comm]; exact hp j i hj hi hgt

theorem RowsOK.self_meets {H : Int} {rows : List Row} (h : RowsOK H rows) (hH : 0 < H) (r : Row) (hr : r ∈ rows) :
    r.rect.intersects r.rect = true := by
  rw [intersects_true_iff]
  have := h.height r hr
  have := h.wide r hr
  omega

theorem RowsOK.sort {H : Int} {rows : List Row} (h : RowsOK H rows) : RowsOK H (sortRows rows) :=
  h.perm (sortRows_perm rows)

theorem length_sortRows : ∀ l : List Row, (sortRows l).length = l.length :=
  fun l => (sortRows_perm l).length_eq

theorem freespace_subRow (r : Row) (obs : List Rect) (hw : r.rect.minX < r.rect.maxX) (s : Row)
    (hs : s ∈ r.freespace obs) :
    SubRow s r ∧ s.rect.minX < s.rect.maxX ∧
    ∀ o ∈ obs, o.minX < o.maxX → o.minY < o.maxY → s.rect.intersects o = false :=
  let ⟨⟨a1, a2, a3⟩, ⟨b1, b2, b3, _⟩, hm⟩ := r.freespace_seg obs (Int.le_of_lt hw) s hs
  ⟨⟨a1, a3, b1, b2, b3⟩, a2, hm⟩

theorem RowsOK.freespace {H : Int} {rows : List Row} (h : RowsOK H rows) (obs : List Rect) :
    RowsOK H (rows.flatMap fun r => r.freespace obs) := by
  have sub : ∀ s ∈ rows.flatMap (fun r => r.freespace obs), ∃ r ∈ rows, SubRow s r ∧ s.rect.minX < s.rect.maxX := by
    intro s hs
    obtain ⟨r, hr, hsr⟩ := List.mem_flatMap.mp hs
    obtain ⟨h1, h2, _⟩ := freespace_subRow r obs (h.wide r hr) s hsr
    exact ⟨r, hr, h1, h2⟩
  refine ⟨?_, ?_, ?_, ?_⟩
  · intro s hs
    obtain ⟨r, hr, hsub, _⟩ := sub s hs
    rw [hsub.2.2.2.1, hsub.2.2.1]
    exact h.height r hr
  · intro s hs
    obtain ⟨r, hr, _, hw⟩ := sub s hs
    exact hw
  · intro s hs
    obtain ⟨r, hr, hsub, _⟩ := sub s hs
    rw [hsub.2.2.2.2]
    exact h.unturned r hr
  · exact flatMap_freespace_disjoint rows obs h.disj fun r hr => Int.le_of_lt (h.wide r hr)

theorem flatMap_freespace_seg {H : Int} {rows : List Row} (h : RowsOK H rows) (obs : List Rect) (s : Row)
    (hs : s ∈ rows.flatMap fun r => r.freespace obs) :
    (∃ r ∈ rows, SubRow s r) ∧
    ∀ o ∈ obs, o.minX < o.maxX → o.minY < o.maxY → s.rect.intersects o = false := by
  obtain ⟨r, hr, hsr⟩ := List.mem_flatMap.mp hs
  obtain ⟨h1, _, h3⟩ := freespace_subRow r obs (h.wide r hr) s hsr
  exact ⟨⟨r, hr, h1⟩, h3⟩

end ColoVerif.Legalize
