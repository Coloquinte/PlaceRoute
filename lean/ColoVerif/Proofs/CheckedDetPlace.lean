import ColoVerif.Model.DetPlaceChecked
import ColoVerif.Proofs.CheckedArith
import ColoVerif.Proofs.DetPlaceCan
/-
No-fault theorems for the integer arithmetic of `DetailedPlacement` (C07): on the domain `DomC`
(the abscissas of optimised cells and the ends of rows within ±2^22, widths ≥ 0, links pointing to
optimised cells; no arithmetic is done on ordinates) every checked twin of `Model/DetPlaceChecked.lean`
returns `.ok` of the unbounded function of `Model/DetPlace.lean` — no `int` overflow, no failed `assert`,
no index out of range — and the domain is preserved by every successful `place` / `unplace` / `insert` /
`swap`.  Outside the domain the twins do fault (`farState`, `wideState`); `smallState` shows that the
domain is inhabited.
-/
namespace ColoVerif.DetPlace
open ColoVerif.Checked
open State

namespace State

/-- a cell the optimiser handles: valid index, not ignored -/
def LiveC (s : State) (c : Int) : Prop := s.validCell c ∧ s.width c ≠ -1

/-- a link value: the null link or an optimised cell -/
def LinkC (s : State) (c : Int) : Prop := c = -1 ∨ s.LiveC c

/-- The C07 domain of a `DetailedPlacement`: every optimised cell lies within ±2^22 with a width
≥ 0 (hence ≤ 2^23), every row lies within ±2^22, the links of optimised cells and the row heads are
−1 or optimised cells, the row of an optimised cell is −1 or a valid row.  Nothing is required of
the order of the cells in a row. -/
structure DomC (s : State) : Prop where
  xLo : ∀ c, s.LiveC c → -M22 ≤ s.x c
  xHi : ∀ c, s.LiveC c → s.x c + s.width c ≤ M22
  wLo : ∀ c, s.LiveC c → 0 ≤ s.width c
  rowMin : ∀ r, s.validRow r → -M22 ≤ s.rowMinX r ∧ s.rowMinX r ≤ M22
  rowMax : ∀ r, s.validRow r → -M22 ≤ s.rowMaxX r ∧ s.rowMaxX r ≤ M22
  predOk : ∀ c, s.LiveC c → s.LinkC (s.pred c)
  nextOk : ∀ c, s.LiveC c → s.LinkC (s.next c)
  firstOk : ∀ r, s.validRow r → s.LinkC (s.rowFirst r)
  rowOk : ∀ c, s.LiveC c → s.row c = -1 ∨ s.validRow (s.row c)

/-- every function of a site or a cell boundary tests a link against −1 and reads the row in one
case, the linked cell in the other -/
theorem LinkC.ite {s : State} {p : Int} (hp : s.LinkC p) {α : Type} (P : α → Prop) {a b : α}
    (ha : P a) (hb : s.LiveC p → P b) : P (if p = -1 then a else b) := by
  by_cases e : p = -1
  · rw [if_pos e]; exact ha
  · rw [if_neg e]; exact hb (hp.resolve_left e)

section
variable {s : State} (h : s.DomC) {c : Int} (hc : s.LiveC c)
include h hc

theorem DomC.x_between : -M22 ≤ s.x c ∧ s.x c ≤ M22 := by
  have := h.xHi c hc
  have := h.wLo c hc
  exact ⟨h.xLo c hc, by omega⟩

theorem DomC.w_between : 0 ≤ s.width c ∧ s.width c ≤ 8388608 := by
  have := h.xLo c hc
  have := h.xHi c hc
  exact ⟨h.wLo c hc, by omega⟩

theorem DomC.end_between : -M22 ≤ s.x c + s.width c ∧ s.x c + s.width c ≤ M22 :=
  ⟨Int.le_trans (h.xLo c hc) (Int.le_add_of_nonneg_right (h.wLo c hc)), h.xHi c hc⟩

theorem DomC.placedRow (hp : s.row c ≠ -1) : s.validRow (s.row c) :=
  (h.rowOk c hc).resolve_left hp

end
end State

/-- under `Inv` the cell that names a site is placed, hence optimised -/
theorem Site.linkC {s : State} (h : Inv s) {r p : Int} (hs : Site s r p) : s.LinkC p :=
  hs.2.imp_right fun hp => ⟨hp.1, ((h.cell hp.1).2 (hp.2 ▸ validRow_ne hs.1)).1⟩

/-- the structural part of `DomC` follows from the invariant of `check()`: every link of a placed cell
and every row head names a site; the numeric part is the C07 magnitude hypothesis -/
theorem DomC_of_Inv {s : State} (h : Inv s)
    (hx : ∀ c, s.LiveC c → -M22 ≤ s.x c ∧ s.x c + s.width c ≤ M22)
    (hr : ∀ r, s.validRow r → (-M22 ≤ s.rowMinX r ∧ s.rowMinX r ≤ M22) ∧ (-M22 ≤ s.rowMaxX r ∧ s.rowMaxX r ≤ M22))
    (hpl : ∀ c, s.LiveC c → s.row c ≠ -1) : s.DomC where
  xLo c hc := (hx c hc).1
  xHi c hc := (hx c hc).2
  wLo _ hc := Int.le_of_lt ((h.cell hc.1).1 hc.2).2
  rowMin r hr' := (hr r hr').1
  rowMax r hr' := (hr r hr').2
  predOk c hc := (h.site_pred hc.1 (hpl c hc)).linkC h
  nextOk c hc := (h.site_next (.of_cell h hc.1 (hpl c hc)) (validCell_ne hc.1)).linkC h
  firstOk _ hr' := (h.site_rowFirst hr').linkC h
  rowOk c hc := .inr (h.placed_row hc.1 (hpl c hc))

theorem cellIdxC_ok {s : State} {site : String} {c : Int} (h : s.validCell c) :
    s.cellIdxC site c = .ok () := by
  simp [cellIdxC, h]

theorem rowIdxC_ok {s : State} {site : String} {r : Int} (h : s.validRow r) :
    s.rowIdxC site r = .ok () := by
  simp [rowIdxC, h]

theorem tdiv2_between {v lo hi A : Int} (h : lo ≤ v ∧ v ≤ hi) (hl : -(2 * A) ≤ lo := by decide)
    (hh : hi ≤ 2 * A := by decide) : -A ≤ v.tdiv 2 ∧ v.tdiv 2 ≤ A := by
  rcases Int.le_total 0 v with hs | hs
  · rw [Int.tdiv_eq_ediv_of_nonneg hs]; omega
  · rw [tdiv_two_of_nonpos hs]; omega

theorem divI32_two_ok {site : String} {v lo hi : Int} (h : lo ≤ v ∧ v ≤ hi)
    (hl : -2147483648 ≤ lo := by decide) (hh : hi ≤ 2147483647 := by decide) :
    divI32 site v 2 = .ok (v.tdiv 2) := by
  have hb := tdiv2_between (A := 1073741824) (between_mono h hl hh)
  have hne : ¬ (2 : Int) = 0 := by decide
  simp only [divI32, hne, if_false]
  exact chk32_between hb

theorem ite_or {α : Type} {a b : Prop} [Decidable a] [Decidable b] (x y : α) :
    (if a ∨ b then x else y) = if a then x else if b then x else y := by
  by_cases ha : a <;> simp [ha]

section
variable {s : State} (h : s.DomC)
include h

theorem siteNext_link {r p : Int} (hr : s.validRow r) (hp : s.LinkC p) : s.LinkC (s.siteNext r p) :=
  hp.ite s.LinkC (h.firstOk r hr) (h.nextOk p)

theorem siteBegin_bounds {r p : Int} (hr : s.validRow r) (hp : s.LinkC p) :
    -M22 ≤ s.siteBegin r p ∧ s.siteBegin r p ≤ M22 :=
  hp.ite (fun v => -M22 ≤ v ∧ v ≤ M22) (h.rowMin r hr) h.end_between

theorem siteEnd_bounds {r p : Int} (hr : s.validRow r) (hp : s.LinkC p) :
    -M22 ≤ s.siteEnd r p ∧ s.siteEnd r p ≤ M22 :=
  (siteNext_link h hr hp).ite (fun v => -M22 ≤ v ∧ v ≤ M22) (h.rowMax r hr) h.x_between

theorem boundaryBefore_bounds {c : Int} (hc : s.LiveC c) (hp : s.row c ≠ -1) :
    -M22 ≤ s.boundaryBefore c ∧ s.boundaryBefore c ≤ M22 :=
  siteBegin_bounds h (h.placedRow hc hp) (h.predOk c hc)

theorem boundaryAfter_bounds {c : Int} (hc : s.LiveC c) (hp : s.row c ≠ -1) :
    -M22 ≤ s.boundaryAfter c ∧ s.boundaryAfter c ≤ M22 :=
  (h.nextOk c hc).ite (fun v => -M22 ≤ v ∧ v ≤ M22) (h.rowMax _ (h.placedRow hc hp)) h.x_between

end

/-- the checked form of `LinkC.ite`: with a valid row and a link, neither index faults -/
theorem State.LinkC.deref_ok {s : State} {p r : Int} (hp : s.LinkC p) (hr : s.validRow r) {sr sc : String}
    {α : Type} {a b : α} {f : Except Fault α} (hf : s.LiveC p → f = .ok b) :
    (if p = -1 then do s.rowIdxC sr r; pure a else do s.cellIdxC sc p; f) =
      .ok (if p = -1 then a else b) := by
  by_cases e : p = -1
  · simp only [if_pos e, rowIdxC_ok hr, checked]
  · have hl := hp.resolve_left e
    simp only [if_neg e, cellIdxC_ok hl.1, hf hl, checked]

theorem siteNextC_ok {s : State} {site : String} {r p : Int} (hr : s.validRow r) (hp : s.LinkC p) :
    s.siteNextC site r p = .ok (s.siteNext r p) :=
  hp.deref_ok hr fun _ => rfl

theorem siteBeginC_ok {s : State} (h : s.DomC) {r p : Int} (hr : s.validRow r) (hp : s.LinkC p) :
    s.siteBeginC r p = .ok (s.siteBegin r p) :=
  hp.deref_ok hr fun hl => addI32_between (h.end_between hl)

theorem siteEndC_ok {s : State} (h : s.DomC) {r p : Int} (hr : s.validRow r) (hp : s.LinkC p) :
    s.siteEndC r p = .ok (s.siteEnd r p) := by
  unfold siteEndC
  rw [siteNextC_ok hr hp]
  exact (siteNext_link h hr hp).deref_ok hr fun _ => rfl

theorem boundaryBeforeC_ok {s : State} (h : s.DomC) (asr : Bool) {c : Int} (hc : s.LiveC c) (hp : s.row c ≠ -1) :
    s.boundaryBeforeC asr c = .ok (s.boundaryBefore c) := by
  unfold boundaryBeforeC
  rw [cellIdxC_ok hc.1, assertC_true _ _ ((isPlaced_iff s c).2 hp)]
  exact (h.predOk c hc).deref_ok (h.placedRow hc hp) fun hl => addI32_between (h.end_between hl)

theorem boundaryAfterC_ok {s : State} (h : s.DomC) (asr : Bool) {c : Int} (hc : s.LiveC c) (hp : s.row c ≠ -1) :
    s.boundaryAfterC asr c = .ok (s.boundaryAfter c) := by
  unfold boundaryAfterC
  rw [cellIdxC_ok hc.1, assertC_true _ _ ((isPlaced_iff s c).2 hp)]
  exact (h.nextOk c hc).deref_ok (h.placedRow hc hp) fun _ => rfl

theorem boundaryBeforeInC_ok {s : State} (h : s.DomC) (asr : Bool) {r c : Int} (hr : s.validRow r)
    (hc : c = -1 ∨ (s.LiveC c ∧ s.row c ≠ -1)) :
    s.boundaryBeforeInC asr r c = .ok (s.boundaryBeforeIn r c) := by
  unfold boundaryBeforeInC boundaryBeforeIn
  by_cases e : c = -1
  · simp only [if_pos e, rowIdxC_ok hr, checked]
  · rw [if_neg e, if_neg e]
    exact boundaryBeforeC_ok h asr (hc.resolve_left e).1 (hc.resolve_left e).2

theorem boundaryAfterInC_ok {s : State} (h : s.DomC) (asr : Bool) {r c : Int} (hr : s.validRow r)
    (hc : c = -1 ∨ (s.LiveC c ∧ s.row c ≠ -1)) :
    s.boundaryAfterInC asr r c = .ok (s.boundaryAfterIn r c) := by
  unfold boundaryAfterInC boundaryAfterIn
  by_cases e : c = -1
  · simp only [if_pos e, rowIdxC_ok hr, checked]
  · rw [if_neg e, if_neg e]
    exact boundaryAfterC_ok h asr (hc.resolve_left e).1 (hc.resolve_left e).2

/-- `2139095039 = INT_MAX - 2^23`: the width added to `x` is at most `2^23` on the domain -/
theorem canPlaceC_ok {s : State} (h : s.DomC) {c r p x : Int} (hc : s.LiveC c) (hr : s.validRow r)
    (hp : s.LinkC p) (hx : -2147483648 ≤ x ∧ x ≤ 2139095039) :
    s.canPlaceC c r p x = .ok (s.canPlace c r p x) := by
  unfold canPlaceC canPlace
  simp only [cellIdxC_ok hc.1, rowIdxC_ok hr, siteBeginC_ok h hr hp, siteEndC_ok h hr hp,
    chk32_between (add_between hx (h.w_between hc)), checked, ← apply_ite Except.ok, Bool.if_false_right]

theorem canInsertC_ok {s : State} (h : s.DomC) {c r p : Int} (hc : s.LiveC c) (hr : s.validRow r)
    (hp : s.LinkC p) : s.canInsertC c r p = .ok (s.canInsert c r p) := by
  unfold canInsertC canInsert
  simp only [cellIdxC_ok hc.1, rowIdxC_ok hr, siteBeginC_ok h hr hp, siteEndC_ok h hr hp,
    chk32_between (sub_between (siteEnd_bounds h hr hp) (siteBegin_bounds h hr hp)), checked,
    ← apply_ite Except.ok]

theorem canSwapTailC_ok {s : State} (h : s.DomC) (asr : Bool) {c1 c2 : Int} (h1 : s.LiveC c1) (h2 : s.LiveC c2)
    (r1 : s.row c1 ≠ -1) (r2 : s.row c2 ≠ -1) :
    s.canSwapTailC asr c1 c2 =
      .ok (if !s.isRowAllowed c1 (s.row c2) || !s.isRowAllowed c2 (s.row c1) then .ok false
           else if s.pred c1 = c2 ∨ s.pred c2 = c1 then .ok true
           else .ok (decide (s.boundaryAfter c2 - s.boundaryBefore c2 ≥ s.width c1) &&
                     decide (s.boundaryAfter c1 - s.boundaryBefore c1 ≥ s.width c2))) := by
  unfold canSwapTailC
  simp only [rowIdxC_ok (h.placedRow h1 r1), rowIdxC_ok (h.placedRow h2 r2), boundaryBeforeC_ok h asr h1 r1,
    boundaryBeforeC_ok h asr h2 r2, boundaryAfterC_ok h asr h1 r1, boundaryAfterC_ok h asr h2 r2,
    chk32_between (sub_between (boundaryAfter_bounds h h1 r1) (boundaryBefore_bounds h h1 r1)),
    chk32_between (sub_between (boundaryAfter_bounds h h2 r2) (boundaryBefore_bounds h h2 r2)), checked,
    ← apply_ite Except.ok, Bool.if_false_right, Bool.or_eq_true, ite_or]

theorem canSwapC_ok {s : State} (h : s.DomC) (asr : Bool) {c1 c2 : Int} (h1 : s.LiveC c1) (h2 : s.LiveC c2) :
    s.canSwapC asr c1 c2 = .ok (s.canSwap c1 c2) := by
  unfold canSwapC canSwap
  simp only [cellIdxC_ok h1.1, cellIdxC_ok h2.1, checked]
  cases p1 : s.isPlaced c1
  · rfl
  cases p2 : s.isPlaced c2
  · rfl
  simp only [canSwapTailC_ok h asr h1 h2 ((isPlaced_iff s c1).1 p1) ((isPlaced_iff s c2).1 p2), ← apply_ite Except.ok]
  rfl

/-- the second half puts the returned abscissa inside the domain of `canPlaceC_ok` -/
theorem positionOnInsertC_ok {s : State} (h : s.DomC) {c r p : Int} (hc : s.LiveC c) (hr : s.validRow r)
    (hp : s.LinkC p) : s.positionOnInsertC c r p = .ok (s.positionOnInsert c r p) ∧
      (-8388608 ≤ (s.positionOnInsert c r p).1 ∧ (s.positionOnInsert c r p).1 ≤ 8388608) := by
  have r1 := sub_between (siteEnd_bounds h hr hp) (h.w_between hc)
  have r2 := add_between r1 (siteBegin_bounds h hr hp)
  refine ⟨?_, tdiv2_between r2⟩
  simp only [positionOnInsertC, siteBeginC_ok h hr hp, siteEndC_ok h hr hp, cellIdxC_ok hc.1, rowIdxC_ok hr,
    chk32_between r1, chk32_between r2, divI32_two_ok r2, checked, positionOnInsert]

theorem swapMidC_ok {s : State} (h : s.DomC) (asr : Bool) {c d : Int} (hc : s.LiveC c) (hd : s.LiveC d)
    (rc : s.row c ≠ -1) :
    s.swapMidC asr c d = .ok ((s.boundaryBefore c + s.boundaryAfter c - s.width d).tdiv 2) := by
  have r1 := add_between (boundaryBefore_bounds h hc rc) (boundaryAfter_bounds h hc rc)
  have r2 := sub_between r1 (h.w_between hd)
  simp only [swapMidC, boundaryBeforeC_ok h asr hc rc, boundaryAfterC_ok h asr hc rc, chk32_between r1,
    chk32_between r2, divI32_two_ok r2, checked]

theorem swapMid_bounds {s : State} (h : s.DomC) {c d : Int} (hc : s.LiveC c) (hd : s.LiveC d)
    (rc : s.row c ≠ -1) :
    -8388608 ≤ (s.boundaryBefore c + s.boundaryAfter c - s.width d).tdiv 2 ∧
    (s.boundaryBefore c + s.boundaryAfter c - s.width d).tdiv 2 ≤ 8388608 :=
  tdiv2_between
    (sub_between (add_between (boundaryBefore_bounds h hc rc) (boundaryAfter_bounds h hc rc)) (h.w_between hd))

theorem positionsOnSwapC_ok {s : State} (h : s.DomC) (asr : Bool) {c1 c2 : Int} (h1 : s.LiveC c1) (h2 : s.LiveC c2)
    (r1 : s.row c1 ≠ -1) (r2 : s.row c2 ≠ -1) :
    s.positionsOnSwapC asr c1 c2 = .ok (s.positionsOnSwap c1 c2) := by
  unfold positionsOnSwapC positionsOnSwap
  simp only [cellIdxC_ok h1.1, cellIdxC_ok h2.1, chk32_between (add_between (h.x_between h2) (h.w_between h1)),
    chk32_between (add_between (h.x_between h1) (h.w_between h2)), swapMidC_ok h asr h2 h1 r2,
    swapMidC_ok h asr h1 h2 r1, checked, ← apply_ite Except.ok]

/-- the abscissas `positionsOnSwap` returns are within `[-2^23, 3·2^22]`, inside the domain of
`canPlaceC_ok` (`x2 = x(c2) + width(c1)` of the neighbour branch can exceed `2^23` only when the
cells overlap) -/
theorem positionsOnSwap_bounds {s : State} (h : s.DomC) {c1 c2 : Int} (h1 : s.LiveC c1) (h2 : s.LiveC c2)
    (r1 : s.row c1 ≠ -1) (r2 : s.row c2 ≠ -1) :
    (-8388608 ≤ (s.positionsOnSwap c1 c2).1.1 ∧ (s.positionsOnSwap c1 c2).1.1 ≤ 12582912) ∧
    (-8388608 ≤ (s.positionsOnSwap c1 c2).2.1 ∧ (s.positionsOnSwap c1 c2).2.1 ≤ 12582912) := by
  have x1 := h.x_between h1
  have x2 := h.x_between h2
  unfold positionsOnSwap
  split
  · exact ⟨between_mono x2, between_mono (add_between x2 (h.w_between h1))⟩
  · split
    · exact ⟨between_mono (add_between x1 (h.w_between h2)), between_mono x1⟩
    · exact ⟨between_mono (swapMid_bounds h h2 h1 r2), between_mono (swapMid_bounds h h1 h2 r1)⟩

theorem fitsInSiteC_ok {s : State} (h : s.DomC) (asr : Bool) {c : Int} (hc : s.LiveC c) (rc : s.row c ≠ -1) :
    s.fitsInSiteC asr c = .ok (s.fitsInSite c) := by
  unfold fitsInSiteC fitsInSite
  simp only [boundaryBeforeC_ok h asr hc rc, boundaryAfterC_ok h asr hc rc, chk32_between (h.end_between hc),
    checked, ← apply_ite Except.ok, Bool.if_false_right]

theorem upd_prop {α : Type} (P : α → Prop) {f : Int → α} {i : Int} {a : α} {j : Int} (ha : P a) (hf : P (f j)) :
    P (upd f i a j) := by
  unfold upd; split <;> assumption

theorem updIf_prop {α : Type} (P : α → Prop) {b : Prop} [Decidable b] {f : Int → α} {i : Int} {a : α} {j : Int}
    (ha : P a) (hf : P (f j)) : P (updIf b f i a j) := by
  unfold updIf; split <;> assumption

/-- `unplace` only rewires links to values that were links already -/
theorem unplace_DomC {s : State} (h : s.DomC) {c : Int} (hc : s.LiveC c) : (s.unplace c).DomC :=
  have hpc := h.predOk c hc
  have hnc := h.nextOk c hc
  have nil : s.LinkC (-1) := Or.inl rfl
  ⟨h.xLo, h.xHi, h.wLo, h.rowMin, h.rowMax,
    fun d hd => updIf_prop s.LinkC hpc (upd_prop s.LinkC nil (h.predOk d hd)),
    fun d hd => upd_prop s.LinkC nil (updIf_prop s.LinkC hnc (h.nextOk d hd)),
    fun r hr => updIf_prop s.LinkC hnc (h.firstOk r hr),
    fun d hd => upd_prop (fun v => v = -1 ∨ s.validRow v) (Or.inl rfl) (h.rowOk d hd)⟩

/-- the writes of `place` keep the domain when the abscissa lies in the site:
`x ≥ siteBegin ≥ -2^22` and `x + w ≤ siteEnd ≤ 2^22` -/
theorem placeRaw_DomC {s : State} (h : s.DomC) {c r p x : Int} (hc : s.LiveC c) (hr : s.validRow r)
    (hp : s.LinkC p) (hx1 : s.siteBegin r p ≤ x) (hx2 : x + s.width c ≤ s.siteEnd r p) :
    (s.placeRaw c r p x).DomC := by
  have hb := siteBegin_bounds h hr hp
  have he := siteEnd_bounds h hr hp
  have hn := siteNext_link h hr hp
  have hcl : s.LinkC c := Or.inr hc
  refine ⟨fun d hd => upd_prop (fun v => -M22 ≤ v) (by omega) (h.xLo d hd), ?_, h.wLo, h.rowMin, h.rowMax,
    fun d hd => updIf_prop s.LinkC hcl (upd_prop s.LinkC hp (h.predOk d hd)),
    fun d hd => upd_prop s.LinkC hn (updIf_prop s.LinkC hcl (h.nextOk d hd)),
    fun q hq => updIf_prop s.LinkC hcl (h.firstOk q hq),
    fun d hd => upd_prop (fun v => v = -1 ∨ s.validRow v) (Or.inr hr) (h.rowOk d hd)⟩
  intro d hd
  show upd s.x c x d + s.width d ≤ M22
  by_cases e : d = c
  · rw [e, upd_same]; omega
  · rw [upd_other _ _ _ _ e]; exact h.xHi d hd

theorem place_DomC {s t : State} (h : s.DomC) {c r p x : Int} (hc : s.LiveC c) (hr : s.validRow r)
    (hp : s.LinkC p) (e : s.place c r p x = .ok t) : t.DomC := by
  obtain ⟨rfl, -, h1, h2⟩ := place_ok e
  exact placeRaw_DomC h hc hr hp h1 h2

theorem insert_DomC {s t : State} (h : s.DomC) {c r p : Int} (hc : s.LiveC c) (hr : s.validRow r)
    (hp : s.LinkC p) (e : s.insert c r p = .ok t) : t.DomC :=
  place_DomC (unplace_DomC h hc) hc hr hp (insert_ok e).2

theorem swap_DomC {s t : State} (h : s.DomC) {c1 c2 : Int} (h1 : s.LiveC c1) (h2 : s.LiveC c2)
    (e : s.swap c1 c2 = .ok t) : t.DomC := by
  obtain ⟨hcan, a, b, pb, v, hab, hpb, e1, e2⟩ := swap_places e
  obtain ⟨r1, r2, -⟩ := canSwap_true hcan
  have hl : (s.LiveC a ∧ s.row a ≠ -1) ∧ (s.LiveC b ∧ s.row b ≠ -1) := by
    rcases hab with ⟨rfl, rfl⟩ | ⟨rfl, rfl⟩
    · exact ⟨⟨h1, r1⟩, ⟨h2, r2⟩⟩
    · exact ⟨⟨h2, r2⟩, ⟨h1, r1⟩⟩
  obtain ⟨⟨la, ra⟩, ⟨lb, rb⟩⟩ := hl
  have hv := place_DomC (unplace_DomC (unplace_DomC h h1) h2) la (h.placedRow lb rb) (h.predOk b lb) e1
  obtain ⟨rfl, -⟩ := place_ok e1
  refine place_DomC hv lb (h.placedRow la ra) ?_ e2
  rcases hpb with ⟨-, rfl⟩ | ⟨-, -, rfl⟩
  · exact Or.inr la
  · exact h.predOk _ la

theorem place_eq_placeK (s : State) (c r p x : Int) :
    s.place c r p x = s.placeK c r p x (s.canPlace c r p x) := by
  unfold place
  cases s.canPlace c r p x with
  | error e => rfl
  | ok b => cases b <;> rfl

theorem placeC_ok {s : State} (h : s.DomC) {c r p x : Int} (hc : s.LiveC c) (hr : s.validRow r)
    (hp : s.LinkC p) (hx : -2147483648 ≤ x ∧ x ≤ 2139095039) :
    s.placeC c r p x = .ok (s.place c r p x) := by
  simp only [placeC, canPlaceC_ok h hc hr hp hx, checked, place_eq_placeK]

theorem unplaceC_ok {s : State} (h : s.DomC) {c : Int} (hc : s.LiveC c) (hp : s.row c ≠ -1) :
    s.unplaceC c = .ok (s.unplace c) := by
  have idx {p : Int} (hl : s.LinkC p) {sr sc : String} :
      (if p = -1 then s.rowIdxC sr (s.row c) else s.cellIdxC sc p) = .ok () :=
    hl.ite (· = Except.ok ()) (rowIdxC_ok (h.placedRow hc hp)) fun hl => cellIdxC_ok hl.1
  simp only [unplaceC, cellIdxC_ok hc.1, idx (h.predOk c hc), idx (h.nextOk c hc), checked]

theorem place2C_ok {s : State} (h : s.DomC) {a ra pa xa b rb pb xb : Int}
    (ha : s.LiveC a) (hra : s.validRow ra) (hpa : s.LinkC pa) (hxa : -2147483648 ≤ xa ∧ xa ≤ 2139095039)
    (hb : s.LiveC b) (hrb : s.validRow rb) (hpb : s.LinkC pb) (hxb : -2147483648 ≤ xb ∧ xb ≤ 2139095039) :
    s.place2C a ra pa xa b rb pb xb = .ok ((s.place a ra pa xa).bind fun u => u.place b rb pb xb) := by
  unfold place2C
  rw [placeC_ok h ha hra hpa hxa]
  cases e1 : s.place a ra pa xa with
  | error e => rfl
  | ok u =>
    have hu := place_DomC h ha hra hpa e1
    obtain ⟨rfl, -⟩ := place_ok e1
    exact placeC_ok hu hb hrb hpb hxb

theorem insertC_ok {s : State} (h : s.DomC) {c r p : Int} (hc : s.LiveC c) (hr : s.validRow r)
    (hp : s.LinkC p) : s.insertC c r p = .ok (s.insert c r p) := by
  unfold insertC State.insert
  rw [canInsertC_ok h hc hr hp]
  cases e : s.canInsert c r p with
  | error er => rfl
  | ok b =>
    cases b with
    | false => rfl
    | true =>
      obtain ⟨epos, hpos⟩ := positionOnInsertC_ok h hc hr hp
      simp only [insertBodyC, epos, unplaceC_ok h hc (canInsert_true e).1,
        placeC_ok (unplace_DomC h hc) hc hr hp (between_mono hpos), checked]

theorem swapC_ok {s : State} (h : s.DomC) (asr : Bool) {c1 c2 : Int} (h1 : s.LiveC c1) (h2 : s.LiveC c2) :
    s.swapC asr c1 c2 = .ok (s.swap c1 c2) := by
  unfold swapC State.swap
  rw [canSwapC_ok h asr h1 h2]
  cases e : s.canSwap c1 c2 with
  | error er => rfl
  | ok b =>
    cases b with
    | false => rfl
    | true =>
      obtain ⟨r1, r2, h12, -⟩ := canSwap_true e
      obtain ⟨X1, X2⟩ := positionsOnSwap_bounds h h1 h2 r1 r2
      have X1 := between_mono X1 (lo' := -2147483648) (hi' := 2139095039)
      have X2 := between_mono X2 (lo' := -2147483648) (hi' := 2139095039)
      have hu1 := unplace_DomC h h1
      have hu := unplace_DomC hu1 h2
      have r2' : (s.unplace c1).row c2 ≠ -1 := by
        rw [unplace_row, if_neg (Ne.symm h12)]; exact r2
      have hr1 := h.placedRow h1 r1
      have hr2 := h.placedRow h2 r2
      have hp1 := h.predOk c1 h1
      have hp2 := h.predOk c2 h2
      simp only [swapBodyC, positionsOnSwapC_ok h asr h1 h2 r1 r2, unplaceC_ok h h1 r1, unplaceC_ok hu1 h2 r2',
        checked, place2C_ok hu h1 hr2 hp2 X1 h2 hr1 (Or.inr h1) X2, place2C_ok hu h2 hr1 hp1 X2 h1 hr2 (Or.inr h2) X1,
        place2C_ok hu h1 hr2 hp2 X1 h2 hr1 hp1 X2, ← apply_ite Except.ok]

namespace State
/-- the predecessor tests of `checkCell` -/
def checkPred (s : State) (c : Int) : Bool :=
  if s.pred c ≠ -1 then s.row (s.pred c) == s.row c && decide (s.x (s.pred c) + s.width (s.pred c) ≤ s.x c)
  else s.rowFirst (s.row c) == c && decide (s.rowMinX (s.row c) ≤ s.x c)
/-- the successor tests of `checkCell` -/
def checkNext (s : State) (c : Int) : Bool :=
  if s.next c ≠ -1 then s.row (s.next c) == s.row c && decide (s.x c + s.width c ≤ s.x (s.next c))
  else s.rowLast (s.row c) == c && decide (s.x c + s.width c ≤ s.rowMaxX (s.row c))
end State

theorem checkCell_eq (s : State) (c : Int) :
    s.checkCell c = (decide (-1 ≤ s.row c ∧ s.row c < s.nRows) &&
      (if s.row c = -1 then s.pred c == -1 && s.next c == -1 else s.checkPred c && s.checkNext c)) := rfl

theorem checkPredC_ok {s : State} (h : s.DomC) {c : Int} (hc : s.LiveC c) (hp : s.row c ≠ -1) :
    s.checkPredC c = .ok (s.checkPred c) := by
  unfold checkPredC checkPred
  by_cases e : s.pred c ≠ -1
  · have hl := (h.predOk c hc).resolve_left e
    simp only [if_pos e, cellIdxC_ok hl.1, chk32_between (h.end_between hl), checked, ← apply_ite Except.ok,
      Bool.if_false_right, Bool.decide_eq_true]
  · simp only [if_neg e, rowIdxC_ok (h.placedRow hc hp), checked]

theorem checkNextC_ok {s : State} (h : s.DomC) {c : Int} (hc : s.LiveC c) (hp : s.row c ≠ -1) :
    s.checkNextC c = .ok (s.checkNext c) := by
  unfold checkNextC checkNext
  by_cases e : s.next c ≠ -1
  · simp only [if_pos e, cellIdxC_ok ((h.nextOk c hc).resolve_left e).1, chk32_between (h.end_between hc), checked,
      ← apply_ite Except.ok, Bool.if_false_right, Bool.decide_eq_true]
  · simp only [if_neg e, rowIdxC_ok (h.placedRow hc hp), chk32_between (h.end_between hc), checked,
      ← apply_ite Except.ok, Bool.if_false_right, Bool.decide_eq_true]

/-- the second loop of `check()`, which visits every cell; `hl` (part of `CellOk`): an ignored cell is never
placed, so no arithmetic is evaluated for it -/
theorem checkCellC_ok {s : State} (h : s.DomC) {c : Int} (hc : s.validCell c)
    (hl : s.width c ≠ -1 ∨ s.row c = -1) : s.checkCellC c = .ok (s.checkCell c) := by
  rw [checkCell_eq]
  unfold checkCellC
  simp only [cellIdxC_ok hc, bind, Except.bind, pure, Except.pure]
  by_cases p0 : -1 ≤ s.row c ∧ s.row c < s.nRows
  · by_cases p1 : s.row c = -1
    · simp only [if_pos p0, if_pos p1, decide_eq_true p0, Bool.true_and]
    · have hlc : s.LiveC c := ⟨hc, hl.resolve_right p1⟩
      simp only [if_pos p0, if_neg p1, checkPredC_ok h hlc p1, checkNextC_ok h hlc p1]
      cases s.checkPred c <;> simp [p0]
  · simp [p0]

theorem locateC_ok (rows : List Row) {x y w : Int} (hx1 : -M22 ≤ x) (hx2 : x ≤ M22)
    (hw1 : -8388608 ≤ w) (hw2 : w ≤ 8388608) : locateC rows x y w = .ok (locate rows x y w) := by
  unfold locateC locate
  cases findRow rows x y with
  | none => rfl
  | some r =>
    simp only [chk32_between (add_between ⟨hx1, hx2⟩ ⟨hw1, hw2⟩), checked, ← apply_ite Except.ok]

theorem linkRowC_ok : ∀ (l : List Int) (s : State) (r : Int),
    (∀ c ∈ l, -M22 ≤ s.x c ∧ s.x c ≤ M22 ∧ -8388608 ≤ s.width c ∧ s.width c ≤ 8388608) →
    linkRowC s r l = .ok (linkRow s r l) := by
  intro l
  induction l with
  | nil => intro s r _; rfl
  | cons c1 t ih =>
    intro s r hl
    cases t with
    | nil => rfl
    | cons c2 rest =>
      have hb := hl c1 (by simp)
      simp only [linkRowC, linkRow, addI32_between (add_between ⟨hb.1, hb.2.1⟩ hb.2.2)]
      by_cases q : s.x c1 + s.width c1 > s.x c2
      · simp only [if_pos q]
      · simp only [if_neg q]
        exact ih _ r (fun c hc => hl c (List.mem_cons_of_mem _ hc))

/-- two cells in one row, cell 0 at `INT_MAX` with width 1 (outside the C07 domain) -/
def farState : State :=
  { rows := [⟨⟨0, 100, 0, 10⟩, Orient.N⟩], nCells := 2,
    rowFirst := fun _ => 0, rowLast := fun _ => 1, width := fun _ => 1,
    pred := fun c => if c = 1 then 0 else -1, next := fun c => if c = 0 then 1 else -1,
    row := fun _ => 0, x := fun c => if c = 0 then 2147483647 else 0, y := fun _ => 0,
    orient := fun _ => Orient.N, pol := fun _ => Polarity.ANY, index := fun c => c }

/-- `siteBegin(0, 0)` = `cellX(0) + cellWidth(0)` = `INT_MAX + 1` overflows -/
theorem siteBeginC_far :
    farState.siteBeginC 0 0 = .error (.intOverflow "siteBegin: cellX(pred) + cellWidth(pred)") := rfl

theorem boundaryBeforeC_far :
    farState.boundaryBeforeC true 1 = .error (.intOverflow "boundaryBefore: cellX(pred) + cellWidth(pred)") := rfl

theorem positionOnInsertC_far :
    farState.positionOnInsertC 1 0 0 = .error (.intOverflow "siteBegin: cellX(pred) + cellWidth(pred)") := rfl

/-- two rows `[-2·10^9, 2·10^9]` (outside the domain), cell 0 alone in row 0, cell 1 unplaced -/
def wideState : State :=
  { rows := [⟨⟨-2000000000, 2000000000, 0, 10⟩, Orient.N⟩, ⟨⟨-2000000000, 2000000000, 10, 20⟩, Orient.N⟩],
    nCells := 2,
    rowFirst := fun r => if r = 0 then 0 else -1, rowLast := fun r => if r = 0 then 0 else -1,
    width := fun _ => 1, pred := fun _ => -1, next := fun _ => -1,
    row := fun c => if c = 0 then 0 else -1, x := fun _ => 0, y := fun _ => 0,
    orient := fun _ => Orient.N, pol := fun _ => Polarity.ANY, index := fun c => c }

/-- `siteEnd - siteBegin` = `2·10^9 - (-2·10^9)` overflows in `canInsert` into the empty row 1 -/
theorem canInsertC_wide :
    wideState.canInsertC 0 1 (-1) =
      .error (.intOverflow "canInsert: siteEnd(row, pred) - siteBegin(row, pred)") := rfl

/-- an out-of-range cell index is a fault, an unplaced argument of `boundaryBefore` an assertion
failure (only in a build with assertions) -/
theorem siteBeginC_badIndex :
    farState.siteBeginC 0 7 = .error (.indexOutOfRange "siteBegin: cellX(pred)") := rfl

theorem boundaryBeforeC_unplaced :
    wideState.boundaryBeforeC true 1 = .error (.assertFailed "boundaryBefore: assert(isPlaced(c))") ∧
    wideState.boundaryBeforeC false 1 = .error (.indexOutOfRange "boundaryBefore: rows_[cellRow(c)]") :=
  ⟨rfl, rfl⟩

/-- two abutting cells of width 10 in the row `[0, 100]` -/
def smallState : State :=
  { rows := [⟨⟨0, 100, 0, 10⟩, Orient.N⟩], nCells := 2,
    rowFirst := fun _ => 0, rowLast := fun _ => 1, width := fun _ => 10,
    pred := fun c => if c = 1 then 0 else -1, next := fun c => if c = 0 then 1 else -1,
    row := fun _ => 0, x := fun c => if c = 0 then 0 else 10, y := fun _ => 0,
    orient := fun _ => Orient.N, pol := fun _ => Polarity.ANY, index := fun c => c }

theorem smallState_cells {c : Int} (hc : smallState.LiveC c) : c = 0 ∨ c = 1 := by
  have := hc.1
  unfold validCell smallState at this
  simp only at this
  omega

theorem smallState_rows {r : Int} (hr : smallState.validRow r) : r = 0 := by
  unfold validRow nRows smallState at hr
  simp only [List.length_cons, List.length_nil] at hr
  omega

theorem smallState_live0 : smallState.LiveC 0 := ⟨by decide, by decide⟩
theorem smallState_live1 : smallState.LiveC 1 := ⟨by decide, by decide⟩

theorem smallState_DomC : smallState.DomC := by
  refine ⟨?_, ?_, ?_, ?_, ?_, ?_, ?_, fun r _ => Or.inr smallState_live0, ?_⟩
  · intro c hc; rcases smallState_cells hc with rfl | rfl <;> decide
  · intro c hc; rcases smallState_cells hc with rfl | rfl <;> decide
  · intro c hc; rcases smallState_cells hc with rfl | rfl <;> decide
  · intro r hr; rw [smallState_rows hr]; decide
  · intro r hr; rw [smallState_rows hr]; decide
  · intro c hc
    rcases smallState_cells hc with rfl | rfl
    · exact Or.inl (by decide)
    · exact Or.inr smallState_live0
  · intro c hc
    rcases smallState_cells hc with rfl | rfl
    · exact Or.inr smallState_live1
    · exact Or.inl (by decide)
  · intro c hc; rcases smallState_cells hc with rfl | rfl <;> exact Or.inr (by decide)

/-- the hypotheses of `swapC_ok` are satisfiable and the move is carried out -/
example : ∃ t, smallState.swapC true 0 1 = .ok (.ok t) ∧ t.x 0 = 10 ∧ t.x 1 = 0 := by
  rw [swapC_ok smallState_DomC true smallState_live0 smallState_live1]
  exact ⟨_, rfl, by decide, by decide⟩

end ColoVerif.DetPlace
