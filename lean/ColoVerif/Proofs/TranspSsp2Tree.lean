import ColoVerif.Proofs.Transp
import ColoVerif.Proofs.TranspSsp2Defs
import ColoVerif.Proofs.CheckedArith
import ColoVerif.Model.TranspTreeChecked
/-
`updateTree` succeeds and meets `TreeSpec` under `TreeHyp` (`updateTree_spec`); the loop lemmas carry the checked
twins of `Model/TranspTreeChecked.lean` (C07) along.  `updateTree` is a label-correcting shortest-path search
("Dijkstra with re-opening").  The loop invariant `TInv` is kept by every single relaxation (`Pass.relaxed`) and
by closing the selected sink once its pass is over (`Pass.close`).  Partial correctness does not use the minimality
of the selected sink; termination uses the measure `mu = #open + Σ labels`, which drops by at least one per round
and is at most `n·2³¹` initially (hence the `treeFuel` of the model).
-/
namespace ColoVerif.Transp
open ColoVerif.Checked

/-- `sendingCost_[i]` -/
def lab (t : Tree) (i : Nat) : Int := t.sendCost.getD i 0
/-- `sinkParent_[i]` -/
def par (t : Tree) (i : Nat) : Option Nat := t.parent.getD i none
/-- `toVisit[i]` -/
def vis (t : Tree) (i : Nat) : Bool := t.toVisit.getD i false

structure TWF (n : Nat) (t : Tree) : Prop where
  lc : t.sendCost.length = n
  lp : t.parent.length = n
  lv : t.toVisit.length = n

lemma pickVisit_eq (t : Tree) : ∀ (k i : Nat) (best : Option Nat) (bc : Int),
    pickVisit t k i best bc = scanMin (lab t) (vis t) some k i best bc := by
  intro k
  induction k with
  | zero => intro i best bc; rfl
  | succ k ih =>
    intro i best bc
    rw [pickVisit, scanMin, ih, ih]
    rfl

lemma pickVisit_top (t : Tree) (n : Nat) :
    (pickVisit t n 0 none intMax = none ∧ ∀ j, j < n → vis t j = true → intMax ≤ lab t j) ∨
    ∃ bv, pickVisit t n 0 none intMax = some bv ∧ bv < n ∧ vis t bv = true ∧ lab t bv < intMax ∧
      ∀ j, j < n → vis t j = true → lab t bv ≤ lab t j := by
  rw [pickVisit_eq]
  rcases scanMin_spec (lab t) (vis t) some n 0 none intMax with ⟨e, h⟩ | ⟨r, e, _, h1, h2, h3, h4, _⟩
  · exact Or.inl ⟨e, fun j hj => h j (Nat.zero_le j) (by omega)⟩
  · exact Or.inr ⟨r, e, by omega, h2, h3, fun j hj => h4 j (Nat.zero_le j) (by omega)⟩

lemma liftS_ok {α : Type} (a : α) : liftS (.ok a : Except String α) = .ok a := rfl

/-- Loop invariant of `treeLoop` (label-correcting shortest paths with re-opening).  `edge`: a closed sink
with a finite label has all its incoming edges relaxed; `rank`: along a parent edge the label equation holds
up to slack, and `T` is a rank that decreases along the tight ones (this gives acyclicity at exit, where
every parent edge is tight); `bound`: once a free sink is closed every full sink has a label at most `W`. -/
structure TInv (n : Nat) (remCapa : List Int) (w : Nat → Nat → Int) (d' : Nat → Int) (W : Int)
    (t : Tree) : Prop where
  wf : TWF n t
  free : ∀ i, i < n → remCapa.getD i 0 > 0 → lab t i = 0 ∧ par t i = none
  lower : ∀ i, i < n → d' i ≤ lab t i
  upper : ∀ i, i < n → lab t i ≤ intMax
  edge : ∀ k, k < n → vis t k = false → lab t k < intMax →
    ∀ i, i < n → remCapa.getD i 0 ≤ 0 → lab t i ≤ w i k + lab t k
  openFin : ∀ k, k < n → vis t k = true → lab t k < intMax
  hasPar : ∀ i, i < n → remCapa.getD i 0 ≤ 0 → lab t i < intMax → ∃ k, par t i = some k
  rank : ∃ T : Nat → Nat, ∀ i k, i < n → par t i = some k →
    k < n ∧ k ≠ i ∧ remCapa.getD i 0 ≤ 0 ∧ lab t k < intMax ∧ w i k + lab t k ≤ lab t i ∧
      (lab t i = w i k + lab t k → T k < T i)
  bound : (∃ k, k < n ∧ remCapa.getD k 0 > 0 ∧ vis t k = false) →
    ∀ i, i < n → remCapa.getD i 0 ≤ 0 → lab t i ≤ W

variable {n : Nat} {qs : Queues} {remCapa : List Int} {w : Nat → Nat → Int} {d' : Nat → Int} {W : Int}

lemma movingCostQ_self (qs : Queues) (i : Nat) : movingCostQ qs i i = .ok 0 := by
  simp [movingCostQ]

lemma TreeHyp.w0 (h : TreeHyp n qs remCapa w d' W) (bv : Nat) (hbv : bv < n) :
    w bv bv = 0 ∨ remCapa.getD bv 0 > 0 := by
  by_cases hf : remCapa.getD bv 0 > 0
  · exact Or.inr hf
  · left
    have := h.mc bv bv hbv hbv (by omega)
    rw [movingCostQ_self] at this
    have := Except.ok.inj this
    omega

def closeT (t : Tree) (bv : Nat) : Tree := { t with toVisit := t.toVisit.set bv false }

lemma lab_closeT (t : Tree) (bv j : Nat) : lab (closeT t bv) j = lab t j := rfl
lemma vis_closeT (n : Nat) (t : Tree) (wf : TWF n t) (bv j : Nat) (hbv : bv < n) :
    vis (closeT t bv) j = if j = bv then false else vis t j := by
  exact ListFacts.getD_set _ bv j _ false (wf.lv ▸ hbv)

lemma TWF_closeT (n : Nat) (t : Tree) (wf : TWF n t) (bv : Nat) : TWF n (closeT t bv) :=
  ⟨wf.lc, wf.lp, by simp [closeT, wf.lv]⟩

def muf (t : Tree) (k : Nat) : Int := (if vis t k = true then 1 else 0) + lab t k

/-- `#open + Σ labels` -/
def mu (t : Tree) (n : Nat) : Int := sumTo n (muf t)

lemma mu_nonneg (hyp : TreeHyp n qs remCapa w d' W) (t : Tree) (inv : TInv n remCapa w d' W t) : 0 ≤ mu t n := by
  refine sumTo_nonneg (fun j hj => ?_)
  have := inv.lower j hj
  have := hyp.dnn j hj
  unfold muf
  split <;> omega

/-- `t` after `sendingCost_[i] = c; sinkParent_[i] = bv; toVisit[i] = true` -/
def relaxT (t : Tree) (i bv : Nat) (c : Int) : Tree :=
  { sendCost := t.sendCost.set i c, parent := t.parent.set i (some bv), toVisit := t.toVisit.set i true }

lemma TWF_relaxT (t : Tree) (wf : TWF n t) (i bv : Nat) (c : Int) : TWF n (relaxT t i bv c) :=
  ⟨by simp [relaxT, wf.lc], by simp [relaxT, wf.lp], by simp [relaxT, wf.lv]⟩

lemma lab_relaxT (t : Tree) (wf : TWF n t) (i bv : Nat) (c : Int) (hi : i < n) (j : Nat) :
    lab (relaxT t i bv c) j = if j = i then c else lab t j := ListFacts.getD_set _ i j _ 0 (wf.lc ▸ hi)
lemma par_relaxT (t : Tree) (wf : TWF n t) (i bv : Nat) (c : Int) (hi : i < n) (j : Nat) :
    par (relaxT t i bv c) j = if j = i then some bv else par t j := ListFacts.getD_set _ i j _ none (wf.lp ▸ hi)
lemma vis_relaxT (t : Tree) (wf : TWF n t) (i bv : Nat) (c : Int) (hi : i < n) (j : Nat) :
    vis (relaxT t i bv c) j = if j = i then true else vis t j := ListFacts.getD_set _ i j _ false (wf.lv ▸ hi)

/-- inside the relaxation pass through the selected sink `bv`, before sink `pos` is looked at: the loop invariant
holds (every single relaxation keeps it), `bv` is open with the label `L` it had when selected, and the edges
into `bv` from the full sinks below `pos` are relaxed -/
structure Pass (n : Nat) (remCapa : List Int) (w : Nat → Nat → Int) (d' : Nat → Int) (W : Int)
    (bv : Nat) (L : Int) (pos : Nat) (t : Tree) : Prop where
  inv : TInv n remCapa w d' W t
  opn : vis t bv = true
  labv : lab t bv = L
  done : ∀ j, j < pos → remCapa.getD j 0 ≤ 0 → lab t j ≤ w j bv + L

lemma Pass.skip {bv i : Nat} {L : Int} {t : Tree} (h : Pass n remCapa w d' W bv L i t)
    (hi : remCapa.getD i 0 ≤ 0 → lab t i ≤ w i bv + L) : Pass n remCapa w d' W bv L (i + 1) t :=
  ⟨h.inv, h.opn, h.labv, fun j hj hf => if e : j = i then e ▸ hi (e ▸ hf) else h.done j (by omega) hf⟩

/-- re-opening `i` adds one to the measure, so its label has to drop -/
lemma mu_relaxT_le (t : Tree) (wf : TWF n t) (i bv : Nat) (c : Int) (hi : i < n) (hc : c < lab t i) :
    mu (relaxT t i bv c) n ≤ mu t n := by
  refine sumTo_le fun j _ => ?_
  unfold muf
  rw [lab_relaxT t wf i bv c hi, vis_relaxT t wf i bv c hi]
  split
  · rename_i e; rw [e]; split <;> omega
  · exact Int.le_refl _

lemma Pass.relaxed (hyp : TreeHyp n qs remCapa w d' W) {bv i : Nat} {L : Int} {t : Tree}
    (h : Pass n remCapa w d' W bv L i t) (hbv : bv < n) (hi : i < n) (hfull : remCapa.getD i 0 ≤ 0)
    (hc : w i bv + L < lab t i) :
    Pass n remCapa w d' W bv L (i + 1) (relaxT t i bv (w i bv + L)) := by
  have inv := h.inv
  have hL := h.labv
  have hne : bv ≠ i := by
    rintro rfl
    rcases hyp.w0 bv hbv with h0 | h0
    · rw [h0] at hc; omega
    · omega
  have l1 := lab_relaxT t inv.wf i bv (w i bv + L) hi
  have p1 := par_relaxT t inv.wf i bv (w i bv + L) hi
  have v1 := vis_relaxT t inv.wf i bv (w i bv + L) hi
  have hLlt := inv.openFin bv hbv h.opn
  have hub := inv.upper i hi
  -- a relaxation only lowers labels: what bounds labels from above (`upper`, `edge`, `bound`) survives
  have fall : ∀ j, lab (relaxT t i bv (w i bv + L)) j ≤ lab t j := fun j => by
    rw [l1]
    split
    · rename_i e; rw [e]; exact Int.le_of_lt hc
    · exact Int.le_refl _
  refine ⟨⟨TWF_relaxT t inv.wf i bv _, ?_, ?_, ?_, ?_, ?_, ?_, ?_, ?_⟩, ?_, ?_, ?_⟩
  · intro j hj hf
    have e : j ≠ i := by rintro rfl; omega
    rw [l1, p1, if_neg e, if_neg e]
    exact inv.free j hj hf
  · intro j hj
    rw [l1]
    split
    · rename_i e
      have := hyp.dw i bv hi hbv hfull
      have := inv.lower bv hbv
      rw [e]
      omega
    · exact inv.lower j hj
  · exact fun j hj => Int.le_trans (fall j) (inv.upper j hj)
  · -- `TInv.edge`: a closed sink is not `i`
    intro k hk hvk hlk j hj hfj
    rw [v1] at hvk
    have ek : k ≠ i := by rintro rfl; simp at hvk
    rw [if_neg ek] at hvk
    rw [l1 k, if_neg ek] at hlk ⊢
    exact Int.le_trans (fall j) (inv.edge k hk hvk hlk j hj hfj)
  · intro k hk hvk
    rw [l1]
    split
    · omega
    · rename_i ek
      rw [v1, if_neg ek] at hvk
      exact inv.openFin k hk hvk
  · intro j hj hfj hlj
    rw [p1]
    split
    · exact ⟨bv, rfl⟩
    · rename_i e
      rw [l1, if_neg e] at hlj
      exact inv.hasPar j hj hfj hlj
  · -- `TInv.rank`: the relaxed sink gets a rank above its new parent; an edge into it is no longer tight
    obtain ⟨T, hT⟩ := inv.rank
    refine ⟨fun j => if j = i then T bv + 1 else T j, fun j k hj hp => ?_⟩
    dsimp only
    rw [p1] at hp
    rw [l1 j, l1 k]
    by_cases e : j = i
    · rw [if_pos e] at hp
      obtain rfl : bv = k := Option.some.inj hp
      rw [if_pos e, if_neg hne, if_neg hne, if_pos e, e]
      exact ⟨hbv, hne, hfull, hLlt, by omega, fun _ => by omega⟩
    · rw [if_neg e] at hp
      obtain ⟨g1, g2, g3, g4, g5, g6⟩ := hT j k hj hp
      rw [if_neg e, if_neg e]
      by_cases ek : k = i
      · rw [if_pos ek]
        have : lab t k = lab t i := by rw [ek]
        exact ⟨g1, g2, g3, by omega, by omega, fun _ => by omega⟩
      · rw [if_neg ek, if_neg ek]
        exact ⟨g1, g2, g3, g4, g5, g6⟩
  · intro ⟨k, hk, hfk, hvk⟩ j hj hfj
    have ek : k ≠ i := by rintro rfl; omega
    rw [v1, if_neg ek] at hvk
    exact Int.le_trans (fall j) (inv.bound ⟨k, hk, hfk, hvk⟩ j hj hfj)
  · rw [v1, if_neg hne]; exact h.opn
  · rw [l1, if_neg hne]; exact hL
  · intro j hj hfj
    rw [l1]
    split
    · rename_i e; rw [e]
    · rename_i e; exact h.done j (by omega) hfj

lemma relax_pass (hyp : TreeHyp n qs remCapa w d' W) (bv : Nat) (hbv : bv < n) (L : Int) :
    ∀ (k i : Nat) (t : Tree), i + k = n → Pass n remCapa w d' W bv L i t →
      ∃ t', relax qs remCapa bv k i t = .ok t' ∧ Pass n remCapa w d' W bv L n t' ∧ mu t' n ≤ mu t n ∧
        ((∀ j, j < n → remCapa.getD j 0 ≤ 0 → fitsInt32 (w j bv + L)) →
          relaxC qs remCapa bv k i t = .ok t') := by
  intro k
  induction k with
  | zero =>
    intro i t hik h
    obtain rfl : i = n := by omega
    exact ⟨t, rfl, h, Int.le_refl _, fun _ => rfl⟩
  | succ k ih =>
    intro i t hik h
    have hil : i < n := by omega
    have hL : t.sendCost.getD bv 0 = L := h.labv
    unfold relax relaxC
    by_cases hfree : remCapa.getD i 0 > 0
    · rw [if_pos hfree, if_pos hfree]
      exact ih (i + 1) t (by omega) (h.skip fun hf => by omega)
    · have hfull : remCapa.getD i 0 ≤ 0 := by omega
      rw [if_neg hfree, if_neg hfree, hyp.mc i bv hil hbv hfull, hL]
      simp only
      by_cases hc : w i bv + L < t.sendCost.getD i 0
      · obtain ⟨t', e, h', m', c⟩ := ih (i + 1) _ (by omega) (h.relaxed hyp hbv hil hfull hc)
        refine ⟨t', by rw [if_pos hc]; exact e, h', Int.le_trans m' (mu_relaxT_le t h.inv.wf i bv _ hil hc),
          fun hf => ?_⟩
        rw [addI32_ok (hf i hil hfull)]
        simp only [if_pos hc]
        exact c hf
      · obtain ⟨t', e, h', m', c⟩ := ih (i + 1) t (by omega) (h.skip fun _ => Int.not_lt.mp hc)
        refine ⟨t', by rw [if_neg hc]; exact e, h', m', fun hf => ?_⟩
        rw [addI32_ok (hf i hil hfull)]
        simp only [if_neg hc]
        exact c hf

lemma Pass.close (hyp : TreeHyp n qs remCapa w d' W) {bv : Nat} {L : Int} {t : Tree}
    (h : Pass n remCapa w d' W bv L n t) (hbv : bv < n) :
    TInv n remCapa w d' W (closeT t bv) ∧ mu (closeT t bv) n + 1 ≤ mu t n := by
  have inv := h.inv
  have vc := fun j => vis_closeT n t inv.wf bv j hbv
  refine ⟨⟨TWF_closeT n t inv.wf bv, inv.free, inv.lower, inv.upper, ?_, ?_, inv.hasPar, inv.rank, ?_⟩, ?_⟩
  · intro k hk hvk hlk j hj hfj
    show lab t j ≤ w j k + lab t k
    by_cases ek : k = bv
    · rw [ek, h.labv]; exact h.done j hj hfj
    · rw [vc, if_neg ek] at hvk
      exact inv.edge k hk hvk hlk j hj hfj
  · intro k hk hvk
    rw [vc] at hvk
    split at hvk
    · cases hvk
    · exact inv.openFin k hk hvk
  · intro ⟨k, hk, hfk, hvk⟩ j hj hfj
    show lab t j ≤ W
    by_cases ek : k = bv
    · have := h.done j hj hfj
      have := (inv.free k hk hfk).1
      have := hyp.wle j k hj hk hfj
      have := h.labv
      rw [ek] at *
      omega
    · rw [vc, if_neg ek] at hvk
      exact inv.bound ⟨k, hk, hfk, hvk⟩ j hj hfj
  · refine sumTo_lt n (fun j _ => ?_) bv hbv ?_
    · unfold muf
      rw [vc, lab_closeT]
      by_cases e : j = bv
      · rw [if_pos e]
        simp only [Bool.false_eq_true, if_false]
        split <;> omega
      · rw [if_neg e]
    · unfold muf
      rw [vc, if_pos rfl, lab_closeT, h.opn]
      simp only [Bool.false_eq_true, if_false, if_true]
      omega

/-- the state with which `updateTree` enters its loop -/
def initT (remCapa : List Int) : Tree :=
  { sendCost := remCapa.map (fun c => if c > 0 then 0 else intMax),
    parent := remCapa.map (fun _ => none),
    toVisit := remCapa.map (fun c => decide (c > 0)) }

lemma lab_initT {remCapa : List Int} {i : Nat} (hi : i < remCapa.length) :
    lab (initT remCapa) i = if remCapa.getD i 0 > 0 then 0 else intMax := by
  show (remCapa.map (fun c => if c > 0 then 0 else intMax)).getD i 0 = _
  rw [ListFacts.getD_map_of_lt _ 0 _ hi]

lemma par_initT {remCapa : List Int} {i : Nat} (hi : i < remCapa.length) : par (initT remCapa) i = none := by
  show (remCapa.map (fun _ => (none : Option Nat))).getD i none = _
  rw [ListFacts.getD_map_of_lt _ 0 _ hi]

lemma vis_initT {remCapa : List Int} {i : Nat} (hi : i < remCapa.length) :
    vis (initT remCapa) i = decide (remCapa.getD i 0 > 0) := by
  show (remCapa.map (fun c => decide (c > 0))).getD i false = _
  rw [ListFacts.getD_map_of_lt _ 0 _ hi]

theorem initT_inv (hyp : TreeHyp n qs remCapa w d' W) : TInv n remCapa w d' W (initT remCapa) := by
  obtain rfl := hyp.len
  have im : intMax = 2147483647 := rfl
  refine ⟨⟨by simp [initT], by simp [initT], by simp [initT]⟩, ?_, ?_, ?_, ?_, ?_, ?_, ?_, ?_⟩
  · intro i hi hf
    rw [lab_initT hi, par_initT hi, if_pos hf]
    exact ⟨rfl, rfl⟩
  · intro i hi
    rw [lab_initT hi]
    by_cases hf : remCapa.getD i 0 > 0
    · rw [if_pos hf, hyp.dfree i hi hf]
    · rw [if_neg hf]; exact hyp.dle i hi
  · intro i hi
    rw [lab_initT hi]
    split <;> omega
  · intro k hk hvk hlk
    rw [vis_initT hk] at hvk
    rw [lab_initT hk, if_neg (of_decide_eq_false hvk)] at hlk
    omega
  · intro k hk hvk
    rw [vis_initT hk] at hvk
    rw [lab_initT hk, if_pos (of_decide_eq_true hvk)]
    omega
  · intro i hi hfi hli
    rw [lab_initT hi, if_neg (by omega)] at hli
    omega
  · refine ⟨fun _ => 0, fun i k hi hp => ?_⟩
    rw [par_initT hi] at hp
    cases hp
  · intro ⟨k, hk, hfk, hvk⟩
    rw [vis_initT hk] at hvk
    exact absurd hfk (of_decide_eq_false hvk)

lemma initT_mu (hyp : TreeHyp n qs remCapa w d' W) : mu (initT remCapa) n < ((treeFuel n : Nat) : Int) := by
  obtain rfl := hyp.len
  have im : intMax = 2147483647 := rfl
  have : mu (initT remCapa) remCapa.length ≤ (remCapa.length : Int) * 2147483648 := by
    refine sumTo_le_const _ (fun j hj => ?_)
    unfold muf
    rw [lab_initT hj, vis_initT hj]
    by_cases hf : remCapa.getD j 0 > 0
    · rw [if_pos hf, decide_eq_true hf]
      simp
    · rw [if_neg hf, decide_eq_false hf]
      simp only [Bool.false_eq_true, if_false]
      omega
  unfold treeFuel
  push_cast
  omega

/-- While some sink `f` has capacity left and `2·W ≤ INT_MAX`, every `movingCost(i, bestVisit) +
sendingCost_[bestVisit]` is a representable `int`: it is at least the potential `d' i`, and the selected label is at
most `W`, being minimal among the open sinks, and `f` is open (label 0) or every label is at most `W`. -/
lemma TInv.sums_fit (hyp : TreeHyp n qs remCapa w d' W) {t : Tree} (inv : TInv n remCapa w d' W t)
    (h2W : 2 * W ≤ intMax) {bv : Nat} (hbv : bv < n) (hmin : ∀ j, j < n → vis t j = true → lab t bv ≤ lab t j)
    (hfree : ∃ f, f < n ∧ remCapa.getD f 0 > 0) (i : Nat) (hi : i < n) (hfull : remCapa.getD i 0 ≤ 0) :
    fitsInt32 (w i bv + lab t bv) := by
  have im : intMax = 2147483647 := rfl
  obtain ⟨f, hf, hfree⟩ := hfree
  have hLW : lab t bv ≤ W := by
    have := hyp.Wnn
    by_cases hbf : remCapa.getD bv 0 > 0
    · have := (inv.free bv hbv hbf).1
      omega
    · cases hvf : vis t f with
      | false => exact inv.bound ⟨f, hf, hfree, hvf⟩ bv hbv (by omega)
      | true =>
        have := hmin f hf hvf
        have := (inv.free f hf hfree).1
        omega
  have := inv.lower bv hbv
  have := hyp.dw i bv hi hbv hfull
  have := hyp.dnn i hi
  have := hyp.wle i bv hi hbv hfull
  unfold fitsInt32
  omega

theorem treeLoop_spec (hyp : TreeHyp n qs remCapa w d' W) :
    ∀ (fuel : Nat) (t : Tree), TInv n remCapa w d' W t → mu t n < (fuel : Int) →
      ∃ t', treeLoop n qs remCapa fuel t = .ok t' ∧
        (2 * W ≤ intMax → (∃ f, f < n ∧ remCapa.getD f 0 > 0) → treeLoopC n qs remCapa fuel t = .ok t') ∧
        TInv n remCapa w d' W t' ∧ pickVisit t' n 0 none intMax = none := by
  intro fuel
  induction fuel with
  | zero =>
    intro t inv h
    have := mu_nonneg hyp t inv
    simp at h
    omega
  | succ fuel ih =>
    intro t inv h
    rw [treeLoop, treeLoopC]
    rcases pickVisit_top t n with ⟨hp, _⟩ | ⟨bv, hp, hbv, hv, _, hmin⟩
    · rw [hp]; exact ⟨t, rfl, fun _ _ => rfl, inv, hp⟩
    · rw [hp]
      simp only
      obtain ⟨t1, e1, h1, m1, eC⟩ := relax_pass hyp bv hbv (lab t bv) n 0 t (by omega)
        ⟨inv, hv, rfl, fun j hj => by omega⟩
      obtain ⟨inv', hmu⟩ := h1.close hyp hbv
      obtain ⟨t', ht', hC', rest⟩ := ih (closeT t1 bv) inv' (by push_cast at h; omega)
      refine ⟨t', by rw [e1]; exact ht', fun h2W hfree => ?_, rest⟩
      rw [eC (inv.sums_fit hyp h2W hbv hmin hfree)]
      exact hC' h2W hfree

lemma nodup_length_le (n : Nat) (l : List Nat) (hnd : l.Nodup) (h : ∀ x, x ∈ l → x < n) : l.length ≤ n := by
  have := hnd.length_le_of_subset (l₂ := List.range n) (fun x hx => List.mem_range.2 (h x hx))
  rw [List.length_range] at this
  exact this

lemma chain_exists (n : Nat) (parent : List (Option Nat)) (T : Nat → Nat)
    (hT : ∀ i k, i < n → parent.getD i none = some k → k < n ∧ T k < T i) :
    ∀ (m i : Nat), i < n → T i < m →
      ∃ (d : Nat) (l : List Nat), l.length = d + 1 ∧ l.Nodup ∧ (∀ x, x ∈ l → x < n ∧ T x ≤ T i) ∧
        depthIs parent d i := by
  intro m
  induction m with
  | zero => intro i _ h; omega
  | succ m ih =>
    intro i hi hm
    cases hP : parent.getD i none with
    | none =>
      refine ⟨0, [i], rfl, by simp, ?_, hP⟩
      intro x hx
      have : x = i := by simpa using hx
      subst this
      exact ⟨hi, Nat.le_refl _⟩
    | some k =>
      obtain ⟨hk, hTk⟩ := hT i k hi hP
      obtain ⟨d, l, h1, h2, h3, h4⟩ := ih k hk (by omega)
      refine ⟨d + 1, i :: l, by simp [h1], ?_, ?_, ⟨k, hP, h4⟩⟩
      · rw [List.nodup_cons]
        refine ⟨?_, h2⟩
        intro hmem
        have := (h3 i hmem).2
        omega
      · intro x hx
        rcases List.mem_cons.1 hx with e | e
        · subst e; exact ⟨hi, Nat.le_refl _⟩
        · have := h3 x e
          exact ⟨this.1, by omega⟩

lemma depth_of_rank (n : Nat) (parent : List (Option Nat)) (T : Nat → Nat)
    (hT : ∀ i k, i < n → parent.getD i none = some k → k < n ∧ T k < T i) :
    ∀ i, i < n → ∃ k, k < n ∧ depthIs parent k i := by
  intro i hi
  obtain ⟨d, l, h1, h2, h3, h4⟩ := chain_exists n parent T hT (T i + 1) i hi (by omega)
  have := nodup_length_le n l h2 (fun x hx => (h3 x hx).1)
  exact ⟨d, by omega, h4⟩

theorem treeSpec_of_tinv (hyp : TreeHyp n qs remCapa w d' W) (t : Tree) (inv : TInv n remCapa w d' W t)
    (hp : pickVisit t n 0 none intMax = none) : TreeSpec n remCapa w d' W t := by
  have hW := hyp.Wlt
  have hW0 := hyp.Wnn
  have closed : ∀ j, j < n → vis t j = false := by
    intro j hj
    rcases pickVisit_top t n with ⟨_, h⟩ | ⟨bv, e, _⟩
    · cases hv : vis t j with
      | false => rfl
      | true => have := h j hj hv; have := inv.openFin j hj hv; omega
    · rw [hp] at e; cases e
  have edge0 : ∀ k, k < n → lab t k < intMax → ∀ i, i < n → remCapa.getD i 0 ≤ 0 →
      lab t i ≤ w i k + lab t k := fun k hk hl => inv.edge k hk (closed k hk) hl
  have fin : (∃ f, f < n ∧ remCapa.getD f 0 > 0) → ∀ k, k < n → lab t k < intMax := by
    intro ⟨f, hf, hff⟩ k hk
    by_cases hfk : remCapa.getD k 0 > 0
    · have := (inv.free k hk hfk).1
      omega
    · have := inv.bound ⟨f, hf, hff, closed f hf⟩ k hk (by omega)
      omega
  refine ⟨inv.wf.lc, inv.wf.lp, inv.free, inv.lower, inv.upper, ?_, ?_, ?_⟩
  · intro hfree i k hi hk hfi
    exact edge0 k hk (fin hfree k hk) i hi hfi
  · intro hfree i hi hfi
    obtain ⟨f, hf, hff⟩ := hfree
    have hiW := inv.bound ⟨f, hf, hff, closed f hf⟩ i hi hfi
    refine ⟨hiW, ?_⟩
    obtain ⟨k, hk⟩ := inv.hasPar i hi hfi (by omega)
    obtain ⟨T, hT⟩ := inv.rank
    obtain ⟨g1, g2, _, g4, g5, _⟩ := hT i k hi hk
    have := edge0 k g1 g4 i hi hfi
    have tight : lab t i = w i k + lab t k := by omega
    exact ⟨k, g1, g2, hk, tight⟩
  · obtain ⟨T, hT⟩ := inv.rank
    apply depth_of_rank n t.parent T
    intro i k hi hk
    obtain ⟨g1, _, g3, g4, g5, g6⟩ := hT i k hi hk
    have := edge0 k g1 g4 i hi g3
    exact ⟨g1, g6 (by omega)⟩

theorem updateTree_spec (p : Problem) (qs : Queues) (remCapa : List Int) (w : Nat → Nat → Int) (d' : Nat → Int) (W : Int)
    (h : TreeHyp p.nbSinks qs remCapa w d' W) :
    ∃ t, updateTree p qs remCapa = .ok t ∧ TreeSpec p.nbSinks remCapa w d' W t := by
  obtain ⟨t, e, _, inv, hp⟩ := treeLoop_spec h (treeFuel p.nbSinks) (initT remCapa) (initT_inv h) (initT_mu h)
  exact ⟨t, e, treeSpec_of_tinv h t inv hp⟩

end ColoVerif.Transp
