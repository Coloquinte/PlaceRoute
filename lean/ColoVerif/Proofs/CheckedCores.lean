import ColoVerif.Proofs.CheckedRowLeg
import ColoVerif.Proofs.CheckedPinOffset
import ColoVerif.Model.CoresChecked
/-
No-fault lemmas for `computeSubdivisions`, the Abacus cost arithmetic and the obstacle
rectangles of `Row::freespace` (C07).
-/
namespace ColoVerif.Checked
open ColoVerif.RowLeg

theorem subdivAtC_ok {mn mx number i : Int} (h1 : -M22 ≤ mn) (h2 : mx ≤ M22) (hle : mn ≤ mx)
    (hn1 : 1 ≤ number) (hn2 : number ≤ 2147483646) (hi0 : 0 ≤ i) (hi : i ≤ number) :
    subdivAtC mn mx number i = .ok (subdivAt mn mx number i) := by
  have hext : 0 ≤ mx - mn ∧ mx - mn ≤ 2 * M22 :=
    between_mono ⟨Int.sub_nonneg_of_le hle, Int.sub_le_sub h2 h1⟩
  have hp := mul_between_nonneg ⟨hi0, Int.le_trans hi hn2⟩ hext
  have hle2 : i * (mx - mn) ≤ (mx - mn) * number := by
    rw [Int.mul_comm (mx - mn) number]
    exact Int.mul_le_mul_of_nonneg_right hi hext.1
  have hq := tdiv_bounds hp.1 (Int.lt_of_lt_of_le (by decide) hn1) hle2
  have hqR : 0 ≤ Int.tdiv (i * (mx - mn)) number ∧ Int.tdiv (i * (mx - mn)) number ≤ 2 * M22 :=
    ⟨hq.1, Int.le_trans hq.2 hext.2⟩
  have hne : ¬ number = 0 := by omega
  simp only [subdivAtC, checked, divI64, chk32_between hext, chk64_between hp, hne, if_false, chk64_between hqR,
    chk32_between hqR, chk32_between (add_between ⟨h1, Int.le_trans hle h2⟩ hqR), subdivAt]

theorem subdivLoopC_ok {mn mx number : Int} (h1 : -M22 ≤ mn) (h2 : mx ≤ M22) (hle : mn ≤ mx)
    (hn1 : 1 ≤ number) (hn2 : number ≤ 2147483646) :
    ∀ (k : Nat) (i : Int), 0 ≤ i → i + k ≤ number + 1 →
      subdivLoopC mn mx number k i = .ok (subdivLoop mn mx number k i) := by
  intro k
  induction k with
  | zero => intro i _ _; rfl
  | succ k ih =>
    intro i hi0 hik
    have hstep := subdivAtC_ok (i := i) h1 h2 hle hn1 hn2 hi0 (by omega)
    have hrest := ih (i + 1) (by omega) (by omega)
    simp only [subdivLoopC, hstep, hrest, subdivLoop]

theorem subdivLoop_head (mn mx number : Int) (k : Nat) (i d : Int) :
    (subdivLoop mn mx number (k + 1) i).headD d = subdivAt mn mx number i := rfl

theorem subdivLoop_last (mn mx number : Int) :
    ∀ (k : Nat) (i d : Int), (subdivLoop mn mx number (k + 1) i).getLastD d = subdivAt mn mx number (i + k) := by
  intro k
  induction k with
  | zero => intro i d; simp [subdivLoop]
  | succ k ih =>
    intro i d
    have h := ih (i + 1) (subdivAt mn mx number i)
    rw [subdivLoop, List.getLastD_cons, h]
    congr 1
    omega

theorem subdivisionsC_ok (asr : Bool) {mn mx number : Int} (h1 : -M22 ≤ mn) (h2 : mx ≤ M22) (hle : mn ≤ mx)
    (hn1 : 1 ≤ number) (hn2 : number ≤ 2147483646) :
    subdivisionsC asr mn mx number = .ok (subdivisions mn mx number) := by
  obtain ⟨k, hk⟩ : ∃ k : Nat, (number + 1).toNat = k + 1 ∧ (k : Int) = number := by
    refine ⟨number.toNat, ?_, ?_⟩ <;> omega
  have e2 := subdivLoopC_ok h1 h2 hle hn1 hn2 (number + 1).toNat 0 (by omega) (by omega)
  have hfront : (subdivLoop mn mx number (number + 1).toNat 0).headD mn = mn := by
    rw [hk.1, subdivLoop_head]; simp [subdivAt]
  have hback : (subdivLoop mn mx number (number + 1).toNat 0).getLastD mx = mx := by
    rw [hk.1, subdivLoop_last, hk.2]
    simp only [subdivAt, Int.zero_add]
    rw [Int.mul_tdiv_cancel_left _ (by omega : number ≠ 0)]
    omega
  simp only [subdivisionsC, checked, assertC_of _ _ hn1, assertC_of _ _ hle,
    chk32_between (add_between ⟨hn1, hn2⟩ ⟨Int.le_refl 1, Int.le_refl 1⟩), e2, assertC_of _ _ hfront,
    assertC_of _ _ hback, subdivisions]

theorem remainingC_ok {s : State} (hd : Dom s) : remainingC s = .ok s.remaining := by
  have hext : 0 ≤ s.e - s.b ∧ s.e - s.b ≤ 2 * M22 :=
    between_mono ⟨Int.le_trans hd.used_nonneg hd.fit, Int.sub_le_sub hd.he hd.hb⟩
  simp only [remainingC, checked, chk32_between hext,
    chk32_between (sub_between hext ⟨hd.used_nonneg, Int.le_trans hd.fit hext.2⟩), State.remaining]

theorem evalPlacementC_ok (asr : Bool) {s : State} (hd : Dom s) {w t : Int} (hw : 0 < w)
    (ht1 : -M22 ≤ t) (ht2 : t ≤ M22) : evalPlacementC asr s w t = .ok (evalPlacement s w t) := by
  by_cases h : s.remaining < w
  · simp only [evalPlacementC, remainingC_ok hd, h, if_true, checked, evalPlacement]
  · have hc := getCostC_eq asr hd hw (by omega) ht1 ht2
    simp only [evalPlacementC, remainingC_ok hd, h, if_false, hc, checked, evalPlacement]

theorem placeCostC_ok {w rowMinY targetY xDist : Int} (hw0 : 0 ≤ w) (hw : w ≤ 2 * M22)
    (hr1 : -M22 ≤ rowMinY) (hr2 : rowMinY ≤ M22) (ht1 : -M22 ≤ targetY) (ht2 : targetY ≤ M22)
    (hx1 : -4611897124659920896 ≤ xDist) (hx2 : xDist ≤ 4611897124659920896) :
    placeCostC w rowMinY targetY xDist = .ok (placeCost w rowMinY targetY xDist) := by
  have hdy : -(2 * M22) ≤ rowMinY - targetY ∧ rowMinY - targetY ≤ 2 * M22 :=
    between_mono (sub_between ⟨hr1, hr2⟩ ⟨ht1, ht2⟩)
  have hn := natAbs_between hdy
  have hq := mul_between_nonneg ⟨hw0, hw⟩ hn
  simp only [placeCostC, checked, Int.zero_add, chk32_between hdy, chk64_between hn, chk64_between hq,
    chk64_between (add_between ⟨hx1, hx2⟩ hq), placeCost]

/-- The bound is 2^62 + 2^46 + 2^47 (accumulator of the loop, last term, the cell's own cost; see
`maxCells`); `placeCostC_ok` assumes it of `xDist`. -/
theorem getCost_bound {s : State} (hd : Dom s) {w t : Int} (hw : 0 < w) (hfit : w ≤ s.remaining)
    (ht1 : -M22 ≤ t) (ht2 : t ≤ M22) :
    -4611897124659920896 ≤ (getCost s w t).1 ∧ (getCost s w t).1 ≤ 4611897124659920896 := by
  have hf := core_facts (t := t) hd hw hfit
  show _ ≤ (displacement s w t).cost ∧ (displacement s w t).cost ≤ _
  rw [displacement_eq]
  exact between_mono (add_between hf.c1R (dist_ranges hf ht1 ht2).2)

theorem evalPlacement_bound {s : State} (hd : Dom s) {w t : Int} (hw : 0 < w) (ht1 : -M22 ≤ t) (ht2 : t ≤ M22) :
    -4611897124659920896 ≤ (evalPlacement s w t).1.2 ∧ (evalPlacement s w t).1.2 ≤ 4611897124659920896 := by
  unfold evalPlacement
  split
  · exact ⟨by simp, by simp⟩
  · exact getCost_bound hd hw (by omega) ht1 ht2

def CellOk (c : Cell) : Prop :=
  -M22 ≤ c.x ∧ c.x ≤ M22 ∧ -M22 ≤ c.y ∧ c.y ≤ M22 ∧ 0 ≤ c.w ∧ c.w ≤ M22 ∧ 0 ≤ c.h ∧ c.h ≤ M22

theorem CellOk.placed {c : Cell} (h : CellOk c) :
    (0 ≤ c.placedWidth ∧ c.placedWidth ≤ M22) ∧ 0 ≤ c.placedHeight ∧ c.placedHeight ≤ M22 := by
  obtain ⟨-, -, -, -, w0, w1, hh⟩ := h
  exact ⟨placedWidth_bounds ⟨w0, w1⟩ hh, placedHeight_bounds ⟨w0, w1⟩ hh⟩

theorem placementC_ok {c : Cell} (h : CellOk c) : placementC c = .ok c.placement := by
  simp only [placementC, checked, chk32_between (add_between ⟨h.1, h.2.1⟩ h.placed.1),
    chk32_between (add_between ⟨h.2.2.1, h.2.2.2.1⟩ h.placed.2), Cell.placement]

theorem placementsC_ok : ∀ (l : List Cell), (∀ c ∈ l, CellOk c) → placementsC l = .ok (l.map Cell.placement) := by
  intro l
  induction l with
  | nil => intro _; rfl
  | cons c cs ih =>
    intro h
    have h1 := placementC_ok (h c (by simp))
    have h2 := ih (fun x hx => h x (by simp [hx]))
    simp only [placementsC, h1, h2, List.map_cons]

theorem computeRowsC_ok (c : Circuit) (h : ∀ cl ∈ c.cells, CellOk cl) : computeRowsC c = .ok c.computeRows := by
  have h1 := placementsC_ok (c.cells.filter fun cl => cl.fixed && cl.obstruction)
    (fun x hx => h x ((List.mem_filter.mp hx).1))
  simp only [computeRowsC, h1, checked, Circuit.computeRows, Circuit.obstacles, List.nil_append]

end ColoVerif.Checked
