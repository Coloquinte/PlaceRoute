import ColoVerif.Proofs.LegalizeAbacusSearch
import ColoVerif.Proofs.LegalizeWriteBack
/-
The `placeCell` loop of `AbacusLegalizer::run` when every call succeeds (`AbInv`: each row legalizer was reached by
pushing the cells its segment lists), and what `run` does after it (`AbInv.written`: `getPlacement` is written
back through distinct indices; `abacusRun_of_inv`: `check()` passes, by C12 feasibility); this also serves C01's
trivial success.
For C11: on cells that already sit legally in the segments, those of one segment visited left to right (`IdemOK`),
`LoopInv` adds that every row legalizer is in a no-conflict state `NC`; so every cell goes into its own segment at
cost 0 (`SearchCtx.place`) and `getPlacement` returns the original positions.
-/
namespace ColoVerif.Legalize
open ColoVerif ColoVerif.RowLeg

/-- status of a cell that was placed exactly where it was -/
def finalPos (c : LCell) : Pos := ⟨c.tx, c.ty, c.torient, true⟩

/-- cell `c` sits in segment `k` of `S` and gets there the orientation it already has -/
def InSeg (S : List Row) (k : Nat) (c : LCell) : Prop :=
  (rowAt S k).rect.minY = c.ty ∧ (rowAt S k).rect.minX ≤ c.tx ∧ c.tx + c.w ≤ (rowAt S k).rect.maxX ∧
  getOrientation S c k = c.torient

/-- what the idempotence argument assumes of the segments `S` and of the cells, listed in visiting order -/
structure IdemOK (S : List Row) (H : Int) (cells : List LCell) : Prop where
  sorted : SortedBy rowLt S
  heights : ∀ r ∈ S, r.rect.height = H
  disjoint : ∀ k1 k2, k1 < S.length → k2 < S.length → k1 ≠ k2 →
    (rowAt S k1).rect.minY = (rowAt S k2).rect.minY →
    (rowAt S k1).rect.maxX ≤ (rowAt S k2).rect.minX ∨ (rowAt S k2).rect.maxX ≤ (rowAt S k1).rect.minX
  seg : ∀ c ∈ cells, c.h = H ∧ 0 < c.w ∧ c.torient ≠ Orient.INVALID ∧ ∃ k, k < S.length ∧ InSeg S k c
  /-- the cells of one *segment* are listed left to right (cells of different segments of one y may come
  in any order: a cell's own segment costs 0, any other segment of that y costs > 0 or has no room) -/
  order : cells.Pairwise fun c1 c2 => ∀ k, k < S.length → InSeg S k c1 → InSeg S k c2 → c1.tx + c1.w ≤ c2.tx

theorem rowAt_mem (S : List Row) (k : Nat) (hk : k < S.length) : rowAt S k ∈ S :=
  ListFacts.getD_mem S k default hk

theorem posAt_eq_getElem (l : List Pos) (m : Nat) (h : m < l.length) : posAt l m = l[m] :=
  (List.getElem_eq_getD _).symm

/-- the `placeCell` loop so far, every call having succeeded: each cell `< i` is listed in a segment, segment `k`
lists the cells pushed into its row legalizer, in push order; no cell is listed twice -/
structure AbInv (S : List Row) (cells : List LCell) (i : Nat) (a : Abacus) : Prop extends Booked S cells i a where
  llen : a.legs.length = S.length
  cover : ∀ j, j < i → ∃ k, k < S.length ∧ j ∈ a.rowCells.getD k []
  reach : ∀ k, k < S.length → ∃ C,
    Reach (rowAt S k).rect.minX (rowAt S k).rect.maxX
      (((a.rowCells.getD k []).map fun j => ((cellAt cells j).w, (cellAt cells j).tx)).reverse) C (legAt a.legs k)
  nodup : ∀ k, k < S.length → (a.rowCells.getD k []).Nodup
  uniq : ∀ k k' j, k < S.length → k' < S.length → j ∈ a.rowCells.getD k [] → j ∈ a.rowCells.getD k' [] → k = k'

theorem AbInv.reach_any {S : List Row} {cells : List LCell} {i : Nat} {a : Abacus} (inv : AbInv S cells i a)
    (k : Nat) (hk : k < S.length) :
    ∃ h C, Reach (rowAt S k).rect.minX (rowAt S k).rect.maxX h C (legAt a.legs k) :=
  let ⟨C, hr⟩ := inv.reach k hk
  ⟨_, C, hr⟩

theorem AbInv.init (R : List Row) (cells : List LCell) : AbInv (sortRows R) cells 0 (Abacus.init R) := by
  refine ⟨⟨rfl, List.length_map _, fun k j hj => by rw [rowCells_init] at hj; cases hj⟩, List.length_map _,
    fun j hj => absurd hj (Nat.not_lt_zero j), fun k hk => ?_, fun k _ => ?_, fun k k' j _ _ hj => ?_⟩
  · rw [legAt_init R k hk, rowCells_init]
    exact ⟨0, Reach.new⟩
  · rw [rowCells_init]
    exact List.nodup_nil
  · rw [rowCells_init] at hj
    cases hj

theorem AbInv.placed {S : List Row} {cells : List LCell} {i : Nat} {a : Abacus} (inv : AbInv S cells i a) {k0 : Nat}
    (hk0 : k0 < S.length) (hw : 0 < (cellAt cells i).w) (hfit : (cellAt cells i).w ≤ (legAt a.legs k0).remaining)
    (ho : getOrientation S (cellAt cells i) k0 ≠ Orient.INVALID) :
    AbInv S cells (i + 1) (a.placed k0 i (cellAt cells i)) := by
  have hkl : k0 < a.legs.length := by rw [inv.llen]; exact hk0
  have hkc : k0 < a.rowCells.length := by rw [inv.clen]; exact hk0
  refine ⟨inv.toBooked.placed ho, (List.length_set ..).trans inv.llen, fun j hj => ?_, fun k hk => ?_, fun k hk => ?_,
    fun k k' j hk hk' hj hj' => ?_⟩
  · rcases Nat.lt_succ_iff_lt_or_eq.mp hj with hj | rfl
    · obtain ⟨k', hk', hjk⟩ := inv.cover j hj
      exact ⟨k', hk', mem_getD_set_append.mpr (Or.inl hjk)⟩
    · exact ⟨k0, hk0, mem_getD_set_append.mpr (Or.inr ⟨rfl, rfl, hkc⟩)⟩
  · rw [legAt_placed a i _ hkl, rowCells_placed a i _ hkc]
    by_cases hkk : k = k0
    · subst hkk
      obtain ⟨C, hr⟩ := inv.reach k hk
      rw [if_pos rfl, if_pos rfl, List.map_append, List.reverse_append]
      exact ⟨C + _, Reach.push _ _ hr hw hfit⟩
    · rw [if_neg hkk, if_neg hkk]
      exact inv.reach k hk
  · rw [rowCells_placed a i _ hkc]
    split
    · rw [List.nodup_append]
      refine ⟨inv.nodup k0 hk0, List.pairwise_singleton _ i, fun j hj j' hj' => ?_⟩
      rw [List.mem_singleton.mp hj']
      exact Nat.ne_of_lt (inv.mem k0 j hj).1
    · exact inv.nodup k hk
  · -- the new index `i` is in no old list
    rcases mem_getD_set_append.mp hj with h1 | ⟨rfl, rfl, -⟩
    · rcases mem_getD_set_append.mp hj' with h2 | ⟨rfl, h2, -⟩
      · exact inv.uniq k k' j hk hk' h1 h2
      · exact absurd (h2 ▸ (inv.mem k j h1).1) (Nat.lt_irrefl _)
    · rcases mem_getD_set_append.mp hj' with h2 | ⟨rfl, -, -⟩
      · exact absurd (inv.mem k' _ h2).1 (Nat.lt_irrefl _)
      · rfl

theorem rowOrderOk_of_consecutive (cells : List LCell) (pos : List Pos) : ∀ (rc : List Nat),
    (∀ t c1 c2, rc[t]? = some c1 → rc[t + 1]? = some c2 →
      (posAt pos c1).x + (cellAt cells c1).w ≤ (posAt pos c2).x) → rowOrderOk cells pos rc = true
  | [], _ => by simp [rowOrderOk]
  | [_], _ => by simp [rowOrderOk]
  | c1 :: c2 :: cs, h => by
    rw [rowOrderOk, Bool.and_eq_true, Bool.not_eq_true', decide_eq_false_iff_not, Int.not_lt]
    exact ⟨h 0 c1 c2 rfl rfl, rowOrderOk_of_consecutive cells pos (c2 :: cs) fun t d1 d2 h1 h2 =>
      h (t + 1) d1 d2 (List.getElem?_cons_succ.trans h1) (List.getElem?_cons_succ.trans h2)⟩

/-- `check()` passes when every listed cell lies in its segment, left of the next one listed there -/
theorem abacusCheck_ok {S : List Row} {H : Int} {cells : List LCell} {rcs : List (List Nat)} {P : List Pos}
    (hH : ∀ r ∈ S, r.rect.height = H) (hlen : rcs.length = S.length)
    (h : ∀ k, k < S.length → ∀ (t c : Nat), (rcs.getD k [])[t]? = some c →
      (rowAt S k).rect.minX ≤ (posAt P c).x ∧ (posAt P c).x + (cellAt cells c).w ≤ (rowAt S k).rect.maxX ∧
      ∀ c', (rcs.getD k [])[t + 1]? = some c' → (posAt P c).x + (cellAt cells c).w ≤ (posAt P c').x) :
    abacusCheck S cells rcs P = .ok () := by
  have c1 : (S.all fun r => r.rect.height == ((S.head?.map (·.rect.height)).getD 0)) = true := by
    rw [List.all_eq_true]
    intro r hr
    have hhd : (S.head?.map (·.rect.height)).getD 0 = H := by
      cases S with
      | nil => cases hr
      | cons r0 rs => exact hH r0 List.mem_cons_self
    rw [hhd, hH r hr, beq_self_eq_true]
  have c2 : zipAll (rowBoundsOk cells P) S rcs = true := by
    rw [zipAll_iff]
    intro k r rc h1 h2
    rw [rowBoundsOk, List.all_eq_true]
    intro c hc
    obtain ⟨t, ht⟩ := List.mem_iff_getElem?.mp hc
    obtain ⟨b1, b2, _⟩ := h k (List.getElem?_eq_some_iff.mp h1).1 t c (by rw [ListFacts.getD_of_getElem? h2]; exact ht)
    rw [show rowAt S k = r from ListFacts.getD_of_getElem? h1] at b1 b2
    simpa only [Bool.and_eq_true, Bool.not_eq_true', decide_eq_false_iff_not, Int.not_lt] using ⟨b1, b2⟩
  have c3 : rcs.all (rowOrderOk cells P) = true := by
    rw [List.all_eq_true]
    intro rc hrc
    obtain ⟨k, hk, rfl⟩ := ListFacts.exists_getD_of_mem [] hrc
    exact rowOrderOk_of_consecutive _ _ _ fun t d1 d2 h1 h2 => (h k (hlen ▸ hk) t d1 h1).2.2 d2 h2
  rw [abacusCheck, c1, c2, c3]
  rfl

theorem posAt_setAll_unique {ops : List (Nat × Pos)} {pos : List Pos} {m : Nat} {v : Pos} (hm : m < pos.length)
    (hv : (m, v) ∈ ops) (hu : ∀ v', (m, v') ∈ ops → v' = v) : posAt (setAll ops pos) m = v := by
  rcases posAt_setAll ops pos m hm with ⟨hno, _⟩ | ⟨v', hv', he⟩
  · exact absurd (List.mem_map.mpr ⟨_, hv, rfl⟩) hno
  · exact he.trans (hu v' hv')

/-- after the loop, what `writeRows` leaves at the `t`-th cell listed in segment `k`: the `t`-th entry of that row's
`getPlacement`; no cell is listed twice, so nothing else is written there -/
theorem AbInv.written {S : List Row} {cells : List LCell} {a : Abacus} (inv : AbInv S cells cells.length a) {k t c : Nat}
    (hk : k < S.length) (htc : (a.rowCells.getD k [])[t]? = some c) :
    ∃ x, (placement (legAt a.legs k))[t]? = some x ∧
      posAt (writeRows S cells 0 a.rowCells a.legs (cells.map initPos)) c =
        ⟨x, (rowAt S k).rect.minY, getOrientation S (cellAt cells c) k, true⟩ := by
  obtain ⟨C, hr⟩ := inv.reach k hk
  have hlen := (reach_pointwise hr).1
  simp only [List.reverse_reverse, List.length_map] at hlen
  have ht : t < (a.rowCells.getD k []).length := (List.getElem?_eq_some_iff.mp htc).1
  have hx := List.getElem?_eq_getElem (hlen ▸ ht : t < (placement (legAt a.legs k)).length)
  have hcm := List.mem_of_getElem? htc
  refine ⟨_, hx, ?_⟩
  rw [writeRows_eq]
  refine posAt_setAll_unique (by rw [List.length_map]; exact (inv.mem k c hcm).1)
    ((mem_allWrites _ _ _ _ _ _ _).mpr ⟨k, t, _, inv.clen ▸ hk, inv.llen ▸ hk, htc, hx, by rw [Nat.zero_add]⟩)
    fun v' hv' => ?_
  obtain ⟨k', t', x, h1, _, h3, h4, rfl⟩ := (mem_allWrites _ _ _ _ _ _ _).mp hv'
  obtain rfl : k' = k := inv.uniq k' k c (inv.clen ▸ h1) hk (List.mem_of_getElem? h3) hcm
  obtain rfl : t = t' := (List.getElem?_inj ht (inv.nodup k' hk)).mp (htc.trans h3.symm)
  rw [hx] at h4
  cases h4
  rw [Nat.zero_add]

/-- after the loop `run` returns normally: `check()` passes, by the feasibility of each row legalizer's placement -/
theorem abacusRun_of_inv {R : List Row} {H : Int} {cells : List LCell} {a : Abacus} {oks : List Bool}
    (hH : ∀ r ∈ sortRows R, r.rect.height = H)
    (hA : abacusLoop (Abacus.init R) 0 cells = (a, oks)) (inv : AbInv (sortRows R) cells cells.length a) :
    ∃ P, abacusRun R cells = .ok P ∧ P.length = cells.length ∧
      ∀ k, k < (sortRows R).length → ∀ (t c : Nat), (a.rowCells.getD k [])[t]? = some c →
        ∃ x, (placement (legAt a.legs k))[t]? = some x ∧
          posAt P c = ⟨x, (rowAt (sortRows R) k).rect.minY, getOrientation (sortRows R) (cellAt cells c) k, true⟩ := by
  unfold abacusRun
  rw [hA]
  simp only
  rw [inv.rows]
  have spec := fun k hk t c => inv.written (k := k) (t := t) (c := c) hk
  generalize hP : writeRows (sortRows R) cells 0 a.rowCells a.legs (cells.map initPos) = P at spec ⊢
  rw [abacusCheck_ok hH inv.clen fun k hk t c htc => ?_]
  · exact ⟨P, rfl, by rw [← hP, writeRows_eq, setAll_length, List.length_map], spec⟩
  -- the placement of a row legalizer is feasible (C12), and it is what was written
  obtain ⟨C, hr⟩ := inv.reach k hk
  obtain ⟨x, hx, hpx⟩ := spec k hk t c htc
  obtain ⟨f1, f2, f3⟩ := (reach_pointwise hr).2 t x (cellAt cells c).w (cellAt cells c).tx hx (by
    simp only [List.reverse_reverse, List.getElem?_map, htc, Option.map_some])
  rw [hpx]
  refine ⟨f1, f2, fun c' hc' => ?_⟩
  obtain ⟨x', hx', hpx'⟩ := spec k hk (t + 1) c' hc'
  rw [hpx']
  exact f3 x' hx'

/-- `AbInv`, and every row legalizer is in a no-conflict state: everything pushed into segment `k` lies left of a
bound `lo` that is the segment's begin or the right edge of a cell pushed there (so the next cell of the segment,
which is right of all of them, has `lo ≤ tx`); every listed cell sits in its segment. -/
structure LoopInv (S : List Row) (cells : List LCell) (i : Nat) (a : Abacus) : Prop extends AbInv S cells i a where
  leg : ∀ k, k < S.length → ∃ lo,
    NC (legAt a.legs k) lo (((a.rowCells.getD k []).map fun j => (cellAt cells j).tx).reverse) ∧
    (lo = (rowAt S k).rect.minX ∨
      ∃ j ∈ a.rowCells.getD k [], lo = (cellAt cells j).tx + (cellAt cells j).w)
  seg : ∀ k, k < S.length → ∀ j ∈ a.rowCells.getD k [], InSeg S k (cellAt cells j)

theorem loopInv_init (R : List Row) (cells : List LCell) : LoopInv (sortRows R) cells 0 (Abacus.init R) := by
  refine ⟨AbInv.init R cells, fun k hk => ?_, fun k _ j hj => ?_⟩
  · rw [legAt_init R k hk, rowCells_init]
    exact ⟨_, nc_new _ _, Or.inl rfl⟩
  · rw [rowCells_init] at hj
    cases hj

theorem loopInv_step (S : List Row) (H : Int) (cells : List LCell) (ok : IdemOK S H cells) (i : Nat)
    (a : Abacus) (inv : LoopInv S cells i a) (hi : i < cells.length) :
    LoopInv S cells (i + 1) (abacusPlace a i (cellAt cells i)).1 := by
  have hrows := inv.rows
  subst hrows
  obtain ⟨hH, hw, hinv, k0, hk0, hseg⟩ := ok.seg _ (cellAt_mem cells i hi)
  have hleft : ∀ j ∈ a.rowCells.getD k0 [],
      (cellAt cells j).tx + (cellAt cells j).w ≤ (cellAt cells i).tx := fun j hj =>
    ListFacts.pairwise_getD_of_lt ok.order default (inv.mem k0 j hj).1 hi k0 hk0 (inv.seg k0 hk0 j hj) hseg
  obtain ⟨lo0, hnc0, hlo0⟩ := inv.leg k0 hk0
  obtain ⟨C0, hr0⟩ := inv.reach k0 hk0
  have hlo : lo0 ≤ (cellAt cells i).tx := by
    rcases hlo0 with rfl | ⟨j, hj, rfl⟩
    · exact hseg.2.1
    · exact hleft j hj
  have hor : getOrientation a.rows (cellAt cells i) k0 ≠ Orient.INVALID := by rw [hseg.2.2.2]; exact hinv
  have ctx : SearchCtx a.rows a.legs (cellAt cells i) k0 := by
    refine ⟨hk0, inv.llen, ok.sorted, fun k hk => hH ▸ ok.heights _ (rowAt_mem _ k hk), inv.reach_any, hw, hseg.1,
      ⟨lo0, _, hnc0, hlo⟩, hseg.2.2.1, hor, ?_⟩
    · intro k hk hne hy
      have := ok.disjoint k k0 hk hk0 hne (by rw [hy, hseg.1])
      have h1 := hseg.2.1
      have h2 := hseg.2.2.1
      omega
  rw [ctx.place i]
  have hkl : k0 < a.legs.length := by rw [inv.llen]; exact hk0
  have hkc : k0 < a.rowCells.length := by rw [inv.clen]; exact hk0
  have he : (cellAt cells i).tx + (cellAt cells i).w ≤ (legAt a.legs k0).e := by
    rw [(reach_inv hr0).he]; exact hseg.2.2.1
  refine ⟨inv.toAbInv.placed hk0 hw (nc_fits _ lo0 _ _ _ hnc0 hlo he) hor, fun k hk => ?_, fun k hk j hj => ?_⟩
  · rw [legAt_placed a i _ hkl, rowCells_placed a i _ hkc]
    by_cases hkk : k = k0
    · subst hkk
      rw [if_pos rfl, if_pos rfl, List.map_append, List.reverse_append]
      exact ⟨(cellAt cells i).tx + (cellAt cells i).w, (push_no_conflict _ lo0 _ _ _ hnc0 hw hlo he).2.1,
        Or.inr ⟨i, List.mem_append_right _ (List.mem_singleton_self i), rfl⟩⟩
    · rw [if_neg hkk, if_neg hkk]
      exact inv.leg k hk
  · rcases mem_getD_set_append.mp hj with hj | ⟨rfl, rfl, -⟩
    · exact inv.seg k hk j hj
    · exact hseg

/-- the Abacus pass on an already legal input reports every cell placed where it was, with the orientation it
had; `.ok` includes that `AbacusLegalizer::check` passes -/
theorem abacusRun_fixed (R : List Row) (H : Int) (cells : List LCell) (ok : IdemOK (sortRows R) H cells) :
    abacusRun R cells = .ok (cells.map finalPos) := by
  have inv := abacusLoop_invariant cells (LoopInv (sortRows R) cells)
    (fun i a hi h => loopInv_step _ H cells ok i a h hi) cells.length 0 _ (Nat.zero_add _) (loopInv_init R cells)
  rw [List.drop_zero] at inv
  obtain ⟨P, hrun, hlen, spec⟩ := abacusRun_of_inv ok.heights rfl inv.toAbInv
  rw [hrun]
  congr 1
  apply List.ext_getElem
  · rw [hlen, List.length_map]
  · intro m h1 h2
    have hm : m < cells.length := hlen ▸ h1
    obtain ⟨k, hk, hmk⟩ := inv.cover m hm
    obtain ⟨t, ht⟩ := List.mem_iff_getElem?.mp hmk
    obtain ⟨x, hx, hpx⟩ := spec k hk t m ht
    obtain ⟨_, hnc, _⟩ := inv.leg k hk
    have hseg := inv.seg k hk m hmk
    -- `getPlacement` of segment `k` returns the cells' own x
    rw [placement, hnc.place, List.reverse_reverse, List.getElem?_map, ht] at hx
    cases hx
    rw [← posAt_eq_getElem _ m h1, hpx, List.getElem_map, ← cellAt_eq_getElem cells m hm, finalPos, hseg.1, hseg.2.2.2]

end ColoVerif.Legalize
