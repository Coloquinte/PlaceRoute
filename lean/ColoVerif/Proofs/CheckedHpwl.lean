import ColoVerif.Model.HpwlChecked
import ColoVerif.Proofs.CheckedPinOffset
import ColoVerif.Proofs.C09Hpwl
/-
`Circuit::hpwl()` evaluates without signed overflow on the domain `HpwlDom` and returns the
unbounded model's `Circuit.hpwl` there (the checked twin is `Model/HpwlChecked.lean`).
-/
namespace ColoVerif.Checked
open ColoVerif

/-- a pin whose coordinates stay clear of the `int` limits: cell origin within ±8·10^8, cell size and
pin offsets within ±10^8 (so every pin location is within ±10^9 and every net extent at most
2·10^9 < 2^31) -/
def PinOk (c : Circuit) (p : Pin) : Prop :=
  -800000000 ≤ (c.cell p.cell).x ∧ (c.cell p.cell).x ≤ 800000000 ∧
  -800000000 ≤ (c.cell p.cell).y ∧ (c.cell p.cell).y ≤ 800000000 ∧
  -100000000 ≤ (c.cell p.cell).w ∧ (c.cell p.cell).w ≤ 100000000 ∧
  -100000000 ≤ (c.cell p.cell).h ∧ (c.cell p.cell).h ≤ 100000000 ∧
  -100000000 ≤ p.xo ∧ p.xo ≤ 100000000 ∧ -100000000 ≤ p.yo ∧ p.yo ≤ 100000000

instance (c : Circuit) (p : Pin) : Decidable (PinOk c p) := by unfold PinOk; exact inferInstance

/-- the domain of `hpwlC_ok` (C09 `hpwl_no_overflow`): 2^30 nets of half-perimeter at most 4·10^9 keep the
`long long` sum below 4.6·10^18 < 2^63 -/
def HpwlDom (c : Circuit) : Prop :=
  c.nets.length ≤ 1073741824 ∧ ∀ n ∈ c.nets, ∀ p ∈ n.pins, PinOk c p

instance (c : Circuit) : Decidable (HpwlDom c) := by unfold HpwlDom; exact inferInstance

theorem originPlusOffsetC_ok {s : String} {offC : Except Fault Int} {x off : Int}
    (hx : -800000000 ≤ x ∧ x ≤ 800000000) (ho : offC = .ok off ∧ -200000000 ≤ off ∧ off ≤ 200000000) :
    andThen offC (addI32 s x) = .ok (x + off) ∧ -1000000000 ≤ x + off ∧ x + off ≤ 1000000000 := by
  obtain ⟨e, l, u⟩ := ho
  rw [e]
  exact ⟨chk32_between (add_between hx ⟨l, u⟩), Int.add_le_add hx.1 l, Int.add_le_add hx.2 u⟩

theorem pinXC_ok (c : Circuit) (p : Pin) (h : PinOk c p) :
    pinXC c p = .ok (c.pinX p) ∧ -1000000000 ≤ c.pinX p ∧ c.pinX p ≤ 1000000000 := by
  obtain ⟨hx1, hx2, _, _, hw1, hw2, hh1, hh2, hxo1, hxo2, hyo1, hyo2⟩ := h
  exact originPlusOffsetC_ok ⟨hx1, hx2⟩ (pinXOffsetC_of_bounds (W := 100000000) (O := 100000000)
    (placedWidth_bounds ⟨hw1, hw2⟩ ⟨hh1, hh2⟩) ⟨hxo1, hxo2⟩ ⟨hyo1, hyo2⟩ (by decide))

theorem pinYC_ok (c : Circuit) (p : Pin) (h : PinOk c p) :
    pinYC c p = .ok (c.pinY p) ∧ -1000000000 ≤ c.pinY p ∧ c.pinY p ≤ 1000000000 := by
  obtain ⟨_, _, hy1, hy2, hw1, hw2, hh1, hh2, hxo1, hxo2, hyo1, hyo2⟩ := h
  exact originPlusOffsetC_ok ⟨hy1, hy2⟩ (pinYOffsetC_of_bounds (H := 100000000) (O := 100000000)
    (placedHeight_bounds ⟨hw1, hw2⟩ ⟨hh1, hh2⟩) ⟨hxo1, hxo2⟩ ⟨hyo1, hyo2⟩ (by decide))

theorem mapPinsC_ok (f : Pin → Except Fault Int) (g : Pin → Int) :
    ∀ ps : List Pin, (∀ p ∈ ps, f p = .ok (g p)) → mapPinsC f ps = .ok (ps.map g)
  | [], _ => rfl
  | p :: ps, h => by
    have hp := h p (by simp)
    have ih := mapPinsC_ok f g ps (fun q hq => h q (by simp [hq]))
    simp only [mapPinsC, hp, ih, andThen, List.map_cons]

theorem netHpwlC_ok (c : Circuit) (acc : Int) (n : Net) (h : ∀ p ∈ n.pins, PinOk c p)
    (ha0 : 0 ≤ acc) (ha : acc ≤ 4600000000000000000) :
    netHpwlC c acc n = .ok (acc + c.netHpwl n) ∧ 0 ≤ c.netHpwl n ∧ c.netHpwl n ≤ 4000000000 := by
  unfold netHpwlC Circuit.netHpwl
  cases hp : n.pins with
  | nil => simp [Circuit.lmax, Circuit.lmin]
  | cons p ps =>
    rw [hp] at h
    have ex := mapPinsC_ok (pinXC c) c.pinX (p :: ps) (fun q hq => (pinXC_ok c q (h q hq)).1)
    have ey := mapPinsC_ok (pinYC c) c.pinY (p :: ps) (fun q hq => (pinYC_ok c q (h q hq)).1)
    have bx := C09.lmin_lmax_within 0 0 ((p :: ps).map c.pinX) (by simp)
      (List.forall_mem_map.2 fun q hq => (pinXC_ok c q (h q hq)).2)
    have by' := C09.lmin_lmax_within 0 0 ((p :: ps).map c.pinY) (by simp)
      (List.forall_mem_map.2 fun q hq => (pinYC_ok c q (h q hq)).2)
    simp only [ex, ey, andThen]
    -- from here on only the two coordinate lists matter
    generalize (p :: ps).map c.pinX = xs at bx ⊢
    generalize (p :: ps).map c.pinY = ys at by' ⊢
    obtain ⟨e1, dx0, dx1⟩ := extentI32_ok bx (by decide)
    obtain ⟨e2, dy0, dy1⟩ := extentI32_ok by' (by decide)
    simp only [checked, e1, e2, chk64_between (add_between ⟨ha0, ha⟩ ⟨dx0, dx1⟩),
      chk64_between (add_between ⟨Int.add_le_add ha0 dx0, Int.add_le_add ha dx1⟩ ⟨dy0, dy1⟩)]
    exact ⟨by rw [Int.add_assoc], by omega, by omega⟩

theorem hpwlLoopC_ok (c : Circuit) : ∀ (ns : List Net) (acc : Int),
    (∀ n ∈ ns, ∀ p ∈ n.pins, PinOk c p) → 0 ≤ acc →
    acc + 4000000000 * (ns.length : Int) ≤ 4600000000000000000 →
    hpwlLoopC c acc ns = .ok (acc + (ns.map c.netHpwl).sum)
  | [], acc, _, _, _ => by simp [hpwlLoopC]
  | n :: ns, acc, h, h0, hb => by
    simp only [List.length_cons, Int.natCast_add, Int.natCast_one] at hb
    obtain ⟨e, l, u⟩ := netHpwlC_ok c acc n (h n (by simp)) h0 (by omega)
    have ih := hpwlLoopC_ok c ns (acc + c.netHpwl n) (fun m hm => h m (by simp [hm])) (by omega) (by omega)
    simp only [hpwlLoopC, e, andThen, ih, List.map_cons, List.sum_cons]
    congr 1
    omega

theorem hpwlC_ok (c : Circuit) (h : HpwlDom c) : hpwlC c = .ok c.hpwl := by
  obtain ⟨hl, hp⟩ := h
  have := hpwlLoopC_ok c c.nets 0 hp (by omega) (by omega)
  simpa [hpwlC, Circuit.hpwl] using this

/-- why `hpwl()` adds the two extents separately: two cells at (±6·10^8, ±6·10^8), the net is 1.2·10^9 wide and
high (each fits an `int`), their sum 2.4·10^9 does not -/
def diagonalWitness : Circuit :=
  { cells := [{ w := 10, h := 10, x := -600000000, y := -600000000, orient := .N, fixed := false, obstruction := false, pol := .ANY },
              { w := 10, h := 10, x := 600000000, y := 600000000, orient := .N, fixed := false, obstruction := false, pol := .ANY }],
    nets := [{ wMant := 1, wExp := 0, pins := [⟨0, 0, 0⟩, ⟨1, 0, 0⟩] }],
    rows := [] }

theorem diagonalWitness_in_dom : HpwlDom diagonalWitness := by decide

/-- the code (extents added separately, in 64 bits) is exact on the witness … -/
theorem diagonalWitness_hpwl : hpwlC diagonalWitness = .ok 2400000000 := by decide

/-- … whereas summing the two extents in `int` first overflows on it -/
theorem hpwl_sum32_can_fault :
    netHpwlSum32C diagonalWitness 0 (diagonalWitness.nets.getD 0 default)
      = .error (.intOverflow "width() + height()") := rfl

end ColoVerif.Checked
