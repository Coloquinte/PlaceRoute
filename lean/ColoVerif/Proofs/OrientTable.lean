import ColoVerif.Model.OrientRule
/-
The orientation tables are finite (10 orientations × 5 polarities): a statement about every entry follows from
checking the entries (`forall_table`).  What the generated `cellOrientationInRow` answers for a declared polarity
(`orientInRow_eight`, `orientInRow_known`; `table_known` for the hand-written table) and what the shared orientation
rule makes of it (`assignedOrientation_of_polarity`).  Used by Properties/C04.lean, whose `IsEight o` is
`o ∈ Orient.eight`, and by Proofs/OrientDetailed.
-/
namespace ColoVerif.C04
open ColoVerif OrientRule

/-- `Orient.all` lists the orientations in the order of their codes -/
theorem mem_orient_all (o : Orient) : o ∈ Orient.all :=
  List.mem_of_getElem? (i := o.code) (by cases o <;> rfl)

theorem mem_polarity_all (p : Polarity) : p ∈ Polarity.all :=
  List.mem_of_getElem? (i := p.code) (by cases p <;> rfl)

theorem forall_orient {P : Orient → Prop} (h : ∀ o ∈ Orient.all, P o) (o : Orient) : P o :=
  h o (mem_orient_all o)

theorem forall_table {P : Polarity → Orient → Prop} (h : ∀ p ∈ Polarity.all, ∀ o ∈ Orient.all, P p o)
    (p : Polarity) (o : Orient) : P p o :=
  h p (mem_polarity_all p) o (mem_orient_all o)

/-- the hand-written table of the shared model is the one generated from the C++ -/
theorem gen_cellOrientationInRow_eq :
    ∀ (p : Polarity) (o : Orient), Gen.cellOrientationInRow p o = cellOrientationInRow p o :=
  forall_table (by decide +kernel)

theorem eight_ne_unknown {o : Orient} (h : o ∈ Orient.eight) : o ≠ .UNKNOWN := by
  rintro rfl; revert h; decide

theorem eight_ne_invalid {o : Orient} (h : o ∈ Orient.eight) : o ≠ .INVALID := by
  rintro rfl; revert h; decide

theorem orientInRow_eight :
    ∀ (p : Polarity) (o : Orient), p ≠ .ANY → o ≠ .UNKNOWN → Gen.cellOrientationInRow p o ≠ .INVALID →
      Gen.cellOrientationInRow p o ∈ Orient.eight :=
  forall_table (by decide +kernel)

theorem orientInRow_known :
    ∀ (p : Polarity) (o : Orient), p ≠ .ANY → o ≠ .UNKNOWN → Gen.cellOrientationInRow p o ≠ .UNKNOWN :=
  forall_table (by decide +kernel)

theorem table_known (p : Polarity) (o : Orient) (hp : p ≠ .ANY) (ho : o ≠ .UNKNOWN) :
    cellOrientationInRow p o ≠ .UNKNOWN :=
  gen_cellOrientationInRow_eq p o ▸ orientInRow_known p o hp ho

theorem assignedOrientation_of_polarity {pol : Polarity} {row : Orient} (cur : Orient) (hp : pol ≠ .ANY)
    (hr : row ∈ Orient.eight) : assignedOrientation pol row cur = Gen.cellOrientationInRow pol row :=
  if_neg (by simpa using orientInRow_known pol row hp (eight_ne_unknown hr))

theorem assignedOrientation_any (row cur : Orient) : assignedOrientation .ANY row cur = cur := rfl

theorem rowAllowed_iff (pol : Polarity) (row : Orient) :
    rowAllowed pol row = true ↔ Gen.cellOrientationInRow pol row ≠ .INVALID := by
  simp [rowAllowed]

end ColoVerif.C04
