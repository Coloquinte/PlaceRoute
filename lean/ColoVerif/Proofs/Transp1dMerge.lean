import ColoVerif.Proofs.Overlap1d
import ColoVerif.Proofs.Transp1dTerm
import ColoVerif.Proofs.Transp1dCert
/-
`computeSolution`: the two-pointer merge of the source intervals `[S i + p i, S (i+1) + p i]`
with the sink intervals `[D j, D (j+1)]`.  For ordered, disjoint source intervals the plan it
returns has, for every pair `(i, j)`, exactly the length of the overlap of the two intervals
(`solLoop_spec`).  A row sum is then the sum of the overlaps of one source with all sinks, which
telescopes to the part of the source inside `[D 0, D.back()]`; a column sum is the sum of the
overlaps of the disjoint sources with one sink, at most the length of the sink.
-/
namespace ColoVerif.Transp1d

/-- start of source `i` on the cumulative-demand axis -/
def lo (sv : Solver) (p : List Int) (i : Nat) : Int := sv.S.getD i 0 + p.getD i 0

/-- end of source `i` on the cumulative-demand axis -/
def hi (sv : Solver) (p : List Int) (i : Nat) : Int := sv.S.getD (i + 1) 0 + p.getD i 0

/-- length of the overlap of source `i` with sink `j` -/
def ov (sv : Solver) (p : List Int) (i j : Nat) : Int :=
  max 0 (min (hi sv p i) (sv.D.getD (j + 1) 0) - max (lo sv p i) (sv.D.getD j 0))

/-- the source intervals `[lo i, hi i]` are non-empty and lie one after the other; `D` is monotone -/
structure Geo (sv : Solver) (p : List Int) : Prop where
  wf : sv.WF
  len : p.length = sv.u.length
  lohi : ∀ i, i < sv.u.length → lo sv p i < hi sv p i
  ord : ∀ i i', i < i' → i' < sv.u.length → hi sv p i ≤ lo sv p i'
  Dmono : ∀ a b, a ≤ b → b ≤ sv.v.length → sv.D.getD a 0 ≤ sv.D.getD b 0

/-- amount shipped from `k` to `l` -/
def cellSum : Plan → Nat → Nat → Int
  | [], _, _ => 0
  | (i, j, a) :: es, k, l => (if i = k ∧ j = l then a else 0) + cellSum es k l

/-- `if (e - b > 0) ret.emplace_back(i, j, e - b)` -/
def emit (i j : Nat) (a : Int) (rest : Plan) : Plan := if 0 < a then (i, j, a) :: rest else rest

theorem mem_emit (i j : Nat) (a : Int) (rest : Plan) (x : Nat × Nat × Int) :
    x ∈ emit i j a rest → (x = (i, j, a) ∧ 0 < a) ∨ x ∈ rest := by
  unfold emit
  split
  · intro h
    rcases List.mem_cons.mp h with h | h
    · exact Or.inl ⟨h, by assumption⟩
    · exact Or.inr h
  · exact Or.inr

theorem cellSum_emit (i j : Nat) (a : Int) (rest : Plan) (k l : Nat) :
    cellSum (emit i j a rest) k l = (if i = k ∧ j = l then max 0 a else 0) + cellSum rest k l := by
  unfold emit
  split
  · rw [cellSum, Int.max_eq_right (by omega)]
  · rw [Int.max_eq_left (by omega)]
    split <;> omega

theorem rowSum_zero (plan : Plan) (k : Nat) (h : ∀ e ∈ plan, e.1 ≠ k) : rowSum plan k = 0 := by
  induction plan with
  | nil => rfl
  | cons e es ih =>
    obtain ⟨i, j, a⟩ := e
    have h1 : i ≠ k := h (i, j, a) (List.mem_cons_self ..)
    simp only [rowSum, h1, if_false, ih (fun e he => h e (List.mem_cons_of_mem _ he))]
    rfl

theorem colSum_zero (plan : Plan) (k : Nat) (h : ∀ e ∈ plan, e.2.1 ≠ k) : colSum plan k = 0 := by
  induction plan with
  | nil => rfl
  | cons e es ih =>
    obtain ⟨i, j, a⟩ := e
    have h1 : j ≠ k := h (i, j, a) (List.mem_cons_self ..)
    simp only [colSum, h1, if_false, ih (fun e he => h e (List.mem_cons_of_mem _ he))]
    rfl

theorem cellSum_zero (plan : Plan) (k l : Nat) (h : ∀ e ∈ plan, ¬ (e.1 = k ∧ e.2.1 = l)) :
    cellSum plan k l = 0 := by
  induction plan with
  | nil => rfl
  | cons e es ih =>
    obtain ⟨i, j, a⟩ := e
    have h1 : ¬ (i = k ∧ j = l) := h (i, j, a) (List.mem_cons_self ..)
    simp only [cellSum, h1, if_false, ih (fun e he => h e (List.mem_cons_of_mem _ he))]
    rfl

theorem rowSum_eq_sumTo_cellSum (plan : Plan) (m : Nat) (h : ∀ e ∈ plan, e.2.1 < m) (k : Nat) :
    rowSum plan k = sumTo m (cellSum plan k) := by
  induction plan with
  | nil => exact (sumTo_zero m).symm
  | cons e es ih =>
    obtain ⟨i, j, a⟩ := e
    have hj : j < m := h (i, j, a) (List.mem_cons_self ..)
    have ih' := ih (fun e he => h e (List.mem_cons_of_mem _ he))
    by_cases hk : i = k
    · have e1 : cellSum ((i, j, a) :: es) k = fun l => (if j = l then a else 0) + cellSum es k l := by
        funext l; simp only [cellSum, hk, true_and]
      rw [e1, sumTo_ite_add, if_pos hj, rowSum, if_pos hk, ih']
    · have e1 : cellSum ((i, j, a) :: es) k = cellSum es k := by
        funext l; simp only [cellSum, hk, false_and, if_false]; omega
      rw [e1, rowSum, if_neg hk, ih']; omega

theorem colSum_eq_sumTo_cellSum (plan : Plan) (n : Nat) (h : ∀ e ∈ plan, e.1 < n) (l : Nat) :
    colSum plan l = sumTo n (fun k => cellSum plan k l) := by
  induction plan with
  | nil => exact (sumTo_zero n).symm
  | cons e es ih =>
    obtain ⟨i, j, a⟩ := e
    have hi : i < n := h (i, j, a) (List.mem_cons_self ..)
    have ih' := ih (fun e he => h e (List.mem_cons_of_mem _ he))
    by_cases hl : j = l
    · have e1 : (fun k => cellSum ((i, j, a) :: es) k l)
          = fun k => (if i = k then a else 0) + cellSum es k l := by
        funext k; simp only [cellSum, hl, and_true]
      rw [e1, sumTo_ite_add, if_pos hi, colSum, if_pos hl, ih']
    · have e1 : (fun k => cellSum ((i, j, a) :: es) k l) = fun k => cellSum es k l := by
        funext k; simp only [cellSum, hl, and_false, if_false]; omega
      rw [e1, colSum, if_neg hl, ih']; omega

/-- `[a, b]` meets `(-∞, l]` and `[l, h]` in no more than it meets `(-∞, t]`, for `h ≤ t` -/
theorem overlap_add_le (a b l h t : Int) (hlh : l ≤ h) (hht : h ≤ t) :
    max 0 (min b l - a) + max 0 (min h b - max l a) ≤ max 0 (min b t - a) := by
  -- `(-∞, l]` and `[l, h]` are adjacent, and `(-∞, h] ⊆ (-∞, t]`
  have e := ov1_add a b (Int.min_le_right a l) hlh
  unfold ov1 at e
  rw [Int.max_eq_left (Int.min_le_left a l)] at e
  rw [Int.min_comm h b, Int.max_comm l a, ← e]
  exact Int.max_le.mpr ⟨Int.le_max_left .., Int.le_trans (Int.sub_le_sub_right
    (Int.le_min.mpr ⟨Int.min_le_left .., Int.le_trans (Int.min_le_right ..) hht⟩) a)
    (Int.le_max_right ..)⟩

theorem sumTo_ov_row (sv : Solver) (p : List Int) (geo : Geo sv p) (i m : Nat) (hm : m ≤ sv.v.length) :
    sumTo m (ov sv p i)
      = max 0 (min (Transp1d.hi sv p i) (sv.D.getD m 0) - max (lo sv p i) (sv.D.getD 0 0)) := by
  induction m with
  | zero => rw [sumTo]; omega
  | succ m ih =>
    rw [sumTo, ih (by omega), ov]
    exact (ov1_add _ _ (geo.Dmono 0 m (Nat.zero_le _) (by omega))
      (geo.Dmono m (m + 1) (by omega) hm)).symm

/-- the first `n` sources, all ending by `t`, cover at most `[D j, t]` of sink `j` -/
theorem sumTo_ov_col_le (sv : Solver) (p : List Int) (geo : Geo sv p) (j n : Nat)
    (hn : n ≤ sv.u.length) (t : Int) (ht : ∀ i, i < n → Transp1d.hi sv p i ≤ t) :
    sumTo n (fun i => ov sv p i j)
      ≤ max 0 (min (sv.D.getD (j + 1) 0) t - sv.D.getD j 0) := by
  induction n generalizing t with
  | zero => rw [sumTo]; omega
  | succ n ih =>
    have h1 := ih (by omega) (lo sv p n) (fun i hi => geo.ord i n hi (by omega))
    have h2 := overlap_add_le (sv.D.getD j 0) (sv.D.getD (j + 1) 0) (lo sv p n) (Transp1d.hi sv p n) t
      (Int.le_of_lt (geo.lohi n (by omega))) (ht n (Nat.lt_succ_self n))
    rw [sumTo, ov]
    omega

theorem sumTo_ov_col (sv : Solver) (p : List Int) (geo : Geo sv p) (j : Nat) (hj : j < sv.v.length) :
    sumTo sv.u.length (fun i => ov sv p i j) ≤ sv.D.getD (j + 1) 0 - sv.D.getD j 0 := by
  have hD := geo.Dmono j (j + 1) (by omega) (by omega)
  cases hn : sv.u.length with
  | zero => rw [sumTo]; omega
  | succ n =>
    have := sumTo_ov_col_le sv p geo j (n + 1) (by omega) (Transp1d.hi sv p n) (fun i hi => by
      by_cases h : i = n
      · subst h; exact Int.le_refl _
      · have := geo.ord i n (by omega) (by omega)
        have := geo.lohi n (by omega)
        omega)
    omega

theorem subset_of_overlap_eq (l h a b : Int) (hlh : l < h) (hov : max 0 (min h b - max l a) = h - l) :
    a ≤ l ∧ h ≤ b := by
  omega

/-- what the merge started at `(i, j)` returns: entries in the remaining rectangle, whose cells
hold the overlaps -/
structure MergePost (sv : Solver) (p : List Int) (i j : Nat) (plan : Plan) : Prop where
  ent : ∀ e ∈ plan, i ≤ e.1 ∧ e.1 < sv.u.length ∧ j ≤ e.2.1 ∧ e.2.1 < sv.v.length ∧ 0 < e.2.2
  cell : ∀ i' j', i ≤ i' → i' < sv.u.length → j ≤ j' → j' < sv.v.length →
    cellSum plan i' j' = ov sv p i' j'

theorem MergePost.nil {sv : Solver} {p : List Int} {i j : Nat}
    (h : i = sv.u.length ∨ j = sv.v.length) : MergePost sv p i j [] :=
  ⟨by simp, fun i' j' h1 h2 h3 h4 => by omega⟩

/-- one step of the merge: `(i, j)` gets its overlap; the rest of row `i` (when the source ends
first) or of column `j` (when the sink ends first) is empty, in the plan and geometrically. -/
theorem MergePost.emit {sv : Solver} {p : List Int} {i j i1 j1 : Nat} {rest : Plan}
    (post : MergePost sv p i1 j1 rest) (hi : i < sv.u.length) (hj : j < sv.v.length)
    (hstep : (i1 = i + 1 ∧ j1 = j ∧ ∀ j', j < j' → j' < sv.v.length → ov sv p i j' = 0) ∨
      (i1 = i ∧ j1 = j + 1 ∧ ∀ i', i < i' → i' < sv.u.length → ov sv p i' j = 0)) :
    MergePost sv p i j
      (Transp1d.emit i j (min (Transp1d.hi sv p i) (sv.D.getD (j + 1) 0)
        - max (lo sv p i) (sv.D.getD j 0)) rest) := by
  constructor
  · intro x hx
    rcases mem_emit _ _ _ _ _ hx with ⟨rfl, h0⟩ | hx
    · exact ⟨Nat.le_refl _, hi, Nat.le_refl _, hj, h0⟩
    · have := post.ent x hx; omega
  · intro i' j' h1 h2 h3 h4
    rw [cellSum_emit]
    by_cases heq : i = i' ∧ j = j'
    · obtain ⟨rfl, rfl⟩ := heq
      rw [if_pos ⟨rfl, rfl⟩, cellSum_zero rest i j (fun x hx => by have := post.ent x hx; omega)]
      unfold ov; omega
    · rw [if_neg heq, Int.zero_add]
      rcases hstep with ⟨rfl, rfl, hz⟩ | ⟨rfl, rfl, hz⟩
      · by_cases hi' : i = i'
        · subst hi'
          rw [hz j' (by omega) h4]
          exact cellSum_zero rest i j' (fun x hx => by have := post.ent x hx; omega)
        · exact post.cell i' j' (by omega) h2 h3 h4
      · by_cases hj' : j = j'
        · subst hj'
          rw [hz i' (by omega) h2]
          exact cellSum_zero rest i' j (fun x hx => by have := post.ent x hx; omega)
        · exact post.cell i' j' h1 h2 (by omega) h4

theorem solLoop_spec (sv : Solver) (p : List Int) (geo : Geo sv p) (k i j : Nat)
    (hk : sv.u.length + sv.v.length ≤ k + i + j) (hin : i ≤ sv.u.length) (hjm : j ≤ sv.v.length) :
    ∃ plan, solLoop sv p k i j = .ok plan ∧ MergePost sv p i j plan := by
  have wf := geo.wf
  induction k generalizing i j with
  | zero => exact ⟨[], rfl, .nil (by omega)⟩
  | succ k ih =>
    unfold solLoop
    by_cases hc : i < p.length ∧ j < sv.nbSinks
    · have hi1 : i < sv.u.length := by rw [← geo.len]; exact hc.1
      have hj1 : j < sv.v.length := hc.2
      simp only [hc, and_self, if_true, get_ok p i hc.1 0, wf.getS (Nat.le_of_lt hi1),
        wf.getS (i := i + 1) hi1, wf.getD (Nat.le_of_lt hj1), wf.getD (j := j + 1) hj1, bind, Except.bind,
        pure, Except.pure]
      by_cases hadv : sv.S.getD (i + 1) 0 + p.getD i 0 < sv.D.getD (j + 1) 0
      · obtain ⟨rest, e, post⟩ := ih (i + 1) j (by omega) (by omega) hjm
        rw [if_pos hadv, e]
        refine ⟨_, rfl, post.emit hi1 hj1 (Or.inl ⟨rfl, rfl, fun j' h1 h2 => ?_⟩)⟩
        have := geo.Dmono (j + 1) j' (by omega) (by omega)
        exact ov1_of_not_meet (Or.inr (by unfold Transp1d.hi; omega))
      · obtain ⟨rest, e, post⟩ := ih i (j + 1) (by omega) hin (by omega)
        rw [if_neg hadv, e]
        refine ⟨_, rfl, post.emit hi1 hj1 (Or.inr ⟨rfl, rfl, fun i' h1 h2 => ?_⟩)⟩
        have := geo.ord i i' h1 h2
        exact ov1_of_not_meet (Or.inl (by unfold Transp1d.hi at this; omega))
    · rw [if_neg hc]
      have hc' : ¬ (i < sv.u.length ∧ j < sv.v.length) := by rw [← geo.len]; exact hc
      exact ⟨[], rfl, .nil (by omega)⟩

theorem computeSolution_merge (sv : Solver) (p : List Int) (geo : Geo sv p) :
    ∃ plan, computeSolution sv p = .ok plan ∧ MergePost sv p 0 0 plan :=
  solLoop_spec sv p geo _ 0 0 (by rw [geo.len]; exact Nat.le_refl _) (Nat.zero_le _) (Nat.zero_le _)

theorem MergePost.row {sv : Solver} {p : List Int} {plan : Plan} (post : MergePost sv p 0 0 plan)
    (geo : Geo sv p) {i : Nat} (hi : i < sv.u.length) :
    rowSum plan i = max 0 (min (Transp1d.hi sv p i) (sv.D.getD sv.v.length 0)
      - max (lo sv p i) (sv.D.getD 0 0)) := by
  rw [rowSum_eq_sumTo_cellSum plan _ (fun x hx => (post.ent x hx).2.2.2.1),
    sumTo_congr _ _ _ (fun j hj => post.cell i j (Nat.zero_le _) hi (Nat.zero_le _) hj)]
  exact sumTo_ov_row sv p geo i _ (Nat.le_refl _)

theorem MergePost.col {sv : Solver} {p : List Int} {plan : Plan} (post : MergePost sv p 0 0 plan)
    (geo : Geo sv p) {j : Nat} (hj : j < sv.v.length) :
    colSum plan j ≤ sv.D.getD (j + 1) 0 - sv.D.getD j 0 := by
  rw [colSum_eq_sumTo_cellSum plan _ (fun x hx => (post.ent x hx).2.1),
    sumTo_congr _ _ _ (fun i hi => post.cell i j (Nat.zero_le _) hi (Nat.zero_le _) hj)]
  exact sumTo_ov_col sv p geo j hj

theorem cellSum_nonneg (plan : Plan) (h : ∀ e ∈ plan, 0 < e.2.2) (k l : Nat) : 0 ≤ cellSum plan k l := by
  induction plan with
  | nil => simp [cellSum]
  | cons x xs ih =>
    obtain ⟨i, j, a⟩ := x
    have h1 : 0 < a := h (i, j, a) (List.mem_cons_self ..)
    have h2 := ih (fun e he => h e (List.mem_cons_of_mem _ he))
    simp only [cellSum]
    split <;> omega

theorem cellSum_pos (plan : Plan) (h : ∀ e ∈ plan, 0 < e.2.2) (e0 : Nat × Nat × Int)
    (he0 : e0 ∈ plan) : 0 < cellSum plan e0.1 e0.2.1 := by
  induction plan with
  | nil => simp at he0
  | cons x xs ih =>
    obtain ⟨i, j, a⟩ := x
    have h1 : 0 < a := h (i, j, a) (List.mem_cons_self ..)
    have hxs : ∀ e ∈ xs, 0 < e.2.2 := fun e he => h e (List.mem_cons_of_mem _ he)
    simp only [cellSum]
    rcases List.mem_cons.mp he0 with rfl | he
    · have := cellSum_nonneg xs hxs i j
      simp only [and_self, if_true]
      omega
    · have := ih hxs he
      split <;> omega

end ColoVerif.Transp1d
