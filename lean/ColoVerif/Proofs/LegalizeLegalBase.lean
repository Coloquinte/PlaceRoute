import ColoVerif.Proofs.LegalizeLegalAbacus
/-
`Legalizer::run` on the `LegalizerBase` level (C01 `legalize_legal`, C04 `legalize_orient`): `run_spec`, two passes.
Each pass works on `remainingRows`, the free space of the rows minus the cells placed so far: its segments are pieces of
rows, with the row's orientation, and miss every placed cell; `importLegalization` copies the statuses of the cells it
placed into the main legalizer.  So a pass that is `PassOK` relative to its segments (`tetrisRun_pass`, `abacusRun_ok`)
keeps the main legalizer `Legal`, which is `PassOK` relative to the rows themselves (`pass_legal`).
-/
namespace ColoVerif.Legalize
open ColoVerif

/-- a non-zero height marks an index in range: out of range `cellAt` is the default cell, of height 0 -/
theorem cellAt_valid (L : List LCell) (m : Nat) (h : (cellAt L m).h ≠ 0) : m < L.length ∧ cellAt L m ∈ L := by
  by_cases hm : m < L.length
  · exact ⟨hm, cellAt_mem L m hm⟩
  · exact absurd (by rw [cellAt, ListFacts.getD_of_le _ (Nat.le_of_not_lt hm)]; rfl) h

theorem rowHeight?_eq {H : Int} {rows : List Row} (hok : RowsOK H rows) (h : Int) (hr : rowHeight? rows = some h) :
    h = H := by
  unfold rowHeight? at hr
  cases rows with
  | nil => simp at hr
  | cons r rs =>
    simp only [List.head?_cons, Option.map_some, Option.some.injEq] at hr
    have := hok.height r (by simp)
    simp only [Rect.height] at hr
    omega

theorem importPos_spec (sel : List Nat) (ps P : List Pos) (m : Nat) :
    posAt (importPos sel ps P) m = posAt P m ∨
      ∃ i : Nat, sel[i]? = some m ∧ (posAt ps i).placed = true ∧ posAt (importPos sel ps P) m = posAt ps i := by
  rw [importPos_eq]
  by_cases hm : m < P.length
  · rcases posAt_setAll _ P m hm with ⟨_, h⟩ | ⟨v, hv, h⟩
    · exact Or.inl h
    · obtain ⟨hz, hp⟩ := List.mem_filter.mp hv
      obtain ⟨i, hi⟩ := List.mem_iff_getElem?.mp hz
      obtain ⟨h1, h2⟩ := List.getElem?_zip_eq_some.mp hi
      rw [← show posAt ps i = v from ListFacts.getD_of_getElem? h2] at hp h
      exact Or.inr ⟨i, h1, hp, h⟩
  · left
    rw [posAt, posAt, ListFacts.getD_of_le _ (by rw [setAll_length]; omega), ListFacts.getD_of_le _ (by omega)]

theorem placedRects_mem : ∀ (L : List LCell) (P : List Pos) (m : Nat), m < L.length → (posAt P m).placed = true →
    cellRect L P m ∈ placedRects L P := by
  intro L
  induction L with
  | nil => exact fun _ _ hm => nomatch hm
  | cons c0 cs ih =>
    intro P m hm h
    cases P with
    | nil => cases h
    | cons p0 ps =>
      rw [placedRects]
      cases m with
      | zero =>
        rw [if_pos (show p0.placed = true from h)]
        exact List.mem_cons_self
      | succ m =>
        have := ih ps m (Nat.lt_of_succ_lt_succ hm) h
        split
        · exact List.mem_cons_of_mem _ this
        · exact this

def CellsOK (H : Int) (L : List LCell) : Prop :=
  ∀ c ∈ L, 0 < c.w ∧ (∃ k : Nat, 1 ≤ k ∧ c.h = hk H k) ∧ (c.pol ≠ Polarity.ANY → c.torient.isTurn = false)

theorem runTetris_eq {H : Int} {R : List Row} (hok : RowsOK H R) {b0 b1 : Base} {order : List Nat}
    (hrows : b0.rows = sortRows R) (h : runTetris b0 order = .ok b1) :
    b1 = b0 ∨
    b1 = { b0 with pos := importPos (tetrisSel b0 H order)
                            (tetrisRun (Tetris.init b0.remainingRows) ((tetrisSel b0 H order).map (cellAt b0.cells)))
                            b0.pos } := by
  unfold runTetris at h
  split at h
  · split at h
    · exact Or.inl (Except.ok.inj h).symm
    · cases h
  · rename_i rowH hrh
    rw [hrows] at hrh
    rw [rowHeight?_eq hok.sort rowH hrh] at h
    exact Or.inr (Except.ok.inj h).symm

theorem runAbacus_eq {H : Int} {R : List Row} (hok : RowsOK H R) {b1 b2 : Base} {order : List Nat}
    (hrows : b1.rows = sortRows R) (h : runAbacus b1 order = .ok b2) :
    b2 = b1 ∨
    ∃ ps, abacusRun b1.remainingRows ((abacusSel b1 H order).map (cellAt b1.cells)) = .ok ps ∧
      b2 = { b1 with pos := importPos (abacusSel b1 H order) ps b1.pos } := by
  unfold runAbacus at h
  split at h
  · split at h
    · exact Or.inl (Except.ok.inj h).symm
    · cases h
  · rename_i rowH hrh
    rw [hrows] at hrh
    rw [rowHeight?_eq hok.sort rowH hrh] at h
    split at h
    · cases h
    · rename_i ps hA
      exact Or.inr ⟨ps, hA, (Except.ok.inj h).symm⟩

theorem tetrisSel_mem {b : Base} {H : Int} {order : List Nat} {m : Nat} (hm : m ∈ tetrisSel b H order) :
    H < (cellAt b.cells m).h := by
  simp only [tetrisSel, List.mem_filter, Bool.and_eq_true, Bool.not_eq_true', decide_eq_false_iff_not] at hm
  omega

theorem abacusSel_mem {b : Base} {H : Int} {order : List Nat} {m : Nat} (hm : m ∈ abacusSel b H order) :
    (cellAt b.cells m).h = H := by
  simp only [abacusSel, List.mem_filter, Bool.and_eq_true, Bool.not_eq_true', decide_eq_false_iff_not,
    Decidable.not_not] at hm
  exact hm.2.2

/-- the statuses `P` of the cells `L` are legal in the rows `R`: `PassOK` relative to the rows themselves -/
def Legal (H : Int) (R : List Row) (L : List LCell) (P : List Pos) : Prop :=
  P.length = L.length ∧ PassOK H R L P

theorem legal_init (H : Int) (R : List Row) (L : List LCell) : Legal H R L (L.map initPos) :=
  ⟨by simp, fun m hm => (by rw [posAt_init] at hm; cases hm),
    fun m1 _ _ hm => (by rw [posAt_init] at hm; cases hm)⟩

theorem Sits.miss {H : Int} {rows : List Row} {c : LCell} {p : Pos} (hs : Sits H rows c p) {k : Nat} (hk1 : 1 ≤ k)
    (hh : c.h = hk H k) (hrows : ∀ s ∈ rows, s.rect.maxY = s.rect.minY + H) {o : Rect} (hoy : o.minY < o.maxY)
    (ho : ∀ s ∈ rows, s.rect.intersects o = false) : (rectOf c p).intersects o = false := by
  rw [Bool.eq_false_iff]
  intro hint
  obtain ⟨k', rfl⟩ := Nat.exists_eq_add_of_le' hk1
  rw [rectOf, hh] at hint
  -- a strip of the cell meets `o`; it lies in a segment, which misses `o`
  obtain ⟨yj, hyj, hi⟩ := rect_strip H _ _ o hoy k' _ hint
  obtain ⟨s, hs', a1, a2, a3⟩ := hs.inside _ hh hk1 yj hyj
  exact Bool.false_ne_true ((strip_miss o a2 a3 a1 (hrows s hs') (ho s hs')).symm.trans hi)

theorem pass_legal (H : Int) (hH : 0 < H) (R : List Row) (hok : RowsOK H R) (L : List LCell) (hL : CellsOK H L)
    (P : List Pos) (hP : Legal H R L P) (sel : List Nat) (ps : List Pos)
    (hps : PassOK H ((sortRows R).flatMap fun r => r.freespace (placedRects L P)) (sel.map (cellAt L)) ps) :
    Legal H R L (importPos sel ps P) := by
  obtain ⟨hlen, hleg, hdis⟩ := hP
  have hrem := flatMap_freespace_seg hok.sort (placedRects L P)
  have hlen' := (importPos_len sel ps P).trans hlen
  -- a status is unchanged, or that of a placed sub-cell
  have spec := importPos_spec sel ps P
  generalize importPos sel ps P = P' at hlen' spec
  have sub : ∀ {i m : Nat}, sel[i]? = some m → cellAt (sel.map (cellAt L)) i = cellAt L m := fun h =>
    ListFacts.getD_of_getElem? (by rw [List.getElem?_map, h]; rfl)
  -- a sub-cell sits in the remaining segments, so it misses every cell placed before the pass: an obstacle they avoid
  have vsOld : ∀ m m', m ≠ m' → (posAt P' m).placed = true → (posAt P m').placed = true →
      (cellRect L P' m).intersects (cellRect L P m') = false := by
    intro m m' hne hp hp'
    rcases spec m with hc | ⟨i, h1, h2, h3⟩
    · rw [cellRect, hc]
      exact hdis m m' hne (hc ▸ hp) hp'
    · obtain ⟨_, ⟨k, hk1, hhk⟩, _⟩ := hL _ (cellAt_mem L m (hlen' ▸ posAt_placed_lt hp))
      have hm' : m' < L.length := hlen ▸ posAt_placed_lt hp'
      obtain ⟨hw', ⟨k', hk1', hhk'⟩, _⟩ := hL _ (cellAt_mem L m' hm')
      have hy' : (cellRect L P m').minY < (cellRect L P m').maxY := by
        rw [cellRect, rectOf, hhk']
        exact Int.lt_add_of_pos_right _ (hk_pos H hH k' hk1')
      rw [← sub h1] at hhk
      rw [cellRect, h3, ← sub h1]
      exact (hps.cell i h2).miss hk1 hhk (hok.sort.freespace _).height hy' fun s hs =>
        (hrem s hs).2 _ (placedRects_mem L P m' hm' hp') (Int.lt_add_of_pos_right _ hw') hy'
  refine ⟨hlen', fun m hp => ?_, fun m1 m2 hne hp1 hp2 => ?_⟩
  · rcases spec m with hc | ⟨i, h1, h2, h3⟩
    · rw [hc] at hp ⊢
      exact hleg m hp
    · rw [h3, ← sub h1]
      refine (hps.cell i h2).mono fun s hs => ?_
      obtain ⟨r, hr, hsub⟩ := (hrem s hs).1
      exact ⟨r, (mem_sortRows r R).mp hr, hsub⟩
  · rcases spec m2 with hc2 | ⟨i2, b1, b2, b3⟩
    · rw [cellRect, cellRect, hc2]
      exact vsOld m1 m2 hne hp1 (hc2 ▸ hp2)
    · rcases spec m1 with hc1 | ⟨i1, a1, a2, a3⟩
      · rw [intersects_comm, cellRect, cellRect, hc1]
        exact vsOld m2 m1 hne.symm hp2 (hc1 ▸ hp1)
      · have := hps.apart i1 i2 (fun e => hne (Option.some.inj ((e ▸ a1).symm.trans b1))) a2 b2
        rwa [cellRect, cellRect, sub a1, sub b1, ← a3, ← b3] at this

theorem runTetris_legal (H : Int) (hH : 0 < H) (R : List Row) (hok : RowsOK H R) (L : List LCell)
    (hL : CellsOK H L) (order : List Nat) (b0 b1 : Base) (hrows : b0.rows = sortRows R) (hcells : b0.cells = L)
    (hP : Legal H R L b0.pos) (h : runTetris b0 order = .ok b1) :
    b1.rows = sortRows R ∧ b1.cells = L ∧ Legal H R L b1.pos := by
  rcases runTetris_eq hok hrows h with rfl | rfl
  · exact ⟨hrows, hcells, hP⟩
  · refine ⟨hrows, hcells, ?_⟩
    simp only [Base.remainingRows, hrows, hcells]
    refine pass_legal H hH R hok L hL _ hP _ _ (tetrisRun_pass H hH _ (hok.sort.freespace _) _ fun c hc => ?_)
    obtain ⟨m, hm, rfl⟩ := List.mem_map.mp hc
    have hh := tetrisSel_mem hm
    rw [hcells] at hh
    obtain ⟨a1, a2, _⟩ := hL _ (cellAt_valid L m (by omega)).2
    exact ⟨a1, a2⟩

theorem runAbacus_legal (H : Int) (hH : 0 < H) (R : List Row) (hok : RowsOK H R) (L : List LCell)
    (hL : CellsOK H L) (order : List Nat) (b1 b2 : Base) (hrows : b1.rows = sortRows R) (hcells : b1.cells = L)
    (hP : Legal H R L b1.pos) (h : runAbacus b1 order = .ok b2) : Legal H R L b2.pos := by
  rcases runAbacus_eq hok hrows h with rfl | ⟨ps, hA, rfl⟩
  · exact hP
  · simp only [Base.remainingRows, hrows, hcells] at hA ⊢
    refine pass_legal H hH R hok L hL _ hP _ _ (abacusRun_ok H hH _ (hok.sort.freespace _) _ (fun c hc => ?_) ps hA)
    obtain ⟨m, hm, rfl⟩ := List.mem_map.mp hc
    have hh := abacusSel_mem hm
    rw [hcells] at hh
    exact ⟨(hL _ (cellAt_valid L m (by omega)).2).1, hh⟩

theorem run_spec (H : Int) (hH : 0 < H) (R : List Row) (hok : RowsOK H R) (L : List LCell) (hL : CellsOK H L)
    (order : List Nat) (b1 b2 : Base) (h1 : runTetris (Base.mk' R L) order = .ok b1)
    (h2 : runAbacus b1 order = .ok b2) : Legal H R L b2.pos := by
  obtain ⟨t1, t2, t3⟩ := runTetris_legal H hH R hok L hL order _ b1 rfl rfl (legal_init H R L) h1
  exact runAbacus_legal H hH R hok L hL order b1 b2 t1 t2 t3 h2

end ColoVerif.Legalize
