import ColoVerif.Proofs.DetOptHpwlNets
import ColoVerif.Proofs.DetOpt
/-!
Every primitive move of `DetailedPlacer` (`Placer.step`) leaves the two incremental models in sync with the
placement (`Sync`), and its `placement_` component is exactly `State.step`.  The invariant is proved in the form
"in sync except on a set `D` of cells" (`SyncX`), which `RowReordering::writeback` needs: it starts from models that
the enumeration has left at the positions of the last leaf.
-/
namespace ColoVerif.DetPlace
open ColoVerif State

/-- `m0` is the model as built; `m` its current state -/
structure Sync1 (m0 : IncrNet.Model) (n : Nat) (m : IncrNet.Model) (f : Int → Int) : Prop where
  good : IncrNet.Good m
  nets : NetsEq m m0
  csr : CellCsrEq m m0
  pos : m.cellPos = posList n f

theorem Sync1.update {m0 m : IncrNet.Model} {n : Nat} {f : Int → Int} (h : Sync1 m0 n m f) (k v : Int)
    (h0 : 0 ≤ k) (hk : k < n) : Sync1 m0 n (m.updateCellPos k.toNat v) (upd f k v) := by
  refine ⟨update_good h.good _ _, (update_netsEq m _ _).trans h.nets, (update_cellCsr m _ _).trans h.csr, ?_⟩
  rw [update_cellPos, h.pos, posList_set n f k v h0 hk]

theorem Sync1.congr {m0 m : IncrNet.Model} {n : Nat} {f g : Int → Int} (h : Sync1 m0 n m f)
    (hfg : ∀ d : Int, f d = g d) : Sync1 m0 n m g :=
  ⟨h.good, h.nets, h.csr, by rw [h.pos]; exact posList_congr n f g (fun i _ => hfg i)⟩

theorem Sync1.unique {m0 m m' : IncrNet.Model} {n : Nat} {f : Int → Int} (h : Sync1 m0 n m f) (h' : Sync1 m0 n m' f) :
    m = m' :=
  good_ext h.good h'.good (h.nets.trans h'.nets.symm) (h.csr.trans h'.csr.symm) (h.pos.trans h'.pos.symm)

theorem Sync1.value {m0 m : IncrNet.Model} {n : Nat} {f : Int → Int} (h : Sync1 m0 n m f) :
    m.value = posValue m0 (posList n f) := by
  rw [good_posValue h.good, h.pos, posValue_congr h.nets]

/-- both models are good (C09's invariant), have the CSRs of the topologies of `c`, and hold the placement's
abscissas / ordinates in `cellPos_` -/
structure Sync (c : Circuit) (p : Placer) : Prop where
  x : Sync1 (IncrNet.xTopologyAll c) c.cells.length p.xt p.pl.x
  y : Sync1 (IncrNet.yTopologyAll c) c.cells.length p.yt p.pl.y
  nc : p.pl.nCells = c.cells.length

/-- the position-only objective `DetailedPlacer::value()` computes: the from-scratch 1-D wirelengths
of the nets of the two topologies of `c` (pin offsets of `c`'s orientations) at the given positions -/
def circuitValue (c : Circuit) : Value := fun x y =>
  posValue (IncrNet.xTopologyAll c) (posList c.cells.length x) + posValue (IncrNet.yTopologyAll c) (posList c.cells.length y)

/-- the two models are those of `c` and hold the coordinate vectors `fx`, `fy` as cell positions; `Sync` is the case
of the placement's own coordinates -/
structure SyncF (c : Circuit) (p : Placer) (fx fy : Int → Int) : Prop where
  x : Sync1 (IncrNet.xTopologyAll c) c.cells.length p.xt fx
  y : Sync1 (IncrNet.yTopologyAll c) c.cells.length p.yt fy
  nc : p.pl.nCells = c.cells.length

theorem Sync.toF {c : Circuit} {p : Placer} (h : Sync c p) : SyncF c p p.pl.x p.pl.y := ⟨h.x, h.y, h.nc⟩

theorem SyncF.value {c : Circuit} {p : Placer} {fx fy : Int → Int} (h : SyncF c p fx fy) :
    p.value = circuitValue c fx fy := by
  unfold Placer.value circuitValue
  rw [h.x.value, h.y.value]

theorem Sync.value {c : Circuit} {p : Placer} (h : Sync c p) : p.value = p.pl.value (circuitValue c) := h.toF.value

theorem SyncF.valid {c : Circuit} {p : Placer} {fx fy : Int → Int} (h : SyncF c p fx fy) {k : Int}
    (hk : p.pl.validCell k) : 0 ≤ k ∧ k < (c.cells.length : Int) :=
  h.nc ▸ hk

theorem Sync.valid {c : Circuit} {p : Placer} (h : Sync c p) {k : Int} (hk : p.pl.validCell k) :
    0 ≤ k ∧ k < (c.cells.length : Int) :=
  h.toF.valid hk

theorem SyncF.updateCellTo {c : Circuit} {p : Placer} {fx fy : Int → Int} (h : SyncF c p fx fy) {k : Int}
    (hk : p.pl.validCell k) (vx vy : Int) : SyncF c (p.updateCellTo k vx vy) (upd fx k vx) (upd fy k vy) :=
  ⟨h.x.update k vx (h.valid hk).1 (h.valid hk).2, h.y.update k vy (h.valid hk).1 (h.valid hk).2, h.nc⟩

theorem placer_ext {p q : Placer} (h1 : p.pl = q.pl) (h2 : p.xt = q.xt) (h3 : p.yt = q.yt) : p = q := by
  cases p; cases q; simp only at h1 h2 h3; subst h1 h2 h3; rfl

theorem Sync.unique {c : Circuit} {p q : Placer} (hp : Sync c p) (hq : Sync c q) (e : p.pl = q.pl) : p = q :=
  placer_ext e ((e ▸ hp.x).unique hq.x) ((e ▸ hp.y).unique hq.y)

theorem map_eq_ok {α β : Type} {x : Except Err α} {f : α → β} {b : β} (e : x.map f = .ok b) :
    ∃ a, x = .ok a ∧ f a = b := by
  cases x with
  | error _ => cases e
  | ok a => exact ⟨a, rfl, Except.ok.inj e⟩

namespace Placer

theorem placeChain_pl (r : Int) : ∀ (l : List (Int × Int)) (p : Placer) (q : Int),
    (p.placeChain r q l).map (·.pl) = p.pl.placeChain r q l
  | [], _, _ => rfl
  | (k, v) :: rest, p, q => by
    unfold Placer.placeChain State.placeChain
    split
    · cases p.pl.place k r q v with
      | error _ => rfl
      | ok t => exact placeChain_pl r rest ((p.withPl t).updateCell k) k
    · rfl

theorem placeRegions_pl : ∀ (gs : List Region) (p : Placer), (p.placeRegions gs).map (·.pl) = p.pl.placeRegions gs
  | [], _ => rfl
  | g :: gs, p => by
    unfold Placer.placeRegions State.placeRegions
    rw [← placeChain_pl]
    cases p.placeChain g.row g.pred g.cells with
    | error _ => rfl
    | ok u => exact placeRegions_pl gs u

theorem reorderWriteback_pl (p : Placer) (cells : List Int) (regions : List Region) :
    (p.reorderWriteback cells regions).map (·.pl) = p.pl.reorderWriteback cells regions := by
  unfold Placer.reorderWriteback State.reorderWriteback
  cases p.pl.unplaceAll cells with
  | error _ => rfl
  | ok t =>
    have h : ((p.withPl t).placeRegions regions).map (·.pl) = t.placeRegions regions := placeRegions_pl regions _
    simp only [← h]
    cases (p.withPl t).placeRegions regions with
    | error _ => rfl
    | ok u =>
      show Except.map (·.pl) (if cells.all u.pl.isPlaced then .ok u else .error Err.guard) =
        if cells.all u.pl.isPlaced then .ok u.pl else .error Err.guard
      split <;> rfl

theorem step_pl (p : Placer) : ∀ op : Op, (p.step op).map (·.pl) = p.pl.step op
  | .swap c1 c2 => by
    simp only [Placer.step, State.step, Placer.doSwap]
    split
    · cases p.pl.swap c1 c2 <;> rfl
    · rfl
  | .insert c r q => by
    simp only [Placer.step, State.step, Placer.doInsert]
    split
    · cases p.pl.insert c r q <;> rfl
    · rfl
  | .shift mv => by
    simp only [Placer.step, State.step, Placer.doShift]
    cases p.pl.shift mv <;> rfl
  | .reorder cells regions => reorderWriteback_pl p cells regions

/-- the whole object follows its placement: a move that `State.step` accepts, `Placer.step` accepts -/
theorem step_lift {p : Placer} {op : Op} {t : State} (e : p.pl.step op = .ok t) : ∃ q, p.step op = .ok q ∧ q.pl = t :=
  map_eq_ok ((step_pl p op).trans e)

theorem run_pl : ∀ (ops : List Op) (p : Placer), (p.run ops).map (·.pl) = p.pl.run ops
  | [], _ => rfl
  | op :: ops, p => by
    unfold Placer.run State.run
    rw [← step_pl]
    cases p.step op with
    | error _ => rfl
    | ok u => exact run_pl ops u

end Placer

/-- the models hold coordinate vectors that are the placement's except on `D` -/
def SyncX (c : Circuit) (p : Placer) (D : Int → Prop) : Prop :=
  ∃ fx fy, SyncF c p fx fy ∧ ∀ d, ¬ D d → fx d = p.pl.x d ∧ fy d = p.pl.y d

theorem Sync.toX {c : Circuit} {p : Placer} (h : Sync c p) (D : Int → Prop) : SyncX c p D :=
  ⟨_, _, h.toF, fun _ _ => ⟨rfl, rfl⟩⟩

theorem SyncX.toSync {c : Circuit} {p : Placer} {D : Int → Prop} (h : SyncX c p D) (hD : ∀ d, ¬ D d) : Sync c p := by
  obtain ⟨fx, fy, h, ha⟩ := h
  exact ⟨h.x.congr (fun d => (ha d (hD d)).1), h.y.congr (fun d => (ha d (hD d)).2), h.nc⟩

theorem SyncX.mono {c : Circuit} {p : Placer} {D D' : Int → Prop} (h : SyncX c p D) (hD : ∀ d, D d → D' d) :
    SyncX c p D' := by
  obtain ⟨fx, fy, h, ha⟩ := h
  exact ⟨fx, fy, h, fun d hd => ha d (fun hd' => hd (hD d hd'))⟩

theorem SyncX.withPl {c : Circuit} {p : Placer} {D : Int → Prop} (h : SyncX c p D) (t : State)
    (hn : t.nCells = p.pl.nCells) (E : Int → Prop) (hxy : ∀ d, ¬ E d → t.x d = p.pl.x d ∧ t.y d = p.pl.y d) :
    SyncX c (p.withPl t) (fun d => D d ∨ E d) := by
  obtain ⟨fx, fy, h, ha⟩ := h
  refine ⟨fx, fy, ⟨h.x, h.y, hn.trans h.nc⟩, fun d hd => ?_⟩
  show fx d = t.x d ∧ fy d = t.y d
  rw [(hxy d (fun e => hd (Or.inr e))).1, (hxy d (fun e => hd (Or.inr e))).2]
  exact ha d (fun e => hd (Or.inl e))

theorem SyncX.updateCellTo {c : Circuit} {p : Placer} {D : Int → Prop} (h : SyncX c p D) {k : Int} (hD : D k)
    (hk : p.pl.validCell k) (vx vy : Int) : SyncX c (p.updateCellTo k vx vy) D := by
  obtain ⟨fx, fy, h, ha⟩ := h
  refine ⟨_, _, h.updateCellTo hk vx vy, fun d hd => ?_⟩
  have hne : d ≠ k := fun e => hd (e ▸ hD)
  simp only [upd, hne, if_false]
  exact ha d hd

theorem SyncX.updateCell {c : Circuit} {p : Placer} {D : Int → Prop} (h : SyncX c p D) {k : Int} (hk : p.pl.validCell k) :
    SyncX c (p.updateCell k) (fun d => D d ∧ d ≠ k) := by
  obtain ⟨fx, fy, h, ha⟩ := h
  refine ⟨_, _, h.updateCellTo hk (p.pl.x k) (p.pl.y k), fun d hd => ?_⟩
  by_cases hdk : d = k
  · subst hdk; simp [upd]; exact ⟨rfl, rfl⟩
  · have : ¬ D d := fun hDd => hd ⟨hDd, hdk⟩
    simp only [upd, hdk, if_false]
    exact ha d this

theorem SyncX.move1 {c : Circuit} {p : Placer} {D : Int → Prop} (h : SyncX c p D) (t : State)
    (hn : t.nCells = p.pl.nCells) {k : Int} (hv : p.pl.validCell k)
    (hxy : ∀ d, d ≠ k → t.x d = p.pl.x d ∧ t.y d = p.pl.y d) :
    SyncX c ((p.withPl t).updateCell k) (fun d => D d ∧ d ≠ k) :=
  ((h.withPl t hn (· = k) hxy).updateCell (validCell_congr (t := t) hn hv)).mono
    fun _ hd => ⟨hd.1.elim id (absurd · hd.2), hd.2⟩

theorem Sync.move1 {c : Circuit} {p : Placer} (h : Sync c p) (t : State) (hn : t.nCells = p.pl.nCells) {k : Int}
    (hv : p.pl.validCell k) (hxy : ∀ d, d ≠ k → t.x d = p.pl.x d ∧ t.y d = p.pl.y d) :
    Sync c ((p.withPl t).updateCell k) :=
  ((h.toX fun _ => False).move1 t hn hv hxy).toSync fun _ hd => hd.1

theorem Sync.move2 {c : Circuit} {p : Placer} (h : Sync c p) (t : State) (hn : t.nCells = p.pl.nCells) {a b : Int}
    (ha : p.pl.validCell a) (hb : p.pl.validCell b)
    (hxy : ∀ d, ¬ (d = a ∨ d = b) → t.x d = p.pl.x d ∧ t.y d = p.pl.y d) :
    Sync c (((p.withPl t).updateCell a).updateCell b) :=
  ((((h.toX fun _ => False).withPl t hn _ hxy).updateCell (validCell_congr (t := t) hn ha)).updateCell
    (validCell_congr (t := t) hn hb)).toSync fun _ hd => hd.1.1.elim id (·.elim hd.1.2 hd.2)

theorem setXs_fold (s : State) (mv : List (Int × Int)) :
    s.setXs mv = { s with x := mv.foldl (fun f m => upd f m.1 m.2) s.x } := by
  induction mv generalizing s with
  | nil => rfl
  | cons m rest ih =>
    obtain ⟨c, v⟩ := m
    simp only [setXs, List.foldl_cons]
    rw [ih]

theorem doSwap_sync {c : Circuit} {p q : Placer} {c1 c2 : Int} (h : Sync c p) (l1 : p.pl.liveCell c1 = true)
    (l2 : p.pl.liveCell c2 = true) (e : p.doSwap c1 c2 = .ok q) : Sync c q := by
  unfold Placer.doSwap at e
  split at e
  · cases e
  · rename_i t et
    injection e with e; subst e
    refine h.move2 t (static_respects.swap l1 l2 et).nCells ((liveCell_iff _ _).1 l1).1 ((liveCell_iff _ _).1 l2).1 fun d hd => ?_
    rw [(swap_positions et d).1, (swap_positions et d).2, if_neg (fun e => hd (Or.inl e)), if_neg (fun e => hd (Or.inr e)),
      if_neg (fun e => hd (Or.inl e)), if_neg (fun e => hd (Or.inr e))]
    exact ⟨rfl, rfl⟩

theorem doInsert_sync {c : Circuit} {p q : Placer} {k r pr : Int} (h : Sync c p) (l1 : p.pl.liveCell k = true)
    (l2 : p.pl.siteOk r pr = true) (e : p.doInsert k r pr = .ok q) : Sync c q := by
  unfold Placer.doInsert at e
  split at e
  · cases e
  · rename_i t et
    injection e with e; subst e
    refine h.move1 t (static_respects.insert l1 l2 et).nCells ((liveCell_iff _ _).1 l1).1 fun d hd => ?_
    rw [(insert_positions et d).1, (insert_positions et d).2, if_neg hd, if_neg hd]
    exact ⟨rfl, rfl⟩

theorem shiftUpdates_sync {m0 : IncrNet.Model} {n : Nat} : ∀ (mv : List (Int × Int)) (m : IncrNet.Model) (f : Int → Int),
    Sync1 m0 n m f → (∀ q ∈ mv, 0 ≤ q.1 ∧ q.1 < (n : Int)) →
    Sync1 m0 n (Placer.shiftUpdates m mv) (mv.foldl (fun f q => upd f q.1 q.2) f)
  | [], _, _, h, _ => h
  | (k, v) :: rest, m, f, h, hv => by
    have hk := hv (k, v) (List.mem_cons_self ..)
    exact shiftUpdates_sync rest _ _ (h.update k v hk.1 hk.2) (fun q hq => hv q (List.mem_cons_of_mem _ hq))

theorem doShift_sync {c : Circuit} {p q : Placer} {mv : List (Int × Int)} (h : Sync c p)
    (e : p.doShift mv = .ok q) : Sync c q := by
  unfold Placer.doShift at e
  split at e
  · cases e
  · rename_i t et
    injection e with e; subst e
    unfold shift at et
    split at et
    · rename_i hcond
      injection et with et
      simp only [Bool.and_eq_true, List.all_eq_true, decide_eq_true_eq] at hcond
      obtain ⟨⟨hcells, -⟩, -⟩ := hcond
      rw [setXs_fold] at et
      subst et
      refine ⟨?_, h.y, h.nc⟩
      apply shiftUpdates_sync mv p.xt p.pl.x h.x
      intro m hm
      have := hcells m hm
      simp only [shiftCellOk, Bool.and_eq_true, decide_eq_true_eq] at this
      exact h.valid this.1.1
    · cases et

theorem placeChain_syncX {c : Circuit} (r : Int) (l : List (Int × Int)) : ∀ (p q : Placer) (pr : Int) (D : Int → Prop),
    SyncX c p D → (∀ d, D d → p.pl.row d = -1) → p.placeChain r pr l = .ok q →
    SyncX c q (fun d => D d ∧ q.pl.row d = -1) := by
  induction l with
  | nil =>
    intro p q pr D h hu e
    cases e
    exact h.mono fun d hd => ⟨hd, hu d hd⟩
  | cons m rest ih =>
    intro p q pr D h hu e
    obtain ⟨k, v⟩ := m
    unfold Placer.placeChain at e
    split at e
    · rename_i hg
      simp only [Bool.and_eq_true, Bool.not_eq_true'] at hg
      split at e
      · cases e
      · rename_i t et
        obtain ⟨ht, -⟩ := place_ok et
        have h1 := h.move1 t (Lg.place_keep et).nCells ((liveCell_iff _ _).1 hg.1.1).1 fun d hd => by
          rw [ht, placeRaw_x, placeRaw_y, if_neg hd, if_neg hd]
          exact ⟨rfl, rfl⟩
        refine (ih _ q k _ h1 (fun d hd => ?_) e).mono fun d hd => ⟨hd.1.1, hd.2⟩
        show t.row d = -1
        rw [ht, placeRaw_row, if_neg hd.2]
        exact hu d hd.1
    · cases e

theorem placeRegions_syncX {c : Circuit} (gs : List Region) : ∀ (p q : Placer) (D : Int → Prop), SyncX c p D →
    (∀ d, D d → p.pl.row d = -1) → p.placeRegions gs = .ok q → SyncX c q (fun d => D d ∧ q.pl.row d = -1) := by
  induction gs with
  | nil =>
    intro p q D h hu e
    cases e
    exact h.mono fun d hd => ⟨hd, hu d hd⟩
  | cons g gs ih =>
    intro p q D h hu e
    unfold Placer.placeRegions at e
    split at e
    · cases e
    · rename_i u eu
      exact (ih u q _ (placeChain_syncX g.row g.cells p u g.pred D h hu eu) (fun d hd => hd.2) e).mono
        fun d hd => ⟨hd.1.1, hd.2⟩

/-- `writeback` puts the object in sync, whatever the models held for the registered cells -/
theorem reorderWriteback_syncX {c : Circuit} {p q : Placer} {cells : List Int} {regions : List Region}
    (h : SyncX c p (· ∈ cells)) (e : p.reorderWriteback cells regions = .ok q) : Sync c q := by
  unfold Placer.reorderWriteback at e
  split at e
  · cases e
  · rename_i t et
    obtain ⟨hx, hy⟩ := unplaceAll_xy et
    have hX : SyncX c (p.withPl t) (· ∈ cells) :=
      (h.withPl t (static_respects.unplaceAll et).nCells (fun _ => False) (fun d _ => by rw [hx, hy]; exact ⟨rfl, rfl⟩)).mono fun _ hd => hd.elim id False.elim
    split at e
    · cases e
    · rename_i u eu
      split at e
      · rename_i hall
        injection e with e; subst e
        refine (placeRegions_syncX regions _ u _ hX (fun d hd => (unplaceAll_rows et d).trans (if_pos hd)) eu).toSync ?_
        intro d hd
        exact (isPlaced_iff _ _).1 (List.all_eq_true.1 hall d hd.1) hd.2
      · cases e

theorem step_sync {c : Circuit} {p q : Placer} {op : Op} (h : Sync c p) (e : p.step op = .ok q) :
    Sync c q ∧ p.pl.step op = .ok q.pl := by
  refine ⟨?_, by rw [← Placer.step_pl, e]; rfl⟩
  cases op with
  | swap c1 c2 =>
    obtain ⟨hg, e⟩ := guard_ok e
    exact doSwap_sync h (Bool.and_eq_true_iff.1 hg).1 (Bool.and_eq_true_iff.1 hg).2 e
  | insert k r pr =>
    obtain ⟨hg, e⟩ := guard_ok e
    exact doInsert_sync h (Bool.and_eq_true_iff.1 hg).1 (Bool.and_eq_true_iff.1 hg).2 e
  | shift mv => exact doShift_sync h e
  | reorder cells regions => exact reorderWriteback_syncX (h.toX _) e

theorem reorderWriteback_sync {c : Circuit} {p q : Placer} {cells : List Int} {regions : List Region} (h : Sync c p)
    (e : p.reorderWriteback cells regions = .ok q) : Sync c q ∧ p.pl.reorderWriteback cells regions = .ok q.pl :=
  step_sync (op := .reorder cells regions) h e

theorem run_sync {c : Circuit} : ∀ (ops : List Op) (p q : Placer), Sync c p → p.run ops = .ok q →
    Sync c q ∧ p.pl.run ops = .ok q.pl
  | [], p, q, h, e => by
    cases e
    exact ⟨h, rfl⟩
  | op :: ops, p, q, h, e => by
    refine ⟨?_, by rw [← Placer.run_pl, e]; rfl⟩
    unfold Placer.run at e
    split at e
    · cases e
    · rename_i u eu
      exact (run_sync ops u q (step_sync h eu).1 e).1

end ColoVerif.DetPlace
