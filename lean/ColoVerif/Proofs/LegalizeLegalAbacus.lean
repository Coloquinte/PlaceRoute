import ColoVerif.Proofs.LegalizeLegalTetris
import ColoVerif.Proofs.LegalizeWriteBack
/-
The Abacus pass (C01 `legalize_legal`, C04 `legalize_orient`): `abacusRun_ok`.  `AbacusLegalizer::run` ends with `check()`,
which the model executes (`abacusCheck`): a normal return certifies that the cells listed in a segment's `rowToCells_`
lie inside it, in order and without overlap.  What is left is bookkeeping (`Booked`, `booked_run`): a cell is marked
placed only by `writeRows`, with the `y` and orientation of a segment that lists it, and it is only listed in the
`bestRow` of `placeCell`, which `tryPlace` only sets after `evaluatePlacement` succeeded, refusing INVALID
(`abacusPlace_cases`).
-/
namespace ColoVerif.Legalize
open ColoVerif

def ABestOK (rows : List Row) (c : LCell) (s : List RowLeg.State × Option ABest) : Prop :=
  ∀ bb, s.2 = some bb → getOrientation rows c bb.row ≠ Orient.INVALID

theorem abacusBetter_some {P : ABest → Prop} {b : Option ABest} (hb : ∀ bb, b = some bb → P bb) {r : Nat} {d : Int}
    (hr : P ⟨r, d⟩) : ∀ bb, abacusBetter b r d = some bb → P bb := by
  cases b with
  | none =>
    rintro bb ⟨rfl⟩
    exact hr
  | some b0 =>
    show ∀ bb, (if d < b0.dist then some ⟨r, d⟩ else some b0) = some bb → P bb
    split
    · rintro bb ⟨rfl⟩
      exact hr
    · exact hb

theorem abacusTry_bestOK (rows : List Row) (c : LCell) (row : Nat) (s : List RowLeg.State × Option ABest)
    (h : ABestOK rows c s) : ABestOK rows c (abacusTry rows c row s).1 := by
  unfold abacusTry
  split
  · exact h
  · split
    · exact h
    · split
      · exact h
      · rename_i hce
        have hor : getOrientation rows c row ≠ Orient.INVALID := by
          simp only [canEval, Bool.not_eq_true, Bool.not_eq_false', Bool.and_eq_true, bne_iff_ne] at hce
          exact hce.2
        exact abacusBetter_some (P := fun bb => getOrientation rows c bb.row ≠ Orient.INVALID) h hor

/-- the row legalizers change even when no row is found: `getCost` refills their queues -/
theorem abacusPlace_cases (a : Abacus) (i : Nat) (c : LCell) :
    ∃ legs, abacusPlace a i c = ({ a with legs := legs }, false) ∨
      ∃ k, getOrientation a.rows c k ≠ Orient.INVALID ∧
        abacusPlace a i c = (Abacus.placed { a with legs := legs } k i c, true) := by
  have hinv := searchRows_inv (ABestOK a.rows c) (abacusTry a.rows c) (abacusTry_bestOK a.rows c) a.rows.length
    (startRow a.rows c.ty) (a.legs, none) (by intro bb hb; cases hb)
  unfold abacusPlace
  split
  · rename_i legs heq
    exact ⟨legs, Or.inl rfl⟩
  · rename_i legs b heq
    rw [heq] at hinv
    exact ⟨legs, Or.inr ⟨b.row, hinv b rfl, rfl⟩⟩

theorem mem_getD_set_append {l : List (List Nat)} {k k' i j : Nat} :
    j ∈ (l.set k (l.getD k [] ++ [i])).getD k' [] ↔ j ∈ l.getD k' [] ∨ (k' = k ∧ j = i ∧ k < l.length) := by
  by_cases hk : k < l.length
  · rw [ListFacts.getD_set l k k' _ [] hk]
    split
    · rename_i h
      rw [h, List.mem_append, List.mem_singleton]
      exact or_congr_right ⟨fun e => ⟨rfl, e, hk⟩, fun e => e.2.1⟩
    · rename_i h
      exact (or_iff_left fun h' => h h'.1).symm
  · rw [List.set_eq_of_length_le (Nat.not_lt.mp hk)]
    exact (or_iff_left fun h' => hk h'.2.2).symm

/-- bookkeeping of the `placeCell` loop on the segments `S`: the lists `rowToCells_` hold cells `< i` only, each in a
segment whose orientation `evaluatePlacement` accepted -/
structure Booked (S : List Row) (cells : List LCell) (i : Nat) (a : Abacus) : Prop where
  rows : a.rows = S
  clen : a.rowCells.length = S.length
  mem : ∀ k, ∀ j ∈ a.rowCells.getD k [], j < i ∧ getOrientation S (cellAt cells j) k ≠ Orient.INVALID

theorem Booked.placed {S : List Row} {cells : List LCell} {i : Nat} {a : Abacus} (h : Booked S cells i a) {k : Nat}
    (ho : getOrientation S (cellAt cells i) k ≠ Orient.INVALID) :
    Booked S cells (i + 1) (a.placed k i (cellAt cells i)) := by
  refine ⟨h.rows, (List.length_set ..).trans h.clen, fun k' j hj => ?_⟩
  rcases mem_getD_set_append.mp hj with hj | ⟨rfl, rfl, -⟩
  · exact ⟨Nat.lt_succ_of_lt (h.mem k' j hj).1, (h.mem k' j hj).2⟩
  · exact ⟨Nat.lt_succ_self _, ho⟩

theorem Booked.step {S : List Row} {cells : List LCell} {i : Nat} {a : Abacus} (h : Booked S cells i a) :
    Booked S cells (i + 1) (abacusPlace a i (cellAt cells i)).1 := by
  obtain ⟨legs, e | ⟨k, hor, e⟩⟩ := abacusPlace_cases a i (cellAt cells i)
  · rw [e]
    exact ⟨h.rows, h.clen, fun k j hj => ⟨Nat.lt_succ_of_lt (h.mem k j hj).1, (h.mem k j hj).2⟩⟩
  · rw [e]
    exact Booked.placed (a := { a with legs := legs }) ⟨h.rows, h.clen, h.mem⟩ (h.rows ▸ hor)

theorem booked_run (R : List Row) (cells : List LCell) :
    Booked (sortRows R) cells cells.length (abacusLoop (Abacus.init R) 0 cells).1 := by
  have := abacusLoop_invariant cells (Booked (sortRows R) cells) (fun i a _ h => h.step) cells.length 0 (Abacus.init R)
    (Nat.zero_add _) ⟨rfl, List.length_map _, fun k j hj => by rw [rowCells_init] at hj; cases hj⟩
  rwa [List.drop_zero] at this

theorem ite_error_ok {ε α : Type} {c : Prop} [Decidable c] {e : ε} {x : Except ε α} {u : α}
    (h : (if c then .error e else x) = .ok u) : ¬ c ∧ x = .ok u := by
  by_cases hc : c
  · rw [if_pos hc] at h; cases h
  · rw [if_neg hc] at h; exact ⟨hc, h⟩

theorem abacusCheck_passed {rows : List Row} {cells : List LCell} {rowCells : List (List Nat)} {pos : List Pos} {u : Unit}
    (h : abacusCheck rows cells rowCells pos = .ok u) :
    zipAll (rowBoundsOk cells pos) rows rowCells = true ∧ rowCells.all (rowOrderOk cells pos) = true := by
  obtain ⟨hz, h⟩ := ite_error_ok (ite_error_ok h).2
  exact ⟨by simpa using hz, by simpa using (ite_error_ok h).1⟩

theorem abacusRun_check (rows : List Row) (cells : List LCell) (pos : List Pos)
    (hw : ∀ c ∈ cells, 0 < c.w) (h : abacusRun rows cells = .ok pos) :
    pos = writeRows (sortRows rows) cells 0 (abacusLoop (Abacus.init rows) 0 cells).1.rowCells
            (abacusLoop (Abacus.init rows) 0 cells).1.legs (cells.map initPos) ∧
    ∀ (k : Nat) (r : Row) (rc : List Nat), (sortRows rows)[k]? = some r →
      (abacusLoop (Abacus.init rows) 0 cells).1.rowCells[k]? = some rc →
      (∀ c ∈ rc, c < cells.length ∧ r.rect.minX ≤ (posAt pos c).x ∧
          (posAt pos c).x + (cellAt cells c).w ≤ r.rect.maxX) ∧
      rc.Pairwise fun c1 c2 => (posAt pos c1).x + (cellAt cells c1).w ≤ (posAt pos c2).x := by
  have hb := booked_run rows cells
  unfold abacusRun at h
  generalize abacusLoop (Abacus.init rows) 0 cells = A at h hb
  obtain ⟨a, oks⟩ := A
  simp only at h hb ⊢
  rw [hb.rows] at h
  generalize hP : writeRows (sortRows rows) cells 0 a.rowCells a.legs (cells.map initPos) = P at h
  cases hck : abacusCheck (sortRows rows) cells a.rowCells P with
  | error e => rw [hck] at h; simp at h
  | ok u =>
    rw [hck] at h
    injection h with h
    subst h
    refine ⟨rfl, ?_⟩
    intro k r rc hr hrc
    have hmem : ∀ d ∈ rc, d < cells.length := fun d hd =>
      (hb.mem k d (by rw [ListFacts.getD_of_getElem? hrc]; exact hd)).1
    have hwd : ∀ d ∈ rc, 0 < (cellAt cells d).w := fun d hd => hw _ (cellAt_mem cells d (hmem d hd))
    obtain ⟨hz, ho⟩ := abacusCheck_passed hck
    have hb := (zipAll_iff _ _ _).mp hz k r rc hr hrc
    have hord : rowOrderOk cells P rc = true := List.all_eq_true.mp ho rc (List.mem_of_getElem? hrc)
    refine ⟨?_, rowOrderOk_pairwise cells P rc hwd hord⟩
    intro c hc
    have := List.all_eq_true.mp hb c hc
    simp only [Bool.and_eq_true, Bool.not_eq_true', decide_eq_false_iff_not, Int.not_lt] at this
    exact ⟨hmem c hc, this.1, this.2⟩

theorem abacusRun_seg (rows : List Row) (cells : List LCell) (hw : ∀ c ∈ cells, 0 < c.w) (ps : List Pos)
    (h : abacusRun rows cells = .ok ps) (c : Nat) (hc : (posAt ps c).placed = true) :
    ∃ (k : Nat) (r : Row) (rc : List Nat), (sortRows rows)[k]? = some r ∧
      (abacusLoop (Abacus.init rows) 0 cells).1.rowCells[k]? = some rc ∧
      c ∈ rc ∧ SegOrient r (cellAt cells c) (posAt ps c) := by
  obtain ⟨hps, hck⟩ := abacusRun_check rows cells ps hw h
  have hb := booked_run rows cells
  -- a placed status is one of the writes of `writeRows`
  have hcl : c < (cells.map initPos).length := by
    have := posAt_placed_lt hc
    rwa [hps, writeRows_eq, setAll_length] at this
  have hsp := posAt_setAll (allWrites (sortRows rows) cells 0 (abacusLoop (Abacus.init rows) 0 cells).1.rowCells
    (abacusLoop (Abacus.init rows) 0 cells).1.legs) (cells.map initPos) c hcl
  rw [← writeRows_eq, ← hps] at hsp
  rcases hsp with ⟨_, h0⟩ | ⟨v, hv, h0⟩
  · rw [h0, posAt_init] at hc; cases hc
  · obtain ⟨k, t, x, hk1, _, h3, _, rfl⟩ := (mem_allWrites _ _ _ _ _ _ _).mp hv
    rw [Nat.zero_add] at h0
    have h1 := List.getElem?_eq_getElem hk1
    have hor := (hb.mem k c (List.mem_of_getElem? h3)).2
    rw [ListFacts.getD_of_getElem? h1] at h3
    have h2 := List.mem_of_getElem? h3
    have hk : k < (sortRows rows).length := hb.clen ▸ hk1
    have hr : (sortRows rows)[k]? = some (sortRows rows)[k] := List.getElem?_eq_getElem hk
    have hrow := rowAt_eq_getElem _ k hk
    obtain ⟨_, b1, b2⟩ := (hck k _ _ hr h1).1 c h2
    refine ⟨k, (sortRows rows)[k], _, hr, h1, h2, ?_, b1, b2, ?_, ?_⟩
    · rw [h0, hrow]
    · rw [h0, getOrientation_eq, hrow]
    · rw [h0]
      exact hor

theorem abacusRun_ok (H : Int) (hH : 0 < H) (rows : List Row) (hok : RowsOK H rows) (cells : List LCell)
    (hc : ∀ c ∈ cells, 0 < c.w ∧ c.h = H) (ps : List Pos) (h : abacusRun rows cells = .ok ps) :
    PassOK H rows cells ps := by
  have hw : ∀ c ∈ cells, 0 < c.w := fun c hm => (hc c hm).1
  have hck := (abacusRun_check rows cells ps hw h).2
  have hoks := hok.sort
  have hseg := abacusRun_seg rows cells hw ps h
  -- a placed cell is one row high: its rectangle is its strip
  have hrect : ∀ c, (posAt ps c).placed = true → (cellAt cells c).h = H ∧
      cellRect cells ps c = strip H (posAt ps c).x (cellAt cells c).w (posAt ps c).y := by
    intro c hpl
    obtain ⟨k, r, rc, hr, hrc, hcm, _⟩ := hseg c hpl
    have hh := (hc _ (cellAt_mem cells c ((hck k r rc hr hrc).1 c hcm).1)).2
    exact ⟨hh, by simp only [cellRect, rectOf, strip, hh]⟩
  refine ⟨fun c hpl => ⟨?_, fun k hhk hk1 yj hyj => ?_⟩, fun c1 c2 hne hc1 hc2 => ?_⟩
  · obtain ⟨k, r, rc, hr, _, _, hso⟩ := hseg c hpl
    exact ⟨r, (mem_sortRows r rows).mp (List.mem_of_getElem? hr), hso⟩
  · obtain rfl : k = 1 := hk_inj H hH k 1 (by rw [← hhk, (hrect c hpl).1]; exact (Int.add_zero H).symm)
    obtain ⟨k, r, rc, hr, _, _, a1, a2, a3, _⟩ := hseg c hpl
    rw [List.mem_singleton.mp hyj]
    exact ⟨r, (mem_sortRows r rows).mp (List.mem_of_getElem? hr), a1, a2, a3⟩
  · rw [(hrect c1 hc1).2, (hrect c2 hc2).2]
    obtain ⟨k1, r1, rc1, hr1, hrc1, hcm1, hy1, a1, a2, _⟩ := hseg c1 hc1
    obtain ⟨k2, r2, rc2, hr2, hrc2, hcm2, hy2, b1, b2, _⟩ := hseg c2 hc2
    by_cases hk : k1 = k2
    · -- same segment: `check()` found its cells in order
      subst hk
      rw [hrc1] at hrc2
      injection hrc2 with hrc2
      subst hrc2
      rw [intersects_false_iff]
      rintro ⟨i1, i2, _, _⟩
      rcases ListFacts.pairwise_ne (hck k1 r1 rc1 hr1 hrc1).2 c1 hcm1 c2 hcm2 hne with h | h
      · exact Int.not_lt.mpr h i2
      · exact Int.not_lt.mpr h i1
    · -- different segments are disjoint, and each strip lies in its segment
      refine strip_miss _ a1 a2 hy1 (hoks.height r1 (List.mem_of_getElem? hr1)) ?_
      rw [intersects_comm]
      refine strip_miss _ b1 b2 hy2 (hoks.height r2 (List.mem_of_getElem? hr2)) ?_
      rw [intersects_comm]
      exact hoks.disj_idx k1 k2 r1 r2 hr1 hr2 hk

end ColoVerif.Legalize
