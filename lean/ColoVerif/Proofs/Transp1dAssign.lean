import ColoVerif.Proofs.Transp1dTerm
import ColoVerif.Proofs.ListFacts
/-
`run` (sweep + `flushPositions`) and `computeAssignment` stay in range: the flushed positions are
at most `D.back() - S[n]`, so the middle of every (non-empty) source lies strictly below `D.back()`
and the walk over `D` stops before the end.  With total supply = total demand the flushed positions are
all 0 (`balanced_p_zero`).
-/
namespace ColoVerif.Transp1d

theorem prefixFrom_length (acc : Int) (l : List Int) : (prefixFrom acc l).length = l.length + 1 := by
  induction l generalizing acc with
  | nil => rfl
  | cons c cs ih => simp [prefixFrom, ih]

theorem prefixFrom_zero (acc : Int) (l : List Int) : (prefixFrom acc l).getD 0 0 = acc := by
  cases l <;> simp [prefixFrom]

theorem prefixFrom_succ (acc : Int) (l : List Int) (i : Nat) (h : i < l.length) :
    (prefixFrom acc l).getD (i + 1) 0 = (prefixFrom acc l).getD i 0 + l.getD i 0 := by
  induction l generalizing acc i with
  | nil => simp at h
  | cons c cs ih =>
    cases i with
    | zero => simp only [prefixFrom, List.getD_cons_succ, List.getD_cons_zero, prefixFrom_zero]
    | succ i =>
      have := ih (acc + c) i (by simpa using h)
      simpa [prefixFrom] using this

theorem prefixFrom_last (acc : Int) (l : List Int) :
    (prefixFrom acc l).getD l.length 0 = acc + l.sum := by
  induction l generalizing acc with
  | nil => simp [prefixFrom]
  | cons c cs ih =>
    simp only [prefixFrom, List.length_cons, List.getD_cons_succ, List.sum_cons, ih]; omega

theorem runMin_le_mx (mx : Int) (l : List Int) : runMin mx l ≤ mx := by
  induction l with
  | nil => exact Int.le_refl _
  | cons x xs ih => exact Int.le_trans (Int.min_le_right _ _) ih

theorem runMin_ge (lo mx : Int) (l : List Int) (hm : lo ≤ mx) (h : ∀ x ∈ l, lo ≤ x) :
    lo ≤ runMin mx l := by
  induction l with
  | nil => exact hm
  | cons x xs ih =>
    exact Int.le_min.mpr ⟨h x (List.mem_cons_self ..), ih (fun y hy => h y (List.mem_cons_of_mem _ hy))⟩

theorem flush_length (mx : Int) (l : List Int) : (flush mx l).length = l.length := by
  induction l with
  | nil => rfl
  | cons x xs ih => simp [flush, ih]

theorem flush_getD (mx : Int) : ∀ (l : List Int) (k : Nat), k < l.length →
    (flush mx l).getD k 0 = runMin mx (l.drop k)
  | [], k, h => by simp at h
  | x :: xs, 0, _ => by rw [List.drop_zero]; rfl
  | x :: xs, k + 1, h => by
    rw [List.drop_succ_cons]
    show (flush mx xs).getD k 0 = _
    exact flush_getD mx xs k (by simpa using h)

theorem runMin_drop (mx : Int) (l : List Int) (k : Nat) (h : k < l.length) :
    runMin mx (l.drop k) = min (l.getD k 0) (runMin mx (l.drop (k + 1))) := by
  rw [List.drop_eq_getElem_cons h, List.getD_eq_getElem?_getD, List.getElem?_eq_getElem h]
  rfl

theorem flush_step (mx : Int) (l : List Int) (k : Nat) (h : k + 1 < l.length) :
    (flush mx l).getD k 0 = min (l.getD k 0) ((flush mx l).getD (k + 1) 0) := by
  rw [flush_getD mx l k (by omega), flush_getD mx l (k + 1) h, runMin_drop mx l k (by omega)]

/-- what `run` returns: one position per source, non-decreasing, non-negative, and such that even
the last source ends inside `[0, D.back()]` -/
structure RunPost (sv : Solver) (p : List Int) : Prop where
  len : p.length = sv.u.length
  mono : ∀ i, i + 1 < sv.u.length → p.getD i 0 ≤ p.getD (i + 1) 0
  nn : ∀ i, i < sv.u.length → 0 ≤ p.getD i 0
  le : ∀ i, i < sv.u.length → sv.S.getD sv.u.length 0 + p.getD i 0 ≤ sv.D.getD sv.v.length 0

/-- `P` as in `pushAll_total`. -/
theorem run_total (sv : Solver) (dom : sv.Dom) (hm : sv.u.length = 0 ∨ 0 < sv.v.length)
    (P : Nat → St → Prop)
    (hP : ∀ i st st', i < sv.u.length → P i st → push sv i st = .ok st' → P (i + 1) st')
    (h0 : P 0 St.init) :
    ∃ st, P sv.u.length st ∧ st.pRev.length = sv.u.length ∧
      run sv = .ok (flush (sv.D.getD sv.v.length 0 - sv.S.getD sv.u.length 0) st.pRev.reverse) ∧
      RunPost sv (flush (sv.D.getD sv.v.length 0 - sv.S.getD sv.u.length 0) st.pRev.reverse) := by
  have wf := dom.wf
  obtain ⟨st, e, hnn, hlen, hp⟩ : ∃ st, pushAll sv sv.nbSources 0 St.init = .ok st ∧
      (∀ x ∈ st.pRev, 0 ≤ x) ∧ st.pRev.length = sv.u.length ∧ P sv.u.length st := by
    rcases hm with h | h
    · rw [show sv.nbSources = 0 from h]
      exact ⟨St.init, rfl, by simp [St.init], by simp [St.init, h], h ▸ h0⟩
    · obtain ⟨st', e, inv', hl, hp⟩ := pushAll_total sv dom P hP sv.nbSources 0
        (by simp [Solver.nbSources]) St.init ⟨h, h, Int.le_refl _, by simp [St.init]⟩
        ⟨by simp [St.init, SortedEv], by simp [St.init]⟩ dom.base h0
      exact ⟨st', e, inv'.pnn, by simpa [St.init, Solver.nbSources] using hl,
        by simpa [Solver.nbSources] using hp⟩
  have hD : lastD sv = .ok (sv.D.getD sv.v.length 0) := by
    unfold lastD
    rw [show sv.D.length - 1 = sv.v.length by rw [wf.hD]; rfl, wf.getD (Nat.le_refl _)]
  refine ⟨st, hp, hlen, ?_, ?_⟩
  · unfold run
    simp only [e, hD, List.length_reverse, hlen, wf.getS (Nat.le_refl _),
      bind, Except.bind, pure, Except.pure]
  have hl : st.pRev.reverse.length = sv.u.length := by rw [List.length_reverse, hlen]
  have hnn' : ∀ x ∈ st.pRev.reverse, 0 ≤ x := fun x hx => hnn x (List.mem_reverse.mp hx)
  generalize st.pRev.reverse = l at hl hnn'
  refine ⟨(flush_length _ l).trans hl, fun i hi => ?_, fun i hi => ?_, fun i hi => ?_⟩
  · rw [flush_step _ l i (hl ▸ hi)]; exact Int.min_le_right _ _
  · rw [flush_getD _ l i (hl ▸ hi)]
    exact runMin_ge 0 _ _ (by have := dom.slack; omega) fun x hx => hnn' x (List.mem_of_mem_drop hx)
  · rw [flush_getD _ l i (hl ▸ hi)]
    have := runMin_le_mx (sv.D.getD sv.v.length 0 - sv.S.getD sv.u.length 0) (l.drop i)
    omega

theorem run_ok (sv : Solver) (dom : sv.Dom) (hm : sv.u.length = 0 ∨ 0 < sv.v.length) :
    ∃ p, run sv = .ok p ∧ RunPost sv p :=
  have ⟨_, _, _, e, hp⟩ := run_total sv dom hm (fun _ _ => True) (fun _ _ _ _ _ _ => trivial) trivial
  ⟨_, e, hp⟩

theorem nonneg_of_getD_le {l l' : List Int} (hlen : l'.length = l.length)
    (h : ∀ j, l.getD j 0 ≤ l'.getD j 0) (hnn : ∀ x ∈ l, 0 ≤ x) : ∀ x ∈ l', 0 ≤ x := by
  intro x hx
  obtain ⟨j, hj, rfl⟩ := List.getElem_of_mem hx
  have e : l'.getD j 0 = l'[j] := by simp [List.getD_eq_getElem?_getD, List.getElem?_eq_getElem hj]
  exact e ▸ Int.le_trans (hnn _ (ListFacts.getD_mem l j 0 (hlen ▸ hj))) (h j)

theorem prefixFrom_lt_succ (acc : Int) (l : List Int) (hpos : ∀ x ∈ l, 0 < x) (i : Nat)
    (h : i < l.length) : (prefixFrom acc l).getD i 0 < (prefixFrom acc l).getD (i + 1) 0 := by
  rw [prefixFrom_succ acc l i h]
  have := hpos _ (ListFacts.getD_mem l i 0 h)
  omega

theorem prefixFrom_mono (acc : Int) (l : List Int) (hpos : ∀ x ∈ l, 0 < x) (i k : Nat)
    (hik : i ≤ k) (hk : k ≤ l.length) :
    (prefixFrom acc l).getD i 0 ≤ (prefixFrom acc l).getD k 0 :=
  step_mono _ _ (prefixFrom_lt_succ acc l hpos) i k hik hk

theorem interval_unique (d : List Int) (hpos : ∀ x ∈ d, 0 < x) (a b : Nat) (pos : Int)
    (ha : a < d.length) (hb : b < d.length)
    (a1 : (prefixFrom 0 d).getD a 0 ≤ pos) (a2 : pos < (prefixFrom 0 d).getD (a + 1) 0)
    (b1 : (prefixFrom 0 d).getD b 0 ≤ pos) (b2 : pos < (prefixFrom 0 d).getD (b + 1) 0) : a = b := by
  by_cases hlt : a < b
  · have := prefixFrom_mono 0 d hpos (a + 1) b hlt (Nat.le_of_lt hb)
    omega
  · by_cases hgt : b < a
    · have := prefixFrom_mono 0 d hpos (b + 1) a hgt (Nat.le_of_lt ha)
      omega
    · omega

theorem walk_spec (D : List Int) (m : Nat) (hD : D.length = m + 1) (pos : Int)
    (hpos : pos < D.getD m 0) (cs : Nat) (hcs : cs < m) (hstart : D.getD cs 0 ≤ pos) :
    ∃ cs', walk pos (D.drop (cs + 1)) cs = .ok (cs', D.drop (cs' + 1)) ∧ cs' < m ∧
      pos < D.getD (cs' + 1) 0 ∧ D.getD cs' 0 ≤ pos := by
  induction hn : m - cs generalizing cs with
  | zero => omega
  | succ n ih =>
    have hlt : cs + 1 < D.length := by omega
    have hx : D.getD (cs + 1) 0 = D[cs + 1] := by
      simp [List.getD_eq_getElem?_getD, List.getElem?_eq_getElem hlt]
    have hdrop := List.drop_eq_getElem_cons hlt
    rw [hdrop, walk]
    by_cases hle : D[cs + 1] ≤ pos
    · rw [if_pos hle]
      have hcs1 : cs + 1 < m := by
        by_cases h : cs + 1 = m
        · subst h; omega
        · omega
      exact ih (cs + 1) hcs1 (hx ▸ hle) (by omega)
    · rw [if_neg hle]
      exact ⟨cs, by rw [hdrop]; rfl, hcs, by omega, hstart⟩

/-- the rounding position of a source lies inside the source's interval -/
theorem mid_bounds (sv : Solver) (wf : sv.WF) (hspos : ∀ x ∈ sv.s, 0 < x)
    (hS : sv.S = prefixFrom 0 sv.s) (k : Nat) (hk : k < sv.u.length) :
    0 ≤ Int.tdiv (sv.s.getD k 0) 2 ∧
      sv.S.getD k 0 + Int.tdiv (sv.s.getD k 0) 2 < sv.S.getD (k + 1) 0 := by
  have hk' : k < sv.s.length := wf.hs ▸ hk
  have h := hspos _ (ListFacts.getD_mem sv.s k 0 hk')
  rw [hS, prefixFrom_succ 0 sv.s k hk', Int.tdiv_eq_ediv_of_nonneg (Int.le_of_lt h)]
  omega

/-- The invariant across sources is `D[currentSink] ≤ assignPos` (`hstart`), kept because the rounding
positions `pos` do not decrease.  Each source gets the sink whose interval holds its rounding position. -/
theorem assignLoop_spec (sv : Solver) (wf : sv.WF) (pos : Nat → Int)
    (hmono : ∀ k, k + 1 < sv.u.length → pos k ≤ pos (k + 1))
    (hlt : ∀ k, k < sv.u.length → pos k < sv.D.getD sv.v.length 0)
    (ps : List Int) (i cs : Nat) (hi : i + ps.length = sv.u.length) (hcs : cs < sv.v.length)
    (hps : ∀ k, k < ps.length →
      ps.getD k 0 + sv.S.getD (i + k) 0 + Int.tdiv (sv.s.getD (i + k) 0) 2 = pos (i + k))
    (hstart : 0 < ps.length → sv.D.getD cs 0 ≤ pos i) :
    ∃ a, assignLoop sv ps i cs (sv.D.drop (cs + 1)) = .ok a ∧ a.length = ps.length ∧
      ∀ k, k < ps.length → a.getD k 0 < sv.v.length ∧
        sv.D.getD (a.getD k 0) 0 ≤ pos (i + k) ∧ pos (i + k) < sv.D.getD (a.getD k 0 + 1) 0 := by
  induction ps generalizing i cs with
  | nil => exact ⟨[], rfl, rfl, fun k hk => absurd hk (Nat.not_lt_zero k)⟩
  | cons pi ps ih =>
    have hlen : i < sv.u.length := hi ▸ Nat.lt_add_of_pos_right (Nat.succ_pos _)
    have e0 : pi + sv.S.getD i 0 + Int.tdiv (sv.s.getD i 0) 2 = pos i := hps 0 (Nat.succ_pos _)
    obtain ⟨cs', ew, w3, w4, w5⟩ := walk_spec sv.D sv.v.length wf.hD (pos i) (hlt i hlen) cs hcs
      (hstart (Nat.succ_pos _))
    have hi1 : i + 1 + ps.length = sv.u.length := by rw [← hi, List.length_cons]; omega
    obtain ⟨tl, et, l1, l2⟩ := ih (i + 1) cs' hi1 w3
      (fun k hk => Nat.add_right_comm i 1 k ▸ hps (k + 1) (Nat.succ_lt_succ hk))
      (fun h0 => Int.le_trans w5 (hmono i (by omega)))
    refine ⟨cs' :: tl, ?_, congrArg Nat.succ l1, fun k hk => ?_⟩
    · unfold assignLoop
      simp only [wf.getS (Nat.le_of_lt hlen), get_ok sv.s i (wf.hs ▸ hlen) 0, e0, ew, et, bind,
        Except.bind, pure, Except.pure]
    · cases k with
      | zero => exact ⟨w3, w5, w4⟩
      | succ k => exact Nat.add_right_comm i 1 k ▸ l2 k (Nat.lt_of_succ_lt_succ hk)

theorem computeAssignment_spec (sv : Solver) (wf : sv.WF) (hdpos : ∀ x ∈ sv.d, 0 < x)
    (hspos : ∀ x ∈ sv.s, 0 < x) (hD : sv.D = prefixFrom 0 sv.d) (hS : sv.S = prefixFrom 0 sv.s)
    (p : List Int) (hp : RunPost sv p) (hm : sv.u.length = 0 ∨ 0 < sv.v.length) :
    ∃ a, computeAssignment sv p = .ok a ∧ a.length = sv.u.length ∧ (∀ k ∈ a, k < sv.v.length) ∧
      ∀ k j, k < sv.u.length → j < sv.v.length → sv.D.getD j 0 ≤ sv.S.getD k 0 + p.getD k 0 →
        sv.S.getD (k + 1) 0 + p.getD k 0 ≤ sv.D.getD (j + 1) 0 → a.getD k 0 = j := by
  unfold computeAssignment
  rcases hm with h | h
  · have : p = [] := List.eq_nil_of_length_eq_zero (by rw [hp.len, h])
    subst this
    exact ⟨[], rfl, by simp [h], by simp, fun k j hk => by omega⟩
  · have mid := mid_bounds sv wf hspos hS
    obtain ⟨a, e, l1, l2⟩ := assignLoop_spec sv wf
      (fun k => p.getD k 0 + sv.S.getD k 0 + Int.tdiv (sv.s.getD k 0) 2)
      (fun k hk => by
        have := hp.mono k hk
        have := mid k (by omega)
        have := mid (k + 1) hk
        omega)
      (fun k hk => by
        have := hp.le k hk
        have := mid k hk
        have : sv.S.getD (k + 1) 0 ≤ sv.S.getD sv.u.length 0 := by
          rw [hS, ← wf.hs]
          exact prefixFrom_mono 0 sv.s hspos (k + 1) sv.s.length (wf.hs ▸ hk) (Nat.le_refl _)
        omega)
      p 0 0 (by rw [hp.len, Nat.zero_add]) h (fun k _ => by rw [Nat.zero_add])
      (fun h0 => by
        have := hp.nn 0 (hp.len ▸ h0)
        have := mid 0 (hp.len ▸ h0)
        rw [hD, hS, prefixFrom_zero, prefixFrom_zero]
        omega)
    rw [hp.len] at l1 l2
    refine ⟨a, e, l1, fun k hk => ?_, fun k j hk hj h1 h2 => ?_⟩
    · obtain ⟨i, hi, rfl⟩ := ListFacts.exists_getD_of_mem 0 hk
      exact (l2 i (l1 ▸ hi)).1
    · obtain ⟨l3, l4, l5⟩ := l2 k hk
      have := mid k hk
      rw [Nat.zero_add, hD] at l4 l5
      rw [hD] at h1 h2
      exact interval_unique sv.d hdpos _ j _ (wf.hd ▸ l3) (wf.hd ▸ hj) l4 l5 (by omega) (by omega)

theorem balanced_p_zero (sv : Solver) (p : List Int) (hp : RunPost sv p)
    (hbal : sv.S.getD sv.u.length 0 = sv.D.getD sv.v.length 0) (i : Nat) : p.getD i 0 = 0 := by
  by_cases hi : i < sv.u.length
  · have := hp.nn i hi
    have := hp.le i hi
    omega
  · exact ListFacts.getD_of_le 0 (by rw [hp.len]; omega)

end ColoVerif.Transp1d
